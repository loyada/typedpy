/-
  Lemmas/CodeExact.lean — the field generated for a schema of the exact scalar sub-fragment is in C08's
  exact fragment.
-/
import TypedpyModel.Spec.CodeExact
namespace Typedpy.CodeExact
open Typedpy Typedpy.Sch

theorem exactScalar_of (ρ : String → FieldDecl) (s : Schema) (h : exactSchema s = true) :
    exactScalar (schemaToDecl ρ s) = true := by
  cases s with
  | num i mult mn mx ex =>
    simp only [exactSchema, Bool.and_eq_true, Bool.or_eq_true, Bool.not_eq_true'] at h
    obtain ⟨⟨hm, hi⟩, _⟩ := h
    have hok : ∀ sg, numOptsOk { mult := mult, min := mn, max := mx, exclMax := ex, sign := sg } = true := by
      intro sg
      cases mult with
      | none => rfl
      | some m =>
        simp only [multOk, decide_eq_true_eq] at hm
        simp only [numOptsOk, bne_iff_ne, ne_eq]
        omega
    cases i
    · rcases hi with hi | hi
      · cases hi
      · simp [schemaToDecl, numDecl, exactScalar, hok, hi]
    · simp [schemaToDecl, numDecl, exactScalar, hok]
  | str lo hi p =>
    cases p with
    | none => rfl
    | some p => simpa [schemaToDecl, exactScalar, exactSchema] using h
  | bool => rfl
  | enum vs => simpa [schemaToDecl, exactScalar, exactSchema] using h
  | _ => simp [exactSchema] at h

end Typedpy.CodeExact
