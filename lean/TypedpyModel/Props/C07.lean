/-
  Props/C07.lean — key-renaming mappers apply consistently in both directions at every level.

  All theorems are about the model `Sem/Mappers.lean` (tied to /repo by the `mapper` correspondence
  suite) and quantify over all string functions `S` (camelCase / upper / split are opaque), all class
  trees, all mapper lists of any length, all instances of any nesting depth.

  The dict-of-dicts aggregation is pointwise composition of the mapper list on the current key, hence
  `serialize = specSer` at every depth; the round trip holds under the per-level hypotheses `levelOK` (with
  `Sync`: both directions resolve a field to the same key); `Sync` is proved inside the decidable region `regionOK`.

  `C07_statement` is the full-strength round trip and is false of the code: finding `nested-resync` —
  the deserializer re-aggregates a nested class's mappers from the override it is handed and can
  resolve different keys than the serializer used (outside `regionOK`).  `mapper_round_trip` has `Sync` among
  its decidable hypotheses; `mapper_round_trip_region` discharges it inside `regionOK`.
  The `…_fixed` theorems and `map_values_example` are the failing inputs of the findings repaired in /repo
  (f476845, e74486a, 0225533, 005d815, 73883e4), round-tripping.
-/
import TypedpyModel.Lemmas.MappersRegion
import TypedpyModel.Lemmas.MappersCache
import TypedpyModel.Sem.MapperMro
namespace Typedpy.C07
open Typedpy.Mappers

/-- The entry of field `f` in the aggregated mapper — for serialization and for deserialization alike,
    for every class, every mapper list (any inheritance depth, explicit override, `camel_case_convert`)
    — is the composition `keyOf` of the mappers on the *current* key. -/
theorem agg_field_pointwise (S : StrFns) (b : Bool) (own : List Mapper) (fs : List Fld)
    (ov : Option MDict) (camel : Bool) (f : String) :
    lookupR (.fld f) (aggregate S b own fs ov camel) =
      if fs.any (fun fl => fl.name == f) then some (keyOf S (effList own ov camel) f) else none := by
  unfold aggregate keyOf
  rw [lookupR_foldAdd_fld, lookupR_baseFields]
  split <;> rfl

/-- from one and the same mapper list (a class without `_deserialization_mapper`) the serializer's and the
    deserializer's aggregation resolve every field of the top-level class to the same entry -/
theorem ser_deser_same_field_keys (S : StrFns) (own : List Mapper) (fs : List Fld)
    (ov : Option MDict) (camel : Bool) (f : String) :
    lookupR (.fld f) (aggregate S true own fs ov camel)
      = lookupR (.fld f) (aggregate S false own fs ov camel) := by
  rw [agg_field_pointwise, agg_field_pointwise]

/-- every cache entry is the aggregate of the class / override / flag its key names.  `env` gives the
    class of an id, `dec` the override of a `json.dumps` text (i.e. the dump is injective). -/
def CacheOK (S : StrFns) (env : String → Cls) (dec : String → Option MDict) (cache : Cache) : Prop :=
  ∀ e ∈ cache, e.2 = aggregate S true (env e.1.1).own (env e.1.1).fields (dec e.1.2.1) e.1.2.2

theorem cache_transparent (S : StrFns) (env : String → Cls) (dec : String → Option MDict)
    (cache : Cache) (h : CacheOK S env dec cache) (cid ovKey : String) (camel : Bool) :
    (cachedAggregate S cache cid ovKey (env cid).own (env cid).fields (dec ovKey) camel).1
        = aggregate S true (env cid).own (env cid).fields (dec ovKey) camel
    ∧ CacheOK S env dec
        (cachedAggregate S cache cid ovKey (env cid).own (env cid).fields (dec ovKey) camel).2 := by
  unfold cachedAggregate
  cases hl : lookupR (cid, ovKey, camel) cache with
  | some m => exact ⟨h _ (mem_of_lookupR _ _ cache hl), h⟩
  | none => exact ⟨rfl, c07_cacheOK_snoc S env dec cache (cid, ovKey, camel) _ h rfl⟩

def runHistory (S : StrFns) (env : String → Cls) (dec : String → Option MDict) :
    Cache → List CacheKey → List MDict
  | _, [] => []
  | cache, (cid, ovKey, camel) :: rest =>
    (cachedAggregate S cache cid ovKey (env cid).own (env cid).fields (dec ovKey) camel).1 ::
      runHistory S env dec
        (cachedAggregate S cache cid ovKey (env cid).own (env cid).fields (dec ovKey) camel).2 rest

/-- **Any history.**  Whatever classes were serialized before, in whatever order and with whatever
    flags, every call resolves exactly the mapper of its own class, override and
    `camel_case_convert` — the cache never leaks one call's flag into another. -/
theorem history_transparent (S : StrFns) (env : String → Cls) (dec : String → Option MDict) :
    ∀ (calls : List CacheKey) (cache : Cache), CacheOK S env dec cache →
      runHistory S env dec cache calls =
        calls.map (fun k => aggregate S true (env k.1).own (env k.1).fields (dec k.2.1) k.2.2) := by
  intro calls
  induction calls with
  | nil => exact fun _ _ => rfl
  | cons k rest ih =>
    intro cache h
    have ht := cache_transparent S env dec cache h k.1 k.2.1 k.2.2
    rw [runHistory, List.map_cons, ht.1, ih _ ht.2]

theorem history_transparent_from_empty (S : StrFns) (env : String → Cls) (dec : String → Option MDict)
    (calls : List CacheKey) :
    runHistory S env dec [] calls =
      calls.map (fun k => aggregate S true (env k.1).own (env k.1).fields (dec k.2.1) k.2.2) :=
  history_transparent S env dec calls [] (fun _ h => by cases h)

/-- **One call, nested entries included.**  `cAggregate` mirrors `aggregate_serialization_mappers` as it
    runs: the base mapper asks the cache for every nested class (at any depth), computes and files
    what is missing.  `envFs`: the ids of the nested classes name those classes.  `hdec`: a nested class is
    filed under the key text `""` of 'no override'. -/
theorem cache_transparent_nested (S : StrFns) (env : String → Cls) (dec : String → Option MDict)
    (hdec : dec "" = none) (cache : Cache) (h : CacheOK S env dec cache) (me ovKey : String) (camel : Bool)
    (he : envFs env (env me).fields) :
    (cAggregate S cache me ovKey (env me).own (env me).fields (dec ovKey) camel).1
        = aggregate S true (env me).own (env me).fields (dec ovKey) camel
    ∧ CacheOK S env dec
        (cAggregate S cache me ovKey (env me).own (env me).fields (dec ovKey) camel).2 := by
  unfold cAggregate
  cases hl : lookupR (me, ovKey, camel) cache with
  | some m => exact ⟨h _ (mem_of_lookupR _ _ cache hl), h⟩
  | none =>
    have ih := c07_cBaseFields_of S env dec (env me).fields (fun f _ => c07_cBaseFld_ok S env dec hdec f) cache h he
    simp only [ih.1]
    exact ⟨rfl, c07_cacheOK_snoc S env dec _ (me, ovKey, camel) _ ih.2 rfl⟩

def runHistoryN (S : StrFns) (env : String → Cls) (dec : String → Option MDict) :
    Cache → List CacheKey → List MDict
  | _, [] => []
  | cache, (me, ovKey, camel) :: rest =>
    (cAggregate S cache me ovKey (env me).own (env me).fields (dec ovKey) camel).1 ::
      runHistoryN S env dec
        (cAggregate S cache me ovKey (env me).own (env me).fields (dec ovKey) camel).2 rest

/-- **Any history, nested entries included**: whatever was serialized before (outer classes, nested
    classes on their own, any flags), every call resolves exactly the mapper of its own class,
    override and `camel_case_convert`. -/
theorem history_transparent_nested (S : StrFns) (env : String → Cls) (dec : String → Option MDict)
    (hdec : dec "" = none) :
    ∀ (calls : List CacheKey) (cache : Cache), CacheOK S env dec cache →
      (∀ k ∈ calls, envFs env (env k.1).fields) →
      runHistoryN S env dec cache calls =
        calls.map (fun k => aggregate S true (env k.1).own (env k.1).fields (dec k.2.1) k.2.2) := by
  intro calls
  induction calls with
  | nil => exact fun _ _ _ => rfl
  | cons k rest ih =>
    intro cache h he
    have ht := cache_transparent_nested S env dec hdec cache h k.1 k.2.1 k.2.2 (he k (List.mem_cons_self ..))
    rw [runHistoryN, List.map_cons, ht.1, ih _ ht.2 fun k hk => he k (List.mem_cons_of_mem _ hk)]

/-- One level: the key list of a serialized object is exactly the image of the populated fields under
    the resolved mapper, fields mapped to `DoNotSerialize` left out (as lists, in instance order). -/
theorem ser_keys_eq_image (S : StrFns) (camel : Bool) (m : MDict) (kvs : List (String × J)) :
    (serFields S camel m kvs).map (·.1) = imageKeys S camel m kvs :=
  serFields_keys S camel m kvs

mutual
/-- Every level: the serialized document obeys the key-set law at every nesting depth, nested
    structures (directly or inside lists) under their `"<field>._mapper"` entry. -/
theorem ser_keys_every_level (S : StrFns) (camel : Bool) :
    ∀ (x : J) (m : MDict), keysLaw S camel m x (ser S camel m x) = true
  | .null, m => rfl
  | .int i, m | .str i, m => by simp [ser, keysLaw]
  | .arr xs, m => list_law S camel xs m
  | .obj kvs, m => by
    simp only [ser, keysLaw, serFields_keys, beq_self_eq_true, Bool.true_and]
    exact fields_law S camel kvs m
theorem fields_law (S : StrFns) (camel : Bool) :
    ∀ (kvs : List (String × J)) (m : MDict), fieldsLaw S camel m kvs (serFields S camel m kvs) = true
  | [], m => rfl
  | (f, v) :: rest, m => by
    have ih := fields_law S camel rest m
    simp only [serFields, fieldsLaw]
    cases v.isNull
    · cases serKey S camel m f
      · exact ih
      · simp [ih, ser_keys_every_level S camel v (subSer m f)]
    · exact ih
theorem list_law (S : StrFns) (camel : Bool) :
    ∀ (xs : List J) (m : MDict), listLaw S camel m xs (serList S camel m xs) = true
  | [], m => rfl
  | x :: xs, m => by
    simp [serList, listLaw, ser_keys_every_level S camel x m, list_law S camel xs m]
end

theorem dropped_absent (S : StrFns) (camel : Bool) (m : MDict) (f : String) (v : J)
    (rest : List (String × J)) (h : lookupR (.fld f) m = some .dns) :
    serFields S camel m ((f, v) :: rest) = serFields S camel m rest := by
  have : serKey S camel m f = none := by simp [serKey, h]
  simp only [serFields, this]
  split <;> rfl

theorem no_collision_if_injective (S : StrFns) (camel : Bool) (m : MDict) (kvs : List (String × J))
    (hinj : nodupB (imageKeys S camel m kvs) = true) (f k : String) (v : J)
    (hm : (f, v) ∈ kvs) (hv : v.isNull = false) (hk : serKey S camel m f = some k) :
    lookupR k (serFields S camel m kvs) = some (ser S camel (subSer m f) v) := by
  apply lookupR_of_mem
  · rw [serFields_keys]; exact (nodupB_iff _).mp hinj
  · exact mem_serFields S camel m f k v hv hk kvs hm

theorem rt_fld (S : StrFns) (camel : Bool) :
    ∀ (f : Fld) (ku : Bool) (ms M : MDict) (strict : Bool) (all : List (String × J)) (p : String × J)
      (rest : List (String × J)),
      levelOK S ms M strict all = true → p ∈ all →
      rtFld S camel ku (levelOK S) ms M f p = true →
      deserFld S camel ku M strict (serFields S camel ms all) f (.ok rest) = .ok (p :: rest) := by
  intro f
  induction f using Fld.induction with
  | scalar n opt =>
    intro ku ms M strict all (k, v) rest hl hm h
    simp only [rtFld, Bool.and_eq_true_iff, beq_iff_eq] at h
    obtain ⟨rfl, hv⟩ := h
    simp only [deserFld]
    rw [procInput_ser S camel ms M strict all hl k v hm]
    exact dScalar_ser S camel _ k opt v rest hv
  | mapped n opt ci fs _ =>
    intro ku ms M strict all p rest _ _ h
    simp [rtFld] at h
  | nested n opt shape ci fs ih =>
    intro ku ms M strict all (k, v) rest hl hm h
    simp only [rtFld, Bool.and_eq_true_iff, beq_iff_eq] at h
    obtain ⟨rfl, hv⟩ := h
    simp only [deserFld]
    rw [procInput_ser S camel ms M strict all hl k v hm]
    refine dNested_ser S camel (subSer ms k) k opt shape _ _ v rest ?_ hv
    intro y hy
    obtain ⟨kvs, rfl, hlv, hy⟩ := rtObj_elim hy
    simp only [Bool.and_eq_true_iff] at hy
    exact dObjK_ser S camel _ _ _ _ kvs _ hy.1 (deserFields_of_pointwise
      (((rtFields_iff fs kvs).1 hy.2).imp fun g hg p hp hr r => ih g hg _ _ _ false kvs p r hlv hp hr))

theorem rt_fields (S : StrFns) (camel : Bool) :
    ∀ (fs : List Fld) (ku : Bool) (ms M : MDict) (strict : Bool) (all sub : List (String × J)),
      levelOK S ms M strict all = true → (∀ p ∈ sub, p ∈ all) →
      rtFields S camel ku (levelOK S) ms M fs sub = true →
      deserFields S camel ku M strict (serFields S camel ms all) fs = .ok sub :=
  fun fs ku ms M strict all sub hl hsub h => deserFields_of_pointwise
    (((rtFields_iff fs sub).1 h).imp fun g _ p hp hr r => rt_fld S camel g ku ms M strict all p r hl (hsub p hp) hr)

/-- **Round trip (partial statement), any `keep_undefined`.**  For every class tree, every resolved
    serializer mapper `ms`, every override / flags (`use_strict_mapping`, `keep_undefined` on or off,
    classes with or without `_additional_properties = False`, own or inherited), every instance of any
    nesting depth: if at every level the hypotheses `levelOK` hold — `Sync` (both sides resolve each
    field to the same string key, or both to `DoNotSerialize` and the field is absent), `NoDot`,
    populated keys distinct, absent fields' keys not populated — and no serialized key of a level is
    kept as an undefined attribute (`exFree`: `keep_undefined` off at that level, or the class forbids
    additional properties, in its own body or by inheritance, or every key is a field name), deserializing the
    serialized document gives back the instance. -/
theorem mapper_round_trip_K (S : StrFns) (camel ku : Bool) (c : Cls) (ms : MDict) (ov : Option MDict)
    (strict : Bool) (x : J) (h : rtClsK S camel ku (levelOK S) c ms ov strict x = true) :
    deserK S camel ku c ov strict (ser S camel ms x) = .ok x := by
  obtain ⟨kvs, rfl, hl, hex, hrt⟩ := rtClsK_elim h
  exact dObjK_ser S camel _ _ _ _ kvs _ hex
    (rt_fields S camel c.fields _ ms _ strict kvs kvs hl (fun _ hq => hq) hrt)

/-- **Round trip (partial statement)** with `keep_undefined = False` (what `Deserializer(cls)` passes by
    default for every class, `deserializer_default_keeps_nothing`): no `exFree` hypothesis is left. -/
theorem mapper_round_trip (S : StrFns) (camel : Bool) (c : Cls) (ms : MDict) (ov : Option MDict)
    (strict : Bool) (x : J) (h : rtCls S camel (levelOK S) c ms ov strict x = true) :
    deser S camel c ov strict (ser S camel ms x) = .ok x :=
  mapper_round_trip_K S camel false c ms ov strict x h

/-- the same for the serializer's own aggregate: `Deserializer(cls, …).deserialize(Serializer(x, …).serialize(…)) == x` -/
theorem mapper_round_trip_serialize (S : StrFns) (camel : Bool) (c : Cls) (ov : Option MDict)
    (strict : Bool) (x : J)
    (h : rtCls S camel (levelOK S) c (aggregate S true c.own c.fields ov camel) ov strict x = true) :
    deser S camel c ov strict (serialize S camel c ov x) = .ok x :=
  mapper_round_trip S camel c _ ov strict x h

@[simp] theorem kuNext_false (camel : Bool) (d : List Mapper) : kuNext false camel d = false := rfl

@[simp] theorem exFree_false (S : StrFns) (camel co : Bool) (names : List String) (ms : MDict)
    (kvs : List (String × J)) : exFree S camel false co names ms kvs = true := rfl

theorem exFree_closed (S : StrFns) (camel ku : Bool) (names : List String) (ms : MDict)
    (kvs : List (String × J)) : exFree S camel ku true names ms kvs = true := by
  simp [exFree, Mappers.extrasOf]

theorem rtFld_closed (S : StrFns) (camel : Bool) (lv : LevelPred) :
    ∀ (f : Fld) (ku : Bool) (ms M : MDict) (p : String × J), closedF f = true →
      rtFld S camel ku lv ms M f p = rtFld S camel false lv ms M f p := by
  intro f
  induction f using Fld.induction with
  | scalar n o | mapped n o ci fs _ => intros; rfl
  | nested n o sh ci fs ih =>
    intro ku ms M p h
    simp only [closedF, Bool.and_eq_true_iff] at h
    have e := fun ms M g hg p =>
      ih g hg (kuNext ku camel ci.desL) ms M p ((allB_iff rfl (fun _ _ => rfl) fs).1 h.2 g hg)
    simp only [rtFld, h.1, exFree_closed, kuNext_false, Bool.true_and]
    congr 3
    funext kvs
    exact Bool.eq_iff_iff.mpr ⟨rtFields_imp fs kvs fun g hg p => e _ _ g hg p ▸ id,
      rtFields_imp fs kvs fun g hg p => e _ _ g hg p ▸ id⟩

/-- **Closed trees.**  If the class and every class nested in it forbid additional properties (in their
    own bodies or — since /repo 0225533 — by inheritance), no serialized key is ever kept as an undefined
    attribute: the hypotheses of the round trip do not depend on `keep_undefined`, and
    `deserialize(serialize x) = x` for every `keep_undefined` under the level hypotheses alone. -/
theorem closed_tree_round_trip (S : StrFns) (camel ku : Bool) (c : Cls) (ms : MDict) (ov : Option MDict)
    (strict : Bool) (x : J) (hc : c.closedAny = true) (hcl : closedFs c.fields = true)
    (h : rtCls S camel (levelOK S) c ms ov strict x = true) :
    deserK S camel ku c ov strict (ser S camel ms x) = .ok x := by
  apply mapper_round_trip_K
  obtain ⟨kvs, rfl, hl, _, hrt⟩ := rtClsK_elim h
  simp only [rtClsK, Bool.and_eq_true_iff, hc, exFree_closed, kuNext_false] at hrt ⊢
  exact ⟨⟨hl, trivial⟩, rtFields_imp c.fields kvs
    (fun g hg p => (rtFld_closed S camel _ g _ _ _ p ((allB_iff rfl (fun _ _ => rfl) _).1 hcl g hg)) ▸ id) hrt⟩

/-- `Deserializer(cls).deserialize` passes `keep_undefined = False` by default for every class (since
    /repo 005d815): `rtCls` and `deser` are by definition `rtClsK` and `deserK` at `false`.  That nothing is
    kept as an undefined attribute then, whatever the classes of the tree say, is `exFree_false`: the `exFree`
    conjuncts of `rtCls` hold trivially, so `mapper_round_trip` has none to discharge. -/
theorem deserializer_default_keeps_nothing (S : StrFns) (camel : Bool) (c : Cls) (ms : MDict)
    (ov : Option MDict) (strict : Bool) (x : J) (lv : LevelPred) :
    rtClsK S camel false lv c ms ov strict x = rtCls S camel lv c ms ov strict x
    ∧ deserK S camel false c ov strict (ser S camel ms x) = deser S camel c ov strict (ser S camel ms x) :=
  ⟨rfl, rfl⟩

/-- **No fallback capture.**  Under the level hypotheses an absent field reads nothing from the
    serialized level — neither under its key nor under its own name — with or without
    `use_strict_mapping` (the `name_is_taken` check of /repo f476845 blocks the fallback to a name that
    is another field's key). -/
theorem absent_field_not_captured (S : StrFns) (camel : Bool) (ms M : MDict) (strict : Bool)
    (kvs : List (String × J)) (hl : levelOK S ms M strict kvs = true) (f : String)
    (hm : (f, J.null) ∈ kvs) :
    procInput S M strict (serFields S camel ms kvs) f = .ok .null :=
  procInput_ser S camel ms M strict kvs hl f .null hm

/-- the full-strength statement the property asks for: inside the demanded domain `levelDom` (no
    populated field dropped, no dotted key, populated keys distinct and different from absent fields'
    keys — at every level) the round trip holds.  FALSE for the code, see the counterexamples. -/
def C07_statement : Prop :=
  ∀ (S : StrFns) (camel : Bool) (c : Cls) (ov : Option MDict) (strict : Bool) (x : J),
    rtCls S camel (levelDom S) c (aggregate S true c.own c.fields ov camel) ov strict x = true →
    deser S camel c ov strict (serialize S camel c ov x) = .ok x

def allScalar (fs : List Fld) : Bool := fs.all fun f => match f with | .scalar _ _ => true | _ => false

def flatConf : List Fld → List (String × J) → Bool
  | [], kvs => kvs.isEmpty
  | f :: fs, kvs => (match kvs with
    | [] => false
    | p :: rest => (p.1 == f.name) && scalarOK f.opt p.2 && flatConf fs rest)

theorem flat_rtFields (S : StrFns) (camel ku : Bool) (lv : LevelPred) (ms M : MDict) (fs : List Fld) :
    ∀ (kvs : List (String × J)), allScalar fs = true → flatConf fs kvs = true →
      rtFields S camel ku lv ms M fs kvs = true := by
  induction fs with
  | nil => exact fun _ _ h => h
  | cons f fs ih =>
    intro kvs hs h
    cases kvs with
    | nil => cases h
    | cons p rest =>
      simp only [allScalar, List.all_cons, Bool.and_eq_true_iff] at hs
      simp only [flatConf, Bool.and_eq_true_iff] at h
      cases f with
      | scalar n o => simp only [rtFields, rtFld, Bool.and_eq_true_iff]; exact ⟨h.1, ih rest hs.2 h.2⟩
      | _ => cases hs.1

def entryOK (m : MDict) (p : String × J) : Bool := isKeyAt m p.1 || (isDnsAt m p.1 && p.2.isNull)

/-- **Flat classes, any hierarchy.**  For a class with scalar fields only, no `_deserialization_mapper`
    and *any* list of mappers (any inheritance depth, lists, enum mappers, override, `camel_case_convert`,
    strict or not): if every field is resolved to a string key or is an absent `DoNotSerialize` field, no
    key is dotted, the populated keys are distinct and differ from absent fields' keys, then
    `deserialize(serialize(x)) = x`.  `Sync` is *proved* here, not assumed. -/
theorem flat_round_trip (S : StrFns) (camel : Bool) (c : Cls) (ov : Option MDict) (strict : Bool)
    (kvs : List (String × J)) (hdes : c.des = none)
    (hflat : allScalar c.fields = true) (hconf : flatConf c.fields kvs = true)
    (hkeys : ∀ p ∈ kvs, entryOK (aggregate S true c.own c.fields ov camel) p = true)
    (hdot : noDotOK S (aggregate S true c.own c.fields ov camel) kvs = true)
    (hinj : injOK (aggregate S true c.own c.fields ov camel) kvs = true)
    (habs : absentKeyOK (aggregate S true c.own c.fields ov camel) kvs = true) :
    deser S camel c ov strict (serialize S camel c ov (.obj kvs)) = .ok (.obj kvs) := by
  apply mapper_round_trip_serialize
  have hd : c.desL = c.own := by simp [Cls.desL, hdes]
  simp only [rtCls, rtClsK, levelOK, Bool.and_eq_true_iff, hd, kuNext_false, exFree_false]
  have hsync := syncOK_of_lookups (fun p _ => (ser_deser_same_field_keys S c.own c.fields ov camel p.1).symm) hkeys
  exact ⟨⟨⟨⟨⟨hsync, hdot⟩, hinj⟩, habs⟩, trivial⟩,
    flat_rtFields S camel _ _ _ _ c.fields kvs hflat hconf⟩

theorem ser_aggregate_pointwise_every_level (S : StrFns) (c : Cls) (ov : Option MDict) (camel : Bool)
    (hw : wfFields c.fields = true) :
    AgreesFs S (aggregate S true c.own c.fields ov camel) (effList c.own ov camel) c.fields := by
  simp only [wfFields, Bool.and_eq_true_iff] at hw
  exact c07_agrees_foldAdd S c.fields (fun g _ => c07_agrees_step_f S g) (effList c.own ov camel) _ [] (c07_agreesFs_of_forall S _ _ c.fields fun g hg =>
    c07_base_agrees_f S g c.fields hg hw.1 ((allB_iff rfl (fun _ _ => rfl) c.fields).1 hw.2 g hg))

/-- **`serialize = specSer` at every nesting depth**: for every class tree (distinct field names per
    level), every mapper list / override / `camel_case_convert` and every fitting instance, the
    serialized document is the one the pointwise specification prescribes — nested structures under
    `own ++ (what the outer list lets through)`.  The dict-of-dicts algorithm, including the "latest
    mapper already maps to this value" branch on nested `"<field>._mapper"` entries, is a refinement
    of the composition of mapper lists. -/
theorem spec_ser_eq_ser (S : StrFns) (camel : Bool) (c : Cls) (ov : Option MDict) (x : J)
    (hw : wfFields c.fields = true) (hc : conf c.fields x = true) :
    serialize S camel c ov x = specSer S (effList c.own ov camel) c.fields x :=
  c07_ser_eq_spec S camel x _ _ c.fields (ser_aggregate_pointwise_every_level S c ov camel hw) hc

theorem deser_aggregate_shape (S : StrFns) (c : Cls) (ov : Option MDict) (camel : Bool)
    (h : regionOK S c ov camel = true) :
    aggregate S false c.desL c.fields ov camel = shapeFields S (effList c.own ov camel) c.fields := by
  simp only [regionOK, Bool.and_eq_true_iff] at h
  rw [Cls.desL, Option.isNone_iff_eq_none.mp h.1.1.1.1]
  exact c07_foldAdd_base S c.fields _ h.1.1.2

/-- `_convert_to_camelcase` is idempotent on the driver's ASCII strings (its result has no underscore) -/
theorem camel_idempotent_ascii (s : String) : asciiFns.camel (asciiFns.camel s) = asciiFns.camel s := by
  dsimp only [asciiFns]
  exact c07_camelAscii_idem s

/-- **`Sync` is a theorem inside the region.**  `regionOK` is a decidable predicate on the class tree,
    its mapper lists and the `camel_case_convert` flag alone.  It asks, for the top class and every
    nested class at any depth: (1) in every aggregation round no two entries collide (nested entries
    are re-keyed by the mapped name) and every nested entry is stepped by the deserializer with the
    sub-mapper the serializer uses (`prefixOK`: always so for enum mappers and dicts without
    `"<field>._mapper"` entries; for an explicit nested entry it means the entry is keyed by the name
    the field has at that round and is not dict-equal to the current nested aggregate); (2) every nested
    field is mapped to a string key under which its re-keyed nested entry is found (`trackOK`); (3) re-aggregating
    a class under the dict it is handed lands, entry by entry, on that dict again (`reaggOK`: so when a class two or
    more levels down has no own mapper, or has one that the mappers reaching it from above leave alone);
    (4) no `_deserialization_mapper`; (5) every nested class has at least one field (an empty dict handed
    down would not count as an override).  There the level hypotheses `levelOK` (with `Sync`) follow at
    *every* depth from the demanded domain.  With `camel_case_convert` the deserializer applies
    `TO_CAMELCASE` once more at every level; this is harmless because the conversion is idempotent
    (`hc`, proved for the ASCII functions in `camel_idempotent_ascii`). -/
theorem sync_in_region (S : StrFns) (c : Cls) (ov : Option MDict) (camel ku strict : Bool) (x : J)
    (hc : camel = true → ∀ s, S.camel (S.camel s) = S.camel s)
    (hreg : regionOK S c ov camel = true)
    (h : rtClsK S camel ku (levelDomE S) c (aggregate S true c.own c.fields ov camel) ov strict x = true) :
    rtClsK S camel ku (levelOK S) c (aggregate S true c.own c.fields ov camel) ov strict x = true := by
  have hM := deser_aggregate_shape S c ov camel hreg
  simp only [regionOK, Bool.and_eq_true_iff] at hreg
  obtain ⟨⟨⟨⟨_, hw⟩, _⟩, hnod⟩, hnested⟩ := hreg
  obtain ⟨kvs, rfl, hl, hex, hrt⟩ := rtClsK_elim h
  have hrel := c07_camelRel_top camel c.own ov
  have ha := ser_aggregate_pointwise_every_level S c ov camel hw
  simp only [rtClsK, Bool.and_eq_true_iff]
  rw [hM] at hl hrt ⊢
  obtain ⟨h1, h2⟩ := c07_sync_level S camel hc hrel hnod ha (fun g hg p =>
    c07_sync_fld S camel hc g c.fields _ _ _ _ p hrel hnod (c07_agreesF_of_mem S _ _ _ ha g hg) hg
      ((allB_iff rfl (fun _ _ => rfl) _).1 hnested g hg)) hl hrt
  exact ⟨⟨h1, hex⟩, h2⟩

/-- **Round trip inside the region, any depth, `camel_case_convert` on or off.**  For every
    class tree and mapper lists in `regionOK` and every instance inside the demanded domain at every
    level (every field resolved to a string key or an absent `DoNotSerialize` field, no dotted key,
    populated keys distinct and not an absent field's key): `deserialize(serialize(x)) = x`, strict or
    not.  No `Sync` hypothesis; with `camel_case_convert` the conversion is assumed idempotent (`hc`). -/
theorem mapper_round_trip_region (S : StrFns) (c : Cls) (ov : Option MDict) (camel strict : Bool) (x : J)
    (hc : camel = true → ∀ s, S.camel (S.camel s) = S.camel s)
    (hreg : regionOK S c ov camel = true)
    (h : rtCls S camel (levelDomE S) c (aggregate S true c.own c.fields ov camel) ov strict x = true) :
    deser S camel c ov strict (serialize S camel c ov x) = .ok x :=
  mapper_round_trip_serialize S camel c ov strict x (sync_in_region S c ov camel false strict x hc hreg h)

/-- the same for any `keep_undefined` and classes that forbid additional properties: inside the region
    and the demanded domain, if no serialized key of a level is kept as an undefined attribute
    (`exFree` at every level, part of `rtClsK`), the round trip holds -/
theorem mapper_round_trip_region_K (S : StrFns) (c : Cls) (ov : Option MDict) (camel ku strict : Bool) (x : J)
    (hc : camel = true → ∀ s, S.camel (S.camel s) = S.camel s)
    (hreg : regionOK S c ov camel = true)
    (h : rtClsK S camel ku (levelDomE S) c (aggregate S true c.own c.fields ov camel) ov strict x = true) :
    deserK S camel ku c ov strict (serialize S camel c ov x) = .ok x :=
  mapper_round_trip_K S camel ku c _ ov strict x (sync_in_region S c ov camel ku strict x hc hreg h)

/-- the same for the driver's string functions: no hypothesis on the strings left -/
theorem mapper_round_trip_region_ascii (c : Cls) (ov : Option MDict) (camel strict : Bool) (x : J)
    (hreg : regionOK asciiFns c ov camel = true)
    (h : rtCls asciiFns camel (levelDomE asciiFns) c (aggregate asciiFns true c.own c.fields ov camel)
      ov strict x = true) :
    deser asciiFns camel c ov strict (serialize asciiFns camel c ov x) = .ok x :=
  mapper_round_trip_region asciiFns c ov camel strict x (fun _ => camel_idempotent_ascii) hreg h

def plainMapper : Mapper → Bool
  | .dict d => d.all fun p => match p.1 with | .fld _ => true | .nest _ => false
  | _ => true

theorem plain_lookup_nest (d : MDict) (c : String) (h : plainMapper (.dict d) = true) :
    lookupR (.nest c) d = none := by
  apply lookupR_none_of_not_mem
  intro hm
  obtain ⟨p, hp, hpk⟩ := List.mem_map.mp hm
  unfold plainMapper at h
  have := List.all_eq_true.mp h _ hp
  rw [hpk] at this
  simp at this

/-- **The per-round step conditions of the region are automatic for plain mappers**: an enum mapper or a
    dict without `"<field>._mapper"` entries never takes the 'already maps to this value' branch on a
    nested entry and lets the same sub-mapper through in both directions.  This is the `stepFldOK` conjunct
    of `prefixOK`; the other one asks that no two entries collide. -/
theorem step_ok_of_plain (S : StrFns) (m : Mapper) (P : List Mapper) (f : Fld) (h : plainMapper m = true) :
    stepFldOK S m P f = true := by
  cases f with
  | nested n o sh ci fs =>
    cases m with
    | dict d => simp [stepFldOK, stepNestOK, hit, subAgree, plain_lookup_nest d _ h]
    | _ => rfl
  | _ => rfl

theorem wrapperOk_iff (S : StrFns) (names keys : List String) :
    wrapperOk S names keys = true ↔ ∀ k ∈ keys, ∃ hd t, S.split k = hd :: t ∧ hd ∈ names := by
  unfold wrapperOk
  rw [List.all_eq_true]
  refine forall₂_congr fun k _ => ?_
  cases S.split k <;> simp

/-- An explicit mapper with a key whose first dotted component is not a field name is rejected when
    the `Serializer` / `Deserializer` wrapper is built. -/
theorem bad_mapper_key_rejected (S : StrFns) (names keys : List String) (k h : String) (t : List String)
    (hk : k ∈ keys) (hs : S.split k = h :: t) (hn : h ∉ names) : wrapperOk S names keys = false :=
  Bool.eq_false_iff.mpr fun hw => by
    obtain ⟨hd, t', hs', hm⟩ := (wrapperOk_iff S names keys).mp hw k hk
    rw [hs] at hs'
    cases hs'
    exact hn hm

theorem good_mapper_keys_accepted (S : StrFns) (names keys : List String)
    (h : ∀ k ∈ keys, ∃ hd t, S.split k = hd :: t ∧ hd ∈ names) : wrapperOk S names keys = true :=
  (wrapperOk_iff S names keys).mpr h

/-- string functions without any string computation: enough for the counterexamples -/
def idFns : StrFns := ⟨id, id, fun s => [s]⟩

def swCls : Cls := { own := [.dict [(.fld "a", .key "b"), (.fld "b", .key "a")]], fields := [.scalar "a" true, .scalar "b" false] }
def swInst : J := .obj [("a", .null), ("b", .int 2)]

def isOkEq (r : DR J) (f : J → Bool) : Bool := match r with | .ok y => f y | .error _ => false
def isErr (r : DR J) : Bool := match r with | .ok _ => false | .error _ => true
def jEq : J → J → Bool
  | .obj [("a", .null), ("b", .int i)], .obj [("a", .null), ("b", .int j)] => i == j
  | _, _ => false

/-- former finding `fallback-capture` (fixed by /repo f476845): mapper `{'a':'b','b':'a'}`, `a`
    optional and absent: `Sw(b=2)` serializes to `{'a': 2}` and, *without* `use_strict_mapping`, now
    deserializes to `Sw(b=2)` again; the instance satisfies the hypotheses of `mapper_round_trip`. -/
theorem fallback_capture_fixed :
    rtCls idFns false (levelOK idFns) swCls (aggregate idFns true swCls.own swCls.fields none false)
        none false swInst = true
    ∧ isOkEq (.ok (serialize idFns false swCls none swInst))
        (fun d => match d with | .obj [("a", .int 2)] => true | _ => false) = true
    ∧ isOkEq (deser idFns false swCls none false (serialize idFns false swCls none swInst))
        (fun y => jEq y swInst) = true := by
  decide +kernel

def dnCls : Cls := { own := [.dict [(.fld "a", .dns)]], fields := [.scalar "a" true, .scalar "b" false] }

/-- former finding `dns-blocks-deserialize` (fixed by /repo e74486a): `a` mapped to `DoNotSerialize`,
    optional and absent — the class can be deserialized and the instance round-trips; it satisfies the
    hypotheses of `mapper_round_trip` (the `DoNotSerialize` case of `Sync`). -/
theorem dns_deserialize_fixed :
    rtCls idFns false (levelOK idFns) dnCls (aggregate idFns true dnCls.own dnCls.fields none false)
        none false swInst = true
    ∧ isOkEq (deser idFns false dnCls none false (serialize idFns false dnCls none swInst))
        (fun y => jEq y swInst) = true := by
  decide +kernel

/-- a populated `DoNotSerialize` field is dropped, so the instance is outside the demanded domain
    (no round trip is claimed) -/
theorem dns_populated_outside_domain :
    rtCls idFns false (levelDom idFns) dnCls (aggregate idFns true dnCls.own dnCls.fields none false)
        none false (.obj [("a", .int 1), ("b", .int 2)]) = false := by
  decide +kernel

/-- `upper` on the keys of the examples -/
def upFns : StrFns :=
  ⟨id, fun s => if s = "m" then "M" else if s = "g" then "G" else if s = "z" then "Z"
      else if s = "b" then "B" else s, fun s => [s]⟩

def gFlds : List Fld := [.scalar "a" false, .scalar "b" false]
def midFlds : List Fld := [.nested "g" false .one { ser := [.dict [(.fld "a", .key "z")]] } gFlds]
def topCls : Cls := { own := [.lower], fields := [.nested "m" false .one { ser := [] } midFlds] }
def topInst : J := .obj [("m", .obj [("g", .obj [("a", .int 1), ("b", .int 2)])])]

/-- finding `nested-resync`: `Top(TO_LOWERCASE) → Mid → G({'a':'z'})`: the serializer writes `G.a`
    under `Z`; the deserializer, re-aggregating `G`'s own mapper under the override it was handed,
    looks for `z`, and the required field is missing. -/
theorem nested_resync_counterexample :
    rtCls upFns false (levelDom upFns) topCls (aggregate upFns true topCls.own topCls.fields none false)
        none false topInst = true
    ∧ isErr (deser upFns false topCls none false (serialize upFns false topCls none topInst)) = true := by
  decide +kernel

/-- the full-strength statement is false of the model (and, by correspondence, of the code) -/
theorem C07_statement_false : ¬ C07_statement := by
  intro h
  have h1 := nested_resync_counterexample
  rw [h upFns false topCls none false topInst h1.1] at h1
  exact nomatch h1.2

def rtCls2 : Cls :=
  { own := [.dict [(.fld "a", .key "k"), (.nest "n", .sub [(.fld "p", .key "q")])], .lower],
    fields := [.scalar "a" false, .scalar "o" true,
      .nested "n" false .many { ser := [.dict [(.fld "p", .key "r")]] } [.scalar "p" false, .scalar "s" true]] }
def rtInst2 : J :=
  .obj [("a", .int 1), ("o", .null),
        ("n", .arr [.obj [("p", .int 3), ("s", .null)], .obj [("p", .int 4), ("s", .int 5)]])]

/-- non-vacuity: a two-level hierarchy with a dict mapper, a nested `._mapper` entry, an enum mapper
    and a list of nested structures satisfies every hypothesis of `mapper_round_trip`, and the
    serialized keys are the renamed ones -/
theorem round_trip_example :
    rtCls upFns false (levelOK upFns) rtCls2 (aggregate upFns true rtCls2.own rtCls2.fields none false)
        none false rtInst2 = true
    ∧ imageKeys upFns false (aggregate upFns true rtCls2.own rtCls2.fields none false)
        [("a", .int 1), ("o", .null), ("n", .arr [])] = ["k", "n"] := by
  decide +kernel

def rgG : List Fld := [.scalar "a" false, .scalar "b" true]
def rgMid : List Fld := [.nested "g" false .one { ser := [] } rgG, .scalar "z" false]
def rgTop : Cls :=
  { own := [.dict [(.fld "m", .key "mm")], .lower],
    fields := [.nested "m" false .many { ser := [.dict [(.fld "g", .key "gg")]] } rgMid, .scalar "a" true] }
def rgInst : J :=
  .obj [("m", .arr [.obj [("g", .obj [("a", .int 1), ("b", .null)]), ("z", .int 3)],
                    .obj [("g", .obj [("a", .int 2), ("b", .int 5)]), ("z", .int 4)]]),
        ("a", .null)]

/-- non-vacuity of `mapper_round_trip_region`: a three-level tree (dict + TO_LOWERCASE on the top class,
    a dict on the class nested in a list, a grand-nested class) is inside the region, its instance
    inside the demanded domain, the keys are the renamed ones (`Z` for the field `z` of the class in the
    list: the top class's `TO_LOWERCASE` reaches it); and the class tree of
    the open finding `nested-resync` (own rename two levels down) is outside the region -/
theorem region_example :
    regionOK upFns rgTop none false = true
    ∧ rtCls upFns false (levelDomE upFns) rgTop (aggregate upFns true rgTop.own rgTop.fields none false)
        none false rgInst = true
    ∧ isOkEq (.ok (serialize upFns false rgTop none rgInst))
        (fun d => match d with
          | .obj [("mm", .arr [.obj [("gg", .obj [("a", .int 1)]), ("Z", .int 3)], _])] => true
          | _ => false) = true
    ∧ regionOK upFns topCls none false = false
    ∧ regionOK upFns rgTop none true = true
    ∧ rtCls upFns true (levelDomE upFns) rgTop (aggregate upFns true rgTop.own rgTop.fields none true)
        none true rgInst = true := by
  decide +kernel

def adG : List Fld := [.scalar "a" false, .scalar "b" true]
def adMid : List Fld := [.nested "g" false .one { ser := [.dict [(.fld "a", .key "z")]] } adG, .scalar "y" false]
def adTop : Cls :=
  { own := [.dict [(.fld "m", .key "mm")]],
    fields := [.nested "m" false .one { ser := [.dict [(.fld "g", .key "gg")]] } adMid] }
def adInst : J := .obj [("m", .obj [("g", .obj [("a", .int 1), ("b", .null)]), ("y", .int 3)])]

/-- non-vacuity of the second alternative of clause (3) of the region (`sync_in_region`): a tree of dict
    mappers only may rename at *every* depth (the grand-nested class `G` renames `a` to `z`, the very shape
    of finding `nested-resync` but without an enum mapper above it) — inside the region, inside the domain,
    and the keys are the renamed ones at every level -/
theorem region_all_dict_example :
    regionOK idFns adTop none false = true
    ∧ rtCls idFns false (levelDomE idFns) adTop (aggregate idFns true adTop.own adTop.fields none false)
        none false adInst = true
    ∧ isOkEq (.ok (serialize idFns false adTop none adInst))
        (fun d => match d with
          | .obj [("mm", .obj [("gg", .obj [("z", .int 1)]), ("y", .int 3)])] => true
          | _ => false) = true := by
  decide +kernel

/-- non-vacuity of the region with an explicit `"<field>._mapper"` entry: the class of `round_trip_example`
    (a dict with the nested entry `"n._mapper": {"p": "q"}`, then TO_LOWERCASE; the nested class renames
    `p` itself) is inside the region, with `camel_case_convert` off and on, and its instance inside the
    demanded domain — so `mapper_round_trip_region` applies without any `Sync` hypothesis -/
theorem region_nested_entry_example :
    regionOK upFns rtCls2 none false = true ∧ regionOK upFns rtCls2 none true = true
    ∧ rtCls upFns false (levelDomE upFns) rtCls2 (aggregate upFns true rtCls2.own rtCls2.fields none false)
        none false rtInst2 = true := by
  decide +kernel

/-- `_convert_to_camelcase` on the two snake_case names of the example (idempotent) -/
def cmFns : StrFns := ⟨fun s => if s = "a_b" then "aB" else if s = "g_h" then "gH" else s, id, fun s => [s]⟩
def ceG : List Fld := [.scalar "a_b" false]
def ceMid : List Fld := [.nested "g_h" false .one { ser := [.camel] } ceG, .scalar "y" false]
def ceTop : Cls := { own := [.camel], fields := [.nested "m" false .one { ser := [.camel] } ceMid] }

/-- non-vacuity of the third clause of the region in its general form: `TO_CAMELCASE` on *every* class of a
    three-level tree — the grand-nested class has an own mapper under mappers that reach it, but they
    leave its keys alone — is inside the region, with `camel_case_convert` off and on; the instance is
    inside the domain and the innermost key is the camelCase one -/
theorem region_enum_everywhere_example :
    regionOK cmFns ceTop none false = true ∧ regionOK cmFns ceTop none true = true
    ∧ rtCls cmFns true (levelDomE cmFns) ceTop (aggregate cmFns true ceTop.own ceTop.fields none true)
        none false (.obj [("m", .obj [("g_h", .obj [("a_b", .int 1)]), ("y", .int 2)])]) = true
    ∧ isOkEq (.ok (serialize cmFns true ceTop none (.obj [("m", .obj [("g_h", .obj [("a_b", .int 1)]), ("y", .int 2)])])))
        (fun d => match d with
          | .obj [("m", .obj [("gH", .obj [("aB", .int 1)]), ("y", .int 2)])] => true
          | _ => false) = true := by
  decide +kernel

def cacheG : List Fld := [.scalar "a" false]
def cacheMid : List Fld := [.nested "g" false .one { ser := [.dict [(.fld "a", .key "z")]], cid := "G" } cacheG]
def cacheTopFs : List Fld := [.nested "m" false .one { ser := [.lower], cid := "Mid" } cacheMid]

/-- non-vacuity: serializing `Top -> Mid -> G` from an empty cache files `G`, `Mid` and `Top` (in this
    order); a later call on `Mid` alone is answered from the cache -/
theorem cache_nested_example :
    ((cAggregate upFns [] "Top" "" [] cacheTopFs none false).2.map (·.1))
        = [("G", "", false), ("Mid", "", false), ("Top", "", false)]
    ∧ ((cAggregate upFns (cAggregate upFns [] "Top" "" [] cacheTopFs none false).2
          "Mid" "" [.lower] cacheMid none false).2.length) = 3 := by
  decide +kernel

def kuN : List Fld := [.scalar "q" false]
/-- `class N: q: int; _serialization_mapper = {'q': 'k'}`, `class O: n: N; z: int; _additional_properties = False` -/
def kuO : Cls :=
  { own := [], closedOwn := true, closedAny := true,
    fields := [.nested "n" false .one { ser := [.dict [(.fld "q", .key "k")]] } kuN, .scalar "z" false] }
def kuInst : J := .obj [("n", .obj [("q", .int 1)]), ("z", .int 2)]

/-- former finding `keep-undefined-leak` (fixed by /repo 005d815): `Deserializer(O).deserialize` used to
    turn `keep_undefined` on because `O` is closed; `O` itself drops undefined keys but handed the flag to
    the open nested class `N`, which kept its renamed key `k` as an extra attribute.  The default is now
    `False` for every class: the instance satisfies the hypotheses of `mapper_round_trip` and round-trips.
    (With an explicit `keep_undefined=True` the nested open class still keeps `k` — by design — and
    `exFree` fails: the last two conjuncts.) -/
theorem keep_undefined_leak_fixed :
    rtCls idFns false (levelOK idFns) kuO (aggregate idFns true kuO.own kuO.fields none false) none false kuInst = true
    ∧ isOkEq (deser idFns false kuO none false (serialize idFns false kuO none kuInst))
        (fun y => match y with
          | .obj [("n", .obj [("q", .int 1)]), ("z", .int 2)] => true
          | _ => false) = true
    ∧ rtClsK idFns false true (levelOK idFns) kuO (aggregate idFns true kuO.own kuO.fields none false)
        none false kuInst = false
    ∧ isOkEq (deserK idFns false true kuO none false (serialize idFns false kuO none kuInst))
        (fun y => match y with
          | .obj [("n", .obj [("q", .int 1), ("k", .int 1)]), ("z", .int 2)] => true
          | _ => false) = true := by
  decide +kernel

/-- `class P: q: int; _additional_properties = False; _serialization_mapper = {'q': 'k'}`, `class C(P): z: int`:
    closed by inheritance only -/
def kuC : Cls :=
  { own := [.dict [(.fld "q", .key "k")]], closedOwn := false, closedAny := true,
    fields := [.scalar "q" false, .scalar "z" false] }

/-- former finding `inherited-closed-class-rejects-mapped-key` (fixed by /repo 0225533): the subclass's
    own `__dict__` does not forbid additional properties, so the renamed key `k` used to be passed to the
    constructor as an undefined key and refused.  The inherited flag now decides: nothing is passed, and
    the instance round-trips even with `keep_undefined` on. -/
theorem inherited_closed_fixed :
    rtClsK idFns false true (levelOK idFns) kuC (aggregate idFns true kuC.own kuC.fields none false) none false
        (.obj [("q", .int 1), ("z", .int 2)]) = true
    ∧ isOkEq (deserK idFns false true kuC none false
        (serialize idFns false kuC none (.obj [("q", .int 1), ("z", .int 2)])))
        (fun y => match y with | .obj [("q", .int 1), ("z", .int 2)] => true | _ => false) = true := by
  decide +kernel

def kuAll : Cls :=
  { own := [.dict [(.fld "z", .key "zz")]], closedOwn := true, closedAny := true,
    fields := [.nested "n" false .one { ser := [.dict [(.fld "q", .key "k")]], closedOwn := true, closedAny := true } kuN,
               .scalar "z" false] }

/-- a tree in which *every* class forbids additional properties in its own body satisfies the hypotheses
    of `mapper_round_trip_K` with `keep_undefined` on (`exFree` holds at every level), and is inside the region -/
theorem closed_round_trip_example :
    rtClsK idFns false true (levelOK idFns) kuAll (aggregate idFns true kuAll.own kuAll.fields none false)
        none false kuInst = true
    ∧ regionOK idFns kuAll none false = true := by
  decide +kernel

def mTag : Mapper → String
  | .lower => "L"
  | .camel => "C"
  | .dict _ => "D"

/-- `class A: _serialization_mapper = TO_LOWERCASE`, `class B(A)`, `class C(A): … = TO_CAMELCASE`,
    `class D(B, C): … = {}` -/
def diamond : List ClsNode :=
  [{ name := "A", bases := [], ser := some (.single .lower) },
   { name := "B", bases := ["A"] },
   { name := "C", bases := ["A"], ser := some (.single .camel), closed := true },
   { name := "D", bases := ["B", "C"], ser := some (.single (.dict [])) }]

/-- the diamond: linearisation `D, B, C, A`; the mappers are collected along the *reversed* linearisation
    with `getattr` per class, so `B` (which defines nothing) contributes `A`'s mapper a second time, after
    `C`'s; `D` forbids additional properties by inheritance from `C` only; and a plain chain collects
    exactly what the single-inheritance `collect` does -/
theorem mro_collection_example :
    mroIn (mroTable diamond) "D" = ["D", "B", "C", "A"]
    ∧ (cinfoOf diamond "D").ser.map mTag = ["L", "C", "L", "D"]
    ∧ (cinfoOf diamond "D").closedAny = true ∧ (cinfoOf diamond "D").closedOwn = false
    ∧ (cinfoOf diamond "D").des.isNone = true
    ∧ (cinfoOf (chainGraph 0 [some (.single .lower), none, some (.many [.camel, .dict []])]) "c2").ser.map mTag
        = (collect none [some (.single .lower), none, some (.many [.camel, .dict []])]).map mTag := by
  decide +kernel

/-- the class-directed serializer (which serializes the values of a `Map[String, Cls]` field as calls of
    their own) is `serialize` on every instance without Map-valued fields: all theorems about `serialize`
    are theorems about what the driver runs -/
theorem serC_eq_ser (S : StrFns) (camel : Bool) (c : Cls) (ov : Option MDict) (x : J)
    (hc : conf c.fields x = true) : serializeC S camel c ov x = serialize S camel c ov x :=
  c07_serC_eq_ser S camel x _ c.fields hc

/-- `class N: q: int; _serialization_mapper = {'q': 'k'}`, `class O: m: Map[String, N]; z: int;
    _serialization_mapper = {'z': 'Z', 'm': 'M'}` -/
def mvO : Cls :=
  { own := [.dict [(.fld "z", .key "Z"), (.fld "m", .key "M")]],
    fields := [.mapped "m" false { ser := [.dict [(.fld "q", .key "k")]] } [.scalar "q" false], .scalar "z" false] }
def mvInst : J := .obj [("m", .obj [("x_y", .obj [("q", .int 1)])]), ("z", .int 2)]

/-- Map values (modelled and corresponded; outside the round-trip theorems): the map keys are left alone,
    the value is written under its own class's keys only (`k`, not `K`: nothing of the containing class
    passes through), and — former finding `keep-undefined-leak:deserialize_map`, fixed by /repo 73883e4 —
    the value class is deserialized with the caller's `keep_undefined`: with the default (`False`) the
    instance comes back as it was; only an explicit `True` keeps the renamed keys (`k` in the value, `M` and
    `Z` on the open class `O` itself) as attributes -/
theorem map_values_example :
    isOkEq (.ok (serializeC upFns false mvO none mvInst))
        (fun d => match d with
          | .obj [("M", .obj [("x_y", .obj [("k", .int 1)])]), ("Z", .int 2)] => true
          | _ => false) = true
    ∧ isOkEq (deserK upFns false false mvO none false (serializeC upFns false mvO none mvInst))
        (fun y => match y with
          | .obj [("m", .obj [("x_y", .obj [("q", .int 1)])]), ("z", .int 2)] => true
          | _ => false) = true
    ∧ isOkEq (deserK upFns false true mvO none false (serializeC upFns false mvO none mvInst))
        (fun y => match y with
          | .obj [("m", .obj [("x_y", .obj [("q", .int 1), ("k", .int 1)])]), ("z", .int 2), ("M", _), ("Z", _)] => true
          | _ => false) = true := by
  decide +kernel

end Typedpy.C07
