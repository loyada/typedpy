/-
  Lemmas/Complete.lean — `validate` refines the documented accept decision / normal form (`admits` / `norm`):
  `validate_spec`, the fact behind C02.  `Sp a n r` (on `a` the computation `r` succeeds with `n`, else it rejects with a
  documented class) composes along `bindE` and guards, so each shape function has an `Sp` statement with the element
  validator as a parameter, and a case of `validate_spec` is one application of it.  `validate_spec` and the statements
  for the list companions are one mutual structural recursion over the declaration, as the model functions themselves are.
-/
import TypedpyModel.Lemmas.Basic
namespace Typedpy
open PyVal (pyEq pyMem pyNodup)

def Sp {α} (a : Bool) (n : α) (r : R α) : Prop :=
  (a = true → r = .ok n) ∧ (a = false → IsReject r)

theorem Sp.pure {α} (n : α) : Sp true n (.ok n) := ⟨fun _ => rfl, fun h => (nomatch h)⟩
theorem Sp.typeErr {α} (n : α) : Sp false n (.error .typeErr) :=
  ⟨fun h => (nomatch h), fun _ => isReject_type⟩
theorem Sp.valueErr {α} (n : α) : Sp false n (.error .valueErr) :=
  ⟨fun h => (nomatch h), fun _ => isReject_value⟩

theorem Sp.ok_inv {α} {a : Bool} {n x : α} {r : R α} (h : Sp a n r) (hr : r = .ok x) :
    a = true ∧ x = n := by
  cases ha : a
  · rcases h.2 ha with ⟨e, he, _⟩
    rw [he] at hr; cases hr
  · rw [h.1 ha] at hr
    exact ⟨rfl, (Except.ok.inj hr).symm⟩

theorem Sp.errIn {α} {a : Bool} {n : α} {r : R α} (h : Sp a n r) : ErrIn OkErr r := by
  intro e hr
  cases ha : a
  · rcases h.2 ha with ⟨e', he, hc⟩
    rw [he] at hr; cases hr; exact hc
  · rw [h.1 ha] at hr; cases hr

theorem Sp.guard {α} {a : Bool} {n : α} {r : R α} (c : Bool) (h : Sp a n r) :
    Sp (c && a) n (if !c then .error .valueErr else r) := by
  cases c
  · exact Sp.valueErr n
  · exact h

theorem Sp.guardT {α} {a : Bool} {n : α} {r : R α} (c : Bool) (h : Sp a n r) :
    Sp (c && a) n (if !c then .error .typeErr else r) := by
  cases c
  · exact Sp.typeErr n
  · exact h

theorem Sp.post {α} (c : Bool) (n : α) : Sp c n (if !c then .error .valueErr else .ok n) := by
  cases c
  · exact Sp.valueErr n
  · exact Sp.pure n

theorem Sp.ite {α} (c : Bool) (n : α) : Sp c n (if c then .ok n else .error .valueErr) := by
  cases c
  · exact Sp.valueErr n
  · exact Sp.pure n

theorem Sp.iteT {α} (c : Bool) (n : α) : Sp c n (if c then .ok n else .error .typeErr) := by
  cases c
  · exact Sp.typeErr n
  · exact Sp.pure n

theorem Sp.bind {α β} {a a' : Bool} {n : α} {n' : β} {r : R α} {k : α → R β}
    (h : Sp a n r) (hk : Sp a' n' (k n)) : Sp (a && a') n' (bindE r k) := by
  cases ha : a
  · rcases h.2 ha with ⟨e, he, hc⟩
    subst he
    exact ⟨fun h => by simp at h, fun _ => ⟨e, rfl, hc⟩⟩
  · have := h.1 ha
    subst this
    simpa using hk

theorem Sp.map {α β} {a : Bool} {n : α} {r : R α} (f : α → β) (h : Sp a n r) :
    Sp a (f n) (bindE r fun y => .ok (f y)) := by
  have := Sp.bind (k := fun y => (Except.ok (f y) : R β)) h (Sp.pure _)
  rwa [Bool.and_true] at this

theorem mapE_spec {α β} {g : α → R β} {a : α → Bool} {n : α → β} (h : ∀ x, Sp (a x) (n x) (g x)) :
    ∀ xs : List α, Sp (xs.all a) (xs.map n) (mapE g xs)
  | [] => Sp.pure _
  | x :: xs => by
    simp only [mapE, List.all_cons, List.map_cons]
    exact Sp.bind (h x) ((mapE_spec h xs).map (n x :: ·))

theorem vNumber_spec (o v) : Sp (aNumber o v) v (vNumber o v) := by
  unfold aNumber vNumber
  cases v.asNum with
  | none => exact Sp.typeErr _
  | some q => exact Sp.ite _ _

theorem vInteger_spec (o v) : Sp (aInteger o v) v (vInteger o v) := by
  unfold aInteger vInteger
  cases v <;> first | exact Sp.typeErr _ | exact Sp.ite _ _

theorem vFloat_spec (o v) : Sp (aFloat o v) (nFloat v) (vFloat o v) := by
  unfold aFloat vFloat nFloat
  cases v <;> first | exact Sp.typeErr _ | exact Sp.ite _ _

theorem vPattern_eq (O : Oracles) (pat : Option String) (s : String) :
    vPattern O pat s = if patOk O pat s then .ok (.str s) else .error .valueErr := by
  cases pat <;> rfl

theorem vString_eq (O : Oracles) (lo hi : Option Nat) (pat : Option String) (v : PyVal) :
    vString O lo hi pat v = match v with
      | .str s => if geLen lo s.length && leLen hi s.length && patOk O pat s then .ok (.str s) else .error .valueErr
      | _ => .error .typeErr := by
  cases v with
  | str s =>
    simp only [vString, vPattern_eq]
    cases geLen lo s.length <;> cases leLen hi s.length <;> cases patOk O pat s <;> rfl
  | _ => rfl

theorem vString_spec (O lo hi pat v) : Sp (aString O lo hi pat v) v (vString O lo hi pat v) := by
  rw [vString_eq]
  cases v <;> first | exact Sp.typeErr _ | exact Sp.ite _ _

theorem vBoolean_spec (v) : Sp (aBoolean v) (nBoolean v) (vBoolean v) := by
  cases v with
  | bool b => exact Sp.pure _
  | str s =>
    simp only [aBoolean, vBoolean, nBoolean]
    cases s == "True" <;> cases s == "False" <;> first | exact Sp.pure _ | exact Sp.typeErr _
  | _ => exact Sp.typeErr _

theorem vEnumLit_spec (vals v) : Sp (pyMem v vals) v (vEnumLit vals v) := Sp.ite _ _

theorem vEnumCls_spec (cls names v) : Sp (aEnumCls cls names v) (nEnumCls cls v) (vEnumCls cls names v) := by
  unfold aEnumCls vEnumCls nEnumCls
  cases v <;> first | exact Sp.ite _ _ | exact Sp.typeErr _ | exact Sp.valueErr _

theorem vSeq_spec (k sz pre) {g : List PyVal → R (List PyVal)} {a n}
    (hg : ∀ xs, Sp (a xs) (n xs) (g xs)) (v) :
    Sp (aSeq k sz pre a n v) (nSeq k n v) (vSeq k sz pre g v) := by
  unfold aSeq nSeq vSeq
  cases seqElems k v with
  | none => exact Sp.typeErr _
  | some xs =>
    simp only [Bool.and_assoc]
    exact Sp.guard _ (Sp.guard _ (Sp.guard _ (Sp.bind (hg xs) (Sp.post _ _))))

theorem vSet_spec (imm sz) {g : List PyVal → R (List PyVal)} {a n}
    (hg : ∀ xs, Sp (a xs) (n xs) (g xs)) (v) :
    Sp (aSet sz a n v) (nSet imm n v) (vSet imm sz g v) := by
  unfold aSet nSet vSet
  cases v <;> try exact Sp.typeErr _
  rename_i fr xs
  simp only [Bool.and_assoc]
  exact Sp.guard _ (Sp.bind (hg xs) (Sp.post _ _))

theorem vTuple_spec (uniq pre) {g : List PyVal → R (List PyVal)} {a n}
    (hg : ∀ xs, Sp (a xs) (n xs) (g xs)) (v) :
    Sp (aTuple uniq pre a n v) (nTuple n v) (vTuple uniq pre g v) := by
  unfold aTuple nTuple vTuple
  cases v <;> try exact Sp.typeErr _
  rename_i xs
  simp only [Bool.and_assoc]
  exact Sp.guard _ (Sp.guard _ (Sp.bind (hg xs) (Sp.post _ _)))

theorem vMap_spec (sz) {g : List (PyVal × PyVal) → R (List (PyVal × PyVal))} {a n}
    (hg : ∀ xs, Sp (a xs) (n xs) (g xs)) (v) :
    Sp (aMap sz a n v) (nMap n v) (vMap sz g v) := by
  unfold aMap nMap vMap
  cases v <;> try exact Sp.typeErr _
  rename_i xs
  simp only [Bool.and_assoc]
  exact Sp.guard _ (Sp.bind (hg xs) (Sp.post _ _))

theorem vClassRef_spec (c v) : Sp (aClassRef c v) v (vClassRef c v) := by
  unfold aClassRef vClassRef
  cases v <;> try exact Sp.typeErr _
  exact Sp.iteT _ _

theorem vInline_spec {k : List (String × PyVal) → R PyVal} {a n}
    (hk : ∀ kw, Sp (a kw) (n kw) (k kw)) (v) :
    Sp (aInline v a) (nInline v n) (vInline v k) := by
  unfold aInline nInline vInline
  cases v <;> try exact Sp.typeErr _
  · rename_i kvs
    dsimp only
    cases kwOfDict kvs with
    | none => exact Sp.typeErr _
    | some kw => exact hk kw
  · exact hk _

theorem vNone_spec (v : PyVal) : Sp v.isNone v (vNone v) := Sp.iteT _ _

theorem bindOk_eq (c names kw) : bindOk c names kw = kwShapeOk c names kw := by
  unfold bindOk kwShapeOk
  rw [List.not_any_eq_all_not, Bool.not_and, Bool.not_not, List.not_any_eq_all_not]
  simp only [Option.not_isNone, Bool.not_not]

theorem vConstruct_spec (c names kw) {g : R (List (String × PyVal))} {a n}
    (hg : Sp a n g) :
    Sp (kwShapeOk c names kw && a) (PyVal.inst c.name (extrasOf c names kw ++ n))
      (vConstruct c names kw g) := by
  unfold vConstruct
  rw [← bindOk_eq]
  exact Sp.guardT _ (hg.map fun attrs => PyVal.inst c.name (extrasOf c names kw ++ attrs))

mutual
theorem validate_spec (O : Oracles) :
    ∀ (f : FieldDecl) (v : PyVal), Sp (admits O f v) (norm O f v) (validate O f v)
  | .number o, v => vNumber_spec o v
  | .integer o, v => vInteger_spec o v
  | .float o, v => vFloat_spec o v
  | .string lo hi pat, v => vString_spec O lo hi pat v
  | .boolean, v => vBoolean_spec v
  | .enumLit vals, v => vEnumLit_spec vals v
  | .enumCls cls names, v => vEnumCls_spec cls names v
  | .seqAny k sz, v => vSeq_spec k sz _ (a := fun _ => true) (n := id) Sp.pure v
  | .seqOf k f sz, v => vSeq_spec k sz _ (mapE_spec (validate_spec O f)) v
  | .seqPos k fs addl sz, v => vSeq_spec k sz _ (validateZip_spec O fs) v
  | .setAny imm sz, v => vSet_spec imm sz (a := fun _ => true) (n := id) Sp.pure v
  | .setOf imm f sz, v => vSet_spec imm sz (mapE_spec (validate_spec O f)) v
  | .tupleOf f uniq, v => vTuple_spec uniq _ (mapE_spec (validate_spec O f)) v
  | .tuplePos fs uniq, v => vTuple_spec uniq _ (validateZip_spec O fs) v
  | .mapAny sz, v => vMap_spec sz (a := fun _ => true) (n := id) Sp.pure v
  | .mapOf kf vf sz, v =>
    vMap_spec sz (mapE_spec fun kv =>
      Sp.bind (validate_spec O kf kv.1) ((validate_spec O vf kv.2).map (norm O kf kv.1, ·))) v
  | .struct c fields defaults, v => by
    simp only [admits_struct, norm_struct, validate_struct]
    cases c.inline
    · simp only [Bool.false_eq_true, if_false]; exact vClassRef_spec c v
    · simp only [if_true]
      exact vInline_spec (fun kw => vConstruct_spec c _ kw (validateFields_spec O c defaults kw fields)) v
  | .anyOf fs, v => validateAny_spec O fs v
  | .oneOf fs, v => by
    simp only [admits_oneOf, norm_oneOf, validate_oneOf, countOk_eq O fs v]; exact Sp.ite _ _
  | .allOf fs, v => (validateEach_spec O fs v).map fun _ => v
  | .notF fs, v => by
    simp only [admits_notF, norm_notF, validate_notF, countOk_eq O fs v]; exact Sp.ite _ _
  | .noneF, v => vNone_spec v
  | .anything, v => Sp.pure v
termination_by structural f => f

theorem validateZip_spec (O : Oracles) :
    ∀ (fs : List FieldDecl) (xs : List PyVal),
      Sp (admitsZip O fs xs) (normZip O fs xs) (validateZip O fs xs)
  | [], _ => Sp.pure _
  | _ :: _, [] => Sp.pure _
  | f :: fs, x :: xs => Sp.bind (validate_spec O f x) ((validateZip_spec O fs xs).map (norm O f x :: ·))
termination_by structural fs => fs

theorem validateAny_spec (O : Oracles) :
    ∀ (fs : List FieldDecl) (v : PyVal), Sp (admitsAny O fs v) (normAny O fs v) (validateAny O fs v)
  | [], v => Sp.valueErr _
  | f :: fs, v => by
    rw [admitsAny_cons, normAny_cons, validateAny_cons]
    have h := validate_spec O f v
    cases ha : admits O f v
    · rcases h.2 ha with ⟨e, he, _⟩
      simp only [he, Bool.false_or, Bool.false_eq_true, if_false]
      exact validateAny_spec O fs v
    · simp only [h.1 ha, Bool.true_or, if_true]
      exact Sp.pure _
termination_by structural fs => fs

theorem countOk_eq (O : Oracles) :
    ∀ (fs : List FieldDecl) (v : PyVal), countOk O fs v = countAdmits O fs v
  | [], v => rfl
  | f :: fs, v => by
    rw [countOk_cons, countAdmits_cons, countOk_eq O fs v]
    have h := validate_spec O f v
    cases ha : admits O f v
    · rcases h.2 ha with ⟨e, he, _⟩
      simp only [he, Bool.false_eq_true, if_false]
    · simp only [h.1 ha, if_true]
termination_by structural fs => fs

theorem validateEach_spec (O : Oracles) :
    ∀ (fs : List FieldDecl) (v : PyVal), Sp (admitsAll O fs v) () (validateEach O fs v)
  | [], _ => Sp.pure _
  | f :: fs, v => Sp.bind (validate_spec O f v) (validateEach_spec O fs v)
termination_by structural fs => fs

theorem validateFields_spec (O : Oracles) (c : ClassOpts) (defaults kw : List (String × PyVal)) :
    ∀ (fields : List (String × FieldDecl)),
      Sp (admitsFields O c defaults kw fields) (normFields O c defaults kw fields)
        (validateFields O c defaults kw fields)
  | [] => Sp.pure _
  | (name, f) :: rest => by
    rw [admitsFields_cons, normFields_cons, validateFields_cons]
    have ihr := validateFields_spec O c defaults kw rest
    cases argFor c defaults kw name with
    | none => simp only [Bool.true_and]; exact ihr
    | some v =>
      simp only []
      exact Sp.bind (validate_spec O f v) (ihr.map ((name, norm O f v) :: ·))
termination_by structural fields => fields
end

theorem construct_spec (O : Oracles) (c : ClassOpts) (fields : List (String × FieldDecl))
    (defaults kw : List (String × PyVal)) :
    Sp (admitsKw O (.struct c fields defaults) kw) (normKw O (.struct c fields defaults) kw)
      (construct O (.struct c fields defaults) kw) :=
  vConstruct_spec c _ kw (validateFields_spec O c defaults kw fields)

end Typedpy
