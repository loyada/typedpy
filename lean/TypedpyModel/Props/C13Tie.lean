/-
  The table the C13 model and theorems use (`Pinned.typeMap`) is the table the
  translator reads off the current typedpy working tree (`Generated.typeMap`, regenerated by
  `extract/type_map.py` before every build).  A changed mapping (e.g. `float ↦ Integer`) makes these
  proofs fail.  Kept in its own module because `Generated/` is not committed.
-/
import TypedpyModel.Generated.TypeMap
import TypedpyModel.Pinned.TypeMap
namespace Typedpy.C13

-- Both files are printed by the same program, so equal tables are the same closed term and `rfl`
-- compares them literal by literal; `decide` would run `String.decEq` character by character over every
-- string of the tables.
theorem typeMap_pinned : Generated.typeMap = Pinned.typeMap := rfl

theorem formRows_pinned : Generated.formRows = Pinned.formRows := rfl

end Typedpy.C13
