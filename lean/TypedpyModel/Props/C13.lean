/-
  C13: equivalent declaration syntaxes produce behaviourally identical classes.

  Two halves: on a decidable region the model of the code yields the documented meaning (`elabField_meaning`, from
  `Lemmas/Elab.ev_good`), and equivalent spellings have the same documented meaning (`sameMeaning_denote`); so equivalent
  class bodies elaborate to the same class (`elabClass_equiv`), and "behaviourally identical" follows because every
  operation of the other models is a function of the class declaration (`same_observation`).  The full statement
  `C13_statement` is false of the code (`statement_false`); `statement_partial` is the statement on `classSupported`.
  Open findings are `counterexample_*` (mutable defaults are outside the model: oracle only), findings repaired in typedpy
  are `fixed_*`.  The unions that `typing` / Python rewrite (directly nested or duplicate members) are outside `supported`
  and treated on their own: `elaborate_flatten` / `flatten_equiv` / `elabField_flatten` (`Lemmas/ElabFlat`) and
  `union_duplicate_collapses`; the `*X` theorems are over the union of both regions.
  Every theorem is about `Sem/Elaborate` at `Pinned.typeMap`; `Props/C13Tie.lean` ties that table to the working tree.
-/
import TypedpyModel.Lemmas.ElabFlat
import TypedpyModel.Sem.Deser
import TypedpyModel.Sem.Schema
import TypedpyModel.Lemmas.Elab
namespace Typedpy.C13
open Typedpy Typedpy.Elab

/-- the committed table (equal to the regenerated one by `typeMap_pinned` of `Props/C13Tie`) -/
abbrev tm : TypeMap := Pinned.typeMap

def headOfDecl : FieldDecl → Option Head
  | .integer _ => some .integer | .string _ _ _ => some .string | .float _ => some .float
  | .boolean => some .boolean | .anything => some .anything
  | .seqAny .list _ => some .array | .seqAny .deque _ => some .deque
  | .setAny false _ => some .set | .setAny true _ => some .immSet
  | .mapAny _ => some .map | .noneF => some (.other "NoneField")
  | _ => none

def objOfAtom : Atom → Obj
  | .noneType => .noneTy
  | a => .ty a

/-- left out: the atoms for which the model has no declaration to answer with, so that the `item` column cannot agree -
    `date` / `datetime` / `time` (`defaultDecl` is `unmodelled-date-field`) and bare `tuple` (`Field[tuple]` is an implicit
    wrapper class in the code); `Optional` and `typing.Tuple` are left out as well, though their rows are consistent -/
def modelled : Atom → Bool
  | .date | .datetime | .time | .tuple | .tTuple | .tOptional => false
  | _ => true

def probeAgrees (a : Atom) (r : R (Option FieldDecl)) (p : Probe) : Bool :=
  match p with
  | .cls h => !tm.generic a && tm.cbt a == some h
  | .inst h => (match r with | .ok (some d) => headOfDecl d == some h | _ => false)
  | .none => (match r with | .ok none => true | _ => false)
  | .err _ => (match r with | .error _ => true | _ => false)

/-- `get_typing_lib_info`, `Field[·]` and `_or_fields(Integer, ·)` of the model against the probed columns -/
def rowConsistent (r : TMRow) : Bool :=
  probeAgrees r.atom (gtli tm (objOfAtom r.atom)) r.gtli
  && probeAgrees r.atom (someDecl (getItem tm (objOfAtom r.atom))) r.item
  && probeAgrees r.atom
      (bindE (orFields tm (.fcls .integer) (objOfAtom r.atom)) fun o =>
        match o with
        | .finst (.anyOf [_, d]) => .ok (some d)
        | _ => .error (.other "shape")) r.orRight

/-- On every modelled atom of the vocabulary the model's `gtli` / `getItem` / `orFields` return what the
    real `get_typing_lib_info` / `FieldMeta.__getitem__` / `_or_fields` returned when probed.  Where the real function
    returned a Field CLASS (`Probe.cls`: `get_typing_lib_info` on the builtin classes, `Any`, `Union`) the model has
    nothing to compare, since its `gtli` goes on to instantiate the class: there `probeAgrees` checks the probe
    against the `convert_basic_types` column, from which the model computes its answer. -/
theorem typeMap_columns_consistent : (tm.filter (fun r => modelled r.atom)).all rowConsistent = true := by
  decide +kernel

/-- the Field a type expression becomes when it is used as a field type (argument of `Array[…]`,
    annotation of a field expression, …) -/
def elaborate (tm : TypeMap) (s : Sp) : R FieldDecl := bindE (ev tm s) (getItem tm)

/-- the Field an annotation becomes through `get_typing_lib_info` -/
def elaborateAnn (tm : TypeMap) (s : Sp) : R (Option FieldDecl) := bindE (ev tm s) (gtli tm)

theorem sameMeaning_denote {s t : Sp} (h : SameMeaning s t) : denote s = denote t :=
  Elab.sameMeaning_denote h

/-- Every supported spelling, at any nesting depth, elaborates to its documented meaning — both through
    `get_typing_lib_info` (as an annotation) and through `FieldMeta.__getitem__` (as an argument of a typedpy field;
    `itemOk` holds of every spelling, so the hypothesis restricts nothing: it is where typedpy before 4d54fb6 needed a
    Structure-first PEP 604 union `Owner | …` excluded, see `fixed_struct_first_nested`). -/
theorem elaborate_meaning (s : Sp) (h : supported tm s = true) :
    (itemOk s = true → elaborate tm s = .ok (denote s)) ∧ elaborateAnn tm s = .ok (some (denote s)) := by
  obtain ⟨o, hev, g⟩ := ev_good s h
  exact ⟨fun _ => by simp only [elaborate, hev, bindE_ok, getItem_of_gtli g.gt],
    by simp only [elaborateAnn, hev, bindE_ok, g.gt]⟩

theorem elaborate_equiv {s₁ s₂ : Sp} (h : SameMeaning s₁ s₂) (h₁ : supported tm s₁ = true)
    (h₂ : supported tm s₂ = true) :
    (itemOk s₁ = true → itemOk s₂ = true → elaborate tm s₁ = elaborate tm s₂)
    ∧ elaborateAnn tm s₁ = elaborateAnn tm s₂ := by
  have m₁ := elaborate_meaning s₁ h₁
  rw [sameMeaning_denote h] at m₁
  have m₂ := elaborate_meaning s₂ h₂
  exact ⟨fun i₁ i₂ => (m₁.1 i₁).trans (m₂.1 i₂).symm, m₁.2.trans m₂.2.symm⟩

/-- Field level: the model of `StructMeta.__new__` on one declaration yields the documented field,
    required flag and default (or the documented rejection of an invalid default). -/
theorem elabField_meaning (O : Oracles) (future : Bool) (fs : FieldSp)
    (h : fieldSupported O tm future fs = true) : elabField O tm future fs = fieldMeaning O fs :=
  elabField_fieldMeaning O future fs h

/-- The same field in two spellings (annotation / assignment, `= v` / `default=v`, `Optional` /
    `AnyOf[…, None]` + `_optional`, any equivalent type expression), each with or without the future
    import, elaborates identically. -/
theorem elabField_equiv (O : Oracles) (f₁ f₂ : Bool) {a b : FieldSp} (h : FieldSame a b)
    (ha : fieldSupported O tm f₁ a = true) (hb : fieldSupported O tm f₂ b = true) :
    elabField O tm f₁ a = elabField O tm f₂ b := by
  rw [elabField_meaning O f₁ a ha, elabField_meaning O f₂ b hb, fieldMeaning_same O h]

/-- On the union of the two regions - `fieldSupportedAt` (every spelling is its documented `denote`) and the union-tree
    region (nested `Union` / `Optional` / `|`, with no default, a `= v` default or a default factory) - the model of
    `StructMeta.__new__` yields the documented meaning `fieldMeaningX` (flattened where typing flattens). -/
theorem elabField_meaningX (sc : Scope) (O : Oracles) (future : Bool) (fs : FieldSp)
    (h : fieldRegionX O tm sc future fs = true) : elabFieldAt sc O tm future fs = fieldMeaningX O tm fs :=
  elabFieldAt_meaningX sc O future fs h

/-- Class level over the extended region: two class bodies whose fields pairwise have the same name and the same
    documented meaning (`ClassSameX`: includes every `ClassSame` pair of supported bodies, `classSame_sameX`, and all
    re-bracketings / re-spellings of nested unions) give the same class statement outcome. -/
theorem elabClass_equivX (O : Oracles) {c₁ c₂ : ClassSp} (h : ClassSameX O tm c₁.fields c₂.fields)
    (hr : c₁.required = c₂.required)
    (h₁ : classRegionX O tm c₁ = true) (h₂ : classRegionX O tm c₂ = true) :
    elabClass O tm c₁ = elabClass O tm c₂ := by
  simp only [elabClass, elabFields_sameX O c₁.scope c₂.scope c₁.future c₂.future h h₁ h₂, hr]
  cases he : elabFields O tm c₂.scope c₂.future c₂.fields with
  | error e => rfl
  -- the `_optional` lists of the two bodies may differ
  | ok rs => exact finishClass_opt_irrelevant _ _ _ rs (elabFields_allFieldX O c₂.scope c₂.future c₂.fields rs h₂ he)

theorem elabClass_equiv (O : Oracles) {c₁ c₂ : ClassSp} (h : ClassSame c₁.fields c₂.fields)
    (hr : c₁.required = c₂.required)
    (h₁ : classSupported O tm c₁ = true) (h₂ : classSupported O tm c₂ = true) :
    elabClass O tm c₁ = elabClass O tm c₂ :=
  elabClass_equivX O (classSame_sameX O c₁.scope c₂.scope c₁.future c₂.future h h₁ h₂) hr (all_regionX h₁) (all_regionX h₂)

/-- `FieldSame` spellings outside the union-tree region are `FieldSameX`.  (Inside it they need not be:
    `Union[Union[int, None], str]` is flattened, hence optional; its `FieldSame` spelling
    `AnyOf[AnyOf[Integer, None], String]` is not.) -/
theorem fieldSame_sameX (O : Oracles) {a b : FieldSp} (h : FieldSame a b)
    (ha : flatRegion tm a = false) (hb : flatRegion tm b = false) : FieldSameX O tm a b :=
  ⟨h.name, by simp [fieldMeaningX, ha, hb, fieldMeaning_same O h]⟩

theorem same_fields_and_required (O : Oracles) {c₁ c₂ : ClassSp} (h : ClassSame c₁.fields c₂.fields)
    (hr : c₁.required = c₂.required)
    (h₁ : classSupported O tm c₁ = true) (h₂ : classSupported O tm c₂ = true)
    {o₁ o₂ : ClassOpts} {fs₁ fs₂ : List (String × FieldDecl)} {ds₁ ds₂ : List (String × PyVal)}
    (e₁ : elabClass O tm c₁ = .ok (.struct o₁ fs₁ ds₁)) (e₂ : elabClass O tm c₂ = .ok (.struct o₂ fs₂ ds₂)) :
    fs₁ = fs₂ ∧ o₁.required = o₂.required ∧ ds₁ = ds₂ := by
  rw [elabClass_equiv O h hr h₁ h₂, e₂] at e₁
  cases e₁
  exact ⟨rfl, rfl, rfl⟩

/-- a class statement seen through the constructor: the exception class of the definition, else accept / reject (with
    exception class) / stored normal form of `K(**kw)` (`Sem/Validate.construct` is a function of the class declaration) -/
def classBehaviour (O : Oracles) (c : ClassSp) (kw : List (String × PyVal)) : R PyVal :=
  bindE (elabClass O tm c) fun cls => construct O cls kw

theorem same_behaviour (O : Oracles) {c₁ c₂ : ClassSp} (h : ClassSame c₁.fields c₂.fields)
    (hr : c₁.required = c₂.required)
    (h₁ : classSupported O tm c₁ = true) (h₂ : classSupported O tm c₂ = true)
    (kw : List (String × PyVal)) : classBehaviour O c₁ kw = classBehaviour O c₂ kw := by
  simp only [classBehaviour, elabClass_equiv O h hr h₁ h₂]

def observe {α : Type} (O : Oracles) (c : ClassSp) (obs : FieldDecl → R α) : R α :=
  bindE (elabClass O tm c) obs

/-- "Behaviourally identical": every operation of the other models is a function of the class declaration, so equal
    declarations give equal results. -/
theorem same_observation {α : Type} (O : Oracles) {c₁ c₂ : ClassSp} (h : ClassSame c₁.fields c₂.fields)
    (hr : c₁.required = c₂.required)
    (h₁ : classSupported O tm c₁ = true) (h₂ : classSupported O tm c₂ = true) (obs : FieldDecl → R α) :
    observe O c₁ obs = observe O c₂ obs := by
  simp only [observe, elabClass_equiv O h hr h₁ h₂]

theorem same_observationX {α : Type} (O : Oracles) {c₁ c₂ : ClassSp} (h : ClassSameX O tm c₁.fields c₂.fields)
    (hr : c₁.required = c₂.required)
    (h₁ : classRegionX O tm c₁ = true) (h₂ : classRegionX O tm c₂ = true) (obs : FieldDecl → R α) :
    observe O c₁ obs = observe O c₂ obs := by
  simp only [observe, elabClass_equivX O h hr h₁ h₂]

/-- `Serializer(K(**kw)).serialize()` (`Sem/Serde.serialize` after `Sem/Validate.construct`) -/
def classSerialize (O : Oracles) (c : ClassSp) (kw : List (String × PyVal)) : R PyVal :=
  observe O c fun cls => bindE (construct O cls kw) fun x => serialize O cls x

/-- `Deserializer(K).deserialize(doc)` (`Sem/Deser.deserialize`) -/
def classDeserialize (O : Oracles) (opts : DeserOpts) (c : ClassSp) (doc : PyVal) : R PyVal :=
  observe O c fun cls => deserialize O opts cls doc

/-- `structure_to_schema(K)` (`Sem/Schema.toSchema`: schema and definitions) -/
def classSchema (O : Oracles) (c : ClassSp) : R (PyVal × Sch.Defs) :=
  observe O c fun cls => .ok (Sch.toSchema cls)

theorem same_serialize (O : Oracles) {c₁ c₂ : ClassSp} (h : ClassSame c₁.fields c₂.fields)
    (hr : c₁.required = c₂.required)
    (h₁ : classSupported O tm c₁ = true) (h₂ : classSupported O tm c₂ = true)
    (kw : List (String × PyVal)) : classSerialize O c₁ kw = classSerialize O c₂ kw :=
  same_observation O h hr h₁ h₂ _

theorem same_deserialize (O : Oracles) (opts : DeserOpts) {c₁ c₂ : ClassSp} (h : ClassSame c₁.fields c₂.fields)
    (hr : c₁.required = c₂.required)
    (h₁ : classSupported O tm c₁ = true) (h₂ : classSupported O tm c₂ = true)
    (doc : PyVal) : classDeserialize O opts c₁ doc = classDeserialize O opts c₂ doc :=
  same_observation O h hr h₁ h₂ _

theorem same_schema (O : Oracles) {c₁ c₂ : ClassSp} (h : ClassSame c₁.fields c₂.fields)
    (hr : c₁.required = c₂.required)
    (h₁ : classSupported O tm c₁ = true) (h₂ : classSupported O tm c₂ = true) :
    classSchema O c₁ = classSchema O c₂ :=
  same_observation O h hr h₁ h₂ _

def fieldNames (r : R FieldDecl) : Option (List String × List String) :=
  match r with
  | .ok (.struct o fs _) => some (fs.map (·.1), o.required)
  | _ => none

/-- C13 at full strength: two class bodies that declare the same fields, each in any documented spelling, have the same
    definition outcome (field names, `_required`) and accept / reject / normalise every keyword list identically. -/
def C13_statement : Prop :=
  ∀ (O : Oracles) (c₁ c₂ : ClassSp), ClassSame c₁.fields c₂.fields → c₁.required = c₂.required →
    c₁.fields.all documentedField = true → c₂.fields.all documentedField = true →
    fieldNames (elabClass O tm c₁) = fieldNames (elabClass O tm c₂)
    ∧ ∀ kw, classBehaviour O c₁ kw = classBehaviour O c₂ kw

/-- What holds: the statement restricted to the supported region (`classSupported` excludes the known-finding
    regions, undocumented forms and typing's own flattening / de-duplication of unions). -/
theorem statement_partial (O : Oracles) (c₁ c₂ : ClassSp) (h : ClassSame c₁.fields c₂.fields)
    (hr : c₁.required = c₂.required)
    (h₁ : classSupported O tm c₁ = true) (h₂ : classSupported O tm c₂ = true) :
    fieldNames (elabClass O tm c₁) = fieldNames (elabClass O tm c₂)
    ∧ ∀ kw, classBehaviour O c₁ kw = classBehaviour O c₂ kw :=
  ⟨by rw [elabClass_equiv O h hr h₁ h₂], same_behaviour O h hr h₁ h₂⟩

def noRe : Oracles := { reMatch := fun _ _ => false }
def fInt : Sp := .fcls .int
def fStr : Sp := .fcls .str
def annF (ty : Sp) (dflt : DefaultSp := .none) (inOpt : Bool := false) : FieldSp :=
  { name := "a", mode := .ann, ty := ty, dflt := dflt, inOptional := inOpt }
def anyIntStr : FieldDecl := .anyOf [.integer {}, .string none none none]

/-- `a: Optional[list[dict[str, int]]]` (builtins / typing, under the future import),
    `a: list[dict[str, int]] | None` (PEP 604) and `a = AnyOf[Array[Map[String, Integer]], None]` +
    `_optional` (plain assignment): all are in the supported region, pairwise `FieldSame`, and elaborate to
    the same optional nested field. -/
theorem equiv_example :
    let s₁ : Sp := .optional (.pep585 .list (.dict585 (.builtin .str) (.builtin .int)))
    let s₂ : Sp := .anyOf (.sub .list (.mapSub fStr fInt)) .noneLit
    let s₃ : Sp := .pipe (.pep585 .list (.dict585 (.builtin .str) (.builtin .int))) .noneLit
    let a : FieldSp := { name := "a", mode := .ann, ty := s₁ }
    let b : FieldSp := { name := "a", mode := .assign, ty := s₂, inOptional := true }
    let c : FieldSp := { name := "a", mode := .ann, ty := s₃ }
    FieldSame a b ∧ FieldSame c b
    ∧ fieldSupported noRe tm true a = true ∧ fieldSupported noRe tm false b = true
    ∧ fieldSupported noRe tm true c = true
    ∧ elabField noRe tm true a = elabField noRe tm false b
    ∧ elabField noRe tm true c = elabField noRe tm false b
    ∧ elabField noRe tm true a
        = .ok (.field (.anyOf [.seqOf .list (.mapOf (.string none none none) (.integer {}) {}) {}, .noneF]) false none) := by
  have hcoll := SameMeaning.coll .pep585 .sub .list
    (SameMeaning.dict .pep585 .sub (SameMeaning.scalar .builtin .cls .str) (SameMeaning.scalar .builtin .cls .int))
  intro s₁ s₂ s₃ a b c
  have hab : FieldSame a b := ⟨rfl, SameMeaning.optionalAlt .anyOf hcoll, rfl, rfl⟩
  have hcb : FieldSame c b := ⟨rfl, SameMeaning.alt .pipe .anyOf hcoll SameMeaning.none, rfl, rfl⟩
  -- the conjuncts named by a hole are evaluated once (the closing `rfl`) and are the hypotheses of `elabField_equiv`
  refine ⟨hab, hcb, ?a, ?b, ?c, elabField_equiv noRe true false hab ?a ?b, elabField_equiv noRe true false hcb ?c ?b,
    rfl⟩ <;> rfl

/-- `a: Optional[list[int]]` (future import) and `a = AnyOf[Array[Integer], None]` + `_optional`: both classes
    are in the proved region and `ClassSame`; constructing with `a=[1, 2]` and serializing gives `{"a": [1, 2]}`
    for both, deserializing `{"a": [1]}` gives the same instance, and a wrong element type is rejected by both. -/
theorem behaviour_example :
    let cA : ClassSp := { future := true, fields := [{ name := "a", mode := .ann, ty := .optional (.pep585 .list (.builtin .int)) }] }
    let cB : ClassSp := { future := false, fields := [{ name := "a", mode := .assign, ty := .anyOf (.sub .list fInt) .noneLit, inOptional := true }] }
    ClassSame cA.fields cB.fields ∧ classSupported noRe tm cA = true ∧ classSupported noRe tm cB = true
    ∧ classSerialize noRe cA [("a", .list [.int 1, .int 2])] = .ok (.dict [(.str "a", .list [.int 1, .int 2])])
    ∧ classSerialize noRe cB [("a", .list [.int 1, .int 2])] = .ok (.dict [(.str "a", .list [.int 1, .int 2])])
    ∧ classDeserialize noRe {} cA (.dict [(.str "a", .list [.int 1])]) = .ok (.inst "K" [("a", .list [.int 1])])
    ∧ classDeserialize noRe {} cB (.dict [(.str "a", .list [.int 1])]) = .ok (.inst "K" [("a", .list [.int 1])])
    ∧ classBehaviour noRe cA [("a", .list [.str "x"])] = .error .valueErr
    ∧ classBehaviour noRe cB [("a", .list [.str "x"])] = .error .valueErr :=
  ⟨ClassSame.cons ⟨rfl, SameMeaning.optionalAlt .anyOf
      (SameMeaning.coll .pep585 .sub .list (SameMeaning.scalar .builtin .cls .int)), rfl, rfl⟩ ClassSame.nil,
   rfl, rfl, rfl, rfl, rfl, rfl, rfl, rfl⟩

/-- `a: int | str`, `a: Union[int, str]` and `a: AnyOf[Integer, String]` declare the same required field
    (was `field-dropped:pep604-plain-union`, repaired in typedpy b6795f9: the PEP-604 form declared nothing). -/
theorem fixed_pep604_plain :
    SameMeaning (.pipe (.builtin .int) (.builtin .str)) (.anyOf fInt fStr)
    ∧ elabField noRe tm false (annF (.pipe (.builtin .int) (.builtin .str))) = .ok (.field anyIntStr true none)
    ∧ elabField noRe tm false (annF (.anyOf fInt fStr)) = .ok (.field anyIntStr true none)
    ∧ elabField noRe tm false (annF (.union (.builtin .int) (.builtin .str))) = .ok (.field anyIntStr true none)
    ∧ elabField noRe tm false (annF (.pipe (.builtin .int) .noneLit))
        = elabField noRe tm false (annF (.optional (.builtin .int))) :=
  ⟨SameMeaning.alt .pipe .anyOf (SameMeaning.scalar .builtin .cls .int) (SameMeaning.scalar .builtin .cls .str),
   rfl, rfl, rfl,
   elabField_equiv noRe false false ⟨rfl, SameMeaning.altOptional .pipe (SameMeaning.scalar .builtin .builtin .int), rfl, rfl⟩
     rfl rfl⟩

/-- `a: list[int | str]` = `a: list[Union[int, str]]` (was `definition-error:pep604-plain-union-nested`, repaired in typedpy b6795f9). -/
theorem fixed_pep604_nested :
    elabField noRe tm false (annF (.pep585 .list (.pipe (.builtin .int) (.builtin .str))))
        = .ok (.field (.seqOf .list anyIntStr {}) true none)
    ∧ elabField noRe tm false (annF (.pep585 .list (.union (.builtin .int) (.builtin .str))))
        = .ok (.field (.seqOf .list anyIntStr {}) true none)
    ∧ elabField noRe tm false (annF (.sub .list (.pipe (.builtin .int) (.builtin .str))))
        = .ok (.field (.seqOf .list anyIntStr {}) true none) :=
  ⟨rfl, rfl, rfl⟩

/-- `a: Integer | None` = `a: AnyOf[Integer, None]` (both with `_optional`) = `a: Optional[int]`
    (was `definition-error:field-pipe-none`, repaired in typedpy b6795f9). -/
theorem fixed_field_pipe_none :
    elabField noRe tm false (annF (.pipe fInt .noneLit) .none true)
        = .ok (.field (.anyOf [.integer {}, .noneF]) false none)
    ∧ elabField noRe tm false (annF (.anyOf fInt .noneLit) .none true)
        = .ok (.field (.anyOf [.integer {}, .noneF]) false none)
    ∧ elabField noRe tm false (annF (.optional (.builtin .int)))
        = .ok (.field (.anyOf [.integer {}, .noneF]) false none) :=
  ⟨rfl, rfl, rfl⟩

/-- `a: Integer | list[int]` = `a: AnyOf[Integer, list[int]]`, and `Integer | Optional[int]` works
    (was `definition-error:field-pipe-nonconvertible`, repaired in typedpy b6795f9). -/
theorem fixed_field_pipe_generic :
    elabField noRe tm false (annF (.pipe fInt (.pep585 .list (.builtin .int))))
        = .ok (.field (.anyOf [.integer {}, .seqOf .list (.integer {}) {}]) true none)
    ∧ elabField noRe tm false (annF (.anyOf fInt (.pep585 .list (.builtin .int))))
        = .ok (.field (.anyOf [.integer {}, .seqOf .list (.integer {}) {}]) true none)
    ∧ elabField noRe tm false (annF (.pipe fInt (.optional (.builtin .int))))
        = .ok (.field (.anyOf [.integer {}, .anyOf [.integer {}, .noneF]]) true none) :=
  ⟨rfl, rfl, rfl⟩

/-- `Array[Map[String, Array[Map[String, Array[Integer]]]]]` — 54 characters -/
def longSp : Sp := .sub .list (.mapSub fStr (.sub .list (.mapSub fStr (.sub .list fInt))))

/-- The future import does not influence elaboration (was `field-dropped:future-annotation-50`, repaired in typedpy
    b6795f9). -/
theorem elabField_future_irrelevant (O : Oracles) (fs : FieldSp) :
    elabField O tm true fs = elabField O tm false fs := rfl

theorem fixed_future_long :
    annLen longSp = 54
    ∧ elabField noRe tm true (annF longSp)
        = .ok (.field (.seqOf .list (.mapOf (.string none none none)
            (.seqOf .list (.mapOf (.string none none none) (.seqOf .list (.integer {}) {}) {}) {}) {}) {}) true none) :=
  ⟨rfl, rfl⟩

/-- finding `definition-error:falsy-default-kw` — `a: String = 0` is rejected at class definition
    (TypeError: invalid default), `a: String(default=0)` is accepted with the invalid default. -/
theorem counterexample_falsy_default_kw :
    FieldSame (annF fStr (.eq (.int 0) 1)) (annF (.finst .str) (.kw (.int 0) 1))
    ∧ elabField noRe tm false (annF fStr (.eq (.int 0) 1)) = .error .typeErr
    ∧ elabField noRe tm false (annF (.finst .str) (.kw (.int 0) 1))
        = .ok (.field (.string none none none) false (some (.int 0))) :=
  ⟨⟨rfl, SameMeaning.scalar .cls .inst .str, rfl, rfl⟩, rfl, rfl⟩

/-- finding `error-class-differs:typing-union-duplicate` — `typing` collapses `Union[int, int]` to
    `int`, so the class rejects `'x'` with TypeError, while `AnyOf[Integer, Integer]` rejects it with
    ValueError. -/
theorem counterexample_union_duplicate :
    SameMeaning (.union (.builtin .int) (.builtin .int)) (.anyOf fInt fInt)
    ∧ elabField noRe tm false (annF (.union (.builtin .int) (.builtin .int))) = .ok (.field (.integer {}) true none)
    ∧ elabField noRe tm false (annF (.anyOf fInt fInt)) = .ok (.field (.anyOf [.integer {}, .integer {}]) true none)
    ∧ validate noRe (.integer {}) (.str "x") = .error .typeErr
    ∧ validate noRe (.anyOf [.integer {}, .integer {}]) (.str "x") = .error .valueErr :=
  ⟨SameMeaning.alt .union .anyOf (SameMeaning.scalar .builtin .cls .int) (SameMeaning.scalar .builtin .cls .int),
   rfl, rfl, rfl, rfl⟩

/-- The full statement is false of the model (hence, by correspondence, of the code):
    `a: String = 0` is rejected at class definition, `a: String(default=0)` defines a class. -/
theorem statement_false : ¬ C13_statement := fun h =>
  absurd (h noRe { future := false, fields := [annF fStr (.eq (.int 0) 1)] }
    { future := false, fields := [annF (.finst .str) (.kw (.int 0) 1)] }
    (ClassSame.cons counterexample_falsy_default_kw.1 ClassSame.nil) rfl rfl rfl).1 (by decide)

/-- `a: Union[None, int]`, `a: None | int` and `a = AnyOf[None, Integer]` + `_optional` are the same field
    in three spellings (None FIRST), optional (not required). -/
theorem none_first_equiv :
    let a : FieldSp := annF (.union .noneLit (.builtin .int))
    let b : FieldSp := annF (.pipe .noneLit (.builtin .int))
    let c : FieldSp := { name := "a", mode := .assign, ty := .anyOf .noneLit fInt, inOptional := true }
    FieldSame a c ∧ FieldSame b c
    ∧ fieldSupported noRe tm true a = true ∧ fieldSupported noRe tm true b = true
    ∧ fieldSupported noRe tm false c = true
    ∧ elabField noRe tm false a = .ok (.field (.anyOf [.noneF, .integer {}]) false none)
    ∧ elabField noRe tm false b = elabField noRe tm false a
    ∧ elabField noRe tm false c = elabField noRe tm false a := by
  intro a b c
  have hac : FieldSame a c :=
    ⟨rfl, SameMeaning.alt .union .anyOf SameMeaning.none (SameMeaning.scalar .builtin .cls .int), rfl, rfl⟩
  have hbc : FieldSame b c :=
    ⟨rfl, SameMeaning.alt .pipe .anyOf SameMeaning.none (SameMeaning.scalar .builtin .cls .int), rfl, rfl⟩
  have hca := fun ha hc => (elabField_equiv noRe false false hac ha hc).symm
  refine ⟨hac, hbc, ?a, ?b, ?c, rfl, (elabField_equiv noRe false false hbc ?b ?c).trans (hca ?a ?c), hca ?a ?c⟩ <;> rfl

/-- `_is_optional` is "some option is None", wherever it stands: `Union[int, None, str]` (written
    `Union[Union[int, None], str]`, which `typing` flattens), `int | None | str`, `Union[None, int, str]` and
    `Union[int, Optional[str]]` all declare an optional field (model facts outside the `supported` region,
    which excludes flattened unions; tied to the code by the correspondence suite's directed stream). -/
theorem none_inner_optional :
    elabField noRe tm false (annF (.union (.union (.builtin .int) .noneLit) (.builtin .str)))
        = .ok (.field (.anyOf [.integer {}, .noneF, .string none none none]) false none)
    ∧ elabField noRe tm false (annF (.pipe (.pipe (.builtin .int) .noneLit) (.builtin .str)))
        = .ok (.field (.anyOf [.integer {}, .noneF, .string none none none]) false none)
    ∧ elabField noRe tm false (annF (.union (.union .noneLit (.builtin .int)) (.builtin .str)))
        = .ok (.field (.anyOf [.noneF, .integer {}, .string none none none]) false none)
    ∧ elabField noRe tm false (annF (.union (.builtin .int) (.optional (.builtin .str))))
        = .ok (.field (.anyOf [.integer {}, .string none none none, .noneF]) false none)
    ∧ elabField noRe tm false (annF (.pipe (.optional (.builtin .int)) (.builtin .str)))
        = .ok (.field (.anyOf [.integer {}, .noneF, .string none none none]) false none) :=
  ⟨rfl, rfl, rfl, rfl, rfl⟩

theorem hasNoneOpt_position (pre post : List FieldDecl) : hasNoneOpt (.anyOf (pre ++ .noneF :: post)) = true := by
  simp [hasNoneOpt, isNoneF]

/-- `a: Optional[int] = None`, `a: int | None = None` and `a: AnyOf[Integer, None] = None` + `_optional` are
    the same declaration: `= None` is validated but is not a default, and the field stays optional (typing
    detection of the None member is independent of the `=` default).  `a: Integer = None` is rejected. -/
theorem none_default_equiv :
    let a : FieldSp := annF (.optional (.builtin .int)) (.eq .none 4)
    let b : FieldSp := annF (.pipe (.builtin .int) .noneLit) (.eq .none 4)
    let c : FieldSp := annF (.anyOf fInt .noneLit) (.eq .none 4) true
    FieldSame a c ∧ FieldSame b c
    ∧ fieldSupported noRe tm true a = true ∧ fieldSupported noRe tm false b = true
    ∧ fieldSupported noRe tm false c = true
    ∧ elabField noRe tm false a = .ok (.field (.anyOf [.integer {}, .noneF]) false none)
    ∧ elabField noRe tm false b = elabField noRe tm false a
    ∧ elabField noRe tm false c = elabField noRe tm false a
    ∧ elabField noRe tm false (annF (.optional (.builtin .int))) = elabField noRe tm false a
    ∧ elabField noRe tm false (annF fInt (.eq .none 4)) = .error .typeErr := by
  intro a b c
  have hac : FieldSame a c := ⟨rfl, SameMeaning.optionalAlt .anyOf (SameMeaning.scalar .builtin .cls .int), rfl, rfl⟩
  have hbc : FieldSame b c :=
    ⟨rfl, SameMeaning.alt .pipe .anyOf (SameMeaning.scalar .builtin .cls .int) SameMeaning.none, rfl, rfl⟩
  have hca := fun ha hc => (elabField_equiv noRe false false hac ha hc).symm
  refine ⟨hac, hbc, ?a, ?b, ?c, rfl, (elabField_equiv noRe false false hbc ?b ?c).trans (hca ?a ?c), hca ?a ?c, rfl,
    rfl⟩ <;> rfl

/-- `default=None` is the keyword's own default: `a: Integer(default=None)`, `a = Integer(default=None)` and
    `a: Integer` are the same declaration (a required field without default) - unlike `a: Integer = None`, where `None`
    is validated as a value (and refused). -/
theorem default_none_kw_equiv :
    let a : FieldSp := annF (.finst .int) (.kw .none 4)
    let a' : FieldSp := { name := "a", mode := .assign, ty := .finst .int, dflt := .kw .none 4 }
    let b : FieldSp := annF fInt
    FieldSame a b ∧ FieldSame a' b
    ∧ fieldSupported noRe tm false a = true ∧ fieldSupported noRe tm true a' = true
    ∧ elabField noRe tm false a = .ok (.field (.integer {}) true none)
    ∧ elabField noRe tm false a' = elabField noRe tm false a
    ∧ elabField noRe tm false b = elabField noRe tm false a
    ∧ elabField noRe tm false (annF (.lit (.string none (some 3) none) 19) (.kw .none 4) true)
        = .ok (.field (.string none (some 3) none) false none)
    ∧ elabField noRe tm false (annF fInt (.eq .none 4)) = .error .typeErr := by
  intro a a' b
  have hab : FieldSame a b := ⟨rfl, SameMeaning.scalar .inst .cls .int, rfl, rfl⟩
  have hab' : FieldSame a' b := ⟨rfl, SameMeaning.scalar .inst .cls .int, rfl, rfl⟩
  have hb : fieldSupported noRe tm false b = true := rfl
  have hba := fun ha => (elabField_equiv noRe false false hab ha hb).symm
  refine ⟨hab, hab', ?a, ?a', rfl, (elabField_equiv noRe false false hab' ?a' hb).trans (hba ?a), hba ?a, rfl,
    rfl⟩ <;> rfl

/-- A default factory (a callable) is kept as the field's default - evaluated for every instance - whether it
    is given as `a: Integer = f`, `a: Integer() = f`, `a: list[int] = f`, `a: Optional[int] = f` or
    `a = Integer(default=f)`. -/
theorem factory_default_equiv :
    let p : PyVal := .int 100
    let a : FieldSp := annF fInt (.eqF p 9)
    let b : FieldSp := { name := "a", mode := .assign, ty := .finst .int, dflt := .kwF p 9 }
    FieldSame a b
    ∧ fieldSupported noRe tm false a = true ∧ fieldSupported noRe tm false b = true
    ∧ elabField noRe tm false a = .ok (.field (.integer {}) false (some factoryTag))
    ∧ elabField noRe tm false b = elabField noRe tm false a
    ∧ elabField noRe tm false (annF (.finst .int) (.eqF p 9)) = elabField noRe tm false a
    ∧ elabField noRe tm false (annF (.pep585 .list (.builtin .int)) (.eqF (.list [.int 1]) 9))
        = .ok (.field (.seqOf .list (.integer {}) {}) false (some factoryTag))
    ∧ elabField noRe tm false (annF (.optional (.builtin .int)) (.eqF p 9))
        = .ok (.field (.anyOf [.integer {}, .noneF]) false (some factoryTag)) :=
  ⟨⟨rfl, SameMeaning.scalar .cls .inst .int, rfl, rfl⟩, rfl, rfl, rfl, rfl, rfl, rfl, rfl⟩

/-- former finding `default-factory-differs:default-factory-once` (fixed in typedpy d1c0173): with a builtin
    CLASS annotation (`a: int = f`, `a: list = f`, `a: Any = f`) the factory used to be called at class
    definition and its product became the shared default; it is now kept, as for `a: Integer = f`. -/
theorem fixed_factory_builtin_class :
    FieldSame (annF (.builtin .int) (.eqF (.int 100) 9)) (annF fInt (.eqF (.int 100) 9))
    ∧ fieldSupported noRe tm false (annF (.builtin .int) (.eqF (.int 100) 9)) = true
    ∧ elabField noRe tm false (annF (.builtin .int) (.eqF (.int 100) 9)) = .ok (.field (.integer {}) false (some factoryTag))
    ∧ elabField noRe tm false (annF fInt (.eqF (.int 100) 9)) = .ok (.field (.integer {}) false (some factoryTag))
    ∧ elabField noRe tm false (annF (.bareBuiltin .list) (.eqF (.list [.int 1]) 9))
        = .ok (.field (.seqAny .list {}) false (some factoryTag))
    ∧ elabField noRe tm false (annF (.builtin .any) (.eqF (.int 100) 9)) = .ok (.field .anything false (some factoryTag)) :=
  ⟨⟨rfl, SameMeaning.scalar .builtin .cls .int, rfl, rfl⟩, rfl, rfl, rfl, rfl, rfl⟩

/-- Evaluated annotations, the future import, and a quoted annotation without the import declare the same
    field whether the class statement stands at module level, inside a function that defines the type names,
    or one function deeper: `elabFieldAt` does not depend on these scopes. -/
theorem scope_irrelevant (O : Oracles) (future : Bool) (fs : FieldSp) :
    elabFieldAt .function O tm future fs = elabFieldAt .module O tm future fs
    ∧ elabFieldAt .nested O tm future fs = elabFieldAt .module O tm future fs := by
  simp [elabFieldAt]

/-- Inside the supported region a string annotation (future import, quoted, or both; of any length) in any
    non-enclosing scope elaborates like the evaluated annotation at module level. -/
theorem string_annotation_equiv (O : Oracles) (sc : Scope) (future : Bool) (fs : FieldSp)
    (h : fieldSupportedAt O tm sc future fs = true) :
    elabFieldAt sc O tm future fs = elabField O tm false { fs with quoted := false } := by
  simp only [fieldSupportedAt, Bool.and_eq_true] at h
  rw [elabFieldAt_eq_elabField sc O future fs h.2]
  rfl

/-- `a: "Integer"` -/
def quotedInt : FieldSp := { name := "a", mode := .ann, ty := fInt, quoted := true }

/-- former finding `field-dropped:quoted-under-future-import` (fixed in typedpy b6495fe) — `a: "Integer"` declares the
    same field with and without `from __future__ import annotations` (the stored text of the string literal is
    evaluated twice). -/
theorem fixed_quoted_future :
    elabFieldAt .module noRe tm false quotedInt = .ok (.field (.integer {}) true none)
    ∧ elabFieldAt .module noRe tm true quotedInt = .ok (.field (.integer {}) true none)
    ∧ elabFieldAt .module noRe tm true (annF fInt) = .ok (.field (.integer {}) true none)
    ∧ fieldSupportedAt noRe tm .nested true quotedInt = true :=
  ⟨rfl, rfl, rfl, rfl⟩

/-- former finding `field-dropped:quoted-annotation-50` (fixed in typedpy b6495fe) — a quoted annotation of 50 or more
    characters (no future import) is evaluated like any other and declares its field. -/
theorem fixed_quoted_50 :
    annLenField { quotedInt with ty := longSp } = 54
    ∧ elabFieldAt .module noRe tm false { quotedInt with ty := longSp } = elabFieldAt .module noRe tm true (annF longSp)
    ∧ elabFieldAt .module noRe tm false (annF longSp) = elabFieldAt .module noRe tm true (annF longSp)
    ∧ elabFieldAt .module noRe tm true (annF longSp) ≠ .ok .dropped :=
  ⟨rfl, rfl, rfl, nofun⟩

/-- finding `definition-error:string-annotation-enclosing-scope` — a string annotation whose type names are
    locals of an ENCLOSING function, not captured by the function containing the class statement, raises
    NameError at class definition (a limitation of string annotations, PEP 563); the evaluated annotation, and
    a string annotation whose names are captured or builtin, work. -/
theorem counterexample_enclosing_scope :
    elabFieldAt .enclosing noRe tm true { annF fInt with unresolved := true } = .error (.other "NameError")
    ∧ elabFieldAt .enclosing noRe tm false { quotedInt with unresolved := true } = .error (.other "NameError")
    ∧ elabFieldAt .enclosing noRe tm false { annF fInt with unresolved := true } = .ok (.field (.integer {}) true none)
    ∧ elabFieldAt .enclosing noRe tm true (annF fInt) = .ok (.field (.integer {}) true none)
    ∧ elabFieldAt .function noRe tm true (annF fInt) = .ok (.field (.integer {}) true none) :=
  ⟨rfl, rfl, rfl, rfl, rfl⟩

/-- `t: tuple[int]`, `t: typing.Tuple[int]`, `t: Tuple[Integer]`, `t = Tuple(items=Integer)` and
    `t: Tuple(items=Integer())` all declare the documented "tuple of any number of Integers": a Field class
    given as the single `items` is instantiated (was finding `tuple-single-class`, repaired in typedpy 0808c66). -/
theorem tuple_single_equiv :
    let d : FieldDecl := .tupleOf (.integer {}) false
    SameMeaning (.pep585 .tuple (.builtin .int)) (.call .tuple fInt)
    ∧ elabField noRe tm false (annF (.pep585 .tuple (.builtin .int))) = .ok (.field d true none)
    ∧ elabField noRe tm false (annF (.typingG .tuple (.builtin .int))) = .ok (.field d true none)
    ∧ elabField noRe tm false (annF (.sub .tuple fInt)) = .ok (.field d true none)
    ∧ elabField noRe tm false { name := "a", mode := .assign, ty := .call .tuple fInt } = .ok (.field d true none)
    ∧ elabField noRe tm false (annF (.call .tuple (.finst .int))) = .ok (.field d true none)
    ∧ fieldSupported noRe tm false (annF (.pep585 .tuple (.builtin .int))) = true
    ∧ fieldSupported noRe tm false (annF (.call .tuple fInt)) = true
    ∧ validate noRe d (.tuple [.int 1, .int 2]) = .ok (.tuple [.int 1, .int 2])
    ∧ validate noRe d (.tuple [.str "a"]) = .error .typeErr :=
  ⟨SameMeaning.coll .pep585 .call .tuple (SameMeaning.scalar .builtin .cls .int),
   rfl, rfl, rfl, rfl, rfl, rfl, rfl, rfl, rfl⟩

/-- Directly nested `Union[…]` / `Optional[…]` / PEP 604 `|` between non-field operands - plain types, `None`, Field
    classes AND typing objects (`List[int] | None`, `int | Optional[str]`) - which `typing` / Python flatten (documented:
    "unions of unions are flattened"): a tree of them over supported, pairwise distinct leaves (operand kinds as Python's
    `|` requires: `Spec/Meaning.pipeKind`) elaborates to the AnyOf of the FLATTENED documented alternatives
    (`Spec/Meaning.flatAlts`), through the model's `mkUnion` (= typing's flatten + de-duplicate).
    Structural induction over the tree (`Lemmas/ElabFlat.flat_inv`). -/
theorem elaborate_flatten (s : Sp) (ht : isUnionTree s = true) (hl : leavesOk tm s = true)
    (hd : allDistinct (flatObjs tm s) = true) :
    elaborateAnn tm s = .ok (some (.anyOf (flatAlts s))) :=
  elaborateAnn_flatten s ht hl hd

/-- Hence any two bracketings / spellings with the same flattened alternatives are the same annotation:
    `Union[Union[A, B], C]` ~ `Union[A, Union[B, C]]`, `Optional[Union[A, B]]` ~ `Union[A, Union[B, None]]` ~
    `Union[A, Optional[B]]`, with each leaf in any of its own equivalent spellings. -/
theorem flatten_equiv (s t : Sp) (hs : isUnionTree s = true) (ht : isUnionTree t = true)
    (ls : leavesOk tm s = true) (lt : leavesOk tm t = true)
    (ds : allDistinct (flatObjs tm s) = true) (dt : allDistinct (flatObjs tm t) = true)
    (h : flatAlts s = flatAlts t) : elaborateAnn tm s = elaborateAnn tm t :=
  Elab.flatten_equiv s t hs ht ls lt ds dt h

/-- Field level: such an annotation declares the flattened AnyOf; the field is optional iff `None` is among the
    flattened alternatives (in any position, at any nesting depth of the tree) or the name is in `_optional`. -/
theorem elabField_flatten (O : Oracles) (future : Bool) (name : String) (inOpt : Bool) (s : Sp)
    (ht : isUnionTree s = true) (hl : leavesOk tm s = true) (hd : allDistinct (flatObjs tm s) = true) :
    elabField O tm future { name := name, mode := .ann, ty := s, inOptional := inOpt }
      = .ok (.field (.anyOf (flatAlts s)) (!((flatAlts s).any isNoneF || inOpt)) none) :=
  elabField_flatMeaning O future _
    (by simp only [flatRegion, ht, hl, hd, beq_self_eq_true, Bool.and_self] : flatRegion tm _ = true)

theorem elabField_flatten_equiv (O : Oracles) (f₁ f₂ : Bool) (name : String) (inOpt : Bool) (s t : Sp)
    (hs : isUnionTree s = true) (ht : isUnionTree t = true) (ls : leavesOk tm s = true) (lt : leavesOk tm t = true)
    (ds : allDistinct (flatObjs tm s) = true) (dt : allDistinct (flatObjs tm t) = true) (h : flatAlts s = flatAlts t) :
    elabField O tm f₁ { name := name, mode := .ann, ty := s, inOptional := inOpt }
      = elabField O tm f₂ { name := name, mode := .ann, ty := t, inOptional := inOpt } := by
  rw [elabField_flatten O f₁ name inOpt s hs ls ds, elabField_flatten O f₂ name inOpt t ht lt dt, h]

/-- One level further down: a union tree as the ARGUMENT of a one-argument collection, in the builtin (`list[T]`),
    typing (`List[T]`) and typedpy (`Array[T]`) spelling - the collection of the flattened AnyOf. -/
theorem coll_of_union_tree (c : Coll) (s : Sp) (ht : isUnionTree s = true) (hl : leavesOk tm s = true)
    (hd : allDistinct (flatObjs tm s) = true) :
    elaborateAnn tm (.pep585 c s) = .ok (some (c.ofDecl (.anyOf (flatAlts s))))
    ∧ elaborateAnn tm (.typingG c s) = .ok (some (c.ofDecl (.anyOf (flatAlts s))))
    ∧ elaborateAnn tm (.sub c s) = .ok (some (c.ofDecl (.anyOf (flatAlts s)))) := by
  have hg := gtli_flatten s hl hd
  have ha := fun t => gtli_alias t (cbt_coll c) (gtliArgs_one _ hg) (mkFromArgs_coll c _)
  simp only [elaborateAnn, ev, ev_flatten s ht hl hd, bindE_ok, typingArg_of_gtli hg, getItem_of_gtli hg, mkItems_coll]
  exact ⟨ha false, ha true, rfl⟩

/-- non-vacuity: `Union[Union[int, None], str]`, `Union[int, Union[None, String]]`, `Union[Optional[Integer()], str]`, the
    PEP 604 chain `int | None | str`, `int | (None | str)` and the mixed `Optional[int] | str` / `List[int] | None` (a `|`
    with a typing object) are union trees over distinct supported leaves; the first six have the same flattened
    alternatives [Integer, None, String]. -/
theorem flatten_example :
    let s₁ : Sp := .union (.union (.builtin .int) .noneLit) (.builtin .str)
    let s₂ : Sp := .union (.builtin .int) (.union .noneLit fStr)
    let s₃ : Sp := .union (.optional (.finst .int)) (.builtin .str)
    let s₄ : Sp := .pipe (.pipe (.builtin .int) .noneLit) (.builtin .str)
    let s₅ : Sp := .pipe (.builtin .int) (.pipe .noneLit (.builtin .str))
    let s₆ : Sp := .pipe (.optional (.builtin .int)) (.builtin .str)
    let s₇ : Sp := .pipe (.typingG .list (.builtin .int)) .noneLit
    isUnionTree s₄ = true ∧ leavesOk tm s₄ = true ∧ allDistinct (flatObjs tm s₄) = true
    ∧ isUnionTree s₅ = true ∧ leavesOk tm s₅ = true ∧ allDistinct (flatObjs tm s₅) = true
    ∧ isUnionTree s₆ = true ∧ leavesOk tm s₆ = true ∧ allDistinct (flatObjs tm s₆) = true
    ∧ isUnionTree s₇ = true ∧ leavesOk tm s₇ = true ∧ allDistinct (flatObjs tm s₇) = true
    ∧ supported tm s₆ = false ∧ supported tm s₇ = false
    ∧ flatAlts s₄ = flatAlts s₁ ∧ flatAlts s₅ = flatAlts s₁ ∧ flatAlts s₆ = flatAlts s₁
    ∧ elabField noRe tm true (annF s₄) = elabField noRe tm false (annF s₁)
    ∧ elabField noRe tm true (annF s₅) = elabField noRe tm false (annF s₁)
    ∧ elabField noRe tm true (annF s₆) = elabField noRe tm false (annF s₁)
    ∧ elabField noRe tm true (annF s₇) = .ok (.field (.anyOf [.seqOf .list (.integer {}) {}, .noneF]) false none)
    ∧
    isUnionTree s₁ = true ∧ leavesOk tm s₁ = true ∧ allDistinct (flatObjs tm s₁) = true
    ∧ isUnionTree s₂ = true ∧ leavesOk tm s₂ = true ∧ allDistinct (flatObjs tm s₂) = true
    ∧ leavesOk tm s₃ = true ∧ allDistinct (flatObjs tm s₃) = true
    ∧ flatAlts s₁ = [.integer {}, .noneF, .string none none none]
    ∧ flatAlts s₂ = flatAlts s₁ ∧ flatAlts s₃ = flatAlts s₁
    ∧ elabField noRe tm false (annF s₁) = .ok (.field (.anyOf [.integer {}, .noneF, .string none none none]) false none)
    ∧ elabField noRe tm true (annF s₂) = elabField noRe tm false (annF s₁)
    ∧ elabField noRe tm true (annF s₃) = elabField noRe tm false (annF s₁) := by
  intro s₁ s₂ s₃ s₄ s₅ s₆ s₇
  -- the field-level equalities are instances of `elabField_flatten_equiv` at the other conjuncts (the holes), not evaluated
  have e := elabField_flatten_equiv noRe true false "a" false
  refine ⟨?t₄, ?l₄, ?d₄, ?t₅, ?l₅, ?d₅, ?t₆, ?l₆, ?d₆, rfl, rfl, rfl, rfl, rfl, ?a₄, ?a₅, ?a₆,
    e s₄ s₁ ?t₄ ?t₁ ?l₄ ?l₁ ?d₄ ?d₁ ?a₄, e s₅ s₁ ?t₅ ?t₁ ?l₅ ?l₁ ?d₅ ?d₁ ?a₅, e s₆ s₁ ?t₆ ?t₁ ?l₆ ?l₁ ?d₆ ?d₁ ?a₆, rfl,
    ?t₁, ?l₁, ?d₁, ?t₂, ?l₂, ?d₂, ?l₃, ?d₃, rfl, ?a₂, ?a₃, none_inner_optional.1,
    e s₂ s₁ ?t₂ ?t₁ ?l₂ ?l₁ ?d₂ ?d₁ ?a₂, e s₃ s₁ rfl ?t₁ ?l₃ ?l₁ ?d₃ ?d₁ ?a₃⟩ <;> rfl

/-- typing's de-duplication ("redundant arguments are skipped"): for a supported spelling `x` that is not a Field
    INSTANCE and not itself a union, `Union[x, x]` IS `x` - the annotation elaborates to the single field, not to an
    AnyOf (this is what separates it from `AnyOf[X, X]`: finding `typing-union-duplicate`). -/
theorem union_duplicate_collapses (x : Sp) (hs : supported tm x = true) (hu : unionLike x = false)
    (he : ∀ o, ev tm x = .ok o → objEq o o = true) :
    elaborateAnn tm (.union x x) = elaborateAnn tm x := by
  obtain ⟨o, hev, g⟩ := ev_good x hs
  have hdup : mkUnion [o, o] = o := by simp [mkUnion, dedupObj, he o hev]
  simp only [elaborateAnn, ev, hev, bindE_ok, g.members hu, List.cons_append, List.nil_append, hdup]

/-- typing's de-duplication at non-adjacent positions and across bracketings, kernel-checked on the model (no general
    theorem: `dedupObj` keeps the FIRST of each group of `==` members): `Union[int, str, int]` and `int | str | int` are
    `Union[int, str]`; `Union[int, Union[str, int]]` as well; `Union[int, Optional[int]]` is `Optional[int]`;
    `Union[list[int], List[int]]` keeps both (a PEP 585 alias and a typing alias are different objects), and
    `Union[Integer(), Integer()]` keeps both Field instances. -/
theorem dedup_examples :
    elabField noRe tm false (annF (.union (.union (.builtin .int) (.builtin .str)) (.builtin .int)))
        = elabField noRe tm false (annF (.union (.builtin .int) (.builtin .str)))
    ∧ elabField noRe tm false (annF (.pipe (.pipe (.builtin .int) (.builtin .str)) (.builtin .int)))
        = elabField noRe tm false (annF (.union (.builtin .int) (.builtin .str)))
    ∧ elabField noRe tm false (annF (.union (.builtin .int) (.union (.builtin .str) (.builtin .int))))
        = elabField noRe tm false (annF (.union (.builtin .int) (.builtin .str)))
    ∧ elabField noRe tm false (annF (.union (.builtin .int) (.optional (.builtin .int))))
        = elabField noRe tm false (annF (.optional (.builtin .int)))
    ∧ elabField noRe tm false (annF (.union (.pep585 .list (.builtin .int)) (.typingG .list (.builtin .int))))
        = .ok (.field (.anyOf [.seqOf .list (.integer {}) {}, .seqOf .list (.integer {}) {}]) true none)
    ∧ elabField noRe tm false (annF (.union (.finst .int) (.finst .int)))
        = .ok (.field (.anyOf [.integer {}, .integer {}]) true none) :=
  ⟨rfl, rfl, rfl, rfl, rfl, rfl⟩

/-- Writing `_required = [...]` with exactly the names typedpy computes by itself (fields without default that are
    neither listed in `_optional` nor annotated with a union that has a None member) gives the same class as not
    writing it - for every class body whose fields elaborate, whatever their spellings. (`conflictOpt`: typedpy
    refuses a name that is both optional and listed, "optional cannot override prior required"; with the computed
    names listed, `hc` and `hd` can only fail when a name is declared twice - not proved here.) -/
theorem explicit_required_equiv (O : Oracles) (c : ClassSp) (rs : List (String × FieldRes))
    (h : elabFields O tm c.scope c.future c.fields = .ok rs) (hc : conflictOpt (requiredOf rs) rs = false)
    (hd : conflictDropped (requiredOf rs) (optionalNames c.fields) rs = false) :
    elabClass O tm { c with required := some (requiredOf rs) } = elabClass O tm { c with required := none } := by
  simp only [elabClass, h, bindE_ok, finishClass_explicit _ rs hc hd]

/-- `a: int; b: Optional[str]; c: int = 3`: `_required = ['a']` is the class typedpy computes; `_required = []` makes
    `a` optional as well; a defaulted name listed in `_required` is dropped from it; `_required = ['a', 'b']` is
    refused (ValueError: `b` is optional through its annotation), whereas `b: AnyOf[String, None]` may be listed. -/
theorem explicit_required_example :
    let fa : FieldSp := { name := "a", mode := .ann, ty := .builtin .int }
    let fb : FieldSp := { name := "b", mode := .ann, ty := .optional (.builtin .str) }
    let fb' : FieldSp := { name := "b", mode := .ann, ty := .anyOf fStr .noneLit }
    let fc : FieldSp := { name := "c", mode := .ann, ty := .builtin .int, dflt := .eq (.int 3) 1 }
    let K (req : Option (List String)) (b : FieldSp) : ClassSp := { future := false, fields := [fa, b, fc], required := req }
    fieldNames (elabClass noRe tm (K none fb)) = some (["a", "b", "c"], ["a"])
    ∧ elabClass noRe tm (K (some ["a"]) fb) = elabClass noRe tm (K none fb)
    ∧ fieldNames (elabClass noRe tm (K (some []) fb)) = some (["a", "b", "c"], [])
    ∧ fieldNames (elabClass noRe tm (K (some ["c", "a"]) fb)) = some (["a", "b", "c"], ["a"])
    ∧ elabClass noRe tm (K (some ["a", "b"]) fb) = .error .valueErr
    ∧ fieldNames (elabClass noRe tm (K (some ["a", "b"]) fb')) = some (["a", "b", "c"], ["a", "b"])
    ∧ fieldNames (elabClass noRe tm (K none fb')) = some (["a", "b", "c"], ["a", "b"]) :=
  ⟨rfl, rfl, rfl, rfl, rfl, rfl, rfl⟩

/-- non-vacuity: `a: Union[Union[int, None], str] = 7; b: str` (future import) and `a: int | (None | str) = 7; b = String`
    are `ClassSameX`, both in the extended region (the first field outside `fieldSupported`), and construct / serialize
    identically: `K(b='x')` gives `{"a": 7, "b": "x"}`. -/
theorem classX_example :
    let a₁ : FieldSp := { name := "a", mode := .ann, ty := .union (.union (.builtin .int) .noneLit) (.builtin .str), dflt := .eq (.int 7) 1 }
    let a₂ : FieldSp := { name := "a", mode := .ann, ty := .pipe (.builtin .int) (.pipe .noneLit (.builtin .str)), dflt := .eq (.int 7) 1 }
    let b₁ : FieldSp := { name := "b", mode := .ann, ty := .builtin .str }
    let b₂ : FieldSp := { name := "b", mode := .assign, ty := fStr }
    let c₁ : ClassSp := { future := true, fields := [a₁, b₁] }
    let c₂ : ClassSp := { future := false, fields := [a₂, b₂] }
    ClassSameX noRe tm c₁.fields c₂.fields
    ∧ classRegionX noRe tm c₁ = true ∧ classRegionX noRe tm c₂ = true ∧ classSupported noRe tm c₁ = false
    ∧ classSerialize noRe c₁ [("b", .str "x")] = .ok (.dict [(.str "a", .int 7), (.str "b", .str "x")])
    ∧ classSerialize noRe c₂ [("b", .str "x")] = .ok (.dict [(.str "a", .int 7), (.str "b", .str "x")])
    ∧ classBehaviour noRe c₁ [("a", .float ⟨1, 2⟩), ("b", .str "x")] = .error .valueErr :=
  ⟨ClassSameX.cons ⟨rfl, rfl⟩ (ClassSameX.cons ⟨rfl, rfl⟩ ClassSameX.nil), rfl, rfl, rfl, rfl, rfl, rfl⟩

/-- the Structure class `class Owner(Structure): name: str` -/
def ownerD : FieldDecl :=
  .struct { name := "Owner", required := ["name"], accepts := ["Owner"] } [("name", .string none none none)] []
def owner : Sp := .scls ownerD 5

/-- A Structure class as a field type: `a: Owner` = `a = Owner`; `list[Owner]` ~ `List[Owner]` ~ `Array(items=Owner)`;
    `Optional[Owner]` ~ `Owner | None` ~ `AnyOf[Owner, None]` + `_optional`; `Owner | int` (all these in the proved region)
    = `Union[Owner, int]`; `Integer | Owner`; the field is a reference to the class (accepts its instances only). -/
theorem struct_field_equiv :
    FieldSame (annF owner) { name := "a", mode := .assign, ty := owner }
    ∧ fieldSupported noRe tm true (annF owner) = true
    ∧ fieldSupported noRe tm false { name := "a", mode := .assign, ty := owner } = true
    ∧ elabField noRe tm true (annF owner) = .ok (.field ownerD true none)
    ∧ elabField noRe tm false { name := "a", mode := .assign, ty := owner } = .ok (.field ownerD true none)
    ∧ SameMeaning (.pep585 .list owner) (.call .list owner)
    ∧ fieldSupported noRe tm true (annF (.pep585 .list owner)) = true
    ∧ fieldSupported noRe tm true (annF (.typingG .list owner)) = true
    ∧ fieldSupported noRe tm false (annF (.call .list owner)) = true
    ∧ elabField noRe tm true (annF (.pep585 .list owner)) = .ok (.field (.seqOf .list ownerD {}) true none)
    ∧ elabField noRe tm false (annF (.call .list owner)) = .ok (.field (.seqOf .list ownerD {}) true none)
    ∧ fieldSupported noRe tm true (annF (.optional owner)) = true
    ∧ fieldSupported noRe tm true (annF (.pipe owner .noneLit)) = true
    ∧ fieldSupported noRe tm false (annF (.anyOf owner .noneLit) .none true) = true
    ∧ elabField noRe tm true (annF (.optional owner)) = .ok (.field (.anyOf [ownerD, .noneF]) false none)
    ∧ elabField noRe tm true (annF (.pipe owner .noneLit)) = .ok (.field (.anyOf [ownerD, .noneF]) false none)
    ∧ elabField noRe tm false (annF (.anyOf owner .noneLit) .none true) = .ok (.field (.anyOf [ownerD, .noneF]) false none)
    ∧ fieldSupported noRe tm true (annF (.pipe owner (.builtin .int))) = true
    ∧ elabField noRe tm true (annF (.pipe owner (.builtin .int))) = .ok (.field (.anyOf [ownerD, .integer {}]) true none)
    ∧ elabField noRe tm true (annF (.union owner (.builtin .int))) = .ok (.field (.anyOf [ownerD, .integer {}]) true none)
    ∧ elabField noRe tm true (annF (.pipe fInt owner)) = .ok (.field (.anyOf [.integer {}, ownerD]) true none)
    ∧ validate noRe ownerD (.inst "Owner" [("name", .str "x")]) = .ok (.inst "Owner" [("name", .str "x")])
    ∧ validate noRe ownerD (.dict [(.str "name", .str "x")]) = .error .typeErr :=
  ⟨⟨rfl, SameMeaning.scls ownerD 5 5, rfl, rfl⟩, rfl, rfl, rfl, rfl,
   SameMeaning.coll .pep585 .call .list (SameMeaning.scls ownerD 5 5),
   rfl, rfl, rfl, rfl, rfl, rfl, rfl, rfl, rfl, rfl, rfl, rfl, rfl, rfl, rfl, rfl, rfl⟩

/-- `tuple[int, str]` ~ `typing.Tuple[int, str]` ~ `Tuple[Integer, String]` ~ `Tuple(items=[Integer, String])`
    (annotation or assignment): the documented tuple of exactly that shape; also with a Structure class member. -/
theorem tuple_pair_equiv :
    let d : FieldDecl := .tuplePos [.integer {}, .string none none none] false
    SameMeaning (.tup585 (.builtin .int) (.builtin .str)) (.tupCall fInt fStr)
    ∧ fieldSupported noRe tm true (annF (.tup585 (.builtin .int) (.builtin .str))) = true
    ∧ fieldSupported noRe tm true (annF (.tupTyping (.builtin .int) (.builtin .str))) = true
    ∧ fieldSupported noRe tm false { name := "a", mode := .assign, ty := .tupSub fInt fStr } = true
    ∧ fieldSupported noRe tm false { name := "a", mode := .assign, ty := .tupCall fInt (.finst .str) } = true
    ∧ elabField noRe tm true (annF (.tup585 (.builtin .int) (.builtin .str))) = .ok (.field d true none)
    ∧ elabField noRe tm true (annF (.tupTyping (.builtin .int) (.builtin .str))) = .ok (.field d true none)
    ∧ elabField noRe tm false { name := "a", mode := .assign, ty := .tupSub fInt fStr } = .ok (.field d true none)
    ∧ elabField noRe tm false { name := "a", mode := .assign, ty := .tupCall fInt (.finst .str) } = .ok (.field d true none)
    ∧ fieldSupported noRe tm true (annF (.tup585 (.builtin .int) owner)) = true
    ∧ elabField noRe tm true (annF (.tup585 (.builtin .int) owner))
        = .ok (.field (.tuplePos [.integer {}, ownerD] false) true none)
    ∧ elabField noRe tm true (annF (.tupSub fInt owner))
        = .ok (.field (.tuplePos [.integer {}, ownerD] false) true none)
    ∧ validate noRe d (.tuple [.int 1, .str "a"]) = .ok (.tuple [.int 1, .str "a"])
    ∧ validate noRe d (.tuple [.int 1]) = .error .valueErr
    ∧ validate noRe d (.tuple [.int 1, .int 2]) = .error .typeErr :=
  ⟨SameMeaning.tup .pep585 .call (SameMeaning.scalar .builtin .cls .int) (SameMeaning.scalar .builtin .cls .str),
   rfl, rfl, rfl, rfl, rfl, rfl, rfl, rfl, rfl, rfl, rfl, rfl, rfl, rfl⟩

/-- The documented three-element example "c is a tuple of 3: integer, string, float: `c = Tuple[Integer, String, Float]`"
    in its four spellings (`tuple[int, str, float]`, `typing.Tuple[int, str, float]`, `Tuple[Integer, String, Float]`,
    `Tuple(items=[Integer, String, Float])`), by annotation or assignment: the same positional tuple field. -/
theorem tuple_triple_equiv :
    let d : FieldDecl := .tuplePos [.integer {}, .string none none none, .float {}] false
    SameMeaning (.tri585 (.builtin .int) (.builtin .str) (.builtin .float)) (.triCall fInt fStr (.fcls .float))
    ∧ fieldSupported noRe tm true (annF (.tri585 (.builtin .int) (.builtin .str) (.builtin .float))) = true
    ∧ fieldSupported noRe tm true (annF (.triTyping (.builtin .int) (.builtin .str) (.builtin .float))) = true
    ∧ fieldSupported noRe tm false { name := "a", mode := .assign, ty := .triSub fInt fStr (.fcls .float) } = true
    ∧ fieldSupported noRe tm false { name := "a", mode := .assign, ty := .triCall fInt (.finst .str) (.fcls .float) } = true
    ∧ elabField noRe tm true (annF (.tri585 (.builtin .int) (.builtin .str) (.builtin .float))) = .ok (.field d true none)
    ∧ elabField noRe tm true (annF (.triTyping (.builtin .int) (.builtin .str) (.builtin .float))) = .ok (.field d true none)
    ∧ elabField noRe tm false { name := "a", mode := .assign, ty := .triSub fInt fStr (.fcls .float) } = .ok (.field d true none)
    ∧ elabField noRe tm false { name := "a", mode := .assign, ty := .triCall fInt (.finst .str) (.fcls .float) }
        = .ok (.field d true none)
    ∧ validate noRe d (.tuple [.int 1, .str "a", .float ⟨1, 2⟩]) = .ok (.tuple [.int 1, .str "a", .float ⟨1, 2⟩])
    ∧ validate noRe d (.tuple [.int 1, .str "a"]) = .error .valueErr :=
  ⟨SameMeaning.tri .pep585 .call (SameMeaning.scalar .builtin .cls .int) (SameMeaning.scalar .builtin .cls .str)
      (SameMeaning.scalar .builtin .cls .float),
   rfl, rfl, rfl, rfl, rfl, rfl, rfl, rfl, rfl, rfl⟩

/-- former finding `definition-error:tuple-items-structure-class` (fixed in typedpy cdab473) — `Tuple(items=Owner)` and
    `Tuple(items=[Integer, Owner])` used to raise TypeError (Tuple.__init__ converted Field classes and instances only);
    they now declare the same field as `Tuple[Owner]`, `tuple[Owner]`, `Tuple[Integer, Owner]`, inside the proved region. -/
theorem fixed_tuple_items_struct :
    SameMeaning (.sub .tuple owner) (.call .tuple owner)
    ∧ SameMeaning (.tupSub fInt owner) (.tupCall fInt owner)
    ∧ fieldSupported noRe tm false (annF (.call .tuple owner)) = true
    ∧ fieldSupported noRe tm false (annF (.tupCall fInt owner)) = true
    ∧ elabField noRe tm false (annF (.sub .tuple owner)) = .ok (.field (.tupleOf ownerD false) true none)
    ∧ elabField noRe tm false (annF (.pep585 .tuple owner)) = .ok (.field (.tupleOf ownerD false) true none)
    ∧ elabField noRe tm false (annF (.call .tuple owner)) = .ok (.field (.tupleOf ownerD false) true none)
    ∧ elabField noRe tm false (annF (.tupSub fInt owner)) = .ok (.field (.tuplePos [.integer {}, ownerD] false) true none)
    ∧ elabField noRe tm false (annF (.tupCall fInt owner)) = .ok (.field (.tuplePos [.integer {}, ownerD] false) true none)
    ∧ elabField noRe tm false (annF (.call .list owner)) = .ok (.field (.seqOf .list ownerD {}) true none) :=
  ⟨SameMeaning.coll .sub .call .tuple (SameMeaning.scls ownerD 5 5),
   SameMeaning.tup .sub .call (SameMeaning.scalar .cls .cls .int) (SameMeaning.scls ownerD 5 5),
   rfl, rfl, rfl, rfl, rfl, rfl, rfl, rfl⟩

/-- former finding `definition-error:pep604-structure-first-nested` (fixed in typedpy 4d54fb6) — a PEP 604 union whose
    FIRST member is a Structure class, used as an argument of a typedpy field (`Array[Owner | None]`,
    `AnyOf[Owner | int, String]`, `Map[String, Owner | None]`), used to raise RecursionError at class definition; it now
    declares the same field as `Array[Optional[Owner]]` / `list[Owner | None]`, and lies in the proved region. -/
theorem fixed_struct_first_nested :
    SameMeaning (.sub .list (.pipe owner .noneLit)) (.sub .list (.optional owner))
    ∧ fieldSupported noRe tm false (annF (.sub .list (.pipe owner .noneLit))) = true
    ∧ elabField noRe tm false (annF (.sub .list (.pipe owner .noneLit)))
        = .ok (.field (.seqOf .list (.anyOf [ownerD, .noneF]) {}) true none)
    ∧ elabField noRe tm false (annF (.anyOf (.pipe owner (.builtin .int)) fStr))
        = .ok (.field (.anyOf [.anyOf [ownerD, .integer {}], .string none none none]) true none)
    ∧ elabField noRe tm false (annF (.mapSub fStr (.pipe owner .noneLit)))
        = .ok (.field (.mapOf (.string none none none) (.anyOf [ownerD, .noneF]) {}) true none)
    ∧ elabField noRe tm false (annF (.sub .list (.optional owner)))
        = .ok (.field (.seqOf .list (.anyOf [ownerD, .noneF]) {}) true none)
    ∧ elabField noRe tm false (annF (.pep585 .list (.pipe owner .noneLit)))
        = .ok (.field (.seqOf .list (.anyOf [ownerD, .noneF]) {}) true none)
    ∧ elabField noRe tm false (annF (.pipe owner .noneLit)) = .ok (.field (.anyOf [ownerD, .noneF]) false none)
    ∧ elabField noRe tm false (annF (.sub .list (.pipe .noneLit owner)))
        = .ok (.field (.seqOf .list (.anyOf [.noneF, ownerD]) {}) true none) :=
  ⟨SameMeaning.coll .sub .sub .list (SameMeaning.altOptional .pipe (SameMeaning.scls ownerD 5 5)),
   rfl, rfl, rfl, rfl, rfl, rfl, rfl, rfl⟩

/-- The documented PEP-604 example `a: Integer(maximum=100) | Owner | str | 529` ("a can be assigned any integer up to 100,
    an instance of Owner, a string, the number 529") and `AnyOf[AnyOf[AnyOf[Integer(maximum=100), Owner], String],
    Enum(values=[529])]` are the same declaration, inside the proved region. -/
theorem pipe_literal_equiv :
    let i100 : Sp := .lit (.integer { max := some ⟨100, 1⟩ }) 20
    let chain : Sp := .pipeLit (.pipe (.pipe i100 owner) (.builtin .str)) (.int 529) 3
    let nested : Sp := .anyOf (.anyOf (.anyOf i100 owner) fStr) (.lit (.enumLit [.int 529]) 18)
    let d : FieldDecl := .anyOf [.anyOf [.anyOf [.integer { max := some ⟨100, 1⟩ }, ownerD], .string none none none], .enumLit [.int 529]]
    SameMeaning chain nested
    ∧ fieldSupported noRe tm true (annF chain) = true ∧ fieldSupported noRe tm false (annF nested) = true
    ∧ elabField noRe tm true (annF chain) = .ok (.field d true none)
    ∧ elabField noRe tm false (annF nested) = .ok (.field d true none)
    ∧ elabField noRe tm false { name := "a", mode := .assign, ty := chain } = .ok (.field d true none)
    ∧ validate noRe d (.int 529) = .ok (.int 529)
    ∧ validate noRe d (.int 99) = .ok (.int 99)
    ∧ validate noRe d (.int 530) = .error .valueErr
    ∧ elabField noRe tm false (annF (.pipeLit (.builtin .int) (.int 5) 1)) = .error .typeErr :=
  ⟨SameMeaning.pipeLitAnyOf (.int 529) 3 18
      (SameMeaning.alt .pipe .anyOf
        (SameMeaning.alt .pipe .anyOf (SameMeaning.lit _ 20 20) (SameMeaning.scls ownerD 5 5))
        (SameMeaning.scalar .builtin .cls .str)),
   rfl, rfl, rfl, rfl, rfl, rfl, rfl, rfl, rfl⟩

end Typedpy.C13
