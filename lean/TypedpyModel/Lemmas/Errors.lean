/-
  Lemmas/Errors.lean — what Props/C18.lean uses of Sem/Errors.lean: the regex matchers and the cascade
  on `<field>: <rest>`, the control flow of `standard_readable_error_for_typedpy_exception` ("the
  helper"), the characters of a path, the construction model (`sites`, `constructRaises`), `Aligned`,
  what is collected over a document's supplied fields (`supplied`, `mem_supplied`).
-/
import TypedpyModel.Sem.Errors
namespace Typedpy.Err
open Typedpy

theorem dropPre_eq_some (p s r : Text) : dropPre p s = some r ↔ s = p ++ r := by
  induction p generalizing s with
  | nil => cases s <;> simp [dropPre, eq_comm]
  | cons x p ih =>
    cases s with
    | nil => simp [dropPre]
    | cons y s => by_cases h : y = x <;> simp [dropPre, h, ih, eq_comm (a := x)]

theorem dropPre_append (p r : Text) : dropPre p (p ++ r) = some r := (dropPre_eq_some p _ r).2 rfl

theorem eq_append_of_dropPre_isSome (p s : Text) (h : (dropPre p s).isSome = true) : ∃ r, s = p ++ r :=
  (Option.isSome_iff_exists.1 h).imp fun r hr => (dropPre_eq_some p s r).1 hr

theorem isFieldChar_colon (W : Word) (hW : W.Sound) : isFieldChar W ':' = false := by
  simp [isFieldChar, hW.2]

theorem spanField_append (W : Word) (hW : W.Sound) (f r : Text)
    (hf : f.all (isFieldChar W) = true) :
    spanField W (f ++ ':' :: r) = (f, ':' :: r) := by
  induction f with
  | nil => simp [spanField, isFieldChar_colon W hW]
  | cons a f ih =>
    simp only [List.all_cons, Bool.and_eq_true] at hf
    simp [spanField, hf.1, ih hf.2]

theorem spanField_fst_all (W : Word) (t : Text) : (spanField W t).1.all (isFieldChar W) = true := by
  induction t with
  | nil => rfl
  | cons x xs ih =>
    simp only [spanField]
    split
    · rename_i hx; simp [hx, ih]
    · rfl

theorem spanNoSemi_append (v r : Text) (hv : noSemi v = true) :
    spanNoSemi (v ++ ';' :: r) = (v, ';' :: r) := by
  induction v with
  | nil => simp [spanNoSemi]
  | cons a v ih =>
    simp only [noSemi, List.all_cons, Bool.and_eq_true] at hv
    have ha : (a == ';') = false := by
      have := hv.1; simpa [bne] using this
    simp [spanNoSemi, ha, ih (by simpa [noSemi] using hv.2)]

/-- `[^;]*` stops at the first `;`: what remains is at least what follows any given `;` -/
theorem spanNoSemi_snd_length (v r : Text) :
    (';' :: r).length ≤ (spanNoSemi (v ++ ';' :: r)).2.length := by
  induction v with
  | nil => simp [spanNoSemi]
  | cons a v ih =>
    simp only [List.cons_append, spanNoSemi]
    split
    · simp; omega
    · exact ih

theorem splitLast_eq (pat line a b : Text) (h : splitLast pat line = some (a, b)) :
    line = a ++ pat ++ b := by
  induction line generalizing a with
  | nil => exact nomatch h
  | cons c cs ih =>
    rw [splitLast] at h
    cases hs : splitLast pat cs with
    | some ab =>
      rw [hs] at h
      obtain ⟨rfl, rfl⟩ := Prod.mk.inj (Option.some.inj h)
      rw [ih _ hs]; rfl
    | none =>
      rw [hs] at h
      obtain ⟨r, hr, he⟩ := Option.map_eq_some_iff.1 h
      obtain ⟨rfl, rfl⟩ := Prod.mk.inj he
      exact (dropPre_eq_some pat _ _).1 hr

theorem splitLast_of_prefix (pat : Text) (hpat : pat ≠ []) (v : Text) :
    ∃ ab, splitLast pat (pat ++ v) = some ab := by
  cases hpv : pat ++ v with
  | nil => simp [hpat] at hpv
  | cons c cs =>
    rw [splitLast]
    cases splitLast pat cs with
    | some ab => exact ⟨_, rfl⟩
    | none => rw [← hpv, dropPre_append]; exact ⟨_, rfl⟩

theorem transform_nonempty (p : Text) (hp : p ≠ []) : transform p ≠ [] := by
  unfold transform
  split
  · exact hp
  · split
    · simp [sExpected]
    · exact hp

theorem identOk_iff (W : Word) (f : Text) :
    identOk W f = true ↔ f ≠ [] ∧ f.all (isFieldChar W) = true := by
  cases f <;> simp [identOk]

theorem parseMsg_header (W : Word) (hW : W.Sound) (f rest : Text) (hf : identOk W f = true) :
    parseMsg W (f ++ ':' :: ' ' :: rest) =
      match parseTail ' ' rest with
      | some vp => ⟨some f, vp.1, transform vp.2⟩
      | none => ⟨none, none, f ++ ':' :: ' ' :: rest⟩ := by
  obtain ⟨hne, hall⟩ := (identOk_iff W f).1 hf
  cases f with
  | nil => exact absurd rfl hne
  | cons a as =>
    unfold parseMsg
    rw [spanField_append W hW _ _ hall]
    simp only [dropPre, beq_self_eq_true, if_true]
    cases parseTail ' ' rest <;> rfl

theorem parseTail_space (rest : Text) :
    parseTail ' ' rest = match m1tail rest with
      | some vp => some (some vp.1, vp.2)
      | none => some (m23tail rest) := by
  unfold parseTail
  have : isPySpace ' ' = true := by decide
  cases m1tail rest <;> simp [this]

theorem parse_field (W : Word) (hW : W.Sound) (f rest : Text) (hf : identOk W f = true) :
    (parseMsg W (f ++ ':' :: ' ' :: rest)).field = some f := by
  -- with DOTALL regex 3 always matches: the cascade never fails after a well-formed header
  rw [parseMsg_header W hW f rest hf, parseTail_space]
  cases m1tail rest <;> rfl

theorem m1tail_gotFirst (v p : Text) (hv : noSemi v = true) :
    m1tail (body .gotFirst v p) = some (v, p) := by
  unfold m1tail body
  rw [dropPre_append]
  simp only [Option.bind_some, sSemiSp, List.cons_append, List.nil_append]
  rw [spanNoSemi_append v _ hv]
  simp [dropPre]

/-- regex 1 on `Got <x>; <y>` with ANY `x`: the problem group contains at least `y` -/
theorem m1tail_problem_length (x y : Text) (vp : Text × Text)
    (h : m1tail (sGot ++ (x ++ (sSemiSp ++ y))) = some vp) : y.length ≤ vp.2.length := by
  unfold m1tail at h
  rw [dropPre_append] at h
  simp only [Option.bind_some, Option.map_eq_some_iff] at h
  obtain ⟨r3, hr3, hvp⟩ := h
  have hlen := spanNoSemi_snd_length x (' ' :: y)
  have heq := (dropPre_eq_some _ _ _).1 hr3
  simp only [sSemiSp, List.cons_append, List.nil_append] at heq hlen
  rw [heq] at hlen
  rw [← hvp]
  simp at hlen ⊢
  omega

theorem m1tail_none_of_head (rest : Text) (h : rest.head? ≠ some 'G') : m1tail rest = none := by
  cases hd : dropPre sGot rest with
  | none => simp [m1tail, hd]
  | some r => exact absurd (by rw [(dropPre_eq_some _ _ _).1 hd]; rfl) h

theorem parseTail_of_head (rest : Text) (hG : rest.head? ≠ some 'G') :
    parseTail ' ' rest = some (m23tail rest) := by
  rw [parseTail_space, m1tail_none_of_head rest hG]

theorem parseTail_gotLast (v p : Text) (hG : p.head? ≠ some 'G') :
    parseTail ' ' (body .gotLast v p) = some (m23tail (body .gotLast v p)) := by
  refine parseTail_of_head _ ?_
  cases p with
  | nil => simp [body, sSemiGot]
  | cons x xs => simpa [body] using hG

/-- regexes 2 / 3 on a non-empty rest that does not begin with `;`: the problem group is not empty
    (a split at `; Got ` leaves something in front of it) -/
theorem m23tail_problem_nonempty (rest : Text) (hne : rest ≠ []) (hh : rest.head? ≠ some ';') :
    transform (m23tail rest).2 ≠ [] := by
  unfold m23tail
  cases hs : splitLast sSemiGot rest with
  | none => exact transform_nonempty _ hne
  | some ab =>
    refine transform_nonempty ab.1 ?_
    intro ha
    have := splitLast_eq sSemiGot rest ab.1 ab.2 (by simp [hs])
    rw [ha] at this
    apply hh
    rw [this]; rfl

theorem internal_field (ff : Bool) (J : Codec) (fuel : Nat) (s : Text) :
    (internal ff J fuel s).field = (parseMsg J.word s).field := by
  cases fuel with
  | zero => rfl
  | succ n =>
    simp only [internal]
    split
    · rfl
    · split
      · rename_i h _; simp [Info.field, h]
      · rfl

theorem internal_failFast (J : Codec) (fuel : Nat) (s : Text) :
    internal true J fuel s =
      .leaf (parseMsg J.word s).field (parseMsg J.word s).value (parseMsg J.word s).problem := by
  cases fuel <;> simp [internal]

theorem readable_collected (J : Codec) (hJ : J.RoundTrip) (ts : List Text) :
    readable false J (J.dumps ts) =
      .ok (.many (ts.map (internal false J (J.dumps ts).length))) := by
  simp [readable, hJ ts]

theorem isFieldChar_ascii (W : Word) (hW : W.Sound) (c : Char) (h : c.isAlphanum = true) :
    isFieldChar W c = true := by
  simp [isFieldChar, hW.1 c h]

theorem all_fieldChars_of_alnum (W : Word) (hW : W.Sound) (t : Text) (h : t.all Char.isAlphanum = true) :
    t.all (isFieldChar W) = true := by
  rw [List.all_eq_true] at h ⊢
  exact fun c hc => isFieldChar_ascii W hW c (h c hc)

theorem natText_alnum (fuel n : Nat) : (natText fuel n).all Char.isAlphanum = true := by
  have hd : ∀ d, (digitChar d).isAlphanum = true := fun d => by unfold digitChar; split <;> decide
  induction fuel generalizing n with
  | zero => simp [natText, hd]
  | succ k ih =>
    simp only [natText]
    split <;> simp [List.all_append, ih, hd]

/-- every suffix is `_` followed by ASCII letters or digits -/
theorem suffix_all (W : Word) (hW : W.Sound) (s : Suffix) :
    s.text.all (isFieldChar W) = true := by
  have h : ∀ t : Text, t.all Char.isAlphanum = true → ('_' :: t).all (isFieldChar W) = true :=
    fun t ht => by simp [isFieldChar, all_fieldChars_of_alnum W hW t ht]
  cases s with
  | none => rfl
  | idx i => exact h _ (natText_alnum i i)
  | key => exact h _ (by decide)
  | val => exact h _ (by decide)

theorem sufPath_all (W : Word) (hW : W.Sound) (p : SufPath) :
    p.text.all (isFieldChar W) = true := by
  induction p with
  | nil => rfl
  | cons s rest ih => simp only [SufPath.text, List.all_append, suffix_all W hW s, ih, Bool.and_true]

theorem withClass_append (c : Option Text) (a b : Text) : withClass c (a ++ b) = withClass c a ++ b := by
  cases c <;> simp [withClass]

theorem identOk_append (W : Word) (a b : Text) (ha : identOk W a = true)
    (hb : b.all (isFieldChar W) = true) : identOk W (a ++ b) = true := by
  rw [identOk_iff] at ha ⊢
  exact ⟨by simp [ha.1], by rw [List.all_append, ha.2, hb]; rfl⟩

theorem identOk_path (W : Word) (hW : W.Sound) (c top : Text) (s : SufPath)
    (hc : identOk W c = true) (ht : identOk W top = true) :
    identOk W (withClass (some c) (top ++ s.text)) = true := by
  have hd : isFieldChar W '.' = true := by simp [isFieldChar]
  refine identOk_append W c _ hc ?_
  simp only [List.all_cons, List.all_append, hd, ((identOk_iff W top).1 ht).2, sufPath_all W hW, Bool.and_self]

theorem sites_tops (O : Oracles) (c : ClassOpts) (kw : List (String × PyVal))
    (fields : List (String × FieldDecl)) :
    (sites O c kw fields).map (·.top) = invalidFields O c kw fields := by
  induction fields with
  | nil => rfl
  | cons nf rest ih =>
    rw [invalidFields, List.filterMap_cons, ← invalidFields, ← ih, sites]
    cases argFor c [] kw nf.1 with
    | none => rfl
    | some v => cases hv : validate O nf.2 v <;> simp [hv, isOk]

theorem sites_mem (O : Oracles) (c : ClassOpts) (kw : List (String × PyVal))
    (fields : List (String × FieldDecl)) (s : Site) (hs : s ∈ sites O c kw fields) :
    ∃ nf ∈ fields, ∃ v e, argFor c [] kw nf.1 = some v ∧ validate O nf.2 v = .error e ∧
      s = ⟨nf.1, locate O nf.2 v, ((locate O nf.2 v).cls).getD e⟩ := by
  induction fields with
  | nil => exact nomatch hs
  | cons nf rest ih =>
    obtain ⟨name, f⟩ := nf
    unfold sites at hs
    split at hs
    · exact (ih hs).imp fun _ hx => ⟨.tail _ hx.1, hx.2⟩
    · rename_i v ha
      split at hs
      · exact (ih hs).imp fun _ hx => ⟨.tail _ hx.1, hx.2⟩
      · rename_i e hv
        rcases List.mem_cons.1 hs with rfl | h
        · exact ⟨(name, f), List.mem_cons_self, v, e, ha, hv, rfl⟩
        · exact (ih h).imp fun _ hx => ⟨.tail _ hx.1, hx.2⟩

/-- what `cls(**kw)` raised, read off the result: fail-fast raises for the first site, collect-all
    for all of them -/
theorem constructRaises_inv (O : Oracles) (T : Texts) (ff : Bool) (c : ClassOpts)
    (fields : List (String × FieldDecl)) (kw : List (String × PyVal)) {r : Raised}
    (h : constructRaises O T ff c fields kw = r) :
    match (generalizing := false) r with
    | .single e t => ff = true ∧ ∃ s ss, sites O c kw fields = s :: ss ∧ e = s.cls ∧
        t = withClass (some c.name.toList) (s.text T)
    | .collected ts => ff = false ∧
        ts = (sites O c kw fields).map fun x => withClass (some c.name.toList) (x.text T)
    | _ => True := by
  subst h
  unfold constructRaises
  cases !bindOk c (fields.map (·.1)) kw
  · cases sites O c kw fields with
    | nil => trivial
    | cons s ss =>
      cases ff
      · exact ⟨rfl, rfl⟩
      · exact ⟨rfl, s, ss, rfl, rfl, rfl⟩
  · trivial

def Aligned {α β} (R : α → β → Prop) : List α → List β → Prop
  | [], [] => True
  | a :: as, b :: bs => R a b ∧ Aligned R as bs
  | _, _ => False

theorem aligned_map {α β γ} (R : β → γ → Prop) (f : α → β) (g : α → γ) (l : List α)
    (h : ∀ x ∈ l, R (f x) (g x)) : Aligned R (l.map f) (l.map g) := by
  induction l with
  | nil => trivial
  | cons a l ih =>
    exact ⟨h a List.mem_cons_self, ih fun x hx => h x (List.mem_cons_of_mem _ hx)⟩

theorem aligned_length {α β} (R : α → β → Prop) : ∀ (as : List α) (bs : List β),
    Aligned R as bs → as.length = bs.length
  | [], [], _ => rfl
  | _ :: as, _ :: bs, h => by simp [aligned_length R as bs h.2]
  | [], _ :: _, h => h.elim
  | _ :: _, [], h => h.elim

/-- what `g` collects over the supplied, non-null document values: `p1Sites`, `p1SitesD`, `deserArgs`,
    `deserInvalid`, … are this for their `g`, by unfolding -/
def supplied {α} (g : String × FieldDecl → PyVal → Option α) (doc : List (String × PyVal))
    (fields : List (String × FieldDecl)) : List α :=
  fields.filterMap fun nf =>
    match lookup nf.1 doc with
    | none => none
    | some v => if v.isNone then none else g nf v

theorem mem_supplied {α} (g : String × FieldDecl → PyVal → Option α) (doc : List (String × PyVal))
    (fields : List (String × FieldDecl)) (a : α) :
    a ∈ supplied g doc fields ↔
      ∃ nf ∈ fields, ∃ v, lookup nf.1 doc = some v ∧ v.isNone = false ∧ g nf v = some a := by
  rw [supplied, List.mem_filterMap]
  refine exists_congr fun nf => and_congr_right fun _ => ?_
  cases lookup nf.1 doc with
  | none => simp
  | some v => cases hv : v.isNone <;> simp

/-- a per-field answer that is one of two: the list is the union of the two lists -/
theorem mem_supplied_or {α} {g g₁ g₂ : String × FieldDecl → PyVal → Option α} {a : α}
    (h : ∀ nf v, g nf v = some a ↔ g₁ nf v = some a ∨ g₂ nf v = some a)
    (doc : List (String × PyVal)) (fields : List (String × FieldDecl)) :
    a ∈ supplied g doc fields ↔ a ∈ supplied g₁ doc fields ∨ a ∈ supplied g₂ doc fields := by
  simp only [mem_supplied, h, and_or_left, exists_or]

end Typedpy.Err
