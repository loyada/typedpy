/-
  Sem/StubDefine.lean — the stub generator's field → parameter derivation over the CLASS OBJECTS of Sem/Define.lean
  (the model of `StructMeta.__new__` / `get_base_info` / `make_signature` / C3 linearisation that C12/C14 prove
  things about and that the `define` suite corresponds with the code).  Here the runtime side is not re-modelled:
  `(build w src).sig` IS Define's `make_signature`, `(build w src).required` its `_required`, `.constants` its
  `_constants`, `.allFields` its `_field_by_name` — for every world (any hierarchy shape: several bases, shared
  ancestors / diamonds, C3 order).

  Stub side (typedpy/stubs), reading the class object exactly as the generator does:
    * `get_all_type_info`:  `cls.get_all_fields_by_name()` minus `cls._constants`, `= None` iff not in `cls._required`
    * `_get_ordered_args`:  mandatory first
    * `get_init`:           `**kw` iff `getattr(cls, "_additional_properties", additional_properties_default)`
-/
import TypedpyModel.Sem.Define
import TypedpyModel.Sem.Stub
namespace Typedpy.StubD
open Typedpy.Stub (Param orderedArgs mandatoryFirst)

/-- `get_all_type_info` reduced to (name, annotation ends with `= None`) -/
def typeInfoD (c : ClassDef) : List Param :=
  (c.allFields.filter (fun p => (lookup p.1 c.constants).isNone)).map
    (fun p => ⟨p.1, !c.required.contains p.1⟩)

def stubArgsD (c : ClassDef) : List Param := orderedArgs (typeInfoD c)

/-- `getattr(cls, "_additional_properties", <absent>)` of the class being defined: own dict, else the first class of
    the MRO that sets it -/
def addlAttr (w : World) (src : ClassSrc) : Option Bool :=
  src.addl.orElse fun _ => inheritedOpt w (·.ownAddl) (mroTail w src)

def stubKwD (apd : Bool) (w : World) (src : ClassSrc) : Bool := (addlAttr w src).getD apd

/-- the generated `__init__` of the class that `class src.name(src.bases): …` creates in world `w` -/
def stubInitD (apd : Bool) (w : World) (src : ClassSrc) : Stub.Sig := ⟨stubArgsD (build w src), stubKwD apd w src⟩

/-- `**kwargs` of `__signature__` under the runtime default `dflt`: the inherited `getattr` since the repair of the
    findings "inherited-additional-properties*" -/
def sigKwD (dflt : Bool) (w : World) (src : ClassSrc) : Bool := (addlAttr w src).getD dflt

/-- the constructor takes an unknown keyword: `__signature__.bind` needs `**kwargs`, the `__setattr__` guard the
    inherited flag -/
def admitsD (dflt : Bool) (w : World) (src : ClassSrc) : Bool := sigKwD dflt w src && (addlAttr w src).getD dflt

/-- Define's `Sig` as a parameter table -/
def sigParamsD (s : Typedpy.Sig) : List Param := s.req.map (fun n => ⟨n, false⟩) ++ s.opt.map (fun n => ⟨n, true⟩)

/-- the names `make_signature` draws from: the class's own fields and the parameters of the bases' signatures -/
def covered (w : World) (src : ClassSrc) (n : String) : Bool :=
  ((ownMembers src.entries).map (·.1)).contains n || ((basesParams w src).map (·.1)).contains n

def constNamesD (w : World) (src : ClassSrc) : List String := (constantsOf (resolvedFields w src)).map (·.1)

/-- every non-constant name of `_field_by_name` is one `make_signature` draws from, and conversely.  It is equivalent
    to "stub keywords = signature names" (Props/C16.lean `stubD_names_agree_iff`) and holds for every class statement
    that passes the checks in a reachable world (`stubD_namesCovered_reachable`).  It would fail if a base's signature
    dropped a name as its constant while the subclass resolved the name to a Field of another branch, which is what
    typedpy did before fix f0f7ce1 (`fixed_diamond_names_example`). -/
def namesCovered (w : World) (src : ClassSrc) : Bool :=
  ((allFieldsOf w src).map (·.1)).all (fun n => (constNamesD w src).contains n || covered w src n) &&
  (((ownMembers src.entries).map (·.1)) ++ ((basesParams w src).map (·.1))).all
    (fun n => ((allFieldsOf w src).map (·.1)).contains n)

/-- known-finding regions of the `**` clause, as in Props/C16.lean, over Define's world -/
def inheritedOnD (dflt : Bool) (w : World) (src : ClassSrc) : Bool :=
  !dflt && src.addl.isNone && (addlAttr w src == some true)

def inheritedOffD (dflt : Bool) (w : World) (src : ClassSrc) : Bool :=
  dflt && src.addl.isNone && (addlAttr w src == some false)

end Typedpy.StubD
