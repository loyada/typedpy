/-
  Trusted construction (`from_trusted_data`, `trust_supplied_values`):
  on arguments that pass `rawOkV` the constructor stores the argument itself, so the unvalidated
  instance is the validated one.  The constructor stores the documented normal form
  (`validate_spec`, Lemmas/Complete), and an argument that passes `rawOkV` is its own normal form
  (`norm_raw_id`, by `FieldDecl.induction`).
-/
import TypedpyModel.Spec.TrustedSafe
import TypedpyModel.Lemmas.RoundTrip
import TypedpyModel.Lemmas.Complete
namespace Typedpy
open PyVal (pyEq pyMem pyNodup)

theorem argFor_none_of (c : ClassOpts) (defaults args : List (String × PyVal)) (n : String)
    (h1 : lookup n args = none) (h2 : noDefault defaults n = true) : argFor c defaults args n = none := by
  unfold argFor
  rw [h1]
  unfold noDefault at h2
  cases hd : lookup n defaults with
  | none => rfl
  | some d => simp only [hd] at h2; simp [h2]

theorem argFor_of_lookup (c : ClassOpts) (defaults args : List (String × PyVal)) (n : String) (v : PyVal)
    (h : lookup n args = some v) :
    (argFor c defaults args n = none ∧ v.isNone = true) ∨ argFor c defaults args n = some v := by
  unfold argFor
  simp only [h]
  split
  · rename_i hi; simp only [Bool.and_eq_true_iff] at hi; exact Or.inl ⟨rfl, hi.1.1⟩
  · exact Or.inr rfl

theorem argFor_some_of (c : ClassOpts) (defaults args : List (String × PyVal)) (n : String) (y : PyVal)
    (h1 : lookup n args = some y) (h2 : y.isNone = false) : argFor c defaults args n = some y :=
  (argFor_of_lookup c defaults args n y h1).resolve_left fun h => Bool.false_ne_true (h2.symm.trans h.2)

theorem extrasOf_nil (c : ClassOpts) (names : List String) (args : List (String × PyVal))
    (h : ∀ a ∈ args, names.contains a.1 = true) : extrasOf c names args = [] := by
  unfold extrasOf
  apply List.filter_eq_nil_iff.mpr
  intro a ha
  rw [h a ha]; simp

section
variable (O : Oracles)

/-- a frozenset stays frozen, a plain set stays plain where the field is not an ImmutableSet -/
theorem c10_frozen_or {fr imm : Bool} (h : (fr || !imm) = true) : (fr || imm) = fr := by
  cases fr <;> cases imm <;> first | rfl | cases h

theorem nSeq_raw (k : SeqKind) (n : List PyVal → List PyVal) (v : PyVal)
    (h : ∀ xs, seqElems k v = some xs → n xs = xs) : nSeq k n v = v := by
  unfold nSeq
  cases hs : seqElems k v with
  | none => rfl
  | some xs =>
    show mkSeq k (n xs) = v
    rw [h xs hs]
    exact (seqElems_eq_some.1 hs).symm

theorem normZip_raw_id : ∀ (fs : List FieldDecl) (xs : List PyVal),
    (∀ f ∈ fs, ∀ x, rawOkV f x = true → norm O f x = x) → rawOkZip fs xs = true → normZip O fs xs = xs
  | [], _, _, _ => rfl
  | _ :: _, [], _, _ => rfl
  | f :: fs, x :: xs, ih, hr => by
    simp only [rawOkZip, Bool.and_eq_true_iff] at hr
    rw [normZip_cons_cons, ih f List.mem_cons_self x hr.1,
      normZip_raw_id fs xs (fun g hg => ih g (List.mem_cons_of_mem _ hg)) hr.2]

theorem normAny_raw_id : ∀ (fs : List FieldDecl) (v : PyVal),
    (∀ f ∈ fs, ∀ x, rawOkV f x = true → norm O f x = x) → rawOkAll fs v = true → normAny O fs v = v
  | [], _, _, _ => rfl
  | f :: fs, v, ih, hr => by
    simp only [rawOkAll, Bool.and_eq_true_iff] at hr
    rw [normAny_cons, ih f List.mem_cons_self v hr.1,
      normAny_raw_id fs v (fun g hg => ih g (List.mem_cons_of_mem _ hg)) hr.2, ite_self]

theorem norm_raw_id (f : FieldDecl) : ∀ v, rawOkV f v = true → norm O f v = v := by
  induction f using FieldDecl.induction with
  | float o => intro v hr; cases v <;> first | rfl | cases hr
  | boolean => intro v hr; cases v <;> first | rfl | cases hr
  | enumCls cls names => intro v hr; cases v <;> first | rfl | cases hr
  | seqAny k sz => exact fun v _ => nSeq_raw k id v fun _ _ => rfl
  | seqOf k f sz ih =>
    intro v hr
    unfold rawOkV at hr
    refine nSeq_raw k _ v fun xs hs => ?_
    rw [hs] at hr
    exact map_id_of_mem fun x hx => ih x (List.all_eq_true.mp hr x hx)
  | seqPos k fs addl sz ih =>
    intro v hr
    unfold rawOkV at hr
    refine nSeq_raw k _ v fun xs hs => ?_
    rw [hs] at hr
    exact normZip_raw_id O fs xs ih hr
  | setAny imm sz =>
    intro v hr
    unfold rawOkV at hr
    cases v <;> try rfl
    rename_i fr xs
    simp only [Bool.and_eq_true_iff] at hr
    show PyVal.set (fr || imm) (dedup xs) = .set fr xs
    rw [dedup_of_nodup xs hr.2, c10_frozen_or hr.1]
  | setOf imm f sz ih =>
    intro v hr
    unfold rawOkV at hr
    cases v <;> try rfl
    rename_i fr xs
    simp only [Bool.and_eq_true_iff] at hr
    show PyVal.set (fr || imm) (dedup (xs.map (norm O f))) = .set fr xs
    rw [map_id_of_mem fun x hx => ih x (List.all_eq_true.mp hr.2 x hx), dedup_of_nodup xs hr.1.2,
      c10_frozen_or hr.1.1]
  | tupleOf f uniq ih =>
    intro v hr
    unfold rawOkV at hr
    cases v <;> try rfl
    rename_i xs
    exact congrArg PyVal.tuple (map_id_of_mem fun x hx => ih x (List.all_eq_true.mp hr x hx))
  | tuplePos fs uniq ih =>
    intro v hr
    unfold rawOkV at hr
    cases v <;> try rfl
    rename_i xs
    exact congrArg PyVal.tuple (normZip_raw_id O fs xs ih hr)
  | mapAny sz =>
    intro v hr
    unfold rawOkV at hr
    cases v <;> try rfl
    rename_i kvs
    exact congrArg PyVal.dict (dictOfPairs_distinct kvs hr)
  | mapOf kf vf sz ihk ihv =>
    intro v hr
    unfold rawOkV at hr
    cases v <;> try rfl
    rename_i kvs
    simp only [Bool.and_eq_true_iff] at hr
    show PyVal.dict (dictOfPairs (kvs.map fun kv => (norm O kf kv.1, norm O vf kv.2))) = .dict kvs
    rw [map_id_of_mem fun kv hkv => by
      have h := Bool.and_eq_true_iff.mp (List.all_eq_true.mp hr.2 kv hkv)
      rw [ihk kv.1 h.1, ihv kv.2 h.2], dictOfPairs_distinct kvs hr.1]
  | struct c fields defaults _ =>
    intro v hr
    unfold rawOkV at hr
    simp only [Bool.not_eq_true'] at hr
    simp only [norm_struct, hr, Bool.false_eq_true, if_false]
  | anyOf fs ih => exact fun v hr => normAny_raw_id O fs v ih hr
  | _ => exact fun _ _ => rfl

theorem validate_raw_id (f : FieldDecl) (v w : PyVal) (hr : rawOkV f v = true)
    (hv : validate O f v = .ok w) : w = v :=
  ((validate_spec O f v).ok_inv hv).2.trans (norm_raw_id O f v hr)

theorem validate_raw_zip : ∀ (fs : List FieldDecl) (xs ys : List PyVal),
    rawOkZip fs xs = true → validateZip O fs xs = .ok ys → ys = xs :=
  fun fs xs _ hr hv => ((validateZip_spec O fs xs).ok_inv hv).2.trans
    (normZip_raw_id O fs xs (fun f _ => norm_raw_id O f) hr)

theorem validate_raw_any : ∀ (fs : List FieldDecl) (v w : PyVal),
    rawOkAll fs v = true → validateAny O fs v = .ok w → w = v :=
  fun fs v _ hr hv => ((validateAny_spec O fs v).ok_inv hv).2.trans
    (normAny_raw_id O fs v (fun f _ => norm_raw_id O f) hr)

/-- the attribute list `fromTrustedMap` builds: the declared fields present in the keyword
    arguments, in field order -/
def kwInFieldOrder (fields : List (String × FieldDecl)) (kw : List (String × PyVal)) :
    List (String × PyVal) :=
  fields.filterMap fun p => (lookup p.1 kw).map fun v => (p.1, v)

theorem stored_fields_equiv (c : ClassOpts) (defaults kw : List (String × PyVal)) :
    ∀ (rest : List (String × FieldDecl)) (attrs : List (String × PyVal)),
      storedFields defaults kw rest = true → validateFields O c defaults kw rest = .ok attrs →
      tnormAttrs (kwInFieldOrder rest kw) = tnormAttrs attrs
  | [], attrs, _, hv => by
    simp only [validateFields] at hv; cases hv; rfl
  | (n, f) :: rest, attrs, hs, hv => by
    simp only [storedFields, Bool.and_eq_true_iff] at hs
    simp only [validateFields] at hv
    simp only [kwInFieldOrder, List.filterMap_cons]
    cases hl : lookup n kw with
    | none =>
      simp only [hl] at hs
      rw [argFor_none_of c defaults kw n hl hs.1] at hv
      simp only [Option.map_none]
      exact stored_fields_equiv c defaults kw rest attrs hs.2 hv
    | some v =>
      simp only [hl] at hs
      simp only [Option.map_some]
      rcases argFor_of_lookup c defaults kw n v hl with ⟨ha, hvn⟩ | ha
      · simp only [ha] at hv
        simp only [tnormAttrs, hvn, if_true]
        exact stored_fields_equiv c defaults kw rest attrs hs.2 hv
      · simp only [ha] at hv
        rcases bindE_eq_ok hv with ⟨w, hw, h2⟩
        rcases bindE_eq_ok h2 with ⟨ar, har, hc⟩
        cases hc
        have := validate_raw_id O f v w (Bool.and_eq_true_iff.mp hs.1).1 hw
        subst this
        have ih := stored_fields_equiv c defaults kw rest ar hs.2 har
        simp only [kwInFieldOrder] at ih
        simp only [tnormAttrs, ih]

theorem from_trusted_map_core (cls : FieldDecl) (kw : List (String × PyVal)) (x : PyVal)
    (hs : storedKw cls kw = true) (hc : construct O cls kw = .ok x) :
    ∃ y, fromTrustedMap cls kw = .ok y ∧ tnorm y = tnorm x := by
  cases cls with
  | struct c fields defaults =>
    simp only [storedKw, Bool.and_eq_true_iff] at hs
    simp only [construct] at hc
    obtain ⟨_, attrs, hvf, rfl⟩ := vConstruct_eq_ok_iff.1 hc
    rw [extrasOf_nil c _ kw (List.all_eq_true.mp hs.1), List.nil_append]
    refine ⟨_, rfl, ?_⟩
    have := stored_fields_equiv O c defaults kw fields attrs hs.2 hvf
    simp only [kwInFieldOrder] at this
    unfold tnorm
    simp [this]
  | _ => simp [storedKw] at hs

end
end Typedpy
