/-
  `Optional[x]`: an `AnyOf` whose options are `x` and `NoneField`, in either order.  Every function of
  the model that walks the options of an `AnyOf` picks its option by a rule of its own (the first that
  deserializes, the first that validates, the first whose shallow check passes, `fields[0]` unless
  `fields[1]` is the one that is not `NoneField`, the last that is not `NoneField`, …); on an Optional
  and a value that is not None they all go through `x`.  `OptOf fs x` names the shape; here are the
  lemmas for the regular path (`deserAny`, `validateAny`, `serFirst`) and for the recogniser of the exact
  fragment (`exactOpt`).  The lemmas for the documented lifting, the trusted branch and fast serialization
  are in Lemmas/LiftOpt, Lemmas/Trusted, Lemmas/TrustedMap and Lemmas/Fast, in the same namespace.
-/
import TypedpyModel.Spec.Lift
import TypedpyModel.Lemmas.SerdeBasic
namespace Typedpy

/-- `fs` are the options of `Optional[x]`.  In the order `[NoneField, x]` the option `x` is not
    `NoneField` itself, so that in both orders `x` is the option
    `_extract_non_nonefield_from_optional` picks. -/
inductive OptOf : List FieldDecl → FieldDecl → Prop
  | fst (x : FieldDecl) : OptOf [x, .noneF] x
  | snd (y : FieldDecl) : y ≠ .noneF → OptOf [.noneF, y] y

theorem deser_noneF_err (O : Oracles) (opts : DeserOpts) (ign : Bool) {v : PyVal} (hn : v.isNone = false) :
    deser O opts ign .noneF v = .error .valueErr := by
  rw [deser_noneF, hn]; rfl

theorem validate_noneF_err (O : Oracles) {w : PyVal} (hn : w.isNone = false) :
    validate O .noneF w = .error .typeErr := by
  rw [validate_noneF, vNone, hn]; rfl

theorem serFirst_skip_noneF (O : Oracles) (rest : List FieldDecl) {z : PyVal} (hn : z.isNone = false) :
    serFirst O (.noneF :: rest) z = serFirst O rest z := by
  simp [serFirst, shallowOk, hn]

theorem serFirst_cons_congr (O : Oracles) (x : FieldDecl) (rest : List FieldDecl) {u u' : PyVal}
    (h1 : ser O x u' = ser O x u) (h2 : shallowOk O x u' = shallowOk O x u)
    (h3 : serFirst O rest u' = serFirst O rest u) : serFirst O (x :: rest) u' = serFirst O (x :: rest) u := by
  simp only [serFirst, h1, h2, h3]

namespace OptOf
variable {fs : List FieldDecl} {x : FieldDecl}

theorem mem (h : OptOf fs x) : x ∈ fs := by cases h <;> simp

theorem shape (h : OptOf fs x) : fs = [.noneF, x] ∨ fs = [x, .noneF] := by
  cases h
  · exact .inr rfl
  · exact .inl rfl

theorem deserAny_eq (h : OptOf fs x) (O : Oracles) (opts : DeserOpts) {v : PyVal} (hn : v.isNone = false) :
    deserAny O opts fs v
      = match deser O opts false x v with
        | .ok y => .ok y
        | .error _ => .error .valueErr := by
  cases h <;> simp only [deserAny, deser_noneF_err O opts false hn] <;>
    cases deser O opts false x v <;> rfl

theorem validateAny_eq (h : OptOf fs x) (O : Oracles) {w : PyVal} (hn : w.isNone = false) :
    validateAny O fs w
      = match validate O x w with
        | .ok z => .ok z
        | .error _ => .error .valueErr := by
  cases h <;> simp only [validateAny, validate_noneF_err O hn] <;>
    cases validate O x w <;> rfl

theorem deser_ok (h : OptOf fs x) (O : Oracles) (opts : DeserOpts) {ign : Bool} {v w : PyVal}
    (hn : v.isNone = false) (hd : deser O opts ign (.anyOf fs) v = .ok w) : deser O opts false x v = .ok w := by
  rw [deser_anyOf, noneGuard_eq hn, h.deserAny_eq O opts hn] at hd
  cases hx : deser O opts false x v with
  | ok y => rw [hx] at hd; exact hd
  | error e => rw [hx] at hd; cases hd

theorem validate_ok (h : OptOf fs x) (O : Oracles) {w u : PyVal} (hn : w.isNone = false)
    (hv : validate O (.anyOf fs) w = .ok u) : validate O x w = .ok u := by
  rw [validate_anyOf, h.validateAny_eq O hn] at hv
  cases hx : validate O x w with
  | ok y => rw [hx] at hv; exact hv
  | error e => rw [hx] at hv; cases hv

theorem ser_congr (h : OptOf fs x) (O : Oracles) {u u' : PyVal} (hu : u.isNone = false) (hu' : u'.isNone = false)
    (h1 : ser O x u' = ser O x u) (h2 : shallowOk O x u' = shallowOk O x u) :
    ser O (.anyOf fs) u' = ser O (.anyOf fs) u := by
  show serFirst O fs u' = serFirst O fs u
  cases h with
  | fst => exact serFirst_cons_congr O x [.noneF] h1 h2 (by rw [serFirst_skip_noneF O [] hu', serFirst_skip_noneF O [] hu]; rfl)
  | snd y hy =>
    rw [serFirst_skip_noneF O [x] hu', serFirst_skip_noneF O [x] hu]
    exact serFirst_cons_congr O x [] h1 h2 rfl

theorem ser_fit (h : OptOf fs x) (O : Oracles) {w j : PyVal} (hn : w.isNone = false)
    (hsh : shallowOk O x w = true) (hser : ser O x w = .ok j) : ser O (.anyOf fs) w = .ok j := by
  show serFirst O fs w = .ok j
  cases h with
  | fst => simp only [serFirst, hsh, if_true, hser]
  | snd y hy =>
    rw [serFirst_skip_noneF O [x] hn]
    simp only [serFirst, hsh, if_true, hser]

end OptOf

theorem exactOpt_optOf : ∀ fs : List FieldDecl, exactOpt fs = true →
    ∃ g, OptOf fs g ∧ plainDecl g = true ∧ exactDecl g = true
  | [f, g], h => by
    have hN : ∀ z : FieldDecl, isNoneDecl z = true → z = .noneF := fun z hz => by
      cases z <;> first | rfl | cases hz
    have hP : ∀ z : FieldDecl, plainDecl z = true → z ≠ .noneF := fun z hz e => by subst e; cases hz
    simp only [exactOpt, Bool.or_eq_true, Bool.and_eq_true] at h
    rcases h with h | h
    · rw [hN f h.1.1]; exact ⟨g, .snd g (hP g h.1.2), h.1.2, h.2⟩
    · rw [hN g h.1.1]; exact ⟨f, .fst f, h.1.2, h.2⟩
  | [], h | [_], h | _ :: _ :: _ :: _, h => nomatch h

end Typedpy
