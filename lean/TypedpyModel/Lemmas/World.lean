/-
  Lemmas/World.lean — the frame argument of C15.

  Under coherence (`Good`: caches, wrapper registry and installed serializers hold what would be computed afresh) the
  view of a class is a function of the global flags and of the stable parts (`Entry.stable`: core, `_required`,
  serializer flags) of the class and of the classes its fields refer to (`view_eq_of_lookS`; for a FastSerializable
  class outside the region of the MRO finding, where the success of `create_serializer` is static, `createW_snd`).  A
  use is shown once, by induction on the fuel of its nested effects, to be a sequence of three kinds of write, each for a class of a set
  closed under field references (`Writes`, `use_writes`); every such write keeps coherence and every stable part.  An
  explicit `create_serializer(c, fl)` changes the serializer flags of `c` and nothing else that is stable (`Created`).
  `sim_run` carries `Sim` — agreement on the stable parts of the classes of `T` — along a history and its slice.
-/
import TypedpyModel.Sem.World
namespace Typedpy.World

theorem alookup_cons {κ ν : Type} [DecidableEq κ] (k k' : κ) (v : ν) (m : List (κ × ν)) :
    alookup k ((k', v) :: m) = if k' = k then some v else alookup k m := rfl

theorem alookup_cons_eq {κ ν : Type} [DecidableEq κ] (k : κ) (v : ν) (m : List (κ × ν)) :
    alookup k ((k, v) :: m) = some v := by rw [alookup_cons, if_pos rfl]

theorem alookup_cons_ne {κ ν : Type} [DecidableEq κ] {k k' : κ} (v : ν) (m : List (κ × ν)) (h : k' ≠ k) :
    alookup k ((k', v) :: m) = alookup k m := by rw [alookup_cons, if_neg h]

theorem alookup_mem {κ ν : Type} [DecidableEq κ] {k : κ} {v : ν} {m : List (κ × ν)} (h : alookup k m = some v) :
    (k, v) ∈ m := by
  induction m with
  | nil => cases h
  | cons p m ih =>
    obtain ⟨k', v'⟩ := p
    by_cases hk : k' = k
    · rw [hk, alookup_cons_eq] at h
      rw [hk, Option.some.inj h]
      exact List.mem_cons_self
    · rw [alookup_cons_ne _ _ hk] at h
      exact List.mem_cons_of_mem _ (ih h)

theorem ne_of_true_of_false {α : Type} {S : α → Bool} {c d : α} (hc : S c = true) (hd : S d = false) : c ≠ d :=
  ne_of_apply_ne S (by rw [hc, hd]; exact Bool.noConfusion)

theorem all_congr_mem {α : Type} (p q : α → Bool) : ∀ (l : List α), (∀ x ∈ l, p x = q x) → l.all p = l.all q
  | [], _ => rfl
  | x :: l, h => by
    simp only [List.all_cons]
    rw [h x List.mem_cons_self, all_congr_mem p q l (fun y hy => h y (List.mem_cons_of_mem _ hy))]

theorem verifyFields_cons (cfg : Config) (rec : World → ClassId → World) (w : World) (f : FieldSpec)
    (fs : List FieldSpec) :
    verifyFields cfg rec w (f :: fs) =
      match f.kind with
      | .ref b =>
        if f.fastOk || (cfg.serializerViaMro && resolvesNow w b) then
          verifyFields cfg rec (if needsSer cfg w b then rec w b else w) fs
        else (w, false)
      | _ => if f.fastOk then verifyFields cfg rec w fs else (w, false) := rfl

theorem verifyFields_ref {cfg : Config} {rec : World → ClassId → World} {w : World} {f : FieldSpec}
    {fs : List FieldSpec} {b : ClassId} (hk : f.kind = .ref b) :
    verifyFields cfg rec w (f :: fs) =
      if f.fastOk || (cfg.serializerViaMro && resolvesNow w b) then
        verifyFields cfg rec (if needsSer cfg w b then rec w b else w) fs
      else (w, false) := by
  rw [verifyFields_cons, hk]

theorem verifyFields_other {cfg : Config} {rec : World → ClassId → World} {w : World} {f : FieldSpec}
    {fs : List FieldSpec} (hk : ∀ b, f.kind ≠ .ref b) :
    verifyFields cfg rec w (f :: fs) = if f.fastOk then verifyFields cfg rec w fs else (w, false) := by
  rw [verifyFields_cons]
  cases h : f.kind with
  | ref b => exact absurd h (hk b)
  | _ => rfl

theorem createW_succ (cfg : Config) (n : Nat) (w : World) (c : ClassId) (fl : SerFlags) :
    createW cfg (n + 1) w c fl =
      match alookup c w.classes with
      | none => (w, false)
      | some e =>
        if (verifyFields cfg (fun w b => (createW cfg n w b .plain).1) (fillMapper cfg w c e) e.core.fields).2 then
          (setSer (verifyFields cfg (fun w b => (createW cfg n w b .plain).1) (fillMapper cfg w c e) e.core.fields).1
            (installTarget cfg c e)
            ⟨fastKeysNow cfg (verifyFields cfg (fun w b => (createW cfg n w b .plain).1) (fillMapper cfg w c e) e.core.fields).1 c e, fl⟩,
           true)
        else ((verifyFields cfg (fun w b => (createW cfg n w b .plain).1) (fillMapper cfg w c e) e.core.fields).1, false) :=
  rfl

theorem fillMapperDeep_succ (cfg : Config) (n : Nat) (w : World) (c : ClassId) (camel : Bool) :
    fillMapperDeep cfg (n + 1) w c camel =
      match alookup c w.classes with
      | none => w
      | some e =>
        match alookup (mkey cfg c e camel) w.mapperCache with
        | some _ => w
        | none =>
          { eachClass (fun w b => fillMapperDeep cfg n w b false) w (fieldRefs e.core.fields) with
            mapperCache := (mkey cfg c e camel, mapperOf e camel) ::
              (eachClass (fun w b => fillMapperDeep cfg n w b false) w (fieldRefs e.core.fields)).mapperCache } := rfl

theorem fillSimplicityDeep_succ (cfg : Config) (n : Nat) (w : World) (c : ClassId) :
    fillSimplicityDeep cfg (n + 1) w c =
      match alookup c w.classes with
      | none => w
      | some e =>
        match alookup (skey cfg c e) w.simplicityCache with
        | some _ => w
        | none =>
          { eachClass (fun w b => fillSimplicityDeep cfg n w b) w ((refFields (simplePrefix e.core.fields)).map (·.2)) with
            simplicityCache := (skey cfg c e, e.core.simple) ::
              (eachClass (fun w b => fillSimplicityDeep cfg n w b) w
                ((refFields (simplePrefix e.core.fields)).map (·.2))).simplicityCache } := rfl

theorem simplePrefix_cons (f : FieldSpec) (fs : List FieldSpec) :
    simplePrefix (f :: fs) = if f.trustedOk then f :: simplePrefix fs else [f] := rfl

theorem simplePrefix_sub (fs : List FieldSpec) (f : FieldSpec) : f ∈ simplePrefix fs → f ∈ fs := by
  induction fs with
  | nil => exact id
  | cons g fs ih =>
    rw [simplePrefix_cons]
    refine iteInduction (motive := fun l => f ∈ l → f ∈ g :: fs) (fun _ h => ?_) fun _ h => ?_
    · exact (List.mem_cons.mp h).elim (fun e => e ▸ List.mem_cons_self) fun h => List.mem_cons_of_mem _ (ih h)
    · exact List.mem_singleton.mp h ▸ List.mem_cons_self

theorem quietRun_cons (cfg : Config) (w : World) (op : WorldOp) (h : List WorldOp) :
    quietRun cfg w (op :: h) = (quietStep cfg w op && quietRun cfg (stepW cfg w op).1 h) := rfl

theorem sliceK_define (T : ClassId → Bool) (K : List ClassId) (c : ClassId) (src : ClassSrc) (h : List WorldOp) :
    sliceK T K (.define c src :: h) = if T c then .define c src :: sliceK T K h else sliceK T K h := rfl

theorem sliceK_createSerializer (T : ClassId → Bool) (K : List ClassId) (c : ClassId) (fl : SerFlags)
    (h : List WorldOp) :
    sliceK T K (.createSerializer c fl :: h) =
      if T c && (fl != SerFlags.plain || K.contains c) then .createSerializer c fl :: sliceK T (c :: K) h
      else sliceK T K h := rfl

def plainUse : WorldOp → Bool
  | .define _ _ => false
  | .setDefault _ _ => false
  | .createSerializer _ _ => false
  | _ => true

theorem sliceK_use (T : ClassId → Bool) (K : List ClassId) {op : WorldOp} (h : List WorldOp)
    (hu : plainUse op = true) : sliceK T K (op :: h) = sliceK T K h := by
  cases op with
  | define _ _ | setDefault _ _ | createSerializer _ _ => cases hu
  | _ => rfl

theorem mem_kindRefs {f : FieldSpec} {b : ClassId} (hk : f.kind = .ref b) : b ∈ kindRefs f.kind := by
  rw [hk]
  exact List.mem_cons_self

theorem fieldRefs_cons (f : FieldSpec) (fs : List FieldSpec) :
    fieldRefs (f :: fs) = kindRefs f.kind ++ fieldRefs fs := List.flatMap_cons

theorem mem_refFields {fs : List FieldSpec} {p : String × ClassId} (h : p ∈ refFields fs) :
    ∃ f ∈ fs, f.kind = .ref p.2 := by
  obtain ⟨f, hf, hfk⟩ := List.mem_filterMap.mp h
  refine ⟨f, hf, ?_⟩
  cases hk : f.kind <;> rw [hk] at hfk <;> cases hfk
  rfl

theorem withClass_fst {P : World → Prop} {w : World} {c : ClassId} {k : Entry → World × Obs}
    (h0 : P w) (h1 : ∀ e, alookup c w.classes = some e → P (k e).1) : P (withClass w c k).1 := by
  unfold withClass
  cases hl : alookup c w.classes with
  | none => exact h0
  | some e => exact h1 e hl

theorem schemaW_fst_of_quiet {cfg : Config} {w : World} {c : ClassId} {e : Entry}
    (hl : alookup c w.classes = some e) (hq : quietStep cfg w (.toSchema c) = true) :
    (schemaW cfg w c e).1 = fillMapper cfg w c e := by
  unfold quietStep at hq
  simp only [hl, Bool.or_eq_true, Bool.not_eq_true', Bool.and_eq_true, beq_iff_eq] at hq
  unfold schemaW
  rcases hq with hq | hq
  · simp [hq]
  · simp [hq.1]

/-- the flags instances of the class are serialized with: those of the installed serializer, else the
    default ones (what the first instance generates) -/
def Entry.effFlags (e : Entry) : SerFlags := (e.serializer.map (·.flags)).getD .plain

theorem effFlags_of_none {e : Entry} (h : e.serializer = none) : e.effFlags = .plain := by
  rw [Entry.effFlags, h]
  rfl

/-- what of a class entry the behaviour of classes depends on under coherence.  Of the serializer only its
    CONFIGURATION (the flags): the keys it binds are then a function of the core (`Good.ser`), and whether one is
    installed yet does not show (`fastSerOf` answers with the one the first instance would generate) -/
def Entry.stable (e : Entry) : Core × List String × SerFlags := (e.core, e.required, e.effFlags)

def lookS (w : World) (d : ClassId) : Option (Core × List String × SerFlags) := (alookup d w.classes).map Entry.stable

/-- keys the serializer of a class emits when built from the class's own mapper -/
def canonKeys (e : Entry) : List String := (fnames e.core.fields).map (mappedKey (mapperOf e false))

/-- coherence.  `W` lists the (bare name, class) pairs that are wrapped implicitly: a registry entry sits under the key of
    the class it checks.  A cache entry is what its function computes afresh for the class the key names — stated with
    identity keys, so only a configuration with `cachesById` keeps it.  An installed serializer binds the keys a fresh
    `create_serializer` would bind, and outside the region of the MRO finding there is one only on a class whose
    serializer can be generated (this makes `instantiable` static, `behaviourOf_eq_ideal`). -/
structure Good (cfg : Config) (W : List (String × TypeId)) (w : World) : Prop where
  reg : ∀ p ∈ w.wrappers, ∃ n, p.1 = wkey cfg n p.2 ∧ (n, p.2) ∈ W
  mapper : ∀ p ∈ w.mapperCache, ∃ c e b, alookup c w.classes = some e ∧ p.1 = CKey.id c b ∧ p.2 = mapperOf e b
  simpl : ∀ p ∈ w.simplicityCache, ∃ c e, alookup c w.classes = some e ∧ p.1 = CKey.id c false ∧ p.2 = e.core.simple
  ser : ∀ c e, alookup c w.classes = some e → ∀ s, e.serializer = some s →
    s.keys = canonKeys e ∧ (refsCreatable cfg e = true → fastAble e = true)

theorem good_initial (cfg : Config) (W : List (String × TypeId)) : Good cfg W World.initial :=
  ⟨fun _ hp => absurd hp List.not_mem_nil, fun _ hp => absurd hp List.not_mem_nil,
   fun _ hp => absurd hp List.not_mem_nil, fun _ _ h => nomatch h⟩

theorem stable_eq {e e' : Entry} (h : e.stable = e'.stable) :
    e.core = e'.core ∧ e.required = e'.required ∧ e.effFlags = e'.effFlags := by
  simpa only [Entry.stable, Prod.mk.injEq] using h

theorem lookS_of_alookup {w : World} {d : ClassId} {e : Entry} (hl : alookup d w.classes = some e) :
    lookS w d = some e.stable := by
  unfold lookS
  rw [hl]
  rfl

theorem lookS_cases {w w' : World} {d : ClassId} (h : lookS w d = lookS w' d) :
    (alookup d w.classes = none ∧ alookup d w'.classes = none) ∨
    (∃ e e', alookup d w.classes = some e ∧ alookup d w'.classes = some e' ∧ e.stable = e'.stable) := by
  unfold lookS at h
  cases hl : alookup d w.classes <;> cases hl' : alookup d w'.classes <;> rw [hl, hl'] at h
  · exact .inl ⟨rfl, rfl⟩
  · cases h
  · cases h
  · exact .inr ⟨_, _, rfl, rfl, Option.some.inj h⟩

theorem entry_of_lookS {w w2 : World} {d : ClassId} {e2 : Entry} (h : lookS w2 d = lookS w d)
    (hl : alookup d w2.classes = some e2) : ∃ e, alookup d w.classes = some e ∧ e2.stable = e.stable := by
  rcases lookS_cases h with ⟨h1, _⟩ | ⟨e, e', h1, h2, h3⟩ <;> rw [hl] at h1 <;> cases h1
  exact ⟨e', h2, h3⟩

/-- `e` has the core of the entry of `c` in `w`: the operations pass on the entry they read at their start, which may
    be stale by the time a nested effect uses it, and read only its core -/
def Has (w : World) (c : ClassId) (e : Entry) : Prop := ∃ e0, alookup c w.classes = some e0 ∧ e0.core = e.core

theorem has_self {w : World} {c : ClassId} {e : Entry} (hl : alookup c w.classes = some e) : Has w c e :=
  ⟨e, hl, rfl⟩

theorem has_of_lookS {w w2 : World} {c : ClassId} {e : Entry} (h : lookS w2 c = lookS w c) (hh : Has w c e) :
    Has w2 c e := by
  obtain ⟨e0, hl, hcore⟩ := hh
  obtain ⟨e2, hl2, hst⟩ := entry_of_lookS h.symm hl
  exact ⟨e2, hl2, (stable_eq hst).1.symm.trans hcore⟩

theorem mapperOf_core {e e' : Entry} (h : e'.core = e.core) (b : Bool) : mapperOf e' b = mapperOf e b := by
  unfold mapperOf; rw [h]

theorem canonKeys_core {e e' : Entry} (h : e'.core = e.core) : canonKeys e' = canonKeys e := by
  unfold canonKeys mapperOf; rw [h]

theorem refsCreatable_core {cfg : Config} {e e' : Entry} (h : e'.core = e.core) :
    refsCreatable cfg e' = refsCreatable cfg e := by
  unfold refsCreatable; rw [h]

theorem fastAble_core {e e' : Entry} (h : e'.core = e.core) : fastAble e' = fastAble e := by
  unfold fastAble; rw [h]

theorem fastKeysNow_core {cfg : Config} {w : World} {c : ClassId} {e e' : Entry} (h : e'.core = e.core) :
    fastKeysNow cfg w c e' = fastKeysNow cfg w c e := by
  unfold fastKeysNow serMapper mkey
  rw [mapperOf_core h, h]

/-! ### a coherent cache is invisible -/

theorem cachesById_iff (cfg : Config) :
    cfg.cachesById = true ↔ cfg.mapperByName = false ∧ cfg.simplicityByName = false ∧ cfg.serializerOnBase = false
      ∧ cfg.mapperDropsCamel = false := by
  simp only [Config.cachesById, Bool.and_eq_true, Bool.not_eq_true']
  exact ⟨fun ⟨⟨⟨a, b⟩, c⟩, d⟩ => ⟨a, c, d, b⟩, fun ⟨a, c, d, b⟩ => ⟨⟨⟨a, b⟩, c⟩, d⟩⟩

theorem mkey_id {cfg : Config} (hc : cfg.cachesById = true) (c : ClassId) (e : Entry) (b : Bool) :
    mkey cfg c e b = CKey.id c b := by
  simp [mkey, ((cachesById_iff cfg).1 hc).1, ((cachesById_iff cfg).1 hc).2.2.2]

theorem skey_id {cfg : Config} (hc : cfg.cachesById = true) (c : ClassId) (e : Entry) :
    skey cfg c e = CKey.id c false := by
  simp [skey, ((cachesById_iff cfg).1 hc).2.1]

theorem installTarget_self {cfg : Config} (hc : cfg.cachesById = true) (c : ClassId) (e : Entry) :
    installTarget cfg c e = c := by
  simp [installTarget, ((cachesById_iff cfg).1 hc).2.2.1]

theorem serMapper_eq {cfg : Config} {W} {w : World} (hc : cfg.cachesById = true) (g : Good cfg W w)
    {c : ClassId} {e : Entry} (hh : Has w c e) (b : Bool) : serMapper cfg w c e b = mapperOf e b := by
  obtain ⟨e0, hl, hcore⟩ := hh
  unfold serMapper
  rw [mkey_id hc]
  cases hk : alookup (CKey.id c b) w.mapperCache with
  | none => rfl
  | some m =>
    obtain ⟨c', e', b', hl', hkey, hval⟩ := g.mapper _ (alookup_mem hk)
    cases hkey
    rw [hl] at hl'
    cases hl'
    exact hval.trans (mapperOf_core hcore b)

theorem fastKeysNow_eq {cfg : Config} {W} {w : World} (hc : cfg.cachesById = true) (g : Good cfg W w)
    {c : ClassId} {e : Entry} (hh : Has w c e) : fastKeysNow cfg w c e = canonKeys e := by
  simp only [fastKeysNow, serMapper_eq hc g hh false, canonKeys]

theorem trustedOf_eq {cfg : Config} {W} {w : World} (hc : cfg.cachesById = true) (g : Good cfg W w)
    {c : ClassId} {e : Entry} (hl : alookup c w.classes = some e) : trustedOf cfg w c e = e.core.simple := by
  unfold trustedOf
  rw [skey_id hc]
  cases hk : alookup (CKey.id c false) w.simplicityCache with
  | none => rfl
  | some m =>
    obtain ⟨c', e', hl', hkey, hval⟩ := g.simpl _ (alookup_mem hk)
    cases hkey
    rw [hl] at hl'
    cases hl'
    exact hval

/-! ### outside the region of the MRO finding `create_serializer` succeeds iff the class is statically fast-able -/

theorem verifyFields_snd (cfg : Config) (rec : World → ClassId → World) (fs : List FieldSpec) :
    ∀ (w : World),
      (!cfg.serializerViaMro || fs.all fun f => match f.kind with | .ref _ => f.fastOk | _ => true) = true →
      (verifyFields cfg rec w fs).2 = fs.all (·.fastOk) := by
  induction fs with
  | nil => exact fun _ _ => rfl
  | cons f fs ih =>
    intro w h
    rw [List.all_cons] at h
    replace ih := fun w => ih w (by
      simp only [Bool.or_eq_true, Bool.and_eq_true] at h ⊢
      exact h.imp_right And.right)
    rw [List.all_cons]
    by_cases hk : ∃ b, f.kind = .ref b
    · obtain ⟨b, hk⟩ := hk
      rw [verifyFields_ref hk]
      cases hf : f.fastOk with
      | true => simp [ih]
      | false =>
        -- the walk stops here, unless (MRO lookup) the referenced class resolves to a serializer already: that is
        -- the MRO finding, which the hypothesis rules out
        simp [hk, hf] at h
        simp [h]
    · rw [verifyFields_other fun b hb => hk ⟨b, hb⟩]
      cases hf : f.fastOk <;> simp [ih]

theorem createW_snd {cfg : Config} (n : Nat) {w : World} {c : ClassId} {e : Entry} (fl : SerFlags)
    (hl : alookup c w.classes = some e) (hr : refsCreatable cfg e = true) :
    (createW cfg (n + 1) w c fl).2 = fastAble e := by
  unfold fastAble
  rw [createW_succ, ← verifyFields_snd cfg (fun w b => (createW cfg n w b .plain).1) e.core.fields (fillMapper cfg w c e)
    hr]
  simp only [hl]
  generalize verifyFields cfg (fun w b => (createW cfg n w b .plain).1) (fillMapper cfg w c e) e.core.fields = v
  cases v.2 <;> rfl

theorem creatableNow_eq {cfg : Config} {w : World} {c : ClassId} {e : Entry}
    (hl : alookup c w.classes = some e) (hr : refsCreatable cfg e = true) :
    creatableNow cfg w c = fastAble e := createW_snd _ .plain hl hr

/-! ### what a class does, as a function of stable parts and the current flags alone -/

def canonKeysC (core : Core) : List String :=
  (fnames core.fields).map (mappedKey (core.fields.map fun f => (f.name, f.serKey)))

/-- the serializer instances of a class with stable part `s` are serialized with -/
def idealFastSer (s : Option (Core × List String × SerFlags)) : Option Ser :=
  s.bind fun x => if x.1.src.fast then some ⟨canonKeysC x.1, x.2.2⟩ else none

def idealBehaviour (flags : Flags) (core : Core) (required : List String) (eff : SerFlags)
    (refSers : List (String × Option Ser)) : Behaviour where
  fields := core.fields
  sigRequired := core.sigRequired
  required := required
  kwargs := core.kwargs
  extras := core.addPropsAttr.getD flags.addProps
  compact := flags.compact
  failFast := flags.failFast
  serMapper := core.fields.map fun f => (f.name, f.serKey)
  serMapperCamel := core.fields.map fun f => (f.name, f.camelKey)
  instantiable := !core.src.fast || core.fields.all (·.fastOk)
  fastSer := idealFastSer (some (core, required, eff))
  refSers := refSers
  trusted := core.simple
  schemaRequired := schemaRequiredOf (core.fields.map fun f => (f.name, f.serKey))
    (core.addPropsAttr.getD flags.addProps) core.fields required

theorem fastSerOf_eq {cfg : Config} {W} {w : World} (hc : cfg.cachesById = true) (g : Good cfg W w)
    {c : ClassId} {e : Entry} (hl : alookup c w.classes = some e) :
    fastSerOf cfg w c e = idealFastSer (some e.stable) := by
  -- `canonKeysC e.core` unfolds to `canonKeys e`
  show _ = if e.core.src.fast then some (Ser.mk (canonKeys e) e.effFlags) else none
  unfold fastSerOf Entry.effFlags
  rw [fastKeysNow_eq hc g (has_self hl)]
  cases hs : e.serializer with
  | none => rfl
  | some s => rw [← (g.ser c e hl s hs).1]; rfl

theorem fastSerAt_eq {cfg : Config} {W} {w : World} (hc : cfg.cachesById = true) (g : Good cfg W w)
    (b : ClassId) : fastSerAt cfg w b = idealFastSer (lookS w b) := by
  unfold fastSerAt lookS idealFastSer
  cases hl : alookup b w.classes with
  | none => rfl
  | some eb => exact fastSerOf_eq hc g hl

theorem behaviourOf_eq_ideal {cfg : Config} {W} {w : World} (hc : cfg.cachesById = true) (g : Good cfg W w)
    {c : ClassId} {e : Entry} (hl : alookup c w.classes = some e)
    (hwf : e.core.src.fast = true → refsCreatable cfg e = true) :
    behaviourOf cfg w c e = idealBehaviour w.flags e.core e.required e.effFlags
      ((refFields e.core.fields).map fun p => (p.1, idealFastSer (lookS w p.2))) := by
  have h4 : (!e.core.src.fast || e.serializer.isSome || creatableNow cfg w c)
      = (!e.core.src.fast || e.core.fields.all (·.fastOk)) := by
    cases hf : e.core.src.fast with
    | false => rfl
    | true =>
      have hr := hwf hf
      rw [creatableNow_eq hl hr]
      cases hs : e.serializer with
      | none => simp [fastAble]
      | some s =>
        -- an installed serializer exists only for a class whose serializer can be generated
        have := (g.ser c e hl s hs).2 hr
        unfold fastAble at this
        rw [this]
        simp
  unfold behaviourOf idealBehaviour
  simp only [serMapper_eq hc g (has_self hl), trustedOf_eq hc g hl, fastSerOf_eq hc g hl, h4, extrasOf, mapperOf,
    fastSerAt_eq hc g, Bool.false_eq_true, if_false, if_true, Entry.stable]

/-- the classes a class's behaviour reads besides itself: the ones its fields refer to -/
def refsOf (core : Core) : List ClassId := (refFields core.fields).map (·.2)

theorem view_eq_of_lookS {cfg : Config} {W} {w w' : World} (hc : cfg.cachesById = true)
    (g : Good cfg W w) (g' : Good cfg W w') (hf : w.flags = w'.flags) {c : ClassId}
    (hs : lookS w c = lookS w' c)
    (hwf : ∀ e, alookup c w.classes = some e → e.core.src.fast = true → refsCreatable cfg e = true)
    (hrefs : ∀ e, alookup c w.classes = some e → ∀ p ∈ refFields e.core.fields, lookS w p.2 = lookS w' p.2) :
    view cfg w c = view cfg w' c := by
  unfold view
  rcases lookS_cases hs with ⟨hl, hl'⟩ | ⟨e, e', hl, hl', hst⟩
  · rw [hl, hl']
    rfl
  · obtain ⟨hcore, hreq, hfl⟩ := stable_eq hst
    have hwf' : e'.core.src.fast = true → refsCreatable cfg e' = true := by
      intro h
      rw [refsCreatable_core hcore.symm]
      exact hwf e hl (by rw [hcore]; exact h)
    rw [hl, hl', Option.map_some, Option.map_some, behaviourOf_eq_ideal hc g hl (hwf e hl),
      behaviourOf_eq_ideal hc g' hl' hwf', hf, hcore, hreq, hfl]
    rw [List.map_congr_left fun p hp => by rw [hrefs e hl p (hcore ▸ hp)]]

/-! ### what a use writes

  A use of class `c` runs cache fills for `c` and (recursively, by fuel) for the classes `c` refers to, and generates
  the serializers of referenced classes that have none.  `Writes cfg S w w2`: `w2` comes from `w` by such writes, each
  for a class of `S`.  The walk through the nested effects is done once (`use_writes`), for any `S` that contains `c`
  and is closed under "is referred to by a field of"; coherence (`Writes.good`), the stable parts (`Writes.look`) and
  the state footprint (`Lemmas/WorldFootprint.lean`) are read off the three kinds of write.  The lemmas about the fuelled
  functions hold for every fuel: that the number of defined classes is enough fuel is neither needed nor proved. -/

/-- `S` is closed under "is referred to by a field of" -/
def SClosed (S : ClassId → Bool) (w : World) : Prop :=
  ∀ d e, S d = true → alookup d w.classes = some e → ∀ b ∈ fieldRefs e.core.fields, S b = true

inductive Writes (cfg : Config) (S : ClassId → Bool) : World → World → Prop
  | refl (w) : Writes cfg S w w
  | trans {w w2 w3} : Writes cfg S w w2 → Writes cfg S w2 w3 → Writes cfg S w w3
  | mapper {w c e} (b : Bool) : S c = true → Has w c e →
      Writes cfg S w { w with mapperCache := (mkey cfg c e b, mapperOf e b) :: w.mapperCache }
  | simpl {w c e} : S c = true → Has w c e →
      Writes cfg S w { w with simplicityCache := (skey cfg c e, e.core.simple) :: w.simplicityCache }
  /-- a generated serializer binds the keys mapped now and the flags the class serializes with already -/
  | ser {w c e} : S c = true → alookup c w.classes = some e → (refsCreatable cfg e = true → fastAble e = true) →
      Writes cfg S w
        (setEntry w c { e with serializer := some ⟨fastKeysNow cfg w c e, e.effFlags⟩, createdFast := true })

/-- the caches and the serializers of the other classes read only cores -/
theorem good_consEntry {cfg W} {w : World} (g : Good cfg W w) {c : ClassId} {e' : Entry}
    (hcore : ∀ e, alookup c w.classes = some e → e'.core = e.core)
    (hser : ∀ s, e'.serializer = some s → s.keys = canonKeys e' ∧ (refsCreatable cfg e' = true → fastAble e' = true)) :
    Good cfg W { w with classes := (c, e') :: w.classes } := by
  have hnew : ∀ {c0 e0}, alookup c0 w.classes = some e0 →
      ∃ e1, alookup c0 ((c, e') :: w.classes) = some e1 ∧ e1.core = e0.core := by
    intro c0 e0 hl0
    by_cases h : c = c0
    · subst h
      exact ⟨e', alookup_cons_eq _ _ _, hcore e0 hl0⟩
    · exact ⟨e0, (alookup_cons_ne _ _ h).trans hl0, rfl⟩
  refine ⟨g.reg, fun p hp => ?_, fun p hp => ?_, fun c0 e0 hl0 s hs => ?_⟩
  · obtain ⟨c0, e0, b0, hl0, hk, hv⟩ := g.mapper p hp
    obtain ⟨e1, hl1, hc1⟩ := hnew hl0
    exact ⟨c0, e1, b0, hl1, hk, hv.trans (mapperOf_core hc1 b0).symm⟩
  · obtain ⟨c0, e0, hl0, hk, hv⟩ := g.simpl p hp
    obtain ⟨e1, hl1, hc1⟩ := hnew hl0
    exact ⟨c0, e1, hl1, hk, by rw [hv, hc1]⟩
  · by_cases h : c = c0
    · subst h
      rw [show alookup c ((c, e') :: w.classes) = some e' from alookup_cons_eq _ _ _] at hl0
      cases hl0
      exact hser s hs
    · rw [show alookup c0 ((c, e') :: w.classes) = alookup c0 w.classes from alookup_cons_ne _ _ h] at hl0
      exact g.ser c0 e0 hl0 s hs

theorem lookS_setEntry_ne {w : World} {c d : ClassId} (e' : Entry) (h : c ≠ d) :
    lookS (setEntry w c e') d = lookS w d :=
  congrArg (Option.map Entry.stable) (alookup_cons_ne _ _ h)

theorem needsSer_own {cfg : Config} {w : World} {b : ClassId} (h : needsSer cfg w b = true) :
    ∀ e, alookup b w.classes = some e → e.serializer = none := by
  intro e hl
  unfold needsSer at h
  simp only [hl, Bool.and_eq_true] at h
  cases hs : e.serializer with
  | none => rfl
  | some s => simp [resolveSer, hs] at h

section Writes
variable {cfg : Config} {S : ClassId → Bool}

theorem Writes.look {w w2 : World} (h : Writes cfg S w w2) (d : ClassId) : lookS w2 d = lookS w d := by
  induction h with
  | refl | mapper | simpl => rfl
  | trans _ _ ih1 ih2 => exact ih2.trans ih1
  | @ser w c e _ hl =>
    by_cases hd : c = d
    · subst hd
      rw [lookS_of_alookup (alookup_cons_eq _ _ _), lookS_of_alookup hl]
      rfl
    · exact lookS_setEntry_ne _ hd

theorem Writes.flags {w w2 : World} (h : Writes cfg S w w2) : w2.flags = w.flags := by
  induction h with
  | trans _ _ ih1 ih2 => exact ih2.trans ih1
  | _ => rfl

theorem good_ser {W} (hc : cfg.cachesById = true) {w : World} (g : Good cfg W w) {c : ClassId} {e : Entry}
    (hl : alookup c w.classes = some e) (fl : SerFlags) (hfa : refsCreatable cfg e = true → fastAble e = true) :
    Good cfg W (setEntry w c { e with serializer := some ⟨fastKeysNow cfg w c e, fl⟩, createdFast := true }) := by
  refine good_consEntry g (fun e0 hl0 => ?_) fun s' hs' => ?_
  · rw [hl] at hl0
    cases hl0
    rfl
  · cases hs'
    -- the keys bound now are read through a coherent cache
    exact ⟨fastKeysNow_eq hc g (has_self hl), hfa⟩

theorem Writes.good {W} (hc : cfg.cachesById = true) {w w2 : World} (h : Writes cfg S w w2) :
    Good cfg W w → Good cfg W w2 := by
  induction h with
  | refl => exact id
  | trans _ _ ih1 ih2 => exact ih2 ∘ ih1
  | @mapper w c e b _ hh =>
    obtain ⟨e0, hl, hcore⟩ := hh
    refine fun g => ⟨g.reg, fun p hp => ?_, g.simpl, g.ser⟩
    rcases List.mem_cons.mp hp with rfl | hp
    · exact ⟨c, e0, b, hl, mkey_id hc c e b, (mapperOf_core hcore b).symm⟩
    · exact g.mapper p hp
  | @simpl w c e _ hh =>
    obtain ⟨e0, hl, hcore⟩ := hh
    refine fun g => ⟨g.reg, g.mapper, fun p hp => ?_, g.ser⟩
    rcases List.mem_cons.mp hp with rfl | hp
    · exact ⟨c, e0, hl, skey_id hc c e, by rw [hcore]⟩
    · exact g.simpl p hp
  | ser _ hl hfa => exact fun g => good_ser hc g hl _ hfa

theorem Writes.has {w w2 : World} {c : ClassId} {e : Entry} (h : Writes cfg S w w2) (hh : Has w c e) : Has w2 c e :=
  has_of_lookS (h.look c) hh

theorem SClosed.refs {w : World} {c : ClassId} {e : Entry} (hcl : SClosed S w) (hS : S c = true) (hh : Has w c e) :
    ∀ b ∈ fieldRefs e.core.fields, S b = true := by
  obtain ⟨e0, hl, hcore⟩ := hh
  exact fun b hb => hcl c e0 hS hl b (hcore ▸ hb)

theorem Writes.sclosed {w w2 : World} (h : Writes cfg S w w2) (hcl : SClosed S w) : SClosed S w2 :=
  fun _ _ hS hl => hcl.refs hS (has_of_lookS (h.look _).symm (has_self hl))

theorem writes_eachClass {rec : World → ClassId → World}
    (hrec : ∀ w b, SClosed S w → S b = true → Writes cfg S w (rec w b))
    (bs : List ClassId) (w : World) (hi : SClosed S w) (hA : ∀ b ∈ bs, S b = true) :
    Writes cfg S w (eachClass rec w bs) := by
  induction bs generalizing w with
  | nil => exact .refl w
  | cons b bs ih =>
    have r1 := hrec w b hi (hA b List.mem_cons_self)
    exact r1.trans (ih _ (r1.sclosed hi) fun x hx => hA x (List.mem_cons_of_mem _ hx))

/-- the write both mapper fills end with, after the fills for the referenced classes -/
theorem writes_mapperFill {rec : World → ClassId → World}
    (hrec : ∀ w b, SClosed S w → S b = true → Writes cfg S w (rec w b))
    {w : World} {c : ClassId} {e : Entry} (b : Bool) (hi : SClosed S w) (hA : S c = true) (hh : Has w c e) :
    Writes cfg S w { eachClass rec w (fieldRefs e.core.fields) with
          mapperCache := (mkey cfg c e b, mapperOf e b) :: (eachClass rec w (fieldRefs e.core.fields)).mapperCache } := by
  have r1 := writes_eachClass hrec _ w hi (hi.refs hA hh)
  exact r1.trans (.mapper b hA (r1.has hh))

theorem writes_fillMapperDeep (n : Nat) :
    ∀ (w : World) (c : ClassId) (b : Bool), SClosed S w → S c = true → Writes cfg S w (fillMapperDeep cfg n w c b) := by
  induction n with
  | zero => exact fun w _ _ _ _ => .refl w
  | succ n ih =>
    intro w c b hi hA
    rw [fillMapperDeep_succ]
    cases hl : alookup c w.classes with
    | none => exact .refl w
    | some e =>
      simp only
      cases alookup (mkey cfg c e b) w.mapperCache with
      | some _ => exact .refl w
      | none => exact writes_mapperFill (fun w b => ih w b false) b hi hA (has_self hl)

/-- `fillMapper` may be called with an entry read earlier: only its core is used -/
theorem writes_fillMapper {w : World} {c : ClassId} {e : Entry} (hi : SClosed S w) (hA : S c = true) (hh : Has w c e)
    (b : Bool := false) : Writes cfg S w (fillMapper cfg w c e b) := by
  unfold fillMapper
  cases alookup (mkey cfg c e b) w.mapperCache with
  | some _ => exact .refl w
  | none => exact writes_mapperFill (fun w b => writes_fillMapperDeep _ w b false) b hi hA hh

theorem writes_fillSimplicityDeep (n : Nat) :
    ∀ (w : World) (c : ClassId), SClosed S w → S c = true → Writes cfg S w (fillSimplicityDeep cfg n w c) := by
  induction n with
  | zero => exact fun w _ _ _ => .refl w
  | succ n ih =>
    intro w c hi hA
    rw [fillSimplicityDeep_succ]
    cases hl : alookup c w.classes with
    | none => exact .refl w
    | some e =>
      simp only
      cases alookup (skey cfg c e) w.simplicityCache with
      | some _ => exact .refl w
      | none =>
        -- the walk follows references among the fields it visits; these are fields of the class
        have r1 := writes_eachClass ih
          ((refFields (simplePrefix e.core.fields)).map (·.2)) w hi (fun x hx => by
            obtain ⟨p, hp, rfl⟩ := List.mem_map.mp hx
            obtain ⟨f, hf, hk⟩ := mem_refFields hp
            exact hi.refs hA (has_self hl) p.2
              (List.mem_flatMap.mpr ⟨f, simplePrefix_sub _ f hf, mem_kindRefs hk⟩))
        exact r1.trans (.simpl hA (r1.has (has_self hl)))

theorem writes_verifyFields {rec : World → ClassId → World}
    (hrec : ∀ w b, SClosed S w → S b = true → needsSer cfg w b = true → Writes cfg S w (rec w b))
    (fs : List FieldSpec) :
    ∀ (w : World), SClosed S w → (∀ b ∈ fieldRefs fs, S b = true) → Writes cfg S w (verifyFields cfg rec w fs).1 := by
  induction fs with
  | nil => exact fun w _ _ => .refl w
  | cons f fs ih =>
    intro w hi hA
    rw [fieldRefs_cons] at hA
    replace ih := fun w hi => ih w hi fun b hb => hA b (List.mem_append_right _ hb)
    by_cases hk : ∃ b, f.kind = .ref b
    · obtain ⟨b, hk⟩ := hk
      rw [verifyFields_ref hk]
      refine iteInduction (motive := fun v : World × Bool => Writes cfg S w v.1) (fun _ => ?_) fun _ => .refl w
      cases hn : needsSer cfg w b with
      | true =>
        have r1 := hrec w b hi (hA b (List.mem_append_left _ (mem_kindRefs hk))) hn
        exact r1.trans (ih _ (r1.sclosed hi))
      | false => exact ih w hi
    · rw [verifyFields_other fun b hb => hk ⟨b, hb⟩]
      exact iteInduction (motive := fun v : World × Bool => Writes cfg S w v.1) (fun _ => ih w hi) fun _ => .refl w

/-- `create_serializer(c, fl)` is a sequence of writes — the cache fills, the serializers (default flags) of
    referenced classes that have none — followed, when the field walk got through, by the write of `c`'s own -/
def CreateShape (cfg : Config) (S : ClassId → Bool) (w : World) (c : ClassId) (fl : SerFlags) (r : World × Bool) : Prop :=
  ∃ pre, Writes cfg S w pre ∧ (r = (pre, false) ∨
    ∃ e1, alookup c pre.classes = some e1 ∧ (refsCreatable cfg e1 = true → fastAble e1 = true) ∧
      r = (setEntry pre c { e1 with serializer := some ⟨fastKeysNow cfg pre c e1, fl⟩, createdFast := true }, true))

/-- … and the last one is a write of the same kind when `fl` are the flags the class has -/
theorem CreateShape.writes {w : World} {c : ClassId} {fl : SerFlags} {r : World × Bool} (hS : S c = true)
    (h : CreateShape cfg S w c fl r) (hfl : ∀ e, alookup c w.classes = some e → e.effFlags = fl) :
    Writes cfg S w r.1 := by
  obtain ⟨pre, hw, rfl | ⟨e1, hl1, hfa, rfl⟩⟩ := h
  · exact hw
  · obtain ⟨e, hl, hst⟩ := entry_of_lookS (hw.look c) hl1
    obtain rfl : e1.effFlags = fl := (stable_eq hst).2.2.trans (hfl e hl)
    exact hw.trans (.ser hS hl1 hfa)

theorem createW_shape (hc : cfg.cachesById = true) (n : Nat) :
    ∀ (w : World) (c : ClassId) (fl : SerFlags), SClosed S w → S c = true →
      CreateShape cfg S w c fl (createW cfg n w c fl) := by
  induction n with
  | zero => exact fun w _ _ _ _ => ⟨w, .refl w, .inl rfl⟩
  | succ n ih =>
    intro w c fl hcl hS
    rw [createW_succ]
    cases hl : alookup c w.classes with
    | none => exact ⟨w, .refl w, .inl rfl⟩
    | some e =>
      simp only
      have u1 : Writes cfg S w (fillMapper cfg w c e) := writes_fillMapper hcl hS (has_self hl)
      -- a referenced class that needs a serializer has none: generating it with the default flags configures nothing
      have u2 := u1.trans (writes_verifyFields (rec := fun w b => (createW cfg n w b .plain).1)
        (fun w b hcl hb hn => (ih w b .plain hcl hb).writes hb fun e hl => effFlags_of_none (needsSer_own hn e hl))
        e.core.fields _ (u1.sclosed hcl) (hcl c e hS hl))
      generalize hv : verifyFields cfg (fun w b => (createW cfg n w b .plain).1) (fillMapper cfg w c e) e.core.fields = v
        at u2
      refine ⟨v.1, u2, ?_⟩
      cases hok : v.2 with
      | false => exact .inl rfl
      | true =>
        obtain ⟨e1, hl1, hst⟩ := entry_of_lookS (u2.look c).symm hl
        have hcore := (stable_eq hst).1
        refine .inr ⟨e1, hl1, fun hr => ?_, ?_⟩
        · have h1 := verifyFields_snd cfg (fun w b => (createW cfg n w b .plain).1) e.core.fields (fillMapper cfg w c e)
            ((refsCreatable_core hcore).trans hr)
          rw [hv, hok] at h1
          exact (fastAble_core hcore).symm.trans h1.symm
        · simp only [if_true, installTarget_self hc, setSer, hl1, fastKeysNow_core hcore]

theorem use_writes (hc : cfg.cachesById = true) {w : World} (hi : SClosed S w) (op : WorldOp)
    (hop : match op with
      | .construct c _ | .serialize c _ _ | .deserialize c _ | .trustedDeserialize c _ | .toSchema c => S c = true
      | _ => False)
    (hq : quietStep cfg w op = true) : Writes cfg S w (stepW cfg w op).1 := by
  -- `FastSerializable.__init__` generates the serializer, with the default flags, of a class that has none
  have hcons : ∀ {w0 w c e} kw, Writes cfg S w0 w → SClosed S w → S c = true → alookup c w0.classes = some e →
      Writes cfg S w (constructW cfg w c e kw) := by
    intro w0 w c e kw r0 hi hA hl
    refine iteInduction (motive := Writes cfg S w)
      (fun _ => iteInduction (motive := Writes cfg S w) (fun h => ?_) fun _ => .refl w) fun _ => .refl w
    rw [Bool.and_eq_true, Option.isNone_iff_eq_none] at h
    refine (createW_shape hc _ w c .plain hi hA).writes hA fun e' hl' => ?_
    obtain ⟨e0, hl0, hst⟩ := entry_of_lookS (r0.look c) hl'
    rw [hl] at hl0
    cases hl0
    exact (stable_eq hst).2.2.trans (effFlags_of_none h.2)
  cases op with
  | define _ _ | setDefault _ _ | createSerializer _ _ => exact hop.elim
  | construct c kw | deserialize c kw =>
    exact withClass_fst (P := Writes cfg S w) (.refl w) fun e hl => hcons kw (.refl w) hi hop hl
  | trustedDeserialize c kw =>
    refine withClass_fst (P := Writes cfg S w) (.refl w) fun e hl => ?_
    have r1 : Writes cfg S w (fillSimplicity cfg w c e) := writes_fillSimplicityDeep _ w c hi hop
    exact r1.trans (hcons kw r1 (r1.sclosed hi) hop hl)
  | serialize c kw camel =>
    refine withClass_fst (P := Writes cfg S w) (.refl w) fun e hl => ?_
    have r1 := hcons kw (.refl w) hi hop hl
    exact iteInduction (motive := Writes cfg S w)
      (fun _ => r1.trans (writes_fillMapper (r1.sclosed hi) hop (r1.has (has_self hl)) camel)) fun _ => r1
  | toSchema c =>
    refine withClass_fst (P := Writes cfg S w) (.refl w) fun e hl => ?_
    rw [schemaW_fst_of_quiet hl hq]
    exact writes_fillMapper hi hop (has_self hl)

end Writes

theorem sclosed_univ (w : World) : SClosed (fun _ => true) w := fun _ _ _ _ _ _ => rfl

/-- what `create_serializer(c, fl)` leaves of a coherent world `w`; `ok`: it did not raise -/
structure Created (cfg : Config) (W : List (String × TypeId)) (w w2 : World) (c : ClassId) (fl : SerFlags)
    (ok : Bool) : Prop where
  good : Good cfg W w2
  flags : w2.flags = w.flags
  other : ∀ d, c ≠ d → lookS w2 d = lookS w d
  self : lookS w2 c = (lookS w c).map fun s => (s.1, s.2.1, if ok then fl else s.2.2)

theorem Created.same {cfg W} {w w2 : World} {c : ClassId} {fl : SerFlags} {ok : Bool}
    (h : Created cfg W w w2 c fl ok) (hfl : ∀ e, alookup c w.classes = some e → e.effFlags = fl) :
    lookS w2 c = lookS w c := by
  rw [h.self]
  unfold lookS
  cases hl : alookup c w.classes with
  | none => rfl
  | some e => simp only [Option.map_some, Entry.stable, hfl e hl, ite_self]

theorem created_core {cfg W} {w w2 : World} {c : ClassId} {fl : SerFlags} {ok : Bool}
    (h : Created cfg W w w2 c fl ok) (d : ClassId) (e2 : Entry) (hl : alookup d w2.classes = some e2) :
    Has w d e2 := by
  by_cases hd : c = d
  · subst hd
    have hs := h.self
    rw [lookS_of_alookup hl] at hs
    cases hl0 : alookup c w.classes with
    | none => rw [lookS, hl0] at hs; cases hs
    | some e =>
      rw [lookS_of_alookup hl0] at hs
      exact ⟨e, hl0, (congrArg Prod.fst (Option.some.inj hs)).symm⟩
  · exact has_of_lookS (h.other d hd).symm (has_self hl)

theorem createW_spec {cfg W} (hc : cfg.cachesById = true) (n : Nat) (w : World) (c : ClassId) (fl : SerFlags)
    (g : Good cfg W w) : Created cfg W w (createW cfg n w c fl).1 c fl (createW cfg n w c fl).2 := by
  obtain ⟨pre, hw, h | ⟨e1, hl1, hfa, h⟩⟩ := createW_shape (S := fun _ => true) hc n w c fl (sclosed_univ w) rfl
    <;> rw [h]
  · exact ⟨hw.good hc g, hw.flags, fun d _ => hw.look d, by rw [hw.look c]; cases lookS w c <;> rfl⟩
  · refine ⟨good_ser hc (hw.good hc g) hl1 _ hfa, hw.flags, fun d hd => (lookS_setEntry_ne _ hd).trans (hw.look d), ?_⟩
    rw [← hw.look c, lookS_of_alookup (alookup_cons_eq _ _ _), lookS_of_alookup hl1]
    rfl

/-- a use is a sequence of writes: it keeps coherence (`Writes.good`), every stable part (`Writes.look`) and the
    flags (`Writes.flags`) -/
theorem use_writes_univ {cfg : Config} {w : World} (hc : cfg.cachesById = true) (op : WorldOp)
    (hk : plainUse op = true) (hq : quietStep cfg w op = true) :
    Writes cfg (fun _ => true) w (stepW cfg w op).1 :=
  use_writes hc (sclosed_univ w) op (by cases op <;> first | rfl | cases hk) hq

theorem created_step {cfg W} {w : World} (hc : cfg.cachesById = true) (g : Good cfg W w) (c : ClassId)
    (fl : SerFlags) :
    Created cfg W w (stepW cfg w (.createSerializer c fl)).1 c fl (createW cfg (w.classes.length + 1) w c fl).2 := by
  -- for a class that is not defined `createW` itself leaves the world as it is
  have h : (stepW cfg w (.createSerializer c fl)).1 = (createW cfg (w.classes.length + 1) w c fl).1 := by
    simp only [stepW, withClass]
    cases hl : alookup c w.classes with
    | none => rw [createW_succ, hl]
    | some e => rfl
  rw [h]
  exact createW_spec hc _ w c fl g

/-! ### implicit wrappers resolve to the declared class (identity keys, or no name clash) -/

def RegInv (cfg : Config) (W : List (String × TypeId)) (reg : List (WKey × TypeId)) : Prop :=
  ∀ p ∈ reg, ∃ n, p.1 = wkey cfg n p.2 ∧ (n, p.2) ∈ W

theorem wkey_inj {cfg : Config} {W} (hW : cfg.wrapperByName = true → NoClashW W) {n n' : String} {t t' : TypeId}
    (hk : wkey cfg n t = wkey cfg n' t') (h1 : (n, t) ∈ W) (h2 : (n', t') ∈ W) : t' = t := by
  unfold wkey at hk
  cases hb : cfg.wrapperByName with
  | true =>
    simp only [hb, if_true, WKey.name.injEq] at hk
    subst hk
    exact (hW hb (n, t) h1 (n, t') h2 rfl).symm
  | false =>
    simp only [hb, Bool.false_eq_true, if_false, WKey.ty.injEq] at hk
    exact hk.2.symm

theorem resolveField_own {cfg : Config} {W} (hW : cfg.wrapperByName = true → NoClashW W)
    {reg : List (WKey × TypeId)} (hr : RegInv cfg W reg) (f : FieldSpec)
    (hf : ∀ n t, f.kind = .wrap n t → (n, t) ∈ W) :
    (resolveField cfg reg f).2 = f ∧ RegInv cfg W (resolveField cfg reg f).1 := by
  unfold resolveField
  cases hk : f.kind with
  | wrap n t =>
    have hin := hf n t hk
    cases hl : alookup (wkey cfg n t) reg with
    | none =>
      simp only [hl]
      refine ⟨trivial, fun p hp => ?_⟩
      rcases List.mem_cons.mp hp with rfl | hp
      · exact ⟨n, rfl, hin⟩
      · exact hr p hp
    | some t' =>
      -- a registry hit was registered for a class of `W` with the same key: it is the declared class
      obtain ⟨n', hkey, hin'⟩ := hr _ (alookup_mem hl)
      have ht : t' = t := wkey_inj hW hkey hin hin'
      subst ht
      simp only [hl]
      exact ⟨by rw [← hk], hr⟩
  | _ => exact ⟨rfl, hr⟩

theorem mem_wrapsOfFields {fs : List FieldSpec} {f : FieldSpec} {n : String} {t : TypeId} (hf : f ∈ fs)
    (hk : f.kind = .wrap n t) : (n, t) ∈ wrapsOfFields fs :=
  List.mem_filterMap.mpr ⟨f, hf, by rw [hk]⟩

theorem resolveFields_own {cfg : Config} {W} (hW : cfg.wrapperByName = true → NoClashW W) (fs : List FieldSpec)
    (reg : List (WKey × TypeId)) (hr : RegInv cfg W reg) (hsub : ∀ q ∈ wrapsOfFields fs, q ∈ W) :
    (resolveFields cfg reg fs).2 = fs ∧ RegInv cfg W (resolveFields cfg reg fs).1 := by
  replace hsub : ∀ f ∈ fs, ∀ n t, f.kind = .wrap n t → (n, t) ∈ W := fun f hf n t hk => hsub _ (mem_wrapsOfFields hf hk)
  induction fs generalizing reg with
  | nil => exact ⟨rfl, hr⟩
  | cons f fs ih =>
    have h1 := resolveField_own hW hr f (hsub f List.mem_cons_self)
    have h2 := ih _ h1.2 fun g hg => hsub g (List.mem_cons_of_mem _ hg)
    simp only [resolveFields]
    exact ⟨by rw [h1.1, h2.1], h2.2⟩

/-- the entry a class statement creates, if it creates one -/
def defEntry (cfg : Config) (w : World) (c : ClassId) (src : ClassSrc) : Option Entry :=
  match alookup c w.classes with
  | some _ => none
  | none =>
    if !refsDefined w.classes src.fields then none else
    match lookupParent w.classes src.parent with
    | none => none
    | some pe => if baseSigClash w.flags src pe then none else some (elabClass cfg w src pe)

theorem defineW_fst (cfg : Config) (w : World) (c : ClassId) (src : ClassSrc) :
    (defEntry cfg w c src = none ∧ ((defineW cfg w c src).1 = w ∨ (defineW cfg w c src).1 = bodyW cfg w src)) ∨
    ∃ e, defEntry cfg w c src = some e ∧
      (defineW cfg w c src).1 = { bodyW cfg w src with classes := (c, e) :: w.classes } := by
  unfold defineW defEntry
  cases alookup c w.classes with
  | some _ => exact .inl ⟨rfl, .inl rfl⟩
  | none =>
    dsimp only
    cases refsDefined w.classes src.fields with
    | false => exact .inl ⟨rfl, .inl rfl⟩
    | true =>
      cases lookupParent w.classes src.parent with
      | none => exact .inl ⟨rfl, .inl rfl⟩
      | some pe =>
        dsimp only
        cases baseSigClash w.flags src pe with
        | true => exact .inl ⟨rfl, .inr rfl⟩
        | false => exact .inr ⟨_, rfl, rfl⟩

theorem defEntry_some {cfg : Config} {w : World} {c : ClassId} {src : ClassSrc} {e : Entry}
    (h : defEntry cfg w c src = some e) :
    alookup c w.classes = none ∧ ∃ pe, lookupParent w.classes src.parent = some pe ∧ e = elabClass cfg w src pe := by
  revert h
  unfold defEntry
  cases hl : alookup c w.classes with
  | some _ => exact nofun
  | none =>
    cases refsDefined w.classes src.fields with
    | false => exact nofun
    | true =>
      cases hp : lookupParent w.classes src.parent with
      | none => exact nofun
      | some pe =>
        dsimp only
        cases baseSigClash w.flags src pe with
        | true => exact nofun
        | false => exact fun h => ⟨rfl, pe, rfl, (Option.some.inj h).symm⟩

theorem defEntry_fresh {cfg : Config} {w : World} {c : ClassId} {src : ClassSrc} {e : Entry}
    (h : defEntry cfg w c src = some e) : alookup c w.classes = none ∧ e.serializer = none := by
  obtain ⟨hl, pe, _, rfl⟩ := defEntry_some h
  exact ⟨hl, rfl⟩

theorem good_bodyW {cfg : Config} {W} (hW : cfg.wrapperByName = true → NoClashW W) {w : World}
    (g : Good cfg W w) (src : ClassSrc) (hsub : ∀ q ∈ wrapsOfFields src.fields, q ∈ W) :
    Good cfg W (bodyW cfg w src) :=
  ⟨(resolveFields_own hW src.fields w.wrappers g.reg hsub).2, g.mapper, g.simpl, g.ser⟩

theorem defineW_classes (cfg : Config) (w : World) (c : ClassId) (src : ClassSrc) :
    (defineW cfg w c src).1.classes = match defEntry cfg w c src with
      | none => w.classes
      | some e => (c, e) :: w.classes := by
  rcases defineW_fst cfg w c src with ⟨hd, h | h⟩ | ⟨e, hd, h⟩ <;> rw [hd, h] <;> rfl

theorem defineW_flags (cfg : Config) (w : World) (c : ClassId) (src : ClassSrc) :
    (defineW cfg w c src).1.flags = w.flags := by
  rcases defineW_fst cfg w c src with ⟨_, h | h⟩ | ⟨e, _, h⟩ <;> rw [h] <;> rfl

theorem alookup_define_other (cfg : Config) (w : World) (c : ClassId) (src : ClassSrc) {d : ClassId}
    (h : c ≠ d) : alookup d (defineW cfg w c src).1.classes = alookup d w.classes := by
  rw [defineW_classes]
  cases defEntry cfg w c src with
  | none => rfl
  | some e => exact alookup_cons_ne _ _ h

theorem alookup_define_self (cfg : Config) (w : World) (c : ClassId) (src : ClassSrc) :
    alookup c (defineW cfg w c src).1.classes = (defEntry cfg w c src <|> alookup c w.classes) := by
  rw [defineW_classes]
  cases defEntry cfg w c src with
  | none => rfl
  | some e => exact alookup_cons_eq _ _ _

theorem lookS_define_other (cfg : Config) (w : World) (c : ClassId) (src : ClassSrc) {d : ClassId}
    (h : c ≠ d) : lookS (defineW cfg w c src).1 d = lookS w d := by
  unfold lookS
  rw [alookup_define_other cfg w c src h]

theorem lookS_define_self (cfg : Config) (w : World) (c : ClassId) (src : ClassSrc) :
    lookS (defineW cfg w c src).1 c = ((defEntry cfg w c src).map Entry.stable <|> lookS w c) := by
  unfold lookS
  rw [alookup_define_self]
  cases defEntry cfg w c src <;> rfl

theorem good_define {cfg : Config} {W} (hW : cfg.wrapperByName = true → NoClashW W) {w : World}
    (g : Good cfg W w) (c : ClassId) (src : ClassSrc) (hsub : ∀ q ∈ wrapsOfFields src.fields, q ∈ W) :
    Good cfg W (defineW cfg w c src).1 := by
  rcases defineW_fst cfg w c src with ⟨_, h | h⟩ | ⟨e, hd, h⟩ <;> rw [h]
  · exact g
  · exact good_bodyW hW g src hsub
  · -- the identity was free, and a new class has no serializer
    obtain ⟨hfresh, hser⟩ := defEntry_fresh hd
    exact good_consEntry (good_bodyW hW g src hsub) (fun e0 hl0 => nomatch hfresh.symm.trans hl0)
      (fun s hs => nomatch hser.symm.trans hs)

/-! ### two coherent worlds that agree on the classes a definition reads elaborate it identically -/

def RefsIn (T : ClassId → Bool) (fs : List FieldSpec) : Prop := ∀ f ∈ fs, ∀ r ∈ kindRefs f.kind, T r = true

/-- what a definition reads of a class it refers to is part of that class's core -/
theorem resolveSimple_congr {w w' : World} {T : ClassId → Bool} (hst : ∀ d, T d = true → lookS w d = lookS w' d)
    (f : FieldSpec) (hf : ∀ r ∈ kindRefs f.kind, T r = true) :
    resolveSimple w.classes f = resolveSimple w'.classes f := by
  unfold resolveSimple fieldSimple fieldFast
  cases hk : f.kind with
  | ref r =>
    rcases lookS_cases (hst r (hf r (mem_kindRefs hk))) with ⟨h1, h2⟩ | ⟨e, e', h1, h2, h3⟩
    · simp only [h1, h2]
    · simp only [h1, h2, (stable_eq h3).1]
  | _ => rfl

theorem refsDefined_congr {w w' : World} {T : ClassId → Bool}
    (hst : ∀ d, T d = true → lookS w d = lookS w' d) (fs : List FieldSpec)
    (hrefs : RefsIn T fs) :
    refsDefined w.classes fs = refsDefined w'.classes fs := by
  unfold refsDefined
  refine all_congr_mem _ _ _ fun f hf => all_congr_mem _ _ _ fun r hr => ?_
  rcases lookS_cases (hst r (hrefs f hf r hr)) with ⟨h1, h2⟩ | ⟨e, e', h1, h2, _⟩ <;> rw [h1, h2] <;> rfl

theorem lookupParent_congr {w w' : World} {T : ClassId → Bool}
    (hst : ∀ d, T d = true → lookS w d = lookS w' d) (parent : Option Parent)
    (hp : ∀ p, parent = some p → T p.cid = true) :
    lookupParent w.classes parent = lookupParent w'.classes parent := by
  cases parent with
  | none => rfl
  | some p =>
    rcases lookS_cases (hst p.cid (hp p rfl)) with ⟨h1, h2⟩ | ⟨e, e', h1, h2, h3⟩
    · simp only [lookupParent, h1, h2]
    · simp only [lookupParent, h1, h2, (stable_eq h3).1, (stable_eq h3).2.1]

theorem deps_parent {src : ClassSrc} {T : ClassId → Bool} (h : src.deps.all T = true) :
    ∀ p, src.parent = some p → T p.cid = true := by
  intro p hp
  apply List.all_eq_true.mp h
  simp [ClassSrc.deps, hp]

theorem deps_refs {src : ClassSrc} {T : ClassId → Bool} (h : src.deps.all T = true) : RefsIn T src.fields :=
  fun f hf r hr => List.all_eq_true.mp h r (List.mem_append_right _ (List.mem_flatMap.mpr ⟨f, hf, hr⟩))

theorem elab_stable_congr {cfg : Config} {W} (hW : cfg.wrapperByName = true → NoClashW W) {w w' : World}
    (g : Good cfg W w) (g' : Good cfg W w') {T : ClassId → Bool}
    (hst : ∀ d, T d = true → lookS w d = lookS w' d) (hf : w.flags = w'.flags) (src : ClassSrc) (pe : Option PInfo)
    (hsub : ∀ q ∈ wrapsOfFields src.fields, q ∈ W) (hrefs : RefsIn T src.fields) :
    (elabClass cfg w src pe).stable = (elabClass cfg w' src pe).stable := by
  -- implicit wrappers resolve to the declared classes in both worlds; the rest is read from cores of classes of `T`
  simp only [elabClass, Entry.stable, Entry.effFlags, hf, (resolveFields_own hW src.fields w.wrappers g.reg hsub).1,
    (resolveFields_own hW src.fields w'.wrappers g'.reg hsub).1,
    List.map_congr_left fun f hf => resolveSimple_congr hst f (hrefs f hf)]

/-! ### the classes a class's fields refer to are among the classes its definition reads -/

theorem refsIn_append {T : ClassId → Bool} {a b : List FieldSpec} (ha : RefsIn T a) (hb : RefsIn T b) :
    RefsIn T (a ++ b) :=
  fun f hf => (List.mem_append.mp hf).elim (ha f) (hb f)

theorem refsIn_filter {T : ClassId → Bool} {a : List FieldSpec} (p : FieldSpec → Bool) (ha : RefsIn T a) :
    RefsIn T (a.filter p) := fun f hf => ha f (List.mem_filter.mp hf).1

theorem refsIn_map {T : ClassId → Bool} {a : List FieldSpec} (m : FieldSpec → FieldSpec)
    (hm : ∀ f, (m f).kind = f.kind) (ha : RefsIn T a) : RefsIn T (a.map m) := by
  intro f hf
  obtain ⟨g, hg, rfl⟩ := List.mem_map.mp hf
  rw [hm]
  exact ha g hg

theorem resolveField_kindRefs (cfg : Config) (reg : List (WKey × TypeId)) (f : FieldSpec) :
    kindRefs (resolveField cfg reg f).2.kind = kindRefs f.kind := by
  unfold resolveField
  cases hk : f.kind with
  | wrap n t =>
    simp only
    cases alookup (wkey cfg n t) reg with
    | none => rw [hk]
    | some t' => rfl
  | _ => rw [hk]

theorem refsIn_inheritInfo {T : ClassId → Bool} (pe : Option PInfo) (own : List FieldSpec) (ho : RefsIn T own)
    (hp : ∀ p pc pr, pe = some (p, pc, pr) → RefsIn T pc.fields) : RefsIn T (inheritInfo pe own).1 := by
  unfold inheritInfo
  cases pe with
  | none => exact ho
  | some x =>
    obtain ⟨p, pc, pr⟩ := x
    have hpc := hp p pc pr rfl
    have hun : ∀ {a}, RefsIn T a → RefsIn T (unmapped a) := refsIn_map _ fun _ => rfl
    match p with
    | .inherit c => exact refsIn_append (refsIn_filter _ hpc) ho
    | .omit c ns | .pick c ns => exact refsIn_append (hun (refsIn_filter _ hpc)) ho
    | .partialOf c => exact refsIn_append (hun hpc) ho
    | .allRequired c => exact refsIn_append (refsIn_map _ (fun _ => rfl) (hun hpc)) ho

theorem lookupParent_some {classes : List (ClassId × Entry)} {parent : Option Parent} {p : Parent} {pc : Core}
    {pr : List String} (h : lookupParent classes parent = some (some (p, pc, pr))) :
    ∃ e, alookup p.cid classes = some e ∧ e.core = pc ∧ parent = some p := by
  cases parent with
  | none => cases h
  | some q =>
    simp only [lookupParent] at h
    cases hl : alookup q.cid classes with
    | none => simp [hl] at h
    | some e =>
      simp only [hl, Option.some.injEq, Prod.mk.injEq] at h
      obtain ⟨rfl, rfl, _⟩ := h
      exact ⟨e, hl, rfl, rfl⟩

/-! ### the run of a history and the run of its slice agree on the stable parts of the classes of `T` -/

/-- `w` is the world of the full run, `w'` that of the run of the slice -/
structure Sim (cfg : Config) (T : ClassId → Bool) (W : List (String × TypeId)) (w w' : World) : Prop where
  flags : w.flags = w'.flags
  stab : ∀ d, T d = true → lookS w d = lookS w' d
  good : Good cfg W w
  good' : Good cfg W w'
  /-- of the core of a class of `T`: it is outside the region of the MRO finding (a FastSerializable class refers only
      to classes whose serializer can be generated), and `T` contains what its fields refer to -/
  cores : ∀ d e, T d = true → alookup d w.classes = some e →
    (e.core.src.fast = true → refsCreatable cfg e = true) ∧ RefsIn T e.core.fields

theorem sim_initial (cfg : Config) (T : ClassId → Bool) (W : List (String × TypeId)) :
    Sim cfg T W World.initial World.initial :=
  ⟨rfl, fun _ _ => rfl, good_initial cfg W, good_initial cfg W, fun _ _ _ h => nomatch h⟩

theorem defEntry_congr {cfg : Config} {W} (hW : cfg.wrapperByName = true → NoClashW W) {T : ClassId → Bool}
    {w w' : World} (s : Sim cfg T W w w') (c : ClassId) (src : ClassSrc) (hT : T c = true)
    (hd : src.deps.all T = true) (hsub : ∀ q ∈ wrapsOfFields src.fields, q ∈ W) :
    (defEntry cfg w c src).map Entry.stable = (defEntry cfg w' c src).map Entry.stable := by
  unfold defEntry
  rcases lookS_cases (s.stab c hT) with ⟨h1, h2⟩ | ⟨e, e', h1, h2, _⟩
  · simp only [h1, h2]
    rw [lookupParent_congr s.stab src.parent (deps_parent hd), s.flags,
        refsDefined_congr s.stab src.fields (deps_refs hd)]
    cases refsDefined w'.classes src.fields with
    | false => rfl
    | true =>
      cases lookupParent w'.classes src.parent with
      | none => rfl
      | some pe =>
        dsimp only
        cases baseSigClash w'.flags src pe with
        | true => rfl
        | false => exact congrArg some (elab_stable_congr hW s.good s.good' s.stab s.flags src _ hsub (deps_refs hd))
  · simp only [h1, h2, Option.map_none]

theorem defEntry_refsIn {cfg : Config} {W} (hW : cfg.wrapperByName = true → NoClashW W) {T : ClassId → Bool}
    {w : World} (g : Good cfg W w) {c : ClassId} {src : ClassSrc} {e : Entry}
    (h : defEntry cfg w c src = some e) (hd : src.deps.all T = true) (hsub : ∀ q ∈ wrapsOfFields src.fields, q ∈ W)
    (htcl : ∀ d e, T d = true → alookup d w.classes = some e → RefsIn T e.core.fields) :
    RefsIn T e.core.fields := by
  obtain ⟨_, pe, hp, rfl⟩ := defEntry_some h
  refine refsIn_inheritInfo pe _ ?_ ?_
  · -- the own fields are the declared ones: implicit wrappers resolve to the declared classes
    rw [(resolveFields_own hW src.fields w.wrappers g.reg hsub).1]
    exact refsIn_map _ (fun _ => rfl) (deps_refs hd)
  · rintro p pc pr rfl
    obtain ⟨ep, hlp, rfl, hpar⟩ := lookupParent_some hp
    exact htcl p.cid ep (deps_parent hd p hpar) hlp

theorem define_entry_cases {cfg : Config} {w : World} {c : ClassId} {src : ClassSrc} {d : ClassId} {e : Entry}
    (hl : alookup d (defineW cfg w c src).1.classes = some e) :
    (c = d ∧ defEntry cfg w c src = some e) ∨ alookup d w.classes = some e := by
  by_cases h : c = d
  · subst h
    rw [alookup_define_self] at hl
    cases h1 : defEntry cfg w c src with
    | none => rw [h1] at hl; exact .inr hl
    | some e1 => rw [h1] at hl; exact .inl ⟨rfl, hl⟩
  · rw [alookup_define_other _ _ _ _ h] at hl
    exact .inr hl

theorem sim_define_both {cfg : Config} {W} (hW : cfg.wrapperByName = true → NoClashW W) {T : ClassId → Bool}
    {w w' : World} (s : Sim cfg T W w w') (c : ClassId) (src : ClassSrc) (hT : T c = true)
    (hd : src.deps.all T = true) (hsub : ∀ q ∈ wrapsOfFields src.fields, q ∈ W)
    (hq : quietStep cfg w (.define c src) = true) :
    Sim cfg T W (defineW cfg w c src).1 (defineW cfg w' c src).1 := by
  refine ⟨?_, ?_, good_define hW s.good c src hsub, good_define hW s.good' c src hsub, fun d e hTd hl => ?_⟩
  · rw [defineW_flags, defineW_flags]; exact s.flags
  · intro d hTd
    by_cases h : c = d
    · subst h
      rw [lookS_define_self, lookS_define_self, defEntry_congr hW s c src hT hd hsub, s.stab c hT]
    · rw [lookS_define_other _ _ _ _ h, lookS_define_other _ _ _ _ h]
      exact s.stab d hTd
  · rcases define_entry_cases hl with ⟨rfl, h1⟩ | hl0
    · refine ⟨fun hf => ?_, defEntry_refsIn hW s.good h1 hd hsub fun d e hTd hl => (s.cores d e hTd hl).2⟩
      unfold quietStep at hq
      simp only [hl, hf, Bool.not_true, Bool.false_or] at hq
      exact hq
    · exact s.cores d e hTd hl0

theorem sim_transport {cfg : Config} {W} {T : ClassId → Bool} {w w' w2 w2' : World} (s : Sim cfg T W w w')
    (g2 : Good cfg W w2) (g2' : Good cfg W w2') (hfl : w2.flags = w2'.flags)
    (hcore : ∀ d e2, T d = true → alookup d w2.classes = some e2 → Has w d e2)
    (hst : ∀ d, T d = true → lookS w2 d = lookS w2' d) : Sim cfg T W w2 w2' := by
  refine ⟨hfl, hst, g2, g2', fun d e2 hTd hl => ?_⟩
  obtain ⟨e, hl0, hc⟩ := hcore d e2 hTd hl
  rw [← refsCreatable_core hc, ← hc]
  exact s.cores d e hTd hl0

/-- only the full run moves, and no class of `T` changes its stable part -/
theorem sim_left {cfg : Config} {W} {T : ClassId → Bool} {w w2 w' : World} (s : Sim cfg T W w w')
    (g2 : Good cfg W w2) (hfl : w2.flags = w.flags) (hsame : ∀ d, T d = true → lookS w2 d = lookS w d) :
    Sim cfg T W w2 w' :=
  sim_transport s g2 s.good' (hfl.trans s.flags) (fun d _ hTd hl => has_of_lookS (hsame d hTd).symm (has_self hl))
    fun d hTd => (hsame d hTd).trans (s.stab d hTd)

theorem good_setFlags {cfg : Config} {W} {w : World} (g : Good cfg W w) (fl : Flags) :
    Good cfg W { w with flags := fl } := ⟨g.reg, g.mapper, g.simpl, g.ser⟩

theorem wrapsOf_tail_sub {op : WorldOp} {h : List WorldOp} {W : List (String × TypeId)}
    (hs : ∀ q ∈ wrapsOf (op :: h), q ∈ W) : ∀ q ∈ wrapsOf h, q ∈ W := by
  cases op with
  | define c src => exact fun q hq => hs q (List.mem_append_right _ hq)
  | _ => exact hs

/-- the configuration invariant: a class of `T` that is not in `K` serializes with the default flags -/
def Unconfigured (T : ClassId → Bool) (K : List ClassId) (w : World) : Prop :=
  ∀ d e, T d = true → K.contains d = false → alookup d w.classes = some e → e.effFlags = SerFlags.plain

theorem unconfigured_of_lookS {T : ClassId → Bool} {K : List ClassId} {w w2 : World}
    (h : Unconfigured T K w) (hst : ∀ d, T d = true → K.contains d = false → lookS w2 d = lookS w d) :
    Unconfigured T K w2 := by
  intro d e2 hTd hK hl
  obtain ⟨e, hl0, hst⟩ := entry_of_lookS (hst d hTd hK) hl
  rw [(stable_eq hst).2.2]
  exact h d e hTd hK hl0

/-- main simulation: running a quiet history and running the definitions of a dependency-closed set of
    classes (plus the toggles of global defaults and the serializer configurations of these classes) agree on
    every class of the set -/
theorem sim_run {cfg : Config} (hc : cfg.cachesById = true) {W : List (String × TypeId)}
    (hW : cfg.wrapperByName = true → NoClashW W) (T : ClassId → Bool) (h : List WorldOp) :
    ∀ (K : List ClassId) (w w' : World), (∀ q ∈ wrapsOf h, q ∈ W) → closed T h = true →
      quietRun cfg w h = true → Sim cfg T W w w' → Unconfigured T K w →
      Sim cfg T W (runW cfg w h) (runW cfg w' (sliceK T K h)) := by
  induction h with
  | nil => exact fun _ _ _ _ _ _ s _ => s
  | cons op h ih =>
    intro K w w' hsub hcl hq s hK
    simp only [closed, List.all_cons, Bool.and_eq_true] at hcl
    rw [quietRun_cons, Bool.and_eq_true] at hq
    replace ih := fun K w w' => ih K w w' (wrapsOf_tail_sub hsub) hcl.2
    -- a use, the definition of a class outside `T` and a `create_serializer` that configures no class of `T` are dropped
    -- from the sub-history; they change no stable part of a class of `T`
    have left : ∀ w2, Good cfg W w2 → w2.flags = w.flags → (∀ d, T d = true → lookS w2 d = lookS w d) →
        quietRun cfg w2 h = true → Sim cfg T W (runW cfg w2 h) (runW cfg w' (sliceK T K h)) :=
      fun w2 g2 hfl hsame hq2 =>
        ih K w2 w' hq2 (sim_left s g2 hfl hsame) (unconfigured_of_lookS hK fun d hTd _ => hsame d hTd)
    by_cases hu : plainUse op = true
    · rw [sliceK_use T K h hu]
      have r := use_writes_univ hc op hu hq.1
      exact left _ (r.good hc s.good) r.flags (fun d _ => r.look d) hq.2
    cases op with
    | construct _ _ | deserialize _ _ | trustedDeserialize _ _ | serialize _ _ _ | toSchema _ => exact absurd rfl hu
    | define c src =>
      have hs1 : ∀ q ∈ wrapsOfFields src.fields, q ∈ W := fun q hq => hsub q (List.mem_append_left _ hq)
      rw [sliceK_define]
      cases hT : T c with
      | false =>
        exact left _ (good_define hW s.good c src hs1) (defineW_flags cfg w c src)
          (fun d hTd => lookS_define_other cfg w c src (ne_of_true_of_false hTd hT).symm) hq.2
      | true =>
        have hd : src.deps.all T = true := by simpa [closedOp, hT] using hcl.1
        refine ih K _ _ hq.2 (sim_define_both hW s c src hT hd hs1 hq.1) fun d e hTd hKd hl => ?_
        -- the new class, when one is created, has no serializer
        rcases define_entry_cases hl with ⟨rfl, h1⟩ | hl
        · exact effFlags_of_none (defEntry_fresh h1).2
        · exact hK d e hTd hKd hl
    | setDefault f b =>
      exact ih K _ _ hq.2
        ⟨by simp [stepW, s.flags], s.stab, good_setFlags s.good _, good_setFlags s.good' _, s.cores⟩ hK
    | createSerializer c fl =>
      have cl := created_step hc s.good c fl
      by_cases hkeep : (T c && (fl != SerFlags.plain || K.contains c)) = true
      · -- kept: both sides configure `c`
        rw [sliceK_createSerializer, if_pos hkeep]
        have hTc : T c = true := by simp only [Bool.and_eq_true] at hkeep; exact hkeep.1
        have cr := created_step hc s.good' c fl
        -- both sides get through or not together: outside the region of the MRO finding success is static
        have hok : (createW cfg (w.classes.length + 1) w c fl).2 = (createW cfg (w'.classes.length + 1) w' c fl).2 := by
          rcases lookS_cases (s.stab c hTc) with ⟨h1, h2⟩ | ⟨e, e', h1, h2, h3⟩
          · rw [createW_succ, createW_succ, h1, h2]
          · have hq1 := hq.1
            unfold quietStep at hq1
            simp only [h1] at hq1
            have hcore := (stable_eq h3).1
            rw [createW_snd _ fl h1 hq1, createW_snd _ fl h2 ((refsCreatable_core hcore.symm).trans hq1),
              fastAble_core hcore]
        refine ih (c :: K) _ _ hq.2 ?_ ?_
        · refine sim_transport s cl.good cr.good (cl.flags.trans (s.flags.trans cr.flags.symm))
            (fun d e2 _ hl => created_core cl d e2 hl) fun d hTd => ?_
          by_cases hcd : c = d
          · subst hcd
            rw [cl.self, cr.self, s.stab c hTd, hok]
          · rw [cl.other d hcd, cr.other d hcd]
            exact s.stab d hTd
        · refine unconfigured_of_lookS (K := c :: K) (w := w) ?_ ?_
          · intro d e hTd hKd hl
            exact hK d e hTd (by simp only [List.contains_cons, Bool.or_eq_false_iff] at hKd; exact hKd.2) hl
          · intro d hTd hKd
            exact cl.other d (by rintro rfl; simp at hKd)
      · -- dropped: only the full history runs it, on a class outside `T` or with the flags `c` serializes with already
        rw [sliceK_createSerializer, if_neg hkeep]
        refine left _ cl.good cl.flags (fun d hTd => ?_) hq.2
        by_cases hcd : c = d
        · subst hcd
          simp only [hTd, Bool.true_and, Bool.or_eq_true, bne_iff_ne, ne_eq, not_or, Decidable.not_not,
            Bool.not_eq_true] at hkeep
          exact cl.same fun e hl => (hK c e hTd hkeep.2 hl).trans hkeep.1.symm
        · exact cl.other d hcd

end Typedpy.World
