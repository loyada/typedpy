/-
  Lemmas/MappersNested.lean — C07, nested levels of the *serializer's* aggregate: the dict-of-dicts
  algorithm (`add` with `for_serialization=True`, incl. the "latest mapper already maps to this value"
  branch on nested entries) agrees at every depth with the pointwise specification over mapper lists
  (`AgreesFs`), hence `ser = specSer` at every level (`c07_ser_eq_spec`).  The lemmas about one round that
  do not depend on the direction (`c07_addVal_nest`, `c07_add_dict_self`) serve the deserializer's side too.
-/
import TypedpyModel.Lemmas.Mappers
namespace Typedpy.Mappers

theorem c07_keyOf_append (S : StrFns) (L : List Mapper) (m : Mapper) (f : String) :
    keyOf S (L ++ [m]) f = stepKey S m f (keyOf S L f) := by
  simp [keyOf, List.foldl_append]

theorem c07_thru_append (n : String) (A B : List Mapper) : thru n (A ++ B) = thru n A ++ thru n B := by
  simp [thru, List.filterMap_append]

theorem c07_nestedList_append (own : List Mapper) (n : String) (L : List Mapper) (m : Mapper) :
    nestedList own n (L ++ [m]) = nestedList own n L ++ thru n [m] := by
  show own ++ thru n (L ++ [m]) = own ++ thru n L ++ _
  rw [c07_thru_append, List.append_assoc]

theorem c07_addKey_ser (S : StrFns) (m : Mapper) (k : MKey) (v : MV) : addKey S true m k v = k := by
  unfold addKey
  split
  · simp [newNest]
  · rfl

theorem c07_subOf_dict (d : MDict) (mk f : String) :
    subOf (.dict d) mk f =
      if (lookupR (.nest mk) d).isSome then through mk (.dict d) else through f (.dict d) := by
  simp only [subOf, through]
  cases lookupR (MKey.nest mk) d with
  | none => rfl
  | some v => cases v <;> rfl

theorem c07_subOf_ser (m : Mapper) (n : String) : subOf m n n = through n m := by
  cases m with
  | dict d => rw [c07_subOf_dict]; split <;> rfl
  | _ => rfl

/-- `hs`: the sub-mapper the round finds for the entry keyed `cur` is what the list view lets through for the field
    `n`.  For the serializer `cur = n` and it always holds (`c07_subOf_ser`); for the deserializer, whose entries are
    re-keyed, it is the condition `subAgree` of the region. -/
theorem c07_addVal_nest (S : StrFns) (b : Bool) (m : Mapper) (cur n : String) (p : MDict)
    (hs : subOf m (newNest S b m cur) cur = through n m) :
    addVal S b m (.nest cur) (.sub p) =
      if hit m (.nest cur) (.sub p) then .sub p else .sub (foldAdd S b (thru n [m]) p) := by
  simp only [addVal, hs, subResult, thru, List.filterMap_cons, List.filterMap_nil]
  split
  · rfl
  · cases through n m <;> rfl

theorem c07_hit_nest {m : Mapper} {n : String} {p : MDict} (h : hit m (.nest n) (.sub p) = true) :
    ∃ x, thru n [m] = [.dict x] ∧ dSub p x = true := by
  cases m with
  | dict d =>
    simp only [hit] at h
    cases hl : lookupR (MKey.nest n) d with
    | none => rw [hl] at h; cases h
    | some w =>
      rw [hl] at h
      obtain ⟨x, rfl, hx⟩ := exists_of_mvEq_sub h
      exact ⟨x, by simp [thru, through, hl], hx⟩
  | _ => cases h

/-- what makes the 'latest mapper already maps to this value' branch harmless in both directions: a nested entry is
    kept when the round's dict holds an equal one (`hit`, hence `dSub`), and the round on it with that dict would have
    returned it unchanged (`c07_agrees_step_f`, `c07_reagg_f`) -/
theorem c07_add_dict_self (S : StrFns) (b : Bool) (p : MDict) :
    ∀ a : MDict, dSub a p = true → add S b (.dict p) a = a := by
  intro a h
  induction a with
  | nil => rfl
  | cons e r ih =>
    obtain ⟨k, v⟩ := e
    simp only [dSub_cons, Bool.and_eq_true_iff] at h
    have hhit : hit (.dict p) k v = true := h.1
    have hk : addKey S b (.dict p) k v = k := by
      unfold addKey
      split <;> simp [hhit]
    have hv : addVal S b (.dict p) k v = v := by
      cases v <;> simp [addVal, hhit]
    rw [add_cons, hk, hv, ih h.2]

theorem c07_agreesF_norm (S : StrFns) (d : MDict) (L : List Mapper) (f : Fld) :
    AgreesF S (norm d) L f ↔ AgreesF S d L f := by
  cases f <;> simp only [AgreesF, lookupR_norm]

theorem c07_agreesFs_of_forall (S : StrFns) (d : MDict) (L : List Mapper) :
    ∀ fs : List Fld, (∀ f ∈ fs, AgreesF S d L f) → AgreesFs S d L fs := by
  intro fs h
  induction fs with
  | nil => trivial
  | cons f fs ih =>
    exact ⟨h f (List.mem_cons_self ..), ih fun g hg => h g (List.mem_cons_of_mem _ hg)⟩

theorem c07_agreesF_of_mem (S : StrFns) (d : MDict) (L : List Mapper) (fs : List Fld) (ha : AgreesFs S d L fs) :
    ∀ f ∈ fs, AgreesF S d L f := by
  induction fs with
  | nil => exact fun _ h => nomatch h
  | cons g fs ih =>
    intro f h
    rcases List.mem_cons.mp h with h | h
    · exact h ▸ ha.1
    · exact ih ha.2 f h

theorem c07_agreesFs_mono (S : StrFns) {d d' : MDict} {L L' : List Mapper} (fs : List Fld)
    (hf : ∀ f ∈ fs, AgreesF S d L f → AgreesF S d' L' f) (h : AgreesFs S d L fs) : AgreesFs S d' L' fs :=
  c07_agreesFs_of_forall S d' L' fs fun f hm => hf f hm (c07_agreesF_of_mem S d L fs h f hm)

theorem c07_agreesF_fld (S : StrFns) (d : MDict) (L : List Mapper) (f : Fld) (h : AgreesF S d L f) :
    lookupR (.fld f.name) d = some (keyOf S L f.name) := by
  cases f with
  | nested n o sh ci fs => simp only [AgreesF] at h; exact h.1
  | _ => simp only [AgreesF] at h; exact h

/-- `hstep` is a hypothesis about the members of `fs` because `c07_agrees_step_f` calls this on the fields of a nested
    class, where the step is only its induction hypothesis -/
theorem c07_agrees_foldAdd (S : StrFns) (fs : List Fld)
    (hstep : ∀ g ∈ fs, ∀ (m : Mapper) (d : MDict) (L : List Mapper),
      AgreesF S d L g → AgreesF S (norm (add S true m d)) (L ++ [m]) g) (Ms : List Mapper) :
    ∀ (d : MDict) (L : List Mapper), AgreesFs S d L fs → AgreesFs S (foldAdd S true Ms d) (L ++ Ms) fs := by
  induction Ms with
  | nil => intro d L h; rwa [List.append_nil]
  | cons m Ms ih =>
    intro d L h
    rw [foldAdd_cons, List.append_cons]
    exact ih _ _ (c07_agreesFs_mono S fs (fun g hg => hstep g hg m d L) h)

theorem c07_agrees_step_f (S : StrFns) :
    ∀ (f : Fld) (m : Mapper) (d : MDict) (L : List Mapper),
      AgreesF S d L f → AgreesF S (norm (add S true m d)) (L ++ [m]) f := by
  intro f
  induction f using Fld.induction with
  | scalar n o | mapped n o ci fs _ =>
    intro m d L h
    simp only [AgreesF] at h ⊢
    rw [lookupR_norm, lookupR_add_fld, h, c07_keyOf_append]; rfl
  | nested n o sh ci fs ih =>
    intro m d L h
    simp only [AgreesF] at h ⊢
    obtain ⟨h1, p, hp, hrec⟩ := h
    refine ⟨by rw [lookupR_norm, lookupR_add_fld, h1, c07_keyOf_append]; rfl, ?_⟩
    rw [lookupR_norm, lookupR_add S true m _ fun k' v => by rw [c07_addKey_ser], hp, c07_nestedList_append]
    simp only [Option.map_some, c07_addVal_nest S true m n n p (c07_subOf_ser m n)]
    -- the nested level goes through the rounds of what `m` lets through
    have hfold := c07_agrees_foldAdd S fs ih (thru n [m]) p _ hrec
    split
    · -- unless the latest mapper's entry equals the current nested aggregate: kept as it is, and the round would
      -- have been the identity
      rename_i hh
      obtain ⟨x, hx, hpx⟩ := c07_hit_nest hh
      rw [hx] at hfold ⊢
      rw [foldAdd_cons, c07_add_dict_self S true x p hpx] at hfold
      exact ⟨p, rfl, c07_agreesFs_mono S fs (fun g _ => (c07_agreesF_norm S p _ g).mp) hfold⟩
    · exact ⟨_, rfl, hfold⟩

theorem c07_agrees_self_f (S : StrFns) :
    ∀ (f : Fld) (p x : MDict) (L : List Mapper), dSub p x = true →
      AgreesF S p L f → AgreesF S p (L ++ [.dict x]) f :=
  fun f p x L hx h =>
    (c07_agreesF_norm S p _ f).mp (c07_add_dict_self S true x p hx ▸ c07_agrees_step_f S f (.dict x) p L h)

theorem c07_base_agrees_f (S : StrFns) :
    ∀ (f : Fld) (full : List Fld), f ∈ full → nodupB (full.map Fld.name) = true →
      subOK f = true → AgreesF S (baseFields S true full) [] f := by
  intro f
  induction f using Fld.induction with
  | scalar n o | mapped n o ci fs _ =>
    intro full hm _ _
    have : full.any (fun fl => fl.name == n) = true := List.any_eq_true.mpr ⟨_, hm, by simp [Fld.name]⟩
    simp [AgreesF, lookupR_baseFields, keyOf, this]
  | nested n o sh ci fs ih =>
    intro full hm hn hw
    simp only [subOK, Bool.and_eq_true_iff] at hw
    have : full.any (fun fl => fl.name == n) = true := List.any_eq_true.mpr ⟨_, hm, by simp [Fld.name]⟩
    simp only [AgreesF, lookupR_baseFields, keyOf, List.foldl_nil, this, if_true, true_and]
    refine ⟨_, lookupR_nest_baseFields S true n o sh ci fs full ((nodupB_iff _).mp hn) hm, ?_⟩
    have := c07_agrees_foldAdd S fs (fun g _ => c07_agrees_step_f S g) ci.ser _ [] (c07_agreesFs_of_forall S _ _ fs fun g hg =>
      ih g hg fs hg hw.1 ((allB_iff rfl (fun _ _ => rfl) fs).1 hw.2 g hg))
    simpa [nestedList, CInfo.lst] using this

theorem c07_findFld_mem {fs : List Fld} {f : String} {fl : Fld} (h : findFld fs f = some fl) :
    fl ∈ fs ∧ fl.name = f := by
  unfold findFld at h
  have h1 := List.mem_of_find?_eq_some h
  have h2 := List.find?_some h
  exact ⟨h1, by simpa using h2⟩

theorem c07_ser_scalar (S : StrFns) (camel : Bool) (m : MDict) (v : J) (h : isScalarJ v = true) :
    ser S camel m v = v := by
  cases v <;> simp_all [ser, isScalarJ]

theorem c07_serKey_agrees (S : StrFns) (camel : Bool) {ms : MDict} {L : List Mapper} {n : String}
    (h : lookupR (.fld n) ms = some (keyOf S L n)) :
    serKey S camel ms n = (match keyOf S L n with | .key k => some k | _ => none) := by
  unfold serKey
  rw [h]
  cases keyOf S L n <;> rfl

mutual
theorem c07_ser_eq_spec (S : StrFns) (camel : Bool) :
    ∀ (x : J) (ms : MDict) (L : List Mapper) (fs : List Fld), AgreesFs S ms L fs → conf fs x = true →
      ser S camel ms x = specSer S L fs x
  | .null, _, _, _, _, h | .int _, _, _, _, _, h | .str _, _, _, _, _, h => nomatch h
  | .arr xs, ms, L, fs, ha, h => congrArg J.arr (c07_serList_eq_spec S camel xs ms L fs ha h)
  | .obj kvs, ms, L, fs, ha, h => congrArg J.obj (c07_serFields_eq_spec S camel kvs ms L fs ha h)
theorem c07_serFields_eq_spec (S : StrFns) (camel : Bool) :
    ∀ (kvs : List (String × J)) (ms : MDict) (L : List Mapper) (fs : List Fld), AgreesFs S ms L fs →
      confKvs fs kvs = true → serFields S camel ms kvs = specFields S L fs kvs
  | [], _, _, _, _, _ => rfl
  | (f, v) :: rest, ms, L, fs, ha, h => by
    simp only [confKvs, Bool.and_eq_true_iff] at h
    rw [serFields, specFields, c07_serFields_eq_spec S camel rest ms L fs ha h.2]
    cases hv : v.isNull
    · cases hf : findFld fs f with
      | none => rw [hf] at h; cases h.1
      | some fl =>
        obtain ⟨hmem, rfl⟩ := c07_findFld_mem hf
        have hag := c07_agreesF_of_mem S ms L fs ha fl hmem
        rw [hf] at h
        simp only [Bool.false_eq_true, if_false, c07_serKey_agrees S camel (c07_agreesF_fld S ms L fl hag)]
        cases keyOf S L fl.name with
        | key k =>
          cases fl with
          | mapped n o ci fs' => cases h.1
          | scalar n o => simp only [c07_ser_scalar S camel _ v h.1]
          | nested n o sh ci fs' =>
            obtain ⟨_, p, hp, hrec⟩ := hag
            have hsub : subSer ms n = p := by simp [subSer, hp]
            simp only [Fld.name, hsub, c07_ser_eq_spec S camel v p _ fs' hrec (by simpa [hv] using h.1)]
        | _ => rfl
    · rfl
theorem c07_serList_eq_spec (S : StrFns) (camel : Bool) :
    ∀ (xs : List J) (ms : MDict) (L : List Mapper) (fs : List Fld), AgreesFs S ms L fs →
      confList fs xs = true → serList S camel ms xs = specList S L fs xs
  | [], _, _, _, _, _ => rfl
  | x :: xs, ms, L, fs, ha, h => by
    simp only [confList, Bool.and_eq_true_iff] at h
    rw [serList, specList, c07_ser_eq_spec S camel x ms L fs ha h.1, c07_serList_eq_spec S camel xs ms L fs ha h.2]
end

mutual
/-- `conf` is false on a Map-valued field, the only place where `serC` departs from `ser` -/
theorem c07_serC_eq_ser (S : StrFns) (camel : Bool) :
    ∀ (x : J) (m : MDict) (fs : List Fld), conf fs x = true → serC S camel m fs x = ser S camel m x
  | .null, _, _, h | .int _, _, _, h | .str _, _, _, h => nomatch h
  | .arr xs, m, fs, h => congrArg J.arr (c07_serCList_eq S camel xs m fs h)
  | .obj kvs, m, fs, h => congrArg J.obj (c07_serCFields_eq S camel kvs m fs h)
theorem c07_serCFields_eq (S : StrFns) (camel : Bool) :
    ∀ (kvs : List (String × J)) (m : MDict) (fs : List Fld), confKvs fs kvs = true →
      serCFields S camel m fs kvs = serFields S camel m kvs
  | [], _, _, _ => rfl
  | (f, v) :: rest, m, fs, h => by
    simp only [confKvs, Bool.and_eq_true_iff] at h
    rw [serCFields, serFields, c07_serCFields_eq S camel rest m fs h.2]
    cases hv : v.isNull
    · cases serKey S camel m f with
      | none => rfl
      | some k =>
        cases hf : findFld fs f with
        | none => rw [hf] at h; cases h.1
        | some fl =>
          rw [hf] at h
          cases fl with
          | mapped n o ci fs' => cases h.1
          | scalar n o => simp only [Bool.false_eq_true, if_false, c07_ser_scalar S camel _ v h.1]
          | nested n o sh ci fs' =>
            simp only [Bool.false_eq_true, if_false, c07_serC_eq_ser S camel v _ fs' (by simpa [hv] using h.1)]
    · rfl
theorem c07_serCList_eq (S : StrFns) (camel : Bool) :
    ∀ (xs : List J) (m : MDict) (fs : List Fld), confList fs xs = true →
      serCList S camel m fs xs = serList S camel m xs
  | [], _, _, _ => rfl
  | x :: xs, m, fs, h => by
    simp only [confList, Bool.and_eq_true_iff] at h
    rw [serCList, serList, c07_serC_eq_ser S camel x m fs h.1, c07_serCList_eq S camel xs m fs h.2]
end

end Typedpy.Mappers
