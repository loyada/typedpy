/-
  Lemmas/SerdeBasic.lean — what every proof about `ser` / `deser` (Sem/Serde.lean, Sem/Deser.lean) starts from; the
  counterpart of Lemmas/Basic.lean and Lemmas/Shapes.lean for the mapper-free serializer and deserializer.

  * The equations of `deser`, one per constructor (`deser_<constructor>`), and those of `ser` and of the list companions
    that proofs rewrite with.
  * Every case of `deser` but `noneF` and `anything` starts with the guard `if v.isNone && ign then .ok v else …`;
    `noneGuard_eq` and `deser_nonNone` take it off for a document that is not null.
  * When a shape function of the serializer / deserializer succeeds, and with what (`dSeq_eq_ok_iff`, `mkSet_eq_ok_iff`,
    `sSeq_eq_ok_iff`), and the small facts about them that several lemma files need.
  * `deser_keeps_nonNone`: for every declaration, a document that is not null never deserializes to None.
-/
import TypedpyModel.Lemmas.Shapes
import TypedpyModel.Sem.Deser
namespace Typedpy
open PyVal (pyEq pyMem pyNodup)

/-! ### equations of `deser`, `ser` and their list companions

Each holds by `rfl`.  They are stated so that a proof rewrites with the one case it needs: `simp [ser]` and the like make
Lean derive the equation lemmas of the whole mutual definition first, in every module that asks for them. -/
section equations
variable (O : Oracles) (opts : DeserOpts) (ign : Bool) (v : PyVal)

theorem ser_seqOf (k f sz) : ser O (.seqOf k f sz) v = sSeq (mapE (ser O f)) v := rfl
theorem ser_struct (c fields defaults) : ser O (.struct c fields defaults) v =
    sInst c v (mapE (fun (a : String × PyVal) =>
      bindE (serField O fields a.1 a.2) fun j => .ok (PyVal.str a.1, j))) := rfl
theorem ser_anyOf (fs) : ser O (.anyOf fs) v = serFirst O fs v := rfl
theorem deser_number (o) : deser O opts ign (.number o) v =
    if v.isNone && ign then .ok v else dValidated (vNumber (noSign o) v) v := rfl
theorem deser_integer (o) : deser O opts ign (.integer o) v =
    if v.isNone && ign then .ok v else dValidated (vInteger (noSign o) v) v := rfl
theorem deser_float (o) : deser O opts ign (.float o) v =
    if v.isNone && ign then .ok v else dValidated (vFloat (noSign o) v) v := rfl
theorem deser_string (lo hi pat) : deser O opts ign (.string lo hi pat) v =
    if v.isNone && ign then .ok v else dValidated (vString O lo hi pat v) v := rfl
theorem deser_boolean : deser O opts ign .boolean v =
    if v.isNone && ign then .ok v else dValidated (vBoolean v) v := rfl
theorem deser_enumLit (vals) : deser O opts ign (.enumLit vals) v =
    if v.isNone && ign then .ok v else dValidated (vEnumLit vals v) v := rfl
theorem deser_enumCls (cls names) : deser O opts ign (.enumCls cls names) v =
    if v.isNone && ign then .ok v else dEnumCls cls names v := rfl
theorem deser_seqAny (k sz) : deser O opts ign (.seqAny k sz) v =
    if v.isNone && ign then .ok v else dSeq (fun ys => .ok (mkSeq k ys)) (fun xs => .ok xs) v := rfl
theorem deser_seqOf (k f sz) : deser O opts ign (.seqOf k f sz) v =
    if v.isNone && ign then .ok v
    else dSeq (fun ys => .ok (mkSeq k ys)) (fun xs => toValueErr (mapE (deser O opts false f) xs)) v := rfl
theorem deser_seqPos (k fs addl sz) : deser O opts ign (.seqPos k fs addl sz) v =
    if v.isNone && ign then .ok v
    else dSeq (fun ys => .ok (mkSeq k ys)) (fun xs => toValueErr (deserZip O opts fs xs)) v := rfl
theorem deser_setAny (imm sz) : deser O opts ign (.setAny imm sz) v =
    if v.isNone && ign then .ok v else dSeq mkSet (fun xs => .ok xs) v := rfl
theorem deser_setOf (imm f sz) : deser O opts ign (.setOf imm f sz) v =
    if v.isNone && ign then .ok v
    else dSeq mkSet (fun xs => toValueErr (mapE (deser O opts false f) xs)) v := rfl
theorem deser_tupleOf (f uniq) : deser O opts ign (.tupleOf f uniq) v =
    if v.isNone && ign then .ok v
    else dSeq (fun ys => .ok (.tuple ys)) (fun xs => toValueErr (mapE (deser O opts false f) xs)) v := rfl
theorem deser_tuplePos (fs uniq) : deser O opts ign (.tuplePos fs uniq) v =
    if v.isNone && ign then .ok v
    else dSeq (fun ys => .ok (.tuple ys)) (fun xs => toValueErr (deserZip O opts fs xs)) v := rfl
theorem deser_mapAny (sz) : deser O opts ign (.mapAny sz) v =
    if v.isNone && ign then .ok v else dMap (fun kvs => .ok kvs) v := rfl
theorem deser_mapOf (kf vf sz) : deser O opts ign (.mapOf kf vf sz) v =
    if v.isNone && ign then .ok v
    else dMap (mapE (fun (kv : PyVal × PyVal) =>
      bindE (deser O opts false vf kv.2) fun v' =>
      bindE (deser O opts false kf kv.1) fun k' => .ok (k', v'))) v := rfl
theorem deser_struct (c fields defaults) : deser O opts ign (.struct c fields defaults) v =
    if v.isNone && ign then .ok v
    else if c.inline then
      dInline v (!keepsExtras opts c) fun kw =>
        bindE (bindE (deserFields O opts c kw fields false)
          (fun args => .ok (deserExtras opts c (fields.map (·.1)) kw ++ args))) fun args =>
        bindE (vConstruct c (fields.map (·.1)) args (validateFields O c defaults args fields)) fun _ =>
          .ok (.dict (args.map fun a => (.str a.1, a.2)))
    else
      dClassRef v (!keepsExtras opts c)
        (fun kw => bindE (deserFields O opts c kw fields false) fun _ => .ok ()) fun kw =>
        bindE (bindE (deserFields O opts c kw fields false)
          (fun args => .ok (deserExtras opts c (fields.map (·.1)) kw ++ args))) fun args =>
        vConstruct c (fields.map (·.1)) args (validateFields O c defaults args fields) := rfl
theorem deser_anyOf (fs) : deser O opts ign (.anyOf fs) v =
    if v.isNone && ign then .ok v else deserAny O opts fs v := rfl
theorem deser_oneOf (fs) : deser O opts ign (.oneOf fs) v =
    if v.isNone && ign then .ok v else deserLast O opts fs v v 0 fs.length := rfl
theorem deser_allOf (fs) : deser O opts ign (.allOf fs) v =
    if v.isNone && ign then .ok v else deserAll O opts fs v v := rfl
theorem deser_notF (fs) : deser O opts ign (.notF fs) v =
    if v.isNone && ign then .ok v else deserNot O opts fs v v := rfl
theorem deser_noneF : deser O opts ign .noneF v = if v.isNone then .ok v else .error .valueErr := rfl
theorem deser_anything : deser O opts ign .anything v = .ok v := rfl

theorem serField_cons (n f rest k) :
    serField O ((n, f) :: rest) k v = if k == n then ser O f v else serField O rest k v := rfl

theorem deserAny_cons (f fs) :
    deserAny O opts (f :: fs) v
      = match deser O opts false f v with
        | .ok y => .ok y
        | .error _ => deserAny O opts fs v := rfl
theorem deserLast_nil (acc failures n) :
    deserLast O opts [] v acc failures n = if failures == n then .error .valueErr else .ok acc := rfl
theorem deserLast_cons (f fs acc failures n) :
    deserLast O opts (f :: fs) v acc failures n
      = match deser O opts false f v with
        | .ok y => deserLast O opts fs v y failures n
        | .error _ => deserLast O opts fs v acc (failures + 1) n := rfl
theorem deserAll_cons (f fs acc) :
    deserAll O opts (f :: fs) v acc
      = match deser O opts false f v with
        | .ok y => deserAll O opts fs v y
        | .error _ => .error .valueErr := rfl
theorem deserNot_cons (f fs acc) :
    deserNot O opts (f :: fs) v acc
      = match deser O opts false f v with
        | .ok y => deserNot O opts fs v y
        | .error _ => deserNot O opts fs v acc := rfl
theorem deserFields_cons (c : ClassOpts) (doc : List (String × PyVal))
    (name : String) (f : FieldDecl) (rest : List (String × FieldDecl)) (errs : Bool) :
    deserFields O opts c doc ((name, f) :: rest) errs =
      match lookup name doc with
      | none => deserFields O opts c doc rest errs
      | some v =>
        if v.isNone then deserFields O opts c doc rest errs else
        match deser O opts c.ignoreNone f v with
        | .ok y => bindE (deserFields O opts c doc rest errs) fun ys => .ok ((name, y) :: ys)
        | .error e => .error e := rfl

end equations

theorem noneGuard_eq {v : PyVal} {ign : Bool} {r : R PyVal} (h : v.isNone = false) :
    (if (v.isNone && ign) = true then .ok v else r) = r := by
  rw [h]; rfl

theorem noneGuard_false {v : PyVal} {r : R PyVal} : (if (v.isNone && false) = true then .ok v else r) = r := by
  rw [Bool.and_false]; rfl

theorem deser_nonNone (O : Oracles) (opts : DeserOpts) (ign : Bool) (f : FieldDecl) (v : PyVal)
    (h : v.isNone = false) : deser O opts ign f v = deser O opts false f v := by
  cases f <;> unfold deser
  case noneF | anything => rfl
  all_goals exact (noneGuard_eq h).trans (noneGuard_eq h).symm

theorem toValueErr_ok {α} (x : α) : toValueErr (.ok x : R α) = .ok x := rfl

theorem toValueErr_eq_ok_iff {α} {r : R α} {x : α} : toValueErr r = .ok x ↔ r = .ok x := by
  unfold toValueErr
  split <;> simp_all

theorem ErrIn.toValueErr {α : Type} {r : R α} (h : ErrIn OkErr r) : ErrIn OkErr (toValueErr r) := by
  cases r with
  | ok a => exact .ok a
  | error e => rcases h e rfl with rfl | rfl | rfl <;> exact .error .valueErr

theorem dValidated_eq_ok {chk : R PyVal} {v y : PyVal} :
    dValidated chk v = .ok y ↔ (∃ z, chk = .ok z) ∧ y = v := by
  cases chk <;> simp [dValidated, eq_comm]

theorem ErrIn.dValidated {P : ErrCls → Prop} {r : R PyVal} (h : ErrIn P r) (v : PyVal) : ErrIn P (dValidated r v) := by
  cases r with
  | ok _ => exact .ok v
  | error e => exact .error (h e rfl)

theorem noSign_numOk (o : NumOpts) (q : Q) (h : numOk o q = true) : numOk (noSign o) q = true := by
  unfold numOk at h ⊢
  simp only [Bool.and_eq_true_iff] at h
  simp only [noSign, signOk, Bool.and_true, Bool.and_eq_true_iff]
  exact ⟨⟨h.1.1.1, h.1.1.2⟩, h.1.2⟩

theorem numGuard_noSign {α} {o : NumOpts} {q : Q} {a y : α}
    (h : (if numOk o q = true then (.ok a : R α) else .error .valueErr) = .ok y) :
    (if numOk (noSign o) q = true then (.ok a : R α) else .error .valueErr) = .ok y := by
  cases hn : numOk o q
  · rw [hn] at h; cases h
  · rw [noSign_numOk o q hn]; rwa [hn] at h

/-- the deserializer's pre-check (the validator without the sign mixin) accepts whatever the validator accepts, with the
    same result -/
theorem vNumber_noSign {o : NumOpts} {v y : PyVal} (h : vNumber o v = .ok y) : vNumber (noSign o) v = .ok y := by
  unfold vNumber at h ⊢
  cases hq : v.asNum <;> rw [hq] at h <;> first | cases h | exact numGuard_noSign h

theorem vInteger_noSign {o : NumOpts} {v y : PyVal} (h : vInteger o v = .ok y) : vInteger (noSign o) v = .ok y := by
  unfold vInteger at h ⊢
  cases v <;> first | exact numGuard_noSign h | cases h

theorem vFloat_noSign {o : NumOpts} {v y : PyVal} (h : vFloat o v = .ok y) : vFloat (noSign o) v = .ok y := by
  unfold vFloat at h ⊢
  cases v <;> first | exact numGuard_noSign h | cases h

theorem sSeq_list (g : List PyVal → R (List PyVal)) (k : SeqKind) (xs : List PyVal) :
    sSeq g (mkSeq k xs) = bindE (g xs) fun ys => .ok (.list ys) := by
  cases k <;> rfl

theorem sSeq_mkSeq (k : SeqKind) (xs js : List PyVal) (g : List PyVal → R (List PyVal))
    (h : g xs = .ok js) : sSeq g (mkSeq k xs) = .ok (.list js) := by
  rw [sSeq_list, h, bindE_ok]

theorem sSeq_eq_ok_iff {g : List PyVal → R (List PyVal)} {v j : PyVal} :
    sSeq g v = .ok j ↔ (v = .none ∧ j = .none) ∨ ∃ xs ys, seqLike v = some xs ∧ g xs = .ok ys ∧ j = .list ys := by
  unfold sSeq
  split
  · exact ⟨fun h => .inl ⟨rfl, (Except.ok.inj h).symm⟩, fun h => h.elim (fun h => h.2 ▸ rfl) fun ⟨_, _, h, _⟩ => nomatch h⟩
  · next hne =>
    have hv : ¬ v = .none := fun h => hne (h ▸ rfl)
    cases hs : seqLike v with
    | none => exact ⟨fun h => (nomatch h), fun h => h.elim (fun h => absurd h.1 hv) fun ⟨_, _, h, _⟩ => nomatch h⟩
    | some xs =>
      simp only [bindE_eq_ok_iff, Except.ok.injEq, Option.some.injEq, hv, false_and, false_or]
      exact ⟨fun ⟨ys, hg, e⟩ => ⟨xs, ys, rfl, hg, e.symm⟩, fun ⟨_, ys, e, hg, ej⟩ => ⟨ys, e ▸ hg, ej.symm⟩⟩

theorem serField_eq_lookup (O : Oracles) (n : String) (v : PyVal) : ∀ fields : List (String × FieldDecl),
    serField O fields n v = (match lookup n fields with | some f => ser O f v | none => serAny v)
  | [] => rfl
  | (k, g) :: rest => by
    rw [serField_cons, lookup_cons, serField_eq_lookup O n v rest]
    cases n == k <;> rfl

theorem serField_lookup (O : Oracles) (k : String) (v : PyVal) (f : FieldDecl) (fields : List (String × FieldDecl))
    (h : lookup k fields = some f) : serField O fields k v = ser O f v := by
  rw [serField_eq_lookup, h]

theorem dSeq_eq_ok_iff {mk : List PyVal → R PyVal} {g : List PyVal → R (List PyVal)} {v u : PyVal} :
    dSeq mk g v = .ok u ↔ ∃ xs ys, docSeq v = some xs ∧ g xs = .ok ys ∧ mk ys = .ok u := by
  unfold dSeq
  cases docSeq v with
  | none => exact ⟨fun h => (nomatch h), fun ⟨_, _, h, _⟩ => nomatch h⟩
  | some xs =>
    simp only [bindE_eq_ok_iff, Option.some.injEq]
    exact ⟨fun ⟨ys, hg, hm⟩ => ⟨xs, ys, rfl, hg, hm⟩, fun ⟨_, ys, e, hg, hm⟩ => ⟨ys, e ▸ hg, hm⟩⟩

theorem mkSet_eq_ok_iff {ys : List PyVal} {u : PyVal} :
    mkSet ys = .ok u ↔ ys.any unhashable = false ∧ u = .set false (dedup ys) := by
  unfold mkSet
  cases ys.any unhashable <;> simp [eq_comm]

theorem dSeq_ok_nonNone {mk : List PyVal → R PyVal} {g : List PyVal → R (List PyVal)} {v y : PyVal}
    (hmk : ∀ ys, mk ys = .ok y → y.isNone = false) (h : dSeq mk g v = .ok y) : y.isNone = false :=
  let ⟨_, ys, _, _, hm⟩ := dSeq_eq_ok_iff.1 h; hmk ys hm

theorem mkSet_ok_nonNone {ys : List PyVal} {y : PyVal} (h : mkSet ys = .ok y) : y.isNone = false :=
  (mkSet_eq_ok_iff.1 h).2 ▸ rfl

theorem dInline_ok (v : PyVal) (drop : Bool) (k : List (String × PyVal) → R PyVal) (x : PyVal)
    (h : dInline v drop k = .ok x) : ∃ kw, k kw = .ok x := by
  unfold dInline at h
  repeat' split at h
  all_goals first | (cases h; exact ⟨_, ‹_ = Except.ok _›⟩) | cases h

theorem dMap_ok_nonNone {g : List (PyVal × PyVal) → R (List (PyVal × PyVal))} {v y : PyVal}
    (h : dMap g v = .ok y) : y.isNone = false := by
  unfold dMap at h
  split at h
  · rcases bindE_eq_ok h with ⟨r, _, h2⟩
    split at h2 <;> cases h2
    rfl
  · cases h

section
variable (O : Oracles) (opts : DeserOpts)

/-! What the loops over the options of a multi-field wrapper have in common: the result is an option's result, or the
accumulator. -/

theorem deserAny_ok_of {P : PyVal → Prop} : ∀ (fs : List FieldDecl) (v w : PyVal),
    (∀ f ∈ fs, ∀ w, deser O opts false f v = .ok w → P w) → deserAny O opts fs v = .ok w → P w
  | [], _, _, _, h => nomatch h
  | f :: fs, v, w, ih, h => by
    rw [deserAny_cons] at h
    cases hd : deser O opts false f v with
    | ok y => rw [hd] at h; cases h; exact ih f List.mem_cons_self w hd
    | error e => rw [hd] at h; exact deserAny_ok_of fs v w (fun g hg => ih g (List.mem_cons_of_mem _ hg)) h

theorem deserLast_ok_of {P : PyVal → Prop} : ∀ (fs : List FieldDecl) (v acc w : PyVal) (k n : Nat),
    (∀ f ∈ fs, ∀ w, deser O opts false f v = .ok w → P w) → P acc →
    deserLast O opts fs v acc k n = .ok w → P w
  | [], _, acc, w, k, n, _, ha, h => by
    rw [deserLast_nil] at h
    split at h <;> cases h
    exact ha
  | f :: fs, v, acc, w, k, n, ih, ha, h => by
    rw [deserLast_cons] at h
    have ih' := fun g hg => ih g (List.mem_cons_of_mem _ hg)
    cases hd : deser O opts false f v with
    | ok y => rw [hd] at h; exact deserLast_ok_of fs v y w k n ih' (ih f List.mem_cons_self y hd) h
    | error e => rw [hd] at h; exact deserLast_ok_of fs v acc w (k + 1) n ih' ha h

theorem deserAll_ok_of {P : PyVal → Prop} : ∀ (fs : List FieldDecl) (v acc w : PyVal),
    (∀ f ∈ fs, ∀ w, deser O opts false f v = .ok w → P w) → P acc →
    deserAll O opts fs v acc = .ok w → P w
  | [], _, acc, w, _, ha, h => by cases h; exact ha
  | f :: fs, v, acc, w, ih, ha, h => by
    rw [deserAll_cons] at h
    cases hd : deser O opts false f v with
    | ok y =>
      rw [hd] at h
      exact deserAll_ok_of fs v y w (fun g hg => ih g (List.mem_cons_of_mem _ hg)) (ih f List.mem_cons_self y hd) h
    | error e => rw [hd] at h; cases h

theorem deserNot_ok_of {P : PyVal → Prop} : ∀ (fs : List FieldDecl) (v acc w : PyVal),
    (∀ f ∈ fs, ∀ w, deser O opts false f v = .ok w → P w) → P acc →
    deserNot O opts fs v acc = .ok w → P w
  | [], _, acc, w, _, ha, h => by cases h; exact ha
  | f :: fs, v, acc, w, ih, ha, h => by
    rw [deserNot_cons] at h
    have ih' := fun g hg => ih g (List.mem_cons_of_mem _ hg)
    cases hd : deser O opts false f v with
    | ok y => rw [hd] at h; exact deserNot_ok_of fs v y w ih' (ih f List.mem_cons_self y hd) h
    | error e => rw [hd] at h; exact deserNot_ok_of fs v acc w ih' ha h

/-- `deserialize_single_field` returns None only for a null document: for every declaration, whatever the document and
    the flags. -/
theorem deser_keeps_nonNone (f : FieldDecl) : ∀ (ign : Bool) (v w : PyVal), v.isNone = false →
    deser O opts ign f v = .ok w → w.isNone = false := by
  -- a scalar's pre-check hands the document on as it is
  have scalar : ∀ {chk : R PyVal} {v w : PyVal}, v.isNone = false → dValidated chk v = .ok w → w.isNone = false :=
    fun hn h => (dValidated_eq_ok.1 h).2 ▸ hn
  induction f using FieldDecl.induction with
  | number o => intro ign v w hn h; rw [deser_number, noneGuard_eq hn] at h; exact scalar hn h
  | integer o => intro ign v w hn h; rw [deser_integer, noneGuard_eq hn] at h; exact scalar hn h
  | float o => intro ign v w hn h; rw [deser_float, noneGuard_eq hn] at h; exact scalar hn h
  | string lo hi pat => intro ign v w hn h; rw [deser_string, noneGuard_eq hn] at h; exact scalar hn h
  | boolean => intro ign v w hn h; rw [deser_boolean, noneGuard_eq hn] at h; exact scalar hn h
  | enumLit vals => intro ign v w hn h; rw [deser_enumLit, noneGuard_eq hn] at h; exact scalar hn h
  | enumCls cls names =>
    intro ign v w hn h
    rw [deser_enumCls, noneGuard_eq hn] at h
    unfold dEnumCls at h
    split at h
    · split at h <;> cases h
      rfl
    · exact scalar hn h
  | seqAny k sz =>
    intro ign v w hn h; rw [deser_seqAny, noneGuard_eq hn] at h
    exact dSeq_ok_nonNone (fun ys h2 => by cases h2; exact mkSeq_nonNone k ys) h
  | seqOf k f sz =>
    intro ign v w hn h; rw [deser_seqOf, noneGuard_eq hn] at h
    exact dSeq_ok_nonNone (fun ys h2 => by cases h2; exact mkSeq_nonNone k ys) h
  | seqPos k fs addl sz =>
    intro ign v w hn h; rw [deser_seqPos, noneGuard_eq hn] at h
    exact dSeq_ok_nonNone (fun ys h2 => by cases h2; exact mkSeq_nonNone k ys) h
  | setAny imm sz =>
    intro ign v w hn h; rw [deser_setAny, noneGuard_eq hn] at h
    exact dSeq_ok_nonNone (fun _ => mkSet_ok_nonNone) h
  | setOf imm f sz =>
    intro ign v w hn h; rw [deser_setOf, noneGuard_eq hn] at h
    exact dSeq_ok_nonNone (fun _ => mkSet_ok_nonNone) h
  | tupleOf f uniq =>
    intro ign v w hn h; rw [deser_tupleOf, noneGuard_eq hn] at h
    exact dSeq_ok_nonNone (fun ys h2 => by cases h2; rfl) h
  | tuplePos fs uniq =>
    intro ign v w hn h; rw [deser_tuplePos, noneGuard_eq hn] at h
    exact dSeq_ok_nonNone (fun ys h2 => by cases h2; rfl) h
  | mapAny sz => intro ign v w hn h; rw [deser_mapAny, noneGuard_eq hn] at h; exact dMap_ok_nonNone h
  | mapOf kf vf sz => intro ign v w hn h; rw [deser_mapOf, noneGuard_eq hn] at h; exact dMap_ok_nonNone h
  | struct c fields defaults =>
    intro ign v w hn h
    rw [deser_struct, noneGuard_eq hn] at h
    split at h
    · -- inline: the validated keyword arguments as a dict
      obtain ⟨kw, hk⟩ := dInline_ok _ _ _ w h
      obtain ⟨_, _, h2⟩ := bindE_eq_ok hk
      obtain ⟨_, _, h3⟩ := bindE_eq_ok h2
      cases h3; rfl
    · -- a class reference: the instance that was given, or the one the constructor returns
      have hcon : ∀ args, vConstruct c (fields.map (·.1)) args (validateFields O c defaults args fields) = .ok w →
          w.isNone = false := fun args h2 => let ⟨_, _, _, hu⟩ := vConstruct_eq_ok_iff.1 h2; hu ▸ rfl
      unfold dClassRef at h
      split at h
      · cases h; rfl
      · split at h
        · split at h
          · rcases bindE_eq_ok h with ⟨args, _, h2⟩; exact hcon args h2
          · rcases bindE_eq_ok h with ⟨_, _, h2⟩; cases h2
        · rcases bindE_eq_ok h with ⟨args, _, h2⟩; exact hcon args h2
      · cases h
  | anyOf fs ih =>
    intro ign v w hn h; rw [deser_anyOf, noneGuard_eq hn] at h
    exact deserAny_ok_of O opts fs v w (fun f hf w hw => ih f hf false v w hn hw) h
  | oneOf fs ih =>
    intro ign v w hn h; rw [deser_oneOf, noneGuard_eq hn] at h
    exact deserLast_ok_of O opts fs v v w 0 _ (fun f hf w hw => ih f hf false v w hn hw) hn h
  | allOf fs ih =>
    intro ign v w hn h; rw [deser_allOf, noneGuard_eq hn] at h
    exact deserAll_ok_of O opts fs v v w (fun f hf w hw => ih f hf false v w hn hw) hn h
  | notF fs ih =>
    intro ign v w hn h; rw [deser_notF, noneGuard_eq hn] at h
    exact deserNot_ok_of O opts fs v v w (fun f hf w hw => ih f hf false v w hn hw) hn h
  | noneF =>
    intro ign v w hn h
    rw [deser_noneF, hn] at h
    cases h
  | anything => intro ign v w hn h; cases h; exact hn

end

end Typedpy
