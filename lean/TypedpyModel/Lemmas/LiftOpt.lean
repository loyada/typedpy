/-
  Lemmas/LiftOpt.lean — `Optional[X]` in the exact fragment (`exactOpt`: NoneField and a declaration `X` that
  refuses None, in either order): a null is None on both sides, any other document goes through `X`.  With it: a
  non-null document is never read as None, by the deserializer through any declaration (`deser_keeps_nonNone`,
  Lemmas/SerdeBasic.lean), by the lifting through any declaration of the exact fragment (`lift_some_nonNone`); used at
  class level, where the constructor takes a None argument for "no argument" (`argFor`).
-/
import TypedpyModel.Lemmas.Optional
import TypedpyModel.Lemmas.LiftScalars
namespace Typedpy

theorem vConstruct_ok_inst (c : ClassOpts) (names : List String) (kw : List (String × PyVal))
    (g : R (List (String × PyVal))) (y : PyVal) (h : vConstruct c names kw g = .ok y) :
    ∃ attrs, y = .inst c.name attrs :=
  let ⟨_, _, _, hy⟩ := vConstruct_eq_ok_iff.1 h; ⟨_, hy⟩

theorem deser_ok_nonNone_plain (O : Oracles) (opts : DeserOpts) (f : FieldDecl) (v y : PyVal)
    (hex : exactDecl f = true) (hp : ∀ fs, f ≠ .anyOf fs) (hn : v.isNone = false)
    (h : deser O opts false f v = .ok y) : y.isNone = false :=
  deser_keeps_nonNone O opts f false v y hn h

theorem lift_some_nonNone_plain (O : Oracles) (opts : DeserOpts) (f : FieldDecl) (v w : PyVal)
    (hex : exactDecl f = true) (hp : ∀ fs, f ≠ .anyOf fs) (hn : v.isNone = false)
    (h : lift O opts f v = some w) : w.isNone = false := by
  have seq : ∀ {F : List PyVal → Option PyVal}, (∀ js w, F js = some w → w.isNone = false) →
      (listDoc v).bind F = some w → w.isNone = false := fun hF h => by
    obtain ⟨js, _, h2⟩ := Option.bind_eq_some_iff.mp h
    exact hF js w h2
  cases f <;> first | (cases hex; done) | skip
  case anyOf fs => exact absurd rfl (hp fs)
  all_goals unfold lift at h
  case number | integer | float | string | boolean | enumLit | enumCls | noneF => cases h; exact hn
  case seqOf k g sz | seqPos k gs addl sz =>
    exact seq (fun js w h2 => by
      obtain ⟨ws, _, h3⟩ := Option.map_eq_some_iff.mp h2; subst h3; exact mkSeq_nonNone k ws) h
  case tupleOf | tuplePos =>
    exact seq (fun js w h2 => by obtain ⟨ws, _, h3⟩ := Option.map_eq_some_iff.mp h2; subst h3; rfl) h
  case setOf =>
    refine seq (fun js w h2 => ?_) h
    obtain ⟨ws, _, h3⟩ := Option.bind_eq_some_iff.mp h2
    split at h3 <;> cases h3
    rfl
  case mapOf kf vf sz =>
    cases v with
    | dict kvs =>
      simp only at h
      rcases Option.bind_eq_some_iff.mp h with ⟨r, _, h2⟩
      split at h2 <;> cases h2
      rfl
    | _ => simp at h
  case struct c fields defaults =>
    cases v with
    | inst n a => cases h; rfl
    | dict kvs =>
      simp only at h
      obtain ⟨doc, _, h1⟩ := Option.bind_eq_some_iff.mp h
      obtain ⟨args, _, h2⟩ := Option.bind_eq_some_iff.mp h1
      split at h2
      · rename_i x hx
        obtain ⟨attrs, rfl⟩ := vConstruct_ok_inst _ _ _ _ x hx
        split at h2 <;> cases h2 <;> rfl
      · cases h2
    | _ => cases h

theorem exactOpt_cases (fs : List FieldDecl) (h : exactOpt fs = true) :
    ∃ f g, fs = [f, g] ∧ ((isNoneDecl f = true ∧ plainDecl g = true ∧ exactDecl g = true)
                        ∨ (isNoneDecl g = true ∧ plainDecl f = true ∧ exactDecl f = true)) := by
  match fs, h with
  | [f, g], h =>
    simp only [exactOpt, Bool.or_eq_true, Bool.and_eq_true] at h
    refine ⟨f, g, rfl, ?_⟩
    rcases h with h | h
    · exact Or.inl ⟨h.1.1, h.1.2, h.2⟩
    · exact Or.inr ⟨h.1.1, h.1.2, h.2⟩

theorem isNoneDecl_eq (f : FieldDecl) (h : isNoneDecl f = true) : f = .noneF := by
  cases f <;> first | (cases h; done) | rfl

theorem plain_not_anyOf (f : FieldDecl) (h : plainDecl f = true) : ∀ fs, f ≠ .anyOf fs := by
  intro fs hf; subst hf; simp [plainDecl] at h

theorem plain_validate_none (O : Oracles) (f : FieldDecl) (hex : exactDecl f = true) (hp : plainDecl f = true) :
    ∃ e, validate O f .none = .error e := by
  -- outside the fragment, or refused by computation; what is left needs a word
  cases f <;> first | (cases hex; done) | (cases hp; done) | exact ⟨_, rfl⟩ | skip
  case enumLit vals =>
    have : PyVal.pyMem .none vals = false := by simpa [plainDecl] using hp
    simp [validate_enumLit, vEnumLit, this]
  case seqOf k g sz | seqPos k gs addl sz => cases k <;> exact ⟨_, rfl⟩
  case struct c fields defaults => cases hc : c.inline <;> simp [validate_struct, hc, vInline, vClassRef]

theorem plain_deser_none (O : Oracles) (opts : DeserOpts) (f : FieldDecl) (hex : exactDecl f = true)
    (hp : plainDecl f = true) : ∃ e, deser O opts false f .none = .error e := by
  cases f <;> first | (cases hex; done) | (cases hp; done) | exact ⟨_, rfl⟩ | skip
  case enumLit vals =>
    have : PyVal.pyMem .none vals = false := by simpa [plainDecl] using hp
    simp [deser_enumLit, dValidated, vEnumLit, this]
  case struct c fields defaults => cases hc : c.inline <;> simp [deser_struct, hc, dInline, dClassRef]

theorem plain_not_noneDecl (f : FieldDecl) (h : plainDecl f = true) : isNoneDecl f = false := by
  cases f <;> first | (cases h; done) | rfl

/-- the shape as the statements of this file give it, for a declaration that refuses None -/
theorem OptOf.of_shape {fs : List FieldDecl} {g : FieldDecl} (hshape : fs = [.noneF, g] ∨ fs = [g, .noneF])
    (hp : plainDecl g = true) : OptOf fs g := by
  rcases hshape with rfl | rfl
  · exact .snd g fun e => by subst e; cases hp
  · exact .fst g

theorem OptOf.lift {fs : List FieldDecl} {g : FieldDecl} (h : OptOf fs g) (O : Oracles) (opts : DeserOpts)
    (hp : plainDecl g = true) {d : PyVal} (hn : d.isNone = false) :
    lift O opts (.anyOf fs) d = lift O opts g d := by
  have hna : isNoneDecl g = false := plain_not_noneDecl g hp
  have h1 : isNoneDecl FieldDecl.noneF = true := rfl
  cases h with
  | snd =>
    show liftOpt O opts [.noneF, g] d = _
    simp only [liftOpt, h1, hp, Bool.and_self, if_true, hn, Bool.false_eq_true, if_false]
  | fst =>
    show liftOpt O opts [g, .noneF] d = _
    simp only [liftOpt, hna, Bool.false_and, Bool.false_eq_true, if_false, h1, hp, Bool.and_self, if_true, hn]

theorem deser_ok_nonNone (O : Oracles) (opts : DeserOpts) (f : FieldDecl) (v y : PyVal)
    (hex : exactDecl f = true) (hn : v.isNone = false) (h : deser O opts false f v = .ok y) :
    y.isNone = false :=
  deser_keeps_nonNone O opts f false v y hn h

theorem lift_some_nonNone (O : Oracles) (opts : DeserOpts) (f : FieldDecl) (v w : PyVal)
    (hex : exactDecl f = true) (hn : v.isNone = false) (h : lift O opts f v = some w) :
    w.isNone = false := by
  by_cases hany : ∃ fs, f = .anyOf fs
  · rcases hany with ⟨fs, rfl⟩
    unfold exactDecl at hex
    obtain ⟨g, hO, hp, hexg⟩ := exactOpt_optOf fs hex
    rw [hO.lift O opts hp hn] at h
    exact lift_some_nonNone_plain O opts g v w hexg (plain_not_anyOf g hp) hn h
  · exact lift_some_nonNone_plain O opts f v w hex (fun fs hf => hany ⟨fs, hf⟩) hn h

theorem opt_okEq_nonNone (O : Oracles) (opts : DeserOpts) (fs : List FieldDecl) (g : FieldDecl) (d : PyVal)
    (hshape : fs = [.noneF, g] ∨ fs = [g, .noneF]) (hp : plainDecl g = true) (hex : exactDecl g = true)
    (hn : d.isNone = false)
    (hg : OkEq (deserThen O opts g d) (liftThen O opts g d)) :
    OkEq (deserThen O opts (.anyOf fs) d) (liftThen O opts (.anyOf fs) d) := by
  have hO := OptOf.of_shape hshape hp
  -- an option's error is re-raised as ValueError: the success part is the option's
  have hV : ∀ y, y.isNone = false → okOf (validate O (.anyOf fs) y) = okOf (validate O g y) := fun y hy => by
    rw [validate_anyOf, hO.validateAny_eq O hy]; cases validate O g y <;> rfl
  have hD : okOf (deser O opts false (.anyOf fs) d) = okOf (deser O opts false g d) := by
    simp only [deser_anyOf, Bool.and_false, Bool.false_eq_true, if_false]
    rw [hO.deserAny_eq O opts hn]; cases deser O opts false g d <;> rfl
  rw [okEq_iff, okOf_deserThen, okOf_liftThen, hD, hO.lift O opts hp hn]
  exact (Option.bind_congr fun y hy => hV y (deser_keeps_nonNone O opts g false d y hn (okOf_eq_some.mp hy))).trans
    ((okEq_then hg).trans (Option.bind_congr fun w hw =>
      (hV w (lift_some_nonNone_plain O opts g d w hex (plain_not_anyOf g hp) hn hw)).symm))

theorem opt_okEq_none (O : Oracles) (opts : DeserOpts) (fs : List FieldDecl) (g : FieldDecl)
    (hshape : fs = [.noneF, g] ∨ fs = [g, .noneF]) (hp : plainDecl g = true) (hex : exactDecl g = true) :
    OkEq (deserThen O opts (.anyOf fs) .none) (liftThen O opts (.anyOf fs) .none) := by
  have hna : isNoneDecl g = false := plain_not_noneDecl g hp
  rcases plain_validate_none O g hex hp with ⟨e1, he1⟩
  rcases plain_deser_none O opts g hex hp with ⟨e2, he2⟩
  have h1 : isNoneDecl FieldDecl.noneF = true := rfl
  apply OkEq.of_eq
  rcases hshape with rfl | rfl
  · unfold liftThen lift
    simp [deserThen, deser_anyOf, deser_noneF, liftOpt, deserAny, validate_anyOf, validate_noneF, validateAny,
      vNone, h1, hp, PyVal.isNone, bindE]
  · unfold liftThen lift
    simp [deserThen, deser_anyOf, deser_noneF, liftOpt, deserAny, validate_anyOf, validate_noneF, validateAny,
      vNone, h1, hp, hna, PyVal.isNone, bindE, he1, he2]

end Typedpy
