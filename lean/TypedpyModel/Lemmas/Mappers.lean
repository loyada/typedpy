/-
  Lemmas/Mappers.lean — the ground floor of C07: induction over class trees, the last-wins
  lookup through one aggregation round and through the rebuilt dict (field entries evolve pointwise, alike
  for both directions), the key list of a serialized object, what the deserializer reads for one field
  of a serialized level (`procInput_ser`), and each shape function of the deserializer on what the serializer
  wrote for a value of the declared shape (`dScalar_ser`, `dNested_ser`, `dObjK_ser`).
-/
import TypedpyModel.Spec.Mappers
import TypedpyModel.Lemmas.ListBasic
namespace Typedpy.Mappers

theorem Fld.induction {P : Fld → Prop} (scalar : ∀ n o, P (.scalar n o))
    (nested : ∀ n o sh ci fs, (∀ g ∈ fs, P g) → P (.nested n o sh ci fs))
    (mapped : ∀ n o ci fs, (∀ g ∈ fs, P g) → P (.mapped n o ci fs)) : ∀ f, P f :=
  Fld.rec (motive_2 := fun fs => ∀ g ∈ fs, P g) scalar nested mapped (fun _ h => nomatch h)
    fun _ _ hf hfs _ hg => (List.mem_cons.mp hg).elim (· ▸ hf) (hfs _)

theorem mvEq_key (a : String) (w : MV) : mvEq (.key a) w = (match w with | .key b => a == b | _ => false) := rfl
theorem dSub_cons (k : MKey) (v : MV) (r b : MDict) :
    dSub ((k, v) :: r) b = ((match lookupR k b with | some w => mvEq v w | none => false) && dSub r b) := rfl
theorem add_cons (S : StrFns) (forSer : Bool) (m : Mapper) (k : MKey) (v : MV) (r : MDict) :
    add S forSer m ((k, v) :: r) = (addKey S forSer m k v, addVal S forSer m k v) :: add S forSer m r := rfl
theorem baseFields_cons (S : StrFns) (forSer : Bool) (f : Fld) (rest : List Fld) :
    baseFields S forSer (f :: rest) = baseFld S forSer f ++ baseFields S forSer rest := rfl
theorem foldAdd_cons (S : StrFns) (forSer : Bool) (m : Mapper) (ms : List Mapper) (d : MDict) :
    foldAdd S forSer (m :: ms) d = foldAdd S forSer ms (norm (add S forSer m d)) := rfl

theorem lookupR_nil {α β} [DecidableEq α] (k : α) : lookupR k ([] : List (α × β)) = none := rfl

theorem lookupR_cons {α β} [DecidableEq α] (k k' : α) (v : β) (r : List (α × β)) :
    lookupR k ((k', v) :: r) =
      match lookupR k r with
      | some x => some x
      | none => if k' = k then some v else none := rfl

theorem lookupR_append {α β} [DecidableEq α] (k : α) (a b : List (α × β)) :
    lookupR k (a ++ b) = match lookupR k b with | some x => some x | none => lookupR k a := by
  induction a with
  | nil => rw [List.nil_append, lookupR_nil]; cases lookupR k b <;> rfl
  | cons p a ih =>
    obtain ⟨k', v⟩ := p
    simp only [List.cons_append, lookupR_cons, ih]
    cases lookupR k b <;> rfl

theorem lookupR_none_of_not_mem {α β} [DecidableEq α] (k : α) (l : List (α × β)) (h : k ∉ l.map (·.1)) :
    lookupR k l = none := by
  induction l with
  | nil => rfl
  | cons p r ih =>
    simp only [List.map_cons, List.mem_cons, not_or] at h
    rw [lookupR_cons, ih h.2]
    exact if_neg (fun e => h.1 e.symm)

theorem mem_of_lookupR {α β} [DecidableEq α] (k : α) (v : β) (l : List (α × β)) (h : lookupR k l = some v) :
    (k, v) ∈ l := by
  induction l with
  | nil => cases h
  | cons p r ih =>
    rw [lookupR_cons] at h
    cases hr : lookupR k r with
    | some x =>
      rw [hr] at h
      exact List.mem_cons_of_mem _ (ih (hr.trans h))
    | none =>
      rw [hr] at h
      by_cases hk : p.1 = k
      · rw [if_pos hk] at h; cases h; subst hk; exact List.mem_cons_self ..
      · rw [if_neg hk] at h; cases h

theorem lookupR_of_mem {α β} [DecidableEq α] (k : α) (v : β) (l : List (α × β))
    (hn : (l.map (·.1)).Nodup) (h : (k, v) ∈ l) : lookupR k l = some v := by
  induction l with
  | nil => cases h
  | cons p r ih =>
    simp only [List.map_cons, List.nodup_cons] at hn
    rw [lookupR_cons]
    rcases List.mem_cons.mp h with h | h
    · subst h
      rw [lookupR_none_of_not_mem k r hn.1]
      exact if_pos rfl
    · rw [ih hn.2 h]

theorem nodupB_iff : ∀ l : List String, nodupB l = true ↔ l.Nodup
  | [] => ⟨fun _ => .nil, fun _ => rfl⟩
  | _ :: r => nodupBool_cons (nodupB_iff r)

theorem dSub_iff (a b : MDict) :
    dSub a b = true ↔ ∀ k v, (k, v) ∈ a → ∃ w, lookupR k b = some w ∧ mvEq v w = true := by
  induction a with
  | nil => exact ⟨fun _ _ _ h => (nomatch h), fun _ => rfl⟩
  | cons p r ih =>
    obtain ⟨k', v'⟩ := p
    rw [dSub_cons, Bool.and_eq_true_iff, ih]
    constructor
    · rintro ⟨h1, h2⟩ k v h
      rcases List.mem_cons.mp h with h | h
      · cases h
        cases hl : lookupR k' b with
        | none => rw [hl] at h1; cases h1
        | some w => rw [hl] at h1; exact ⟨w, rfl, h1⟩
      · exact h2 k v h
    · intro h
      obtain ⟨w, hw, he⟩ := h k' v' (List.mem_cons_self ..)
      exact ⟨by rw [hw]; exact he, fun k v hm => h k v (List.mem_cons_of_mem _ hm)⟩

theorem exists_of_mvEq_sub {p : MDict} {w : MV} (h : mvEq (.sub p) w = true) :
    ∃ x, w = .sub x ∧ dSub p x = true := by
  cases w with
  | sub x => exact ⟨x, rfl, (Bool.and_eq_true_iff.mp h).2⟩
  | _ => cases h

theorem eq_of_mvEq_key {s : String} {w : MV} (h : mvEq (.key s) w = true) : w = .key s := by
  cases w with
  | key t => exact congrArg MV.key (beq_iff_eq.mp h).symm
  | _ => cases h

theorem eq_of_mvEq_dns {w : MV} (h : mvEq .dns w = true) : w = .dns := by
  cases w with
  | dns => rfl
  | _ => cases h

theorem hit_fld_key (m : Mapper) (f s : String) : hit m (.fld f) (.key s) = mapsTo m f s := by
  cases m with
  | dict d =>
    simp only [hit, mapsTo]
    cases lookupR (MKey.fld f) d with
    | none => rfl
    | some w => simp only [mvEq_key]; cases w <;> rfl
  | _ => rfl

theorem addVal_fld (S : StrFns) (b : Bool) (m : Mapper) (f : String) (v : MV) :
    addVal S b m (.fld f) v = stepKey S m f v := by
  cases v with
  | key s => simp only [addVal, stepKey, hit_fld_key]
  | dns => rfl
  | sub p => simp only [addVal, stepKey]; split <;> rfl

theorem addKey_eq_fld (S : StrFns) (b : Bool) (m : Mapper) (k : MKey) (v : MV) (f : String) :
    addKey S b m k v = .fld f ↔ k = .fld f := by
  unfold addKey
  split
  · split <;> simp
  · rfl

theorem lookupR_add (S : StrFns) (b : Bool) (m : Mapper) (k : MKey)
    (hk : ∀ k' v, addKey S b m k' v = k ↔ k' = k) (d : MDict) :
    lookupR k (add S b m d) = (lookupR k d).map (addVal S b m k) := by
  induction d with
  | nil => rfl
  | cons p r ih =>
    obtain ⟨k', v⟩ := p
    simp only [add_cons, lookupR_cons, ih]
    cases lookupR k r with
    | some x => rfl
    | none =>
      by_cases h : k' = k
      · subst h
        rw [if_pos ((hk _ v).mpr rfl), if_pos rfl]
        rfl
      · rw [if_neg (fun e => h ((hk k' v).mp e)), if_neg h]
        rfl

theorem lookupR_add_fld (S : StrFns) (b : Bool) (m : Mapper) (f : String) (d : MDict) :
    lookupR (.fld f) (add S b m d) = (lookupR (.fld f) d).map (stepKey S m f) := by
  rw [lookupR_add S b m _ (fun k' v => addKey_eq_fld S b m k' v f), funext (addVal_fld S b m f)]

theorem lookupR_map_set (k k' : MKey) (v : MV) (acc : MDict) :
    lookupR k (acc.map (fun p => if p.1 = k' then (k', v) else p)) =
      if k' = k then (if acc.any (fun p => decide (p.1 = k')) then some v else none) else lookupR k acc := by
  induction acc with
  | nil => simp [lookupR_nil]
  | cons p r ih =>
    obtain ⟨a, w⟩ := p
    simp only [List.map_cons, List.any_cons]
    by_cases h1 : a = k'
    · subst h1
      simp only [if_true, lookupR_cons, ih, decide_true, Bool.true_or]
      by_cases h2 : a = k
      · subst h2
        cases r.any (fun p => decide (p.1 = a)) <;> simp
      · simp only [if_neg h2]
    · simp only [if_neg h1, lookupR_cons, ih, decide_eq_false h1, Bool.false_or]
      by_cases h2 : k' = k
      · subst h2
        cases r.any (fun p => decide (p.1 = k')) <;> simp [h1]
      · simp only [if_neg h2]

theorem lookupR_dset (k k' : MKey) (v : MV) (acc : MDict) :
    lookupR k (dset acc k' v) = if k' = k then some v else lookupR k acc := by
  unfold dset
  split
  · rw [lookupR_map_set]; simp [*]
  · rw [lookupR_append]; by_cases h : k' = k <;> simp [lookupR_cons, lookupR_nil, h]

theorem lookupR_foldl_dset (k : MKey) (l : MDict) : ∀ acc : MDict,
    lookupR k (l.foldl (fun a p => dset a p.1 p.2) acc) =
      match lookupR k l with | some x => some x | none => lookupR k acc := by
  induction l with
  | nil => exact fun _ => rfl
  | cons p r ih =>
    intro acc
    obtain ⟨k', v⟩ := p
    simp only [List.foldl_cons, ih, lookupR_dset, lookupR_cons]
    cases lookupR k r with
    | some x => rfl
    | none => simp only; split <;> rfl

theorem lookupR_norm (k : MKey) (l : MDict) : lookupR k (norm l) = lookupR k l := by
  unfold norm
  rw [lookupR_foldl_dset]
  cases lookupR k l <;> rfl

theorem add_append (S : StrFns) (b : Bool) (m : Mapper) (a c : MDict) :
    add S b m (a ++ c) = add S b m a ++ add S b m c := by
  induction a with
  | nil => rfl
  | cons p r ih => rw [List.cons_append, add_cons, add_cons, ih, List.cons_append]

theorem foldAdd_append (S : StrFns) (b : Bool) (A B : List Mapper) (d : MDict) :
    foldAdd S b (A ++ B) d = foldAdd S b B (foldAdd S b A d) := by
  simp [foldAdd, List.foldl_append]

theorem foldl_dset_of_nodup (l : MDict) : ∀ acc : MDict, ((acc ++ l).map (·.1)).Nodup →
    l.foldl (fun a p => dset a p.1 p.2) acc = acc ++ l := by
  induction l with
  | nil => intro acc _; simp
  | cons p r ih =>
    intro acc h
    have hk : acc.any (fun q => decide (q.1 = p.1)) = false := by
      rw [Bool.eq_false_iff]
      intro hany
      obtain ⟨q, hq, hqk⟩ := List.any_eq_true.mp hany
      simp only [List.map_append, List.map_cons] at h
      exact (List.nodup_append.mp h).2.2 q.1 (List.mem_map_of_mem hq) p.1 (List.mem_cons_self ..)
        (by simpa using hqk)
    have hd : dset acc p.1 p.2 = acc ++ [p] := by simp [dset, hk]
    rw [List.foldl_cons, hd, ih (acc ++ [p]) (by simpa [List.append_assoc] using h), List.append_assoc]
    rfl

theorem norm_of_nodup (l : MDict) (h : mkeysNodup l = true) : norm l = l := by
  simpa [norm] using foldl_dset_of_nodup l [] (of_decide_eq_true h)

theorem lookupR_foldAdd_fld (S : StrFns) (b : Bool) (f : String) :
    ∀ (L : List Mapper) (d : MDict), lookupR (.fld f) (foldAdd S b L d) =
      (lookupR (.fld f) d).map (fun v => L.foldl (fun cur m => stepKey S m f cur) v) := by
  intro L
  induction L with
  | nil => intro d; exact Option.map_id'.symm
  | cons m L ih =>
    intro d
    rw [foldAdd_cons, ih, lookupR_norm, lookupR_add_fld]
    cases lookupR (MKey.fld f) d <;> rfl

theorem lookupR_baseFld (S : StrFns) (b : Bool) (f : String) (fl : Fld) :
    lookupR (.fld f) (baseFld S b fl) = if fl.name = f then some (.key f) else none := by
  cases fl with
  | scalar n _ | mapped n _ _ _ | nested n _ _ _ _ =>
    simp only [baseFld, lookupR_cons, lookupR_nil, Fld.name]
    by_cases h : n = f
    · subst h; simp
    · simp [h]

theorem lookupR_baseFields (S : StrFns) (b : Bool) (f : String) :
    ∀ fs : List Fld, lookupR (.fld f) (baseFields S b fs) =
      if fs.any (fun fl => fl.name == f) then some (.key f) else none := by
  intro fs
  induction fs with
  | nil => rfl
  | cons fl rest ih =>
    simp only [baseFields_cons, lookupR_append, ih, lookupR_baseFld, List.any_cons]
    by_cases h1 : rest.any (fun fl => fl.name == f) = true
    · simp [h1]
    · by_cases h2 : fl.name = f <;> simp [h1, h2]

theorem lookupR_nest_baseFld_ne (S : StrFns) (b : Bool) (n : String) (fl : Fld) (h : fl.name ≠ n) :
    lookupR (.nest n) (baseFld S b fl) = none := by
  cases fl with
  | scalar m o => simp [baseFld, lookupR]
  | mapped m o ci fs => simp [baseFld, lookupR]
  | nested m o sh ci fs =>
    simp only [Fld.name] at h
    simp [baseFld, lookupR, h]

theorem lookupR_nest_baseFields_none (S : StrFns) (b : Bool) (n : String) (fs : List Fld)
    (h : n ∉ fs.map Fld.name) : lookupR (.nest n) (baseFields S b fs) = none := by
  induction fs with
  | nil => rfl
  | cons fl rest ih =>
    simp only [List.map_cons, List.mem_cons, not_or] at h
    rw [baseFields_cons, lookupR_append, ih h.2]
    exact lookupR_nest_baseFld_ne S b n fl (fun e => h.1 e.symm)

theorem lookupR_nest_baseFields (S : StrFns) (b : Bool) (n : String) (o : Bool) (sh : Shape)
    (ci : CInfo) (fs' : List Fld) (fs : List Fld) (hn : (fs.map Fld.name).Nodup)
    (h : Fld.nested n o sh ci fs' ∈ fs) :
    lookupR (.nest n) (baseFields S b fs) = some (.sub (foldAdd S b (ci.lst b) (baseFields S b fs'))) := by
  induction fs with
  | nil => cases h
  | cons fl rest ih =>
    simp only [List.map_cons, List.nodup_cons] at hn
    rw [baseFields_cons, lookupR_append]
    rcases List.mem_cons.mp h with h | h
    · subst h
      rw [lookupR_nest_baseFields_none S b n rest hn.1]
      simp [baseFld, lookupR_cons, lookupR_nil]
    · rw [ih hn.2 h]

theorem ser_isNull (S : StrFns) (camel : Bool) (m : MDict) (x : J) :
    (ser S camel m x).isNull = x.isNull := by
  cases x <;> rfl

theorem ser_of_isNull (S : StrFns) (camel : Bool) (m : MDict) {x : J} (h : x.isNull = true) :
    ser S camel m x = .null := by
  cases x with
  | null => rfl
  | _ => cases h

theorem serFields_keys (S : StrFns) (camel : Bool) (m : MDict) (kvs : List (String × J)) :
    (serFields S camel m kvs).map (·.1) = imageKeys S camel m kvs := by
  induction kvs with
  | nil => rfl
  | cons p rest ih =>
    obtain ⟨f, v⟩ := p
    simp only [serFields, imageKeys]
    cases v.isNull
    · cases serKey S camel m f <;> simpa using ih
    · simpa using ih

theorem mem_serFields (S : StrFns) (camel : Bool) (m : MDict) (f k : String) (v : J)
    (hv : v.isNull = false) (hk : serKey S camel m f = some k) (kvs : List (String × J))
    (h : (f, v) ∈ kvs) : (k, ser S camel (subSer m f) v) ∈ serFields S camel m kvs := by
  induction kvs with
  | nil => cases h
  | cons p rest ih =>
    obtain ⟨f', v'⟩ := p
    simp only [serFields]
    rcases List.mem_cons.mp h with h | h
    · cases h
      simp [hv, hk]
    · split
      · exact ih h
      · split
        · exact ih h
        · exact List.mem_cons_of_mem _ (ih h)

theorem lookupR_of_isKeyAt {m : MDict} {f : String} (h : isKeyAt m f = true) :
    lookupR (.fld f) m = some (.key (kOf m f)) := by
  unfold isKeyAt at h
  unfold kOf
  split at h
  · rename_i s hs; rw [hs]
  · cases h

theorem lookupR_of_isDnsAt {m : MDict} {f : String} (h : isDnsAt m f = true) :
    lookupR (.fld f) m = some .dns := by
  unfold isDnsAt at h
  split at h
  · assumption
  · cases h

theorem serKey_of_isKeyAt (S : StrFns) (camel : Bool) (m : MDict) (f : String) (h : isKeyAt m f = true) :
    serKey S camel m f = some (kOf m f) := by
  rw [serKey, lookupR_of_isKeyAt h]

theorem imageKeys_eq_popKeys (S : StrFns) (camel : Bool) (m : MDict) (kvs : List (String × J))
    (h : ∀ p ∈ kvs, p.2.isNull = false → isKeyAt m p.1 = true) : imageKeys S camel m kvs = popKeys m kvs := by
  induction kvs with
  | nil => rfl
  | cons p rest ih =>
    obtain ⟨f, v⟩ := p
    have ih := ih (fun p hp => h p (List.mem_cons_of_mem _ hp))
    simp only [imageKeys, popKeys, List.filter_cons] at ih ⊢
    cases hv : v.isNull
    · have hf := serKey_of_isKeyAt S camel m f (h (f, v) (List.mem_cons_self ..) hv)
      simp [hf, ih]
    · simp [ih]

theorem deepGet_single (kvs : List (String × J)) (s : String) :
    deepGet (.obj kvs) [s] = (lookupR s kvs).getD .null := by
  simp only [deepGet, List.foldl_cons, List.foldl_nil, J.truthy]
  cases kvs with
  | nil => rfl
  | cons p r => simp [nextLevel]

theorem taken_of_other (M : MDict) (f g : String) (hg : g ≠ f)
    (h : lookupR (.fld g) M = some (.key f)) : taken M f = true := by
  unfold taken
  rw [List.any_eq_true]
  refine ⟨(.fld g, .key f), mem_of_lookupR _ _ M h, ?_⟩
  have : MKey.fld g ≠ MKey.fld f := fun e => hg (by cases e; rfl)
  simp [this]

theorem mem_popKeys {m : MDict} {kvs : List (String × J)} {k : String} :
    k ∈ popKeys m kvs ↔ ∃ g w, (g, w) ∈ kvs ∧ w.isNull = false ∧ kOf m g = k := by
  simp only [popKeys, List.mem_map, List.mem_filter, Bool.not_eq_eq_eq_not, Bool.not_true, and_assoc, Prod.exists]

theorem sync_cases {ms M : MDict} {kvs : List (String × J)} (hsync : syncOK ms M kvs = true)
    {f : String} {v : J} (hm : (f, v) ∈ kvs) :
    (isKeyAt ms f = true ∧ lookupR (.fld f) M = some (.key (kOf ms f)))
    ∨ (isDnsAt ms f = true ∧ lookupR (.fld f) M = some .dns ∧ v.isNull = true) := by
  have hs := List.all_eq_true.mp hsync _ hm
  simp only [Bool.or_eq_true, Bool.and_eq_true_iff] at hs
  rcases hs with ⟨⟨h1, h2⟩, h3⟩ | ⟨⟨h1, h2⟩, h3⟩
  · left
    refine ⟨h1, ?_⟩
    have e : kOf M f = kOf ms f := by simpa using h3
    rw [lookupR_of_isKeyAt h2, e]
  · exact .inr ⟨h1, lookupR_of_isDnsAt h2, h3⟩

theorem syncOK_of_lookups {ms M : MDict} {kvs : List (String × J)}
    (he : ∀ p ∈ kvs, lookupR (.fld p.1) M = lookupR (.fld p.1) ms)
    (hent : ∀ p ∈ kvs, entryOKB ms p = true) : syncOK ms M kvs = true := by
  unfold syncOK
  rw [List.all_eq_true]
  intro p hp
  have h1 := hent p hp
  simp only [entryOKB, isKeyAt, isDnsAt, kOf, he p hp] at h1 ⊢
  simpa using h1

/-- the fallback of `get_processed_input` to the unmapped name `f` reads nothing from the serialized level
    when no populated field `f` is written under its own name (`hne`): `f` is no key there, or it is the key
    of another field and then *taken* on the deserializer's side (the `name_is_taken` check of /repo f476845) -/
theorem fallback_blocked (S : StrFns) (camel : Bool) {ms M : MDict} {kvs : List (String × J)}
    (hsync : syncOK ms M kvs = true) (hkeys : (serFields S camel ms kvs).map (·.1) = popKeys ms kvs)
    {f : String} (hne : ∀ g w, (g, w) ∈ kvs → w.isNull = false → kOf ms g = f → g ≠ f) :
    taken M f = true ∨ lookupR f (serFields S camel ms kvs) = none := by
  by_cases hf : f ∈ popKeys ms kvs
  · obtain ⟨g, w, hm, hw, hk⟩ := mem_popKeys.mp hf
    rcases sync_cases hsync hm with ⟨_, hM⟩ | ⟨_, _, hnull⟩
    · exact .inl (taken_of_other M f g (hne g w hm hw hk) (hk ▸ hM))
    · rw [hw] at hnull; cases hnull
  · exact .inr (lookupR_none_of_not_mem _ _ (hkeys ▸ hf))

/-- what `get_processed_input` finds for field `f` in the serialization of the level: the field's
    serialized value when populated, nothing when absent (`v` is `null` then, and so is its serialization)
    — whatever `use_strict_mapping` is -/
theorem procInput_ser (S : StrFns) (camel : Bool) (ms M : MDict) (strict : Bool)
    (kvs : List (String × J)) (hl : levelOK S ms M strict kvs = true) (f : String) (v : J)
    (hm : (f, v) ∈ kvs) :
    procInput S M strict (serFields S camel ms kvs) f = .ok (ser S camel (subSer ms f) v) := by
  simp only [levelOK, Bool.and_eq_true_iff] at hl
  obtain ⟨⟨⟨hsync, hdot⟩, hinj⟩, habs⟩ := hl
  have hpop : ∀ p ∈ kvs, p.2.isNull = false → isKeyAt ms p.1 = true := fun p hp hn => by
    rcases sync_cases hsync (f := p.1) (v := p.2) hp with ⟨h, _⟩ | ⟨_, _, h⟩
    · exact h
    · rw [hn] at h; cases h
  have hkeys : (serFields S camel ms kvs).map (·.1) = popKeys ms kvs := by
    rw [serFields_keys, imageKeys_eq_popKeys S camel ms kvs hpop]
  unfold procInput
  rcases sync_cases hsync hm with ⟨hks, hM⟩ | ⟨hdns, hM, hnull⟩
  · have hd := List.all_eq_true.mp hdot _ hm
    simp only [hks, Bool.not_true, Bool.false_or, beq_iff_eq] at hd
    simp only [hM, hd, deepGet_single]
    cases hv : v.isNull
    · -- populated: found under its key, which no other populated field has
      have hmem := mem_serFields S camel ms f (kOf ms f) v hv (serKey_of_isKeyAt S camel ms f hks) kvs hm
      rw [lookupR_of_mem _ _ _ ((nodupB_iff _).mp (hkeys ▸ hinj)) hmem]
      simp [ser_isNull, hv]
    · -- absent: nothing under its key, and nothing read under its own name
      have ha := List.all_eq_true.mp habs _ hm
      simp only [hv, hks, Bool.not_true, Bool.false_or, Bool.not_eq_true', List.contains_eq_mem,
        decide_eq_false_iff_not] at ha
      rw [ser_of_isNull S camel _ hv]
      rw [lookupR_none_of_not_mem _ _ (hkeys ▸ ha)]
      rcases fallback_blocked S camel hsync hkeys (f := f)
        (fun g w hgm hw _ hgf => ha (hgf ▸ mem_popKeys.mpr ⟨g, w, hgm, hw, rfl⟩)) with ht | hn
      · simp [ht, J.isNull]
      · simp [hn, J.isNull]
  · simp only [hM, ser_of_isNull S camel _ hnull]
    rcases fallback_blocked S camel hsync hkeys (f := f) (fun g w hgm hw _ hgf => by
        subst hgf
        rcases sync_cases hsync hgm with ⟨_, hM'⟩ | ⟨_, _, hn⟩
        · rw [hM] at hM'; cases hM'
        · rw [hw] at hn; cases hn) with ht | hn
    · simp [ht]
    · simp [hn]

theorem dScalar_ser (S : StrFns) (camel : Bool) (m : MDict) (n : String) (opt : Bool) (v : J)
    (rest : List (String × J)) (h : scalarOK opt v = true) :
    dScalar n opt (.ok (ser S camel m v)) (.ok rest) = .ok ((n, v) :: rest) := by
  cases v with
  | null => cases h; rfl
  | int i => rfl
  | _ => cases h

theorem mapD_serList (S : StrFns) (camel : Bool) (m : MDict) (g : J → DR J) (P : J → Bool)
    (hg : ∀ y, P y = true → g (ser S camel m y) = .ok y) :
    ∀ xs : List J, xs.all P = true → mapD g (serList S camel m xs) = .ok xs
  | [], _ => rfl
  | x :: xs, h => by
    simp only [List.all_cons, Bool.and_eq_true_iff] at h
    simp only [serList, mapD, hg x h.1, mapD_serList S camel m g P hg xs h.2, bindD_ok]

theorem dNested_ser (S : StrFns) (camel : Bool) (m : MDict) (n : String) (opt : Bool) (shape : Shape)
    (g : J → DR J) (P : J → Bool) (v : J) (rest : List (String × J))
    (hg : ∀ y, P y = true → g (ser S camel m y) = .ok y)
    (h : nestedOK opt shape P v = true) :
    dNested n opt shape (.ok (ser S camel m v)) g (.ok rest) = .ok ((n, v) :: rest) := by
  cases v with
  | null => cases h; rfl
  | obj kvs =>
    cases shape with
    | many => cases h
    | one =>
      have := hg _ h
      simp only [ser] at this
      simp only [dNested, ser, bindD_ok, this]
  | arr xs =>
    cases shape with
    | one => cases h
    | many => simp only [dNested, ser, bindD_ok, mapD_serList S camel m g P hg xs h]
  | _ => cases h

theorem rtObj_elim {lv : LevelPred} {ms M : MDict} {h : List (String × J) → Bool} {y : J}
    (hy : rtObj lv ms M h y = true) : ∃ kvs, y = .obj kvs ∧ lv ms M false kvs = true ∧ h kvs = true := by
  cases y with
  | obj kvs => exact ⟨kvs, rfl, Bool.and_eq_true_iff.mp hy⟩
  | _ => cases hy

theorem rtClsK_elim {S : StrFns} {camel ku : Bool} {lv : LevelPred} {c : Cls} {ms : MDict} {ov : Option MDict}
    {strict : Bool} {x : J} (h : rtClsK S camel ku lv c ms ov strict x = true) :
    ∃ kvs, x = .obj kvs ∧ lv ms (aggregate S false c.desL c.fields ov camel) strict kvs = true
      ∧ exFree S camel (kuNext ku camel c.desL) c.closedAny (c.fields.map Fld.name) ms kvs = true
      ∧ rtFields S camel (kuNext ku camel c.desL) lv ms (aggregate S false c.desL c.fields ov camel)
          c.fields kvs = true := by
  cases x with
  | obj kvs =>
    simp only [rtClsK, Bool.and_eq_true_iff] at h
    exact ⟨kvs, rfl, h.1.1, h.1.2, h.2⟩
  | _ => cases h

theorem dObjK_ser (S : StrFns) (camel ku closed : Bool) (names : List String) (ms : MDict)
    (kvs : List (String × J)) (k : List (String × J) → DR (List (String × J)))
    (hex : exFree S camel ku closed names ms kvs = true) (hk : k (serFields S camel ms kvs) = .ok kvs) :
    dObjK (ser S camel ms (.obj kvs)) closed (extrasOf ku closed names) k = .ok (.obj kvs) := by
  simp only [exFree] at hex
  simp [ser, dObjK, hk, construct, hex]

theorem deserFields_of_pointwise {S : StrFns} {camel ku : Bool} {M : MDict} {strict : Bool} {doc : List (String × J)}
    {fs : List Fld} {kvs : List (String × J)}
    (h : Pointwise (fun f p => ∀ rest, deserFld S camel ku M strict doc f (.ok rest) = .ok (p :: rest)) fs kvs) :
    deserFields S camel ku M strict doc fs = .ok kvs := by
  induction h with
  | nil => rfl
  | cons h _ ih => rw [deserFields, ih]; exact h _

theorem rtFields_iff {S : StrFns} {camel ku : Bool} {lv : LevelPred} {ms M : MDict} :
    ∀ (fs : List Fld) (kvs : List (String × J)), rtFields S camel ku lv ms M fs kvs = true ↔
      Pointwise (fun f p => rtFld S camel ku lv ms M f p = true) fs kvs
  | [], [] => ⟨fun _ => .nil, fun _ => rfl⟩
  | [], _ :: _ => ⟨nofun, nofun⟩
  | _ :: _, [] => ⟨nofun, nofun⟩
  | f :: fs, p :: kvs => by
    rw [rtFields, Bool.and_eq_true_iff, rtFields_iff fs kvs]
    exact ⟨fun h => .cons h.1 h.2, fun | .cons h1 h2 => ⟨h1, h2⟩⟩

theorem rtFields_imp {S : StrFns} {camel ku ku' : Bool} {lv lv' : LevelPred} {ms M : MDict} (fs : List Fld)
    (kvs : List (String × J))
    (hf : ∀ f ∈ fs, ∀ p, rtFld S camel ku lv ms M f p = true → rtFld S camel ku' lv' ms M f p = true)
    (h : rtFields S camel ku lv ms M fs kvs = true) : rtFields S camel ku' lv' ms M fs kvs = true :=
  (rtFields_iff fs kvs).2 (((rtFields_iff fs kvs).1 h).imp fun f hm p _ => hf f hm p)

end Typedpy.Mappers
