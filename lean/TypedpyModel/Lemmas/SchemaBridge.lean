/-
  Lemmas/SchemaBridge.lean — the exported schema means `docOk`: under a faithful definitions table and fuel that
  covers the nesting of class references, the draft-4 validator run on `emit true f` is `docOk S f`, for EVERY
  declaration (`jsV_emit`).  Keywords, `$ref`, the table and the fuel are reasoned about here (through the group
  equations of `Lemmas/SchemaDoc.lean`) and nowhere else: `admits_doc` and `exactDoc` are theorems about `docOk`.
-/
import TypedpyModel.Lemmas.SchemaDoc
import TypedpyModel.Lemmas.Basic
namespace Typedpy.Sch
open Typedpy

theorem emitL_eq_map (fx : Bool) : ∀ fs : List FieldDecl, emitL fx fs = fs.map (emit fx)
  | [] => rfl
  | f :: fs => by rw [emitL, emitL_eq_map fx fs]; rfl

theorem emitLW_eq_map (fx : Bool) : ∀ fs : List FieldDecl,
    emitLW fx fs = fs.map (fun f => elemWrap f (emit fx f))
  | [] => rfl
  | f :: fs => by rw [emitLW, emitLW_eq_map fx fs]; rfl

theorem emitP_eq_map (fx : Bool) : ∀ ps : List (String × FieldDecl),
    emitP fx ps = ps.map (fun p => (p.1, emit fx p.2))
  | [] => rfl
  | (n, f) :: ps => by rw [emitP, emitP_eq_map fx ps]; rfl

theorem emitP_names (fx : Bool) (fields : List (String × FieldDecl)) :
    (emitP fx fields).map (·.1) = fields.map (·.1) := by
  rw [emitP_eq_map, List.map_map]; rfl

theorem retype_classObj (c : ClassOpts) (defaults : List (String × PyVal)) (fields : List (String × PyVal)) :
    retype (classObj c defaults fields) = classObj c defaults fields := by
  simp [retype, classObj, setKw, kw, keyIs]

theorem classSchema_classObj (fx : Bool) (c : ClassOpts) (fields : List (String × FieldDecl))
    (defaults : List (String × PyVal)) (h : collapses c (fields.map (·.1)) = false) :
    classSchema fx (.struct c fields defaults) = classObj c defaults (emitP fx fields) := by
  simp only [classSchema, structShape, emitP_names, h, Bool.false_eq_true, if_false]

theorem retype_shape (s : PyVal) (h : dictOrNone s = true) : dictOrNone (retype s) = true := by
  cases s <;> simp_all [retype, dictOrNone]

theorem emit_shape (fx : Bool) (f : FieldDecl) : dictOrNone (emit fx f) = true := by
  induction f using FieldDecl.induction with
  | struct c fields defaults =>
    simp only [emit]
    split
    · rw [retype_classObj]; rfl
    · rfl
  | anyOf fs ih =>
    simp only [emit]
    unfold anyOfShape
    split
    · rename_i f _ _ hss
      cases hss
      exact ih f List.mem_cons_self
    · rfl
  | _ => rfl

theorem emitL_shape (fx : Bool) : ∀ (fs : List FieldDecl) (s : PyVal), s ∈ emitL fx fs → dictOrNone s = true := by
  intro fs s h
  rw [emitL_eq_map] at h
  obtain ⟨f, _, rfl⟩ := List.mem_map.mp h
  exact emit_shape fx f

theorem emitP_shape (fx : Bool) : ∀ (ps : List (String × FieldDecl)) (p : String × PyVal),
    p ∈ emitP fx ps → dictOrNone p.2 = true := by
  intro ps p h
  rw [emitP_eq_map] at h
  obtain ⟨q, _, rfl⟩ := List.mem_map.mp h
  exact emit_shape fx q.2

theorem emitL_length (fx : Bool) : ∀ fs : List FieldDecl, (emitL fx fs).length = fs.length
  | fs => by rw [emitL_eq_map, List.length_map]

theorem emitLW_length (fx : Bool) (fs : List FieldDecl) : (emitLW fx fs).length = fs.length := by
  rw [emitLW_eq_map, List.length_map]

theorem emitLW_isEmpty (fx : Bool) (fs : List FieldDecl) : (emitLW fx fs).isEmpty = fs.isEmpty := by
  rw [emitLW_eq_map, List.isEmpty_map]

theorem emitL_isEmpty (fx : Bool) (fs : List FieldDecl) : (emitL fx fs).isEmpty = fs.isEmpty := by
  rw [emitL_eq_map, List.isEmpty_map]

theorem emit_optional (fx : Bool) (f : FieldDecl) : emit fx (.anyOf [f, .noneF]) = emit fx f := by
  simp [emit, anyOfShape, emitL]

theorem optShape_inv (fs : List FieldDecl) (h : optShape fs = true) :
    ∃ f, fs = [f, .noneF] ∧ isNoneF f = false := by
  unfold optShape at h
  split at h
  · rename_i f
    exact ⟨f, rfl, by simpa using h⟩
  · simp at h

/-- a class reference under a faithful definitions table: one unit of fuel buys the class object -/
theorem jsV_ref_faithful (D : Defs) (S) (n : Nat) (c : ClassOpts) (s d : PyVal)
    (h : lookup ("#/definitions/" ++ c.name) D = some s) :
    jsV (resolver D S (n + 1)) S (refTo c.name) d = jsV (resolver D S n) S s d := by
  simp only [jsV_refTo, resolver, h]

/-- the scalar kinds (`uniqSafe` lists exactly them): no sub-schema, so any resolver will do -/
theorem jsV_emit_scalar (R S) (f : FieldDecl) (d : PyVal) (hf : uniqSafe f = true) :
    jsV R S (emit true f) d = docOk S f d := by
  cases f with
  | number o | float o =>
    rw [emit, docOk, jsV_numKws_eq _ _ _ (Or.inl rfl), typeIs_number]
    cases d <;> first | rfl | exact Bool.true_and _
  | integer o =>
    rw [emit, docOk, jsV_numKws_eq _ _ _ (Or.inr rfl), typeIs_integer]
    cases d <;> rfl
  | string lo hi p => rw [emit, docOk, jsV_strKws_eq]
  | boolean => rw [emit, docOk, jsV_boolean_eq]
  | enumLit _ | enumCls _ _ => rw [emit, docOk, jsV_enum]
  | _ => exact Bool.noConfusion hf

section
variable (S : String → String → Bool) (D : Defs)

mutual
theorem jsV_emit : ∀ (f : FieldDecl) (n : Nat) (d : PyVal), RefsFaithful D f → refDepth f ≤ n →
    jsV (resolver D S n) S (emit true f) d = docOk S f d
  | .number _, _, d, _, _ | .integer _, _, d, _, _ | .float _, _, d, _, _ | .string _ _ _, _, d, _, _
  | .boolean, _, d, _, _ | .enumLit _, _, d, _, _ | .enumCls _ _, _, d, _, _ => jsV_emit_scalar _ S _ d rfl
  | .seqAny _ sz, _, d, _, _ => by rw [emit, docOk, jsV_arrKws_eq _ S sz none rfl]; rfl
  | .seqOf _ f sz, n, d, hrf, hd => by
    rw [emit, docOk, jsV_arrKws_eq _ S sz (some _) (elemWrap_shape f _ (emit_shape true f)),
      Option.map_some, jsV_elemWrap_emit _ S f _ (fun x => jsV_emit f n x hrf hd)]
  | .seqPos _ fs addl sz, n, d, hrf, hd => by
    rw [emit, docOk, jsV_arrPos_eq]
    simp only [jsZip_map, jsV_emitLW fs n hrf hd, emitLW_length]
  | .setAny _ sz, _, d, _, _ => by rw [emit, docOk, jsV_setKws_eq _ S sz none rfl]; rfl
  | .setOf _ f sz, n, d, hrf, hd => by
    rw [emit, docOk, jsV_setKws_eq _ S sz (some _) (elemWrap_shape f _ (emit_shape true f)),
      Option.map_some, jsV_elemWrap_emit _ S f _ (fun x => jsV_emit f n x hrf hd)]
  | .tupleOf f u, n, d, hrf, hd => by
    rw [emit, docOk, jsV_arrKws_eq _ S _ (some _) (elemWrap_shape f _ (emit_shape true f)),
      Option.map_some, jsV_elemWrap_emit _ S f _ (fun x => jsV_emit f n x hrf hd)]
  | .tuplePos fs u, n, d, hrf, hd => by
    rw [emit, docOk, jsV_tupKws_eq]
    simp only [jsZip_map, jsV_emitLW fs n hrf hd, emitLW_length]
  | .mapAny sz, _, d, _, _ => by rw [emit, docOk, jsV_mapAny_eq]
  | .mapOf k v sz, n, d, hrf, hd => by
    rw [emit, docOk, jsV_mapOf_eq _ S k _ (elemWrap_shape v _ (emit_shape true v)),
      jsV_elemWrap_emit _ S v _ (fun x => jsV_emit v n x hrf hd)]
  | .struct c fields defaults, n, d, hrf, hd => by
    simp only [RefsFaithful] at hrf; simp only [refDepth] at hd
    rw [emit, docOk]
    cases hin : c.inline with
    | true =>
      simp only [hin, if_true] at hd ⊢
      rw [retype_classObj, jsV_classObj_eq, emitP_names, jsV_emitP fields n hrf.2 hd]
    | false =>
      simp only [hin, Bool.false_eq_true, if_false] at hd ⊢
      cases n with
      | zero => omega
      | succ m =>
        rw [jsV_ref_faithful D S m c _ d (hrf.1.resolve_left (by simp [hin])), jsV_classObj_eq, emitP_names,
          jsV_emitP fields m hrf.2 (by omega)]
  | .anyOf fs, n, d, hrf, hd => by
    rw [emit, docOk, jsV_anyOfShape, jsV_emitL fs n d hrf hd]
  | .oneOf fs, n, d, hrf, hd => by
    rw [emit, docOk, jsV_oneOf, jsCount_map, jsV_emitL fs n d hrf hd]
  | .allOf fs, n, d, hrf, hd => by
    rw [emit, docOk, jsV_allOf, jsAllL_map, jsV_emitL fs n d hrf hd]
  | .notF fs, n, d, hrf, hd => by
    rw [emit, docOk, notVal, if_pos rfl, jsV_not, jsV_anyOf, jsAnyL_map, jsV_emitL fs n d hrf hd]
  | .noneF, _, _, _, _ | .anything, _, _, _, _ => by rw [emit, docOk]; rfl
termination_by structural f => f
theorem jsV_emitL : ∀ (fs : List FieldDecl) (n : Nat) (d : PyVal), RefsFaithfulL D fs → refDepthL fs ≤ n →
    (emitL true fs).map (fun s => jsV (resolver D S n) S s d) = docOkL S fs d
  | [], _, _, _, _ => rfl
  | f :: fs, n, d, hrf, hd => by
    simp only [RefsFaithfulL] at hrf; simp only [refDepthL] at hd
    rw [emitL, List.map_cons, docOkL, jsV_emit f n d hrf.1 (by omega), jsV_emitL fs n d hrf.2 (by omega)]
termination_by structural fs => fs
theorem jsV_emitLW : ∀ (fs : List FieldDecl) (n : Nat), RefsFaithfulL D fs → refDepthL fs ≤ n →
    (emitLW true fs).map (jsV (resolver D S n) S) = docOkLW S fs
  | [], _, _, _ => rfl
  | f :: fs, n, hrf, hd => by
    simp only [RefsFaithfulL] at hrf; simp only [refDepthL] at hd
    rw [emitLW, List.map_cons, docOkLW, jsV_elemWrap_emit _ S f _ (fun x => jsV_emit f n x hrf.1 (by omega)),
      jsV_emitLW fs n hrf.2 (by omega)]
termination_by structural fs => fs
theorem jsV_emitP : ∀ (ps : List (String × FieldDecl)) (n : Nat),
    RefsFaithfulP D ps → refDepthP ps ≤ n → propsB (resolver D S n) S (emitP true ps) = docOkP S ps
  | [], _, _, _ => rfl
  | (k, f) :: ps, n, hrf, hd => by
    simp only [RefsFaithfulP] at hrf; simp only [refDepthP] at hd
    funext r
    rw [emitP, propsB, docOkP, jsV_emitP ps n hrf.2 (by omega)]
    cases getKw k r with
    | none => rfl
    | some x => simp only [jsV_emit f n x hrf.1 (by omega)]
termination_by structural ps => ps
end

/-- the top-level class outside the field-wrapper form: its schema is its class object, whether or not nested uses
    of the class go by `$ref` -/
theorem jsV_classSchema (c : ClassOpts) (fields : List (String × FieldDecl)) (defaults : List (String × PyVal))
    (n : Nat) (d : PyVal) (hcol : collapses c (fields.map (·.1)) = false)
    (hrefs : RefsFaithfulP D fields) (hn : refDepthP fields ≤ n) :
    jsV (resolver D S n) S (classSchema true (.struct c fields defaults)) d = docOk S (.struct c fields defaults) d := by
  rw [classSchema_classObj true c fields defaults hcol, jsV_classObj_eq, emitP_names, docOk,
    jsV_emitP S D fields n hrefs hn]

end

mutual
theorem structEq_sound : ∀ a b : PyVal, structEq a b = true → a = b
  | .none, w, h => by cases w <;> first | rfl | exact Bool.noConfusion h
  | .bool a, w, h => by
    cases w <;> first | exact Bool.noConfusion h | skip
    rw [structEq] at h; rw [eq_of_beq h]
  | .int a, w, h => by
    cases w <;> first | exact Bool.noConfusion h | skip
    rw [structEq] at h; rw [eq_of_beq h]
  | .float a, w, h => by
    cases w <;> first | exact Bool.noConfusion h | skip
    rename_i b
    simp only [structEq, Bool.and_eq_true_iff, beq_iff_eq] at h
    cases a; cases b; simp only at h; rw [h.1, h.2]
  | .str a, w, h => by
    cases w <;> first | exact Bool.noConfusion h | skip
    rw [structEq] at h; rw [eq_of_beq h]
  | .list a, w, h => by
    cases w <;> first | exact Bool.noConfusion h | skip
    rw [structEq] at h; rw [structEqL_sound a _ h]
  | .dict a, w, h => by
    cases w <;> first | exact Bool.noConfusion h | skip
    rw [structEq] at h; rw [structEqP_sound a _ h]
  | .dec _, _, h | .tuple _, _, h | .set _ _, _, h | .deque _, _, h | .enumv _ _, _, h | .inst _ _, _, h
  | .opaque _, _, h => Bool.noConfusion h
theorem structEqL_sound : ∀ a b : List PyVal, structEqL a b = true → a = b
  | [], w, h => by cases w <;> first | rfl | exact Bool.noConfusion h
  | x :: xs, [], h => Bool.noConfusion h
  | x :: xs, y :: ys, h => by
    simp only [structEqL, Bool.and_eq_true_iff] at h
    rw [structEq_sound x y h.1, structEqL_sound xs ys h.2]
theorem structEqP_sound : ∀ a b : List (PyVal × PyVal), structEqP a b = true → a = b
  | [], w, h => by cases w <;> first | rfl | exact Bool.noConfusion h
  | (k, v) :: rest, [], h => Bool.noConfusion h
  | (k, v) :: rest, (k', v') :: rest', h => by
    simp only [structEqP, Bool.and_eq_true_iff] at h
    rw [structEq_sound k k' h.1.1, structEq_sound v v' h.1.2, structEqP_sound rest rest' h.2]
end

mutual
/-- the executable form of `RefsFaithful` (what the driver and the closed examples evaluate) implies it -/
theorem refsFaithfulB_sound (D : Defs) : ∀ f : FieldDecl, refsFaithfulB D f = true → RefsFaithful D f := by
  intro f h
  cases f with
  | seqOf _ f _ | setOf _ f _ | tupleOf f _ | mapOf _ f _ =>
    simp only [refsFaithfulB] at h; simp only [RefsFaithful]; exact refsFaithfulB_sound D f h
  | seqPos _ fs _ _ | tuplePos fs _ | anyOf fs | oneOf fs | allOf fs | notF fs =>
    simp only [refsFaithfulB] at h; simp only [RefsFaithful]; exact refsFaithfulBL_sound D fs h
  | struct c fields defaults =>
    simp only [refsFaithfulB, Bool.and_eq_true_iff, Bool.or_eq_true] at h
    simp only [RefsFaithful]
    refine ⟨h.1.imp id fun hl => ?_, refsFaithfulBP_sound D fields h.2⟩
    cases hlk : lookup ("#/definitions/" ++ c.name) D with
    | none => simp [hlk] at hl
    | some s => simp only [hlk] at hl; rw [structEq_sound s _ hl]
  | _ => simp only [RefsFaithful]
theorem refsFaithfulBL_sound (D : Defs) : ∀ fs : List FieldDecl, refsFaithfulBL D fs = true → RefsFaithfulL D fs
  | [], _ => by simp only [RefsFaithfulL]
  | f :: fs, h => by
    simp only [refsFaithfulBL, Bool.and_eq_true_iff] at h
    simp only [RefsFaithfulL]
    exact ⟨refsFaithfulB_sound D f h.1, refsFaithfulBL_sound D fs h.2⟩
theorem refsFaithfulBP_sound (D : Defs) : ∀ ps : List (String × FieldDecl), refsFaithfulBP D ps = true →
    RefsFaithfulP D ps
  | [], _ => by simp only [RefsFaithfulP]
  | (_, f) :: ps, h => by
    simp only [refsFaithfulBP, Bool.and_eq_true_iff] at h
    simp only [RefsFaithfulP]
    exact ⟨refsFaithfulB_sound D f h.1, refsFaithfulBP_sound D ps h.2⟩
end
end Typedpy.Sch
