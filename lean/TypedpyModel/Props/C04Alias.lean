/-
  Props/C04Alias.lean — C04, accessor side: no sequence of reads through the accessors of the typed
  wrappers (and of the field read itself), interleaved with native mutations of whatever the caller
  was handed or built, changes an object an immutable owner holds.

  Model: Sem/AliasC04.lean on the heap of Sem/Alias.lean; everything is a projection of the invariant
  `Inv` of Lemmas/AliasC04.lean.  Table: Generated/AliasingC04.lean, regenerated from the working tree
  (AST idioms of collections_impl.py / structures.py + a witness probe on real instances);
  `tables_accessors_safe` and `tables_ctor_no_retention` are its obligations, `raw_accessor_leaks` the
  reason why a raw row breaks the property.
-/
import TypedpyModel.Lemmas.AliasC04
import TypedpyModel.Generated.AliasingC04
namespace Typedpy.C04
open Typedpy.Alias Typedpy.AliasC04

/-- `P` = the protected objects (all allocated, closed under references is not
    even needed), `S` = the sealed ones.  If at the start everything the caller can get at natively is
    unprotected or sealed, then after any admissible interleaving of accessor calls in safe modes and
    native mutations every protected cell is exactly as it was. -/
theorem reads_frozen (P : Nat → Prop) (S : Nat → Bool) (fuel : Nat) (h0 : Heap) (K0 : List Nat)
    (hold : ∀ a, P a → a < h0.next) (hcl : ClosedBelow h0.next h0) (hroots : ∀ a, a ∈ K0 → a < h0.next)
    (hinit : ∀ a, Can S h0 K0 a → ¬ P a ∨ S a = true)
    (evs : List Ev) (adm : AdmEvs S fuel h0 K0 evs) (safe : readsSafe evs = true) :
    ∀ a, P a → (runEvs S fuel h0 K0 evs).1.cells a = h0.cells a :=
  (c04_inv_reads fuel hold hcl hroots hinit evs adm safe).keep

/-- … and the caller still cannot get at an unsealed protected object afterwards (so the argument
    can be repeated: the theorem composes over any further history) -/
theorem reads_keep_separation (P : Nat → Prop) (S : Nat → Bool) (fuel : Nat) (h0 : Heap) (K0 : List Nat)
    (hold : ∀ a, P a → a < h0.next) (hcl : ClosedBelow h0.next h0) (hroots : ∀ a, a ∈ K0 → a < h0.next)
    (hinit : ∀ a, Can S h0 K0 a → ¬ P a ∨ S a = true)
    (evs : List Ev) (adm : AdmEvs S fuel h0 K0 evs) (safe : readsSafe evs = true) :
    ∀ a, Can S (runEvs S fuel h0 K0 evs).1 (runEvs S fuel h0 K0 evs).2 a → ¬ P a ∨ S a = true :=
  (c04_inv_reads fuel hold hcl hroots hinit evs adm safe).can

/-- **C04 (ImmutableStructure, accessor side)**: a caller whose only root is a reference to an
    immutable instance (sealed: its own mutators raise; whatever else it works with it reads from the
    instance or allocates) never changes a cell that existed before, whatever it reads and mutates;
    what can be observed of the instance (field reads, `==`, `str`, serialization: `observeN` to any
    depth) is unchanged.  A caller with other objects of its own is `reads_frozen`. -/
theorem immutable_structure_reads_frozen (S : Nat → Bool) (fuel : Nat) (h0 : Heap) (inst : Nat)
    (hinst : inst < h0.next) (hs : S inst = true) (hcl : ClosedBelow h0.next h0)
    (evs : List Ev) (adm : AdmEvs S fuel h0 [inst] evs) (safe : readsSafe evs = true) (d : Nat) :
    (∀ a, a < h0.next → (runEvs S fuel h0 [inst] evs).1.cells a = h0.cells a)
    ∧ observeN d (runEvs S fuel h0 [inst] evs).1 (.ref inst) = observeN d h0 (.ref inst) := by
  -- all the caller can get at is sealed: its root is, and a sealed object leads no further
  have hinit : ∀ a, Can S h0 [inst] a → ¬ (a < h0.next) ∨ S a = true := fun a c => Or.inr <| by
    induction c with
    | root hm => rw [List.mem_singleton.mp hm]; exact hs
    | step _ hsb _ ih => rw [ih] at hsb; cases hsb
  have fr := reads_frozen (fun a => a < h0.next) S fuel h0 [inst] (fun _ h => h) hcl
    (fun a ha => by cases List.mem_singleton.mp ha; exact hinst) hinit evs adm safe
  exact ⟨fr, observe_agree (fun a => a < h0.next) fr hcl d (.ref inst) fun a e => by cases e; exact hinst⟩

/-- **C04 (immutable field of a mutable structure, accessor side)**: `P` = what the field's value
    reaches (closed under references); the mutable instance and the caller's other objects are
    outside `P`.  The value's object graph is unchanged and reads the same to any depth. -/
theorem immutable_field_reads_frozen (P : Nat → Prop) (S : Nat → Bool) (fuel : Nat) (h0 : Heap)
    (K0 : List Nat) (v : Nat) (hv : P v)
    (hold : ∀ a, P a → a < h0.next) (hPclosed : ∀ a, P a → ∀ k, k ∈ (h0.cells a).kids → P k)
    (hcl : ClosedBelow h0.next h0) (hroots : ∀ a, a ∈ K0 → a < h0.next)
    (hinit : ∀ a, Can S h0 K0 a → ¬ P a ∨ S a = true)
    (evs : List Ev) (adm : AdmEvs S fuel h0 K0 evs) (safe : readsSafe evs = true) (d : Nat) :
    observeN d (runEvs S fuel h0 K0 evs).1 (.ref v) = observeN d h0 (.ref v) :=
  observe_agree P (reads_frozen P S fuel h0 K0 hold hcl hroots hinit evs adm safe) hPclosed d (.ref v)
    (fun a e => by cases e; exact hv)

/-- after the (deep-copying) constructor of an immutable owner, the caller — who keeps its arguments
    and everything else it had, and gets the new instance — can get at nothing of the instance's
    object graph except the sealed instance itself -/
theorem ctor_separates (fuel : Nat) (h : Heap) (args : List (String × Item)) (Kc : List Nat)
    (h' : Heap) (inst : Nat) (hcl : ClosedBelow h.next h) (hK : ∀ a, a ∈ Kc → a < h.next)
    (e : constructImm fuel h args = (h', some inst)) :
    let P := fun a => h.next ≤ a ∧ a < h'.next
    let S := fun a => a == inst
    (∀ a, P a → a < h'.next) ∧ ClosedBelow h'.next h' ∧ (∀ a, a ∈ inst :: Kc → a < h'.next)
    ∧ (∀ a, Can S h' (inst :: Kc) a → ¬ P a ∨ S a = true) ∧ P inst := by
  intro P S
  have iso := constructImm_isolated e
  -- what is claimed is the invariant of `c04_inv_run` at its start: it holds of the roots the caller had, which only
  -- reach old cells, and handing over the sealed instance keeps it
  have i0 : Inv P S h' h' Kc :=
    { keep := fun _ _ => rfl, old := fun _ pa => pa.2, le := Nat.le_refl _
      closed := c04_closed_grow hcl iso.frame iso.closed
      rootsLt := fun a ha => Nat.lt_of_lt_of_le (hK a ha) iso.frame.1
      can := fun a c => Or.inl fun pa =>
        Nat.lt_irrefl _ (Nat.lt_of_lt_of_le (c04_can_lt (closedBelow_frame hcl iso.frame) hK c) pa.1) }
  have i : Inv P S h' h' ([inst] ++ Kc) := c04_inv_hand i0 (Frame.rfl' h') (newClosed_init h') fun a ha => by
    cases List.mem_singleton.mp ha
    exact Or.inl ⟨beq_self_eq_true inst, (iso.inside inst rfl).2⟩
  exact ⟨i.old, i.closed, i.rootsLt, i.can, iso.inside inst rfl⟩

/-- **C04 (constructor arguments)**: build an immutable instance from caller-owned arguments, then
    let the caller do anything admissible with the arguments it kept, with the instance and with
    whatever it reads from it: no cell of the instance's object graph changes -/
theorem ctor_then_reads_frozen (fuel : Nat) (h : Heap) (args : List (String × Item)) (Kc : List Nat)
    (h' : Heap) (inst : Nat) (hcl : ClosedBelow h.next h) (hK : ∀ a, a ∈ Kc → a < h.next)
    (e : constructImm fuel h args = (h', some inst))
    (evs : List Ev) (adm : AdmEvs (fun a => a == inst) fuel h' (inst :: Kc) evs)
    (safe : readsSafe evs = true) :
    ∀ a, h.next ≤ a → a < h'.next →
      (runEvs (fun a => a == inst) fuel h' (inst :: Kc) evs).1.cells a = h'.cells a := by
  obtain ⟨hold, hcl', hroots, hinit, _⟩ := ctor_separates fuel h args Kc h' inst hcl hK e
  intro a h1 h2
  exact reads_frozen (fun a => h.next ≤ a ∧ a < h'.next) (fun a => a == inst) fuel h' (inst :: Kc)
    hold hcl' hroots hinit evs adm safe a ⟨h1, h2⟩

/-- rows that are known to be raw in the current tree: none (the one finding, ("dict", "__reversed__"),
    was repaired in /repo 330c788; `raw_accessor_leaks` keeps the reason why a raw row is a leak) -/
def knownRawRows : List (String × String) := []

/-- fixed in /repo 330c788: `reversed(x.m)` hands out copies of the keys -/
theorem fixed_dict_reversed_today :
    (Generated.accessorRowsC04.filter (fun r => r.wrapper == "dict" && r.accessor == "__reversed__")).all
      (fun r => r.mode.safe && r.overridden && r.astMode.safe) = true := by decide +kernel

/-- members of the pickle protocol an overriding wrapper assembles from `super().__reduce__()` and
    `__getstate__()` (no copy idiom of its own; covered by the witness probe) -/
def protocolMembers : List String := ["__reduce__"]

/-- every accessor the witness probe called hands out copies or sealed objects only, and every
    overriding accessor body shows a copy idiom — except exactly the known-finding rows -/
def AccessorsSafe (tbl : List AccRow) : Bool :=
  tbl.all fun r =>
    knownRawRows.contains (r.wrapper, r.accessor)
    || (r.mode.safe && (!r.overridden || r.astMode.safe || protocolMembers.contains r.accessor))

theorem tables_accessors_safe : AccessorsSafe Generated.accessorRowsC04 = true := by decide +kernel

theorem tables_ctor_no_retention : Generated.ctorRowsC04.all (fun r => !r.retains) = true := by decide

/-- every read of the history is in a mode the table records for some accessor (known raw rows apart);
    which accessor of which object the read stands for is not tracked -/
def usesTable (tbl : List AccRow) : List Ev → Bool
  | [] => true
  | .read _ m :: rest => tbl.any (fun r => r.mode == m && !knownRawRows.contains (r.wrapper, r.accessor)) && usesTable tbl rest
  | .act _ :: rest => usesTable tbl rest

theorem usesTable_safe (tbl : List AccRow) (ht : AccessorsSafe tbl = true) :
    ∀ evs, usesTable tbl evs = true → readsSafe evs = true
  | [], _ => rfl
  | .act _ :: rest, h => usesTable_safe tbl ht rest h
  | .read a m :: rest, h => by
    simp only [usesTable, Bool.and_eq_true, List.any_eq_true, Bool.not_eq_true', beq_iff_eq] at h
    obtain ⟨⟨r, hr, hmode, hknown⟩, hrest⟩ := h
    -- the row of the table that has the read's mode is not a known raw one, so its mode is safe
    have hrow := List.all_eq_true.mp ht r hr
    rw [hknown, Bool.false_or, Bool.and_eq_true, hmode] at hrow
    simp only [readsSafe, Bool.and_eq_true]
    exact ⟨hrow.1, usesTable_safe tbl ht rest hrest⟩

theorem immutable_structure_reads_frozen_current (S : Nat → Bool) (fuel : Nat) (h0 : Heap) (inst : Nat)
    (hinst : inst < h0.next) (hs : S inst = true) (hcl : ClosedBelow h0.next h0)
    (evs : List Ev) (adm : AdmEvs S fuel h0 [inst] evs)
    (ht : usesTable Generated.accessorRowsC04 evs = true) (d : Nat) :
    observeN d (runEvs S fuel h0 [inst] evs).1 (.ref inst) = observeN d h0 (.ref inst) :=
  (immutable_structure_reads_frozen S fuel h0 inst hinst hs hcl evs adm
    (usesTable_safe _ tables_accessors_safe evs ht) d).2

/-- cell 0: the immutable instance, field m -> cell 1; cell 1: the Map wrapper (sealed) with a key
    object (cell 2, a mutable Structure) and a value list (cell 3) -/
def exHeap : Heap := Heap.ofList
  [⟨"instance", [("m", .ref 1)]⟩, ⟨"dict", [("key", .ref 2), ("val", .ref 3)]⟩,
   ⟨"inst", [("name", .atom 7)]⟩, ⟨"list", [("0", .atom 1)]⟩]
def exSealed (a : Nat) : Bool := a == 0 || a == 1

/-- reading through `guardedCopy` / `deepAll` accessors and mutating what was handed out leaves the
    instance as it was … -/
theorem accessor_example :
    (let r := runEvs exSealed 5 exHeap [0]
        [.read 0 .guardedCopy,                                  -- x.m: the sealed wrapper itself
         .read 1 .guardedCopy,                                  -- items(): copies of key and value (cells 4, 5)
         .act (.write 4 ⟨"inst", [("name", .atom 99)]⟩),        -- mutate the key copy
         .read 1 .deepAll,                                      -- copy(): cells 6.. 
         .act (.write 5 ⟨"list", []⟩)]                           -- clear the value copy
     (observeN 4 r.1 (.ref 0)).beq (observeN 4 exHeap (.ref 0)) && sameBelow 4 exHeap r.1) = true := by
  decide +kernel

/-- … while the `raw` mode — that of `reversed(x.m)` as long as `_DictStruct` did not override it
    (finding `deep-read-leak:map-structkey:via-reversed`) — hands out the stored key object: mutating
    it changes the instance -/
theorem raw_accessor_leaks :
    (let r := runEvs exSealed 5 exHeap [0]
        [.read 0 .guardedCopy, .read 1 .raw, .act (.write 2 ⟨"inst", [("name", .atom 99)]⟩)]
     (observeN 4 r.1 (.ref 0)).beq (observeN 4 exHeap (.ref 0))) = false := by
  decide +kernel

end Typedpy.C04
