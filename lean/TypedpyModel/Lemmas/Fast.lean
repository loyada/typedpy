/-
  The induction behind C10's `fast_equiv_partial`: on the proved region
  (`fsafeCls`, `fwf`) every per-field `serialize` method returns what `serialize_val` returns, and
  the installed serializer builds the document `serialize_internal` builds.

  The statement for one field is `FsEq`.  The positional items, the Optional and the field loop
  (`fserZip_of`, `fopt_of`, `ffields_of`) take it for the parts of the declaration
  as a hypothesis; `fser_equiv` puts them together by `FieldDecl.induction`.  `fGet` is the getter
  `create_serializer` builds for one field; `fFields_cons` states the loop of the installed
  serializer through it.
-/
import TypedpyModel.Spec.FastSafe
import TypedpyModel.Lemmas.Trusted
import TypedpyModel.Lemmas.RoundTrip
namespace Typedpy
open PyVal (pyEq pyMem pyNodup)

theorem nonFastRef_nil (f : FieldDecl) : nonFastRef [] f = false := by
  cases f <;> simp [nonFastRef]

theorem isNone_none : PyVal.none.isNone = true := rfl

mutual
theorem canonV_isNone : ∀ (f : FieldDecl) (v : PyVal), (canonV f v).isNone = v.isNone
  | .anyOf fs, v => canonAny_isNone fs v
  | .seqOf _ _ _, v | .setOf _ _ _, v | .tuplePos _ _, v | .tupleOf _ _, v | .seqPos .list _ _ _, v
  | .mapOf _ _ _, v | .struct _ _ _, v => by cases v <;> rfl
  | .seqPos .deque _ _ _, _ => rfl
  | .number _, _ | .integer _, _ | .float _, _ | .string _ _ _, _ | .boolean, _ | .noneF, _ | .enumLit _, _
  | .enumCls _ _, _ | .seqAny _ _, _ | .setAny _ _, _ | .mapAny _, _ | .oneOf _, _ | .allOf _, _ | .notF _, _
  | .anything, _ => rfl
theorem canonAny_isNone : ∀ (fs : List FieldDecl) (v : PyVal), (canonAny fs v).isNone = v.isNone
  | [], _ => by simp [canonAny]
  | f :: fs, v => by
    simp only [canonAny]
    split
    · exact canonAny_isNone fs v
    · exact canonV_isNone f v
end

/-- the getter `create_serializer` builds for one field, applied to the attribute `a`: the
    attribute itself for a Number / String / Boolean field, None for None, else `field.serialize` -/
def fGet (Mp : MapEnv) (NF JK : List String) (f : FieldDecl) (a : PyVal) : R PyVal :=
  if isNSB f then .ok a else if a.isNone then .ok .none else fser Mp NF JK f a

theorem fFields_nil (Mp : MapEnv) (NF JK : List String) (sn : Bool) (m : TMapper)
    (ds attrs : List (String × PyVal)) : fFields Mp NF JK sn m ds attrs [] = .ok [] := rfl

theorem fFields_cons (Mp : MapEnv) (NF JK : List String) (sn : Bool) (m : TMapper)
    (ds attrs : List (String × PyVal)) (n : String) (f : FieldDecl) (rest : List (String × FieldDecl)) :
    fFields Mp NF JK sn m ds attrs ((n, f) :: rest)
      = bindE (fGet Mp NF JK f (getAttr ds attrs n)) fun j =>
        bindE (fFields Mp NF JK sn m ds attrs rest) fun r =>
          .ok (if j.isNone && !sn then r else (PyVal.str (mapKey m n), j) :: r) := rfl

theorem fGet_none (Mp : MapEnv) (NF JK : List String) (f : FieldDecl) (a : PyVal) (ha : a.isNone = true) :
    ∃ j, fGet Mp NF JK f a = .ok j ∧ j.isNone = true := by
  unfold fGet
  by_cases hnsb : isNSB f = true
  · exact ⟨a, by simp only [hnsb, if_true], ha⟩
  · exact ⟨.none, by simp only [hnsb, Bool.false_eq_true, if_false, ha, if_true], rfl⟩

theorem fFields_skip_none (Mp : MapEnv) (NF JK : List String) (m : TMapper) (ds attrs : List (String × PyVal))
    (n : String) (f : FieldDecl) (rest : List (String × FieldDecl)) (ha : (getAttr ds attrs n).isNone = true) :
    fFields Mp NF JK false m ds attrs ((n, f) :: rest) = fFields Mp NF JK false m ds attrs rest := by
  rcases fGet_none Mp NF JK f _ ha with ⟨j, hj, hjn⟩
  simp only [fFields_cons, hj, bindE_ok, hjn, Bool.not_false, Bool.and_self, if_true]
  cases fFields Mp NF JK false m ds attrs rest <;> rfl

theorem fFields_serialize_none (Mp : MapEnv) (NF JK : List String) (m : TMapper)
    (defaults attrs : List (String × PyVal)) : ∀ fields : List (String × FieldDecl),
    fFields Mp NF JK false m defaults attrs fields
      = bindE (fFields Mp NF JK true m defaults attrs fields) fun r => .ok (r.filter fun kv => !kv.2.isNone)
  | [] => by simp [fFields]
  | (n, f) :: rest => by
    simp only [fFields_cons, fFields_serialize_none Mp NF JK m defaults attrs rest]
    cases fGet Mp NF JK f (getAttr defaults attrs n) with
    | error e => rfl
    | ok j =>
      simp only [bindE_ok]
      cases fFields Mp NF JK true m defaults attrs rest with
      | error e => rfl
      | ok r =>
        simp only [bindE_ok, Bool.not_true, Bool.and_false, Bool.false_eq_true, if_false, Bool.not_false,
          Bool.and_true, List.filter]
        cases hj : j.isNone <;> simp

/-- the installed serializer reads the attributes only: it is the class's `serialize` on an instance
    holding them -/
theorem c10_fastSerialize_eq_fser (Mp : MapEnv) (JK : List String) (c : ClassOpts)
    (fields : List (String × FieldDecl)) (ds : List (String × PyVal)) (cn : String) (x : PyVal)
    (hinl : c.inline = false) :
    fastSerialize Mp [] JK false false (.struct c fields ds) x
      = fser Mp [] JK (.struct c fields ds) (.inst cn (attrsOf x)) := by
  unfold fser
  simp only [fastSerialize, hinl, Bool.false_eq_true, if_false, List.contains_nil, Bool.false_and]
  cases fFields Mp [] JK false (Mp c.name) ds (attrsOf x) fields <;> rfl

section
variable (O : Oracles) (JK : List String)

/-- `field.serialize(v)` agrees with `serialize_val(field, v)` on the canonical form of `v`, and a
    non-None value never serializes to None (the installed serializer drops a None result, the
    regular one an attribute holding None) -/
def FsEq (f : FieldDecl) (v : PyVal) : Prop :=
  fser noMappers [] JK f v = ser O f (canonV f v)
    ∧ (v.isNone = false → ∀ j, ser O f (canonV f v) = .ok j → j.isNone = false)

theorem fsEq_numlike (f : FieldDecl) (v : PyVal)
    (hf : fser noMappers [] JK f v = fDefault JK v) (hs : ser O f v = sScalar v) (hc : canonV f v = v)
    (hj : (match v with | .bool _ => true | .int _ => true | .float _ => true | .str _ => true | _ => false) = true) :
    FsEq O JK f v := by
  unfold FsEq
  rw [hc, hf, hs]
  cases v <;> simp at hj <;> simp [fDefault, sScalar, PyVal.isNone]

theorem nsb_fser (f : FieldDecl) (v : PyVal) (h : isNSB f = true) (hw : fwf O f v = true) :
    fser noMappers [] JK f v = .ok v := by
  cases f <;> simp [isNSB] at h <;> unfold fwf at hw <;> cases v <;> simp [numJson] at hw <;> rfl

theorem isNumOrStr_props (item : FieldDecl) (x : PyVal) (h : isNumOrStr item = true)
    (hw : fwf O item x = true) : canonV item x = x ∧ ser O item x = .ok x := by
  cases item <;> simp [isNumOrStr] at h <;> unfold fwf at hw <;> cases x <;> simp [numJson] at hw <;>
    (unfold canonV ser; simp [sScalar])

theorem fGet_eq_ser (f : FieldDecl) (v : PyVal) (hwf : fwf O f v = true) (hvn : v.isNone = false)
    (ih : fser noMappers [] JK f v = ser O f (canonV f v)) :
    fGet noMappers [] JK f v = ser O f (canonV f v) := by
  unfold fGet
  rw [← ih]
  by_cases hnsb : isNSB f = true
  · simp only [hnsb, if_true]; exact (nsb_fser O JK f v hnsb hwf).symm
  · simp only [hnsb, Bool.false_eq_true, if_false, hvn]

theorem fList_list (g : List PyVal → R (List PyVal)) (k : SeqKind) (xs : List PyVal) :
    fList g (mkSeq k xs) = bindE (g xs) fun ys => .ok (.list ys) := by
  cases k <;> rfl

theorem canonV_seq (k k' : SeqKind) (item : FieldDecl) (sz : SizeOpts) (xs : List PyVal) :
    canonV (.seqOf k' item sz) (mkSeq k xs) = mkSeq k (xs.map (canonV item)) := by
  cases k <;> rfl

theorem fsEq_list (f : FieldDecl) (v : PyVal) (r : R (List PyVal))
    (hf : fser noMappers [] JK f v = bindE r fun ys => .ok (.list ys))
    (hs : ser O f (canonV f v) = bindE r fun ys => .ok (.list ys)) : FsEq O JK f v := by
  refine ⟨hf.trans hs.symm, fun _ j hj => ?_⟩
  rw [hs] at hj
  rcases bindE_eq_ok hj with ⟨ys, _, h2⟩
  cases h2; rfl

theorem fser_elems (item : FieldDecl) (xs : List PyVal)
    (ih : ∀ x ∈ xs, FsEq O JK item x) :
    mapE (fser noMappers [] JK item) xs = mapE (ser O item) (xs.map (canonV item)) := by
  rw [mapE_map]
  exact mapE_congr xs (fun x hx => (ih x hx).1)

theorem fwfAny_mem : ∀ (fs : List FieldDecl) (v : PyVal), fwfAny O fs v = true →
    ∃ f ∈ fs, isNoneF f = false ∧ fwf O f v = true ∧ shallowOk O f (canonV f v) = true
      ∧ ∃ j, ser O f (canonV f v) = .ok j
  | [], _, h => by rw [fwfAny] at h; cases h
  | f :: fs, v, h => by
    simp only [fwfAny, Bool.or_eq_true, Bool.and_eq_true_iff, Bool.not_eq_true'] at h
    rcases h with h | h
    · refine ⟨f, List.mem_cons_self, h.1.1.1.1, h.1.1.1.2, h.1.1.2, ?_⟩
      cases hs : ser O f (canonV f v) with
      | ok j => exact ⟨j, rfl⟩
      | error e => have := h.2; rw [hs] at this; cases this
    · obtain ⟨g, hg, hr⟩ := fwfAny_mem fs v h
      exact ⟨g, List.mem_cons_of_mem _ hg, hr⟩

theorem fserZip_of : ∀ (items : List FieldDecl) (xs : List PyVal),
    (∀ f ∈ items, ∀ x, fsafeD [] f = true → fwf O f x = true → FsEq O JK f x) →
    fsafeL [] items = true → xs.length = items.length → fwfZip O items xs = true →
    fserZip noMappers [] JK items xs = serZip O items (canonZip items xs)
  | [], [], _, _, _, _ => by simp [fserZip, serZip, canonZip, serAnyList]
  | [], _ :: _, _, _, hl, _ => by simp at hl
  | _ :: _, [], _, _, hl, _ => by simp at hl
  | f :: fs, x :: xs, ih, hs, hl, hw => by
    simp only [fsafeL, Bool.and_eq_true_iff] at hs
    simp only [fwfZip, Bool.and_eq_true_iff] at hw
    simp only [fserZip, canonZip, serZip, (ih f List.mem_cons_self x hs.1 hw.1).1,
      fserZip_of fs xs (fun g hg => ih g (List.mem_cons_of_mem _ hg)) hs.2 (by simpa using hl) hw.2]

/-- positional items of an Array pass the elements beyond the item fields through; with no such
    element this is the positional Tuple's loop -/
theorem fserZipRaw_eq_fserZip (Mp : MapEnv) (NF : List String) : ∀ (fs : List FieldDecl) (xs : List PyVal),
    xs.length ≤ fs.length → fserZipRaw Mp NF JK fs xs = fserZip Mp NF JK fs xs
  | [], [], _ => rfl
  | _ :: _, [], _ => rfl
  | [], _ :: _, h => nomatch h
  | _ :: fs, _ :: xs, h => by
    simp only [fserZipRaw, fserZip, fserZipRaw_eq_fserZip Mp NF fs xs (Nat.le_of_succ_le_succ h)]

/-! `Optional[x]` on the fast path (`OptOf`: Lemmas/Optional) -/

theorem OptOf.anyOfMulti {fs : List FieldDecl} {x : FieldDecl} (h : OptOf fs x) : anyOfMulti fs = false := by
  cases h <;> cases hx : isNoneF x <;> simp [Typedpy.anyOfMulti, nonNoneCount, List.filter, hx, isNoneF_noneF']

theorem OptOf.fser {fs : List FieldDecl} {x : FieldDecl} (h : OptOf fs x) (hx : isNoneF x = false) (Mp : MapEnv)
    (NF JK : List String) {v : PyVal} (hn : v.isNone = false) :
    fser Mp NF JK (.anyOf fs) v = Typedpy.fser Mp NF JK x v := by
  show (if v.isNone then .ok .none else if Typedpy.anyOfMulti fs then _ else fserLast Mp NF JK fs v) = _
  rw [h.anyOfMulti]
  cases h with
  | fst =>
    simp only [hn, Bool.false_eq_true, if_false, fserLast, List.all_cons, List.all_nil,
      isNoneF_noneF', hx, Bool.and_self, Bool.not_false, if_true]
  | snd y hy =>
    simp only [hn, Bool.false_eq_true, if_false, fserLast, List.all_cons, List.all_nil,
      isNoneF_noneF', hx, Bool.and_true, Bool.false_and, Bool.not_false, Bool.and_self, if_true]

theorem OptOf.canonV {fs : List FieldDecl} {x : FieldDecl} (h : OptOf fs x) (hx : isNoneF x = false) (v : PyVal) :
    canonV (.anyOf fs) v = Typedpy.canonV x v := by
  show canonAny fs v = _
  cases h with
  | fst => simp only [canonAny, hx, Bool.false_eq_true, if_false]
  | snd y hy => simp only [canonAny, isNoneF_noneF', if_true, hx, Bool.false_eq_true, if_false]

theorem OptOf.fwf {fs : List FieldDecl} {x : FieldDecl} (h : OptOf fs x) {v : PyVal}
    (hw : fwfAny O fs v = true) :
    fwf O x v = true ∧ shallowOk O x (Typedpy.canonV x v) = true ∧ ∃ j, ser O x (Typedpy.canonV x v) = .ok j := by
  obtain ⟨f, hf, hn, hr⟩ := fwfAny_mem O fs v hw
  cases h <;> simp only [List.mem_cons, List.not_mem_nil, or_false] at hf <;> rcases hf with rfl | rfl <;>
    first | exact hr | cases hn

theorem fsafeOpt_optOf : ∀ fs : List FieldDecl, fsafeOpt [] fs = true →
    ∃ x, OptOf fs x ∧ isNoneF x = false ∧ fsafeD [] x = true
  | [x, y], h => by
    simp only [fsafeOpt, fsafeOptTail, Bool.or_eq_true, Bool.and_eq_true_iff, Bool.not_eq_true'] at h
    rcases h with ⟨⟨⟨hy, hx⟩, hsx⟩, _⟩ | ⟨⟨hx, hy⟩, hsy, _⟩
    · rw [isNoneF_eq y hy]; exact ⟨x, .fst x, hx, hsx⟩
    · rw [isNoneF_eq x hx]; exact ⟨y, .snd y (fun e => by subst e; cases hy), hy, hsy⟩
  | [], h | [_], h | _ :: _ :: _ :: _, h => nomatch h

theorem fopt_of (fs : List FieldDecl) (v : PyVal)
    (IH : ∀ f ∈ fs, ∀ x, fsafeD [] f = true → fwf O f x = true → FsEq O JK f x)
    (hs : fsafeOpt [] fs = true) (hn : v.isNone = false) (hw : fwfAny O fs v = true) :
    FsEq O JK (.anyOf fs) v := by
  rcases fsafeOpt_optOf fs hs with ⟨x, ho, hx, hsx⟩
  rcases ho.fwf O hw with ⟨hwx, hsh, j, hser⟩
  have ih := IH x ho.mem v hsx hwx
  have hcn : (canonV x v).isNone = false := by rw [canonV_isNone]; exact hn
  unfold FsEq
  rw [ho.fser hx _ _ _ hn, ho.canonV hx, ho.ser_fit O hcn hsh hser, ih.1, hser]
  exact ⟨rfl, fun _ j' hj => by cases hj; exact ih.2 hn j hser⟩

theorem ffields_of : ∀ (rest fieldsAll : List (String × FieldDecl)) (defaults attrs : List (String × PyVal)),
    (∀ nf ∈ rest, ∀ x, fsafeD [] nf.2 = true → fwf O nf.2 x = true → FsEq O JK nf.2 x) →
    fsafeFields [] rest = true → fwfFields O defaults attrs rest = true →
    (∀ p ∈ rest, lookup p.1 fieldsAll = some p.2) →
    fFields noMappers [] JK false .none defaults attrs rest
      = mapE (serAttr O fieldsAll) ((canonFields attrs rest).filter fun a => !a.2.isNone)
  | [], _, _, _, _, _, _, _ => by simp [fFields, canonFields, mapE]
  | (n, f) :: rest, fieldsAll, defaults, attrs, IH, hs, hw, hl => by
    simp only [fsafeFields, Bool.and_eq_true_iff] at hs
    simp only [fwfFields, Bool.and_eq_true_iff] at hw
    have ih := ffields_of rest fieldsAll defaults attrs (fun p hp => IH p (List.mem_cons_of_mem _ hp)) hs.2 hw.2 (fun p hp => hl p (by simp [hp]))
    have hlk := hl (n, f) (by simp)
    cases hla : lookup n attrs with
    | none =>
      simp only [hla] at hw
      have hd : (getAttr defaults attrs n).isNone = true := by
        simp only [getAttr, hla]
        cases hdd : lookup n defaults with
        | none => rfl
        | some d => simp [hdd] at hw; simpa using hw.1
      rw [fFields_skip_none _ _ _ _ _ _ n f rest hd]
      simp only [canonFields, hla, List.nil_append]
      exact ih
    | some v =>
      simp only [hla, Bool.or_eq_true] at hw
      by_cases hvn : v.isNone = true
      · have hcn : (canonV f v).isNone = true := by rw [canonV_isNone]; exact hvn
        rw [fFields_skip_none _ _ _ _ _ _ n f rest (by simp only [getAttr, hla]; exact hvn)]
        simp only [canonFields, hla, List.singleton_append, List.filter, hcn, Bool.not_true]
        exact ih
      · have hvn' : v.isNone = false := by simpa using hvn
        have hwf : fwf O f v = true := by
          rcases hw.1 with h | h
          · rw [hvn'] at h; cases h
          · exact h
        have ihf := IH (n, f) List.mem_cons_self v hs.1 hwf
        have hget := fGet_eq_ser O JK f v hwf hvn' ihf.1
        have hcn : (canonV f v).isNone = false := by rw [canonV_isNone]; exact hvn'
        simp only [fFields_cons, canonFields, getAttr, hla]
        simp only [hget, List.singleton_append, List.filter, hcn, Bool.not_false, mapE, serAttr,
          serField_lookup O n (canonV f v) f fieldsAll hlk, ih]
        cases hser : ser O f (canonV f v) with
        | error e => rfl
        | ok j =>
          have hjn := ihf.2 hvn' j hser
          simp only [bindE_ok, hjn, Bool.false_and, Bool.false_eq_true, if_false, mapKey]

theorem fser_equiv : ∀ (f : FieldDecl) (v : PyVal),
    fsafeD [] f = true → fwf O f v = true → FsEq O JK f v := by
  intro f
  induction f using FieldDecl.induction with
  | number o =>
    intro v _ hw
    unfold fwf at hw
    exact fsEq_numlike O JK _ v rfl rfl rfl
      (by cases v <;> simp [numJson] at hw <;> rfl)
  | integer | float | string =>
    intro v _ hw
    unfold fwf at hw
    exact fsEq_numlike O JK _ v rfl rfl rfl
      (by cases v <;> simp at hw <;> rfl)
  | boolean =>
    intro v _ hw
    unfold fwf at hw
    cases v <;> simp at hw
    unfold FsEq fser ser canonV
    simp [sScalar, PyVal.isNone]
  | noneF =>
    intro v _ hw
    unfold fwf at hw
    unfold FsEq fser ser canonV
    simp [hw]
  | enumLit vals =>
    intro v _ _
    refine ⟨rfl, fun hn j hj => ?_⟩
    unfold ser canonV at hj
    cases hj; exact hn
  | enumCls cls names =>
    intro v _ hw
    unfold fwf at hw
    cases v <;> simp at hw
    unfold FsEq fser ser canonV
    simp [fEnumName, sEnumCls, PyVal.isNone]
  | seqOf k item sz ih =>
    intro v hs hw
    unfold fwf at hw
    cases hse : seqElems k v with
    | none => rw [hse] at hw; cases hw
    | some xs =>
      obtain rfl := seqElems_eq_some.1 hse
      rw [hse] at hw
      have hall : ∀ x ∈ xs, fwf O item x = true := List.all_eq_true.mp hw
      have hcongr := fser_elems O JK item xs fun x hx => ih x hs (hall x hx)
      refine fsEq_list O JK _ _ (mapE (ser O item) (xs.map (canonV item))) ?_
        (by rw [canonV_seq, ser_seqOf, sSeq_list])
      cases k
      · by_cases hn : isNumOrStr item = true
        · -- `list(value)`: the elements are JSON scalars, which both sides leave as they are
          have hid : xs.map (canonV item) = xs :=
            map_id_of_mem fun x hx => (isNumOrStr_props O item x hn (hall x hx)).1
          rw [hid, mapE_ok_id xs (fun x hx => (isNumOrStr_props O item x hn (hall x hx)).2)]
          unfold fser
          simp [hn, mkSeq, fList, iterElems]
        · unfold fser
          simp only [hn, Bool.false_eq_true, if_false, nonFastRef_nil, fList_list, hcongr]
      · unfold fser
        simp only [fList_list, hcongr]
  | setOf imm item sz ih =>
    intro v hs hw
    unfold fwf at hw
    cases v <;> try cases hw
    rename_i fr xs
    have hcongr := fser_elems O JK item xs fun x hx => ih x hs (List.all_eq_true.mp hw x hx)
    refine fsEq_list O JK _ _ (mapE (ser O item) (xs.map (canonV item))) ?_ rfl
    unfold fser
    simp only [nonFastRef_nil, Bool.false_eq_true, if_false, fList, iterElems, hcongr]
  | tuplePos items uniq ih =>
    intro v hs hw
    unfold fwf at hw
    cases v <;> try cases hw
    rename_i xs
    simp only [Bool.and_eq_true, beq_iff_eq] at hw
    have hz := fserZip_of O JK items xs ih hs hw.1 hw.2
    refine fsEq_list O JK _ _ (serZip O items (canonZip items xs)) ?_ rfl
    unfold fser
    simp only [fList, iterElems, hz]
  | tupleOf item uniq ih =>
    intro v hs hw
    unfold fwf at hw
    cases v <;> try cases hw
    rename_i xs
    have hcongr := fser_elems O JK item xs fun x hx => ih x hs (List.all_eq_true.mp hw x hx)
    refine fsEq_list O JK _ _ (mapE (ser O item) (xs.map (canonV item))) ?_ rfl
    unfold fser
    simp only [fList, iterElems, hcongr]
  | mapOf kf vf sz ihk ihv =>
    intro v hs hw
    unfold fsafeD at hs
    simp only [Bool.and_eq_true_iff] at hs
    unfold fwf at hw
    cases v <;> try cases hw
    rename_i kvs
    have hcongr : mapE (fun (kv : PyVal × PyVal) =>
          bindE (fser noMappers [] JK kf kv.1) fun k' => bindE (fser noMappers [] JK vf kv.2) fun v' => .ok (k', v')) kvs
        = mapE (fun (kv : PyVal × PyVal) =>
          bindE (ser O kf kv.1) fun k' => bindE (ser O vf kv.2) fun v' => .ok (k', v'))
            (kvs.map fun kv => (canonV kf kv.1, canonV vf kv.2)) := by
      rw [mapE_map]
      refine mapE_congr kvs (fun kv hkv => ?_)
      have hkv' := (Bool.and_eq_true _ _).mp (List.all_eq_true.mp hw kv hkv)
      have h1 := (ihk kv.1 hs.1 hkv'.1).1
      have h2 := (ihv kv.2 hs.2 hkv'.2).1
      simp only [h1, h2]
    refine ⟨?_, fun _ j hj => ?_⟩
    · unfold fser canonV ser
      simp only [fMap, sMap, hcongr]
    · unfold canonV ser at hj
      simp only [sMap] at hj
      rcases bindE_eq_ok hj with ⟨r, _, h2⟩
      split at h2
      · cases h2
      · cases h2; rfl
  | struct c fields defaults ih =>
    intro v hs hw
    unfold fsafeD at hs
    simp only [Bool.and_eq_true_iff, Bool.not_eq_true'] at hs
    unfold fwf at hw
    cases v <;> try cases hw
    rename_i cn attrs
    simp only [Bool.and_eq_true, beq_iff_eq] at hw
    have hcn : cn = c.name := hw.1.1
    subst hcn
    have hfw : fwfFields O defaults attrs fields = true := hw.2
    have hf := ffields_of O JK fields fields defaults attrs ih hs.2 hfw (lookup_of_mem_nodup fields hs.1.2)
    refine ⟨?_, fun _ j hj => ?_⟩
    · unfold fser canonV ser
      simp only [hs.1.1.1, Bool.false_eq_true, if_false, List.contains_nil, noMappers_apply, keyDedupe,
        TMapper.isNone, if_true, sInst, beq_self_eq_true, Bool.true_or, Bool.not_true]
      rw [hf]
    · unfold canonV ser at hj
      simp only [sInst, beq_self_eq_true, Bool.true_or, Bool.not_true, Bool.false_eq_true, if_false] at hj
      rcases bindE_eq_ok hj with ⟨r, _, h2⟩
      cases h2; rfl
  | anyOf fs ih =>
    intro v hs hw
    unfold fsafeD at hs
    unfold fwf at hw
    simp only [Bool.and_eq_true_iff, Bool.not_eq_true'] at hw
    exact fopt_of O JK fs v ih hs hw.1 hw.2
  | seqPos k items addl sz ih =>
    intro v hs hw
    cases k
    case deque => cases hs
    unfold fwf at hw
    cases v <;> try cases hw
    rename_i xs
    simp only [Bool.and_eq_true, beq_iff_eq] at hw
    have hz := (fserZipRaw_eq_fserZip JK _ _ items xs (Nat.le_of_eq hw.1)).trans
      (fserZip_of O JK items xs ih hs hw.1 hw.2)
    refine fsEq_list O JK _ _ (serZip O items (canonZip items xs)) ?_ rfl
    unfold fser
    simp only [fList, iterElems, hz]
  | _ => exact fun _ hs _ => nomatch hs

theorem fserZip_equiv : ∀ (items : List FieldDecl) (xs : List PyVal),
    fsafeL [] items = true → xs.length = items.length → fwfZip O items xs = true →
    fserZip noMappers [] JK items xs = serZip O items (canonZip items xs) :=
  fun items xs => fserZip_of O JK items xs fun f _ x => fser_equiv O JK f x

theorem fserZipRaw_equiv : ∀ (items : List FieldDecl) (xs : List PyVal),
    fsafeL [] items = true → xs.length = items.length → fwfZip O items xs = true →
    fserZipRaw noMappers [] JK items xs = serZip O items (canonZip items xs) :=
  fun items xs hs hl hw => (fserZipRaw_eq_fserZip JK _ _ items xs (Nat.le_of_eq hl)).trans
    (fserZip_equiv O JK items xs hs hl hw)

theorem fopt_equiv : ∀ (fs : List FieldDecl) (v : PyVal),
    fsafeOpt [] fs = true → v.isNone = false → fwfAny O fs v = true → FsEq O JK (.anyOf fs) v :=
  fun fs v => fopt_of O JK fs v fun f _ x => fser_equiv O JK f x

theorem ffields_equiv : ∀ (rest fieldsAll : List (String × FieldDecl)) (defaults attrs : List (String × PyVal)),
    fsafeFields [] rest = true → fwfFields O defaults attrs rest = true →
    (∀ p ∈ rest, lookup p.1 fieldsAll = some p.2) →
    fFields noMappers [] JK false .none defaults attrs rest
      = mapE (serAttr O fieldsAll) ((canonFields attrs rest).filter fun a => !a.2.isNone) :=
  fun rest fieldsAll defaults attrs => ffields_of O JK rest fieldsAll defaults attrs fun nf _ x => fser_equiv O JK nf.2 x

end

end Typedpy
