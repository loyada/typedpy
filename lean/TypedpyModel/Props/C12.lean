/-
  Props/C12.lean — C12: Partial / AllFieldsRequired / Extend / Omit / Pick keep exact field sets
  and constraints.

  `deriveClass` (Sem/Derive.lean) mirrors structures_reuse.py and `Structure.omit/pick`;
  `specHasField` / `specRequires` (Spec/FieldSet.lean) are the documented outcome.  All theorems
  hold for every source class (any hierarchy behind it), every operator, every list of names, every
  world that contains `Structure`, and — by induction on the operator list — compositions of any
  length.  Where the code violates the statement the theorem proved is the `_partial` one
  with an explicit exclusion and a kernel-checked counterexample (= known finding).  The findings
  fixed in /repo (61d07fa inherited `_ignore_none`, c926eea AllFieldsRequired + Constant, 1cc748e
  inherited field with a default listed in `_required`) have a closed example each at the end.
-/
import TypedpyModel.Props.C14
import TypedpyModel.Lemmas.Derive
import TypedpyModel.Lemmas.DeriveTotal
namespace Typedpy.C12
open Typedpy

theorem derive_shape {O : Oracles} {w : World} (hS : HasStructure w) {c d : ClassDef} {nm : String}
    {op : DeriveOp} (h : deriveClass O w c nm op = .ok d) :
    d.allFields = updateAll [] (derivedFields c op) ∧ d.mro = [nm, "Structure"] ∧ d.name = nm
    ∧ d.required = dedupStr ((derivedRequired c op).filter fun n =>
          !((derivedFields c op).any fun p => p.1 == n && p.2.hasDefault))
    ∧ d.ignoreNone = c.ignoreNone ∧ d.bases = ["Structure"] := by
  have hb : (derivedSrc c nm (derivedFields c op) (derivedRequired c op)).bases = ["Structure"] := rfl
  have hown : ownMembers (derivedSrc c nm (derivedFields c op) (derivedRequired c op)).entries
      = derivedFields c op := ownMembers_derived c _
  rw [(deriveClass_ok h).2]
  simp only [build, ClassDef.ignoreNone]
  refine ⟨?_, ?_, rfl, ?_, ?_, rfl⟩
  · rw [allFieldsOf_structure hS hb, hown]
  · rw [mroTail_structure hS hb]; rfl
  · rw [requiredOf_structure hS hb rfl, hown]
  · rw [inheritedOpt_structure hS hb _ rfl]
    show (c.ignoreNoneAttr.orElse fun _ => none).getD false = _
    cases c.ignoreNoneAttr <;> rfl

theorem derive_allFields {O : Oracles} {w : World} (hS : HasStructure w) {c d : ClassDef} {nm : String}
    {op : DeriveOp} (hk : KeysNodup c.allFields) (h : deriveClass O w c nm op = .ok d) :
    d.allFields = derivedFields c op := by
  rw [(derive_shape hS h).1, updateAll_nodup_eq _ [] (by simpa using derivedFields_keysNodup hk op)]
  rfl

theorem specHasField_eq (op : DeriveOp) (fs : List String) (n : String) :
    specHasField op fs n = (fs.contains n && keeps op n) := by
  cases op <;> simp [specHasField, keeps]

/-- C12 (field set): the derived class has exactly the documented field names. -/
theorem derive_fields {O : Oracles} {w : World} (hS : HasStructure w) {c d : ClassDef} {nm : String}
    {op : DeriveOp} (hk : KeysNodup c.allFields) (h : deriveClass O w c nm op = .ok d) (n : String) :
    n ∈ d.fieldNames ↔ specHasField op c.fieldNames n = true := by
  rw [ClassDef.fieldNames, ← lookup_isSome_iff, derive_allFields hS hk h, lookup_derivedFields,
    specHasField_eq]
  exact isSome_lookup_if _ n c.allFields

/-- C12 (constraints and defaults): every retained field is the source's Field object —
    identical declaration and default — and an omitted / unpicked name is absent. -/
theorem derive_field_same {O : Oracles} {w : World} (hS : HasStructure w) {c d : ClassDef} {nm : String}
    {op : DeriveOp} (hk : KeysNodup c.allFields) (h : deriveClass O w c nm op = .ok d) (n : String) :
    lookup n d.allFields = if keeps op n then lookup n c.allFields else none := by
  rw [derive_allFields hS hk h, lookup_derivedFields]

/-- hence the same accept / reject / normal form for every value, and the same default -/
theorem derive_field_behaviour (O : Oracles) {w : World} (hS : HasStructure w) {c d : ClassDef}
    {nm : String} {op : DeriveOp} (hk : KeysNodup c.allFields) (h : deriveClass O w c nm op = .ok d)
    {n : String} (hn : n ∈ d.fieldNames) :
    (∀ v, C14.fieldValidate O d n v = C14.fieldValidate O c n v)
    ∧ C14.fieldDefault d n = C14.fieldDefault c n := by
  apply C14.same_field_same_behaviour
  rw [derive_field_same hS hk h]
  have := (derive_fields hS hk h n).mp hn
  rw [specHasField_eq] at this
  simp [(Bool.and_eq_true _ _ |>.mp this).2]

/-- no field required in the class has a default (true of every class typedpy defines unless a base
    requires a parameter for which the class holds another base's Field object with a default:
    `extend_drops_required`) -/
def ReqNoDefault (c : ClassDef) : Prop := ∀ n ∈ c.required, memberHasDefault c.allFields n = false

theorem mem_filter_needsValue {l : List (String × Member)} (hk : KeysNodup l) (n : String) :
    n ∈ (l.filter fun p => p.2.needsValue).map (·.1) ↔ memberNeedsValue l n = true := by
  rw [memberNeedsValue]
  constructor
  · intro h
    rcases List.mem_map.mp h with ⟨p, hp, rfl⟩
    rw [lookup_of_mem hk (List.mem_filter.mp hp).1]
    exact (List.mem_filter.mp hp).2
  · intro h
    cases hl : lookup n l with
    | none => rw [hl] at h; cases h
    | some m =>
      rw [hl] at h
      exact List.mem_map.mpr ⟨(n, m), List.mem_filter.mpr ⟨lookup_mem hl, h⟩, rfl⟩

theorem needsValue_noDefault {l : List (String × Member)} {n : String}
    (h : memberNeedsValue l n = true) : memberHasDefault l n = false := by
  simp only [memberNeedsValue, memberHasDefault] at h ⊢
  cases hl : lookup n l with
  | none => rfl
  | some m =>
    rw [hl] at h
    cases m with
    | const v => rfl
    | field d dflt =>
      cases dflt with
      | none => rfl
      | some _ => cases h

theorem memberHasDefault_derived (c : ClassDef) (op : DeriveOp) (n : String) :
    memberHasDefault (derivedFields c op) n = (keeps op n && memberHasDefault c.allFields n) := by
  simp only [memberHasDefault, lookup_derivedFields]
  cases keeps op n <;> simp

theorem mem_derivedRequired {c : ClassDef} (hk : KeysNodup c.allFields) (op : DeriveOp) (n : String) :
    n ∈ derivedRequired c op ↔ specRequires op c n = true := by
  cases op with
  | allRequired => exact mem_filter_needsValue hk n
  | _ => simp [derivedRequired, specRequires]

theorem specRequires_noDefault {c : ClassDef} (hr : ReqNoDefault c) {op : DeriveOp} {n : String}
    (h : specRequires op c n = true) : memberHasDefault c.allFields n = false := by
  cases op with
  | partialOf => cases h
  | allRequired => exact needsValue_noDefault h
  | extend => exact hr n (by simpa [specRequires] using h)
  | «omit» names => exact hr n (by simp [specRequires] at h; exact h.1)
  | pick names => exact hr n (by simp [specRequires] at h; exact h.1)

/-- C12 (required set): exactly the documented one — for Extend / Omit / Pick provided the source
    does not require a field that has a default (otherwise the operator drops it: finding). -/
theorem derive_required_partial {O : Oracles} {w : World} (hS : HasStructure w) {c d : ClassDef}
    {nm : String} {op : DeriveOp} (hk : KeysNodup c.allFields) (hr : ReqNoDefault c)
    (h : deriveClass O w c nm op = .ok d) (n : String) :
    n ∈ d.required ↔ specRequires op c n = true := by
  rw [(derive_shape hS h).2.2.2.1, mem_dedupStr, List.mem_filter,
    any_hasDefault_eq (derivedFields_keysNodup hk op), memberHasDefault_derived, mem_derivedRequired hk]
  refine ⟨fun hx => hx.1, fun hx => ⟨hx, ?_⟩⟩
  rw [specRequires_noDefault hr hx, Bool.and_false]; rfl

/-- the full required-set statement (no exclusion): false of the code, see `extend_drops_required` -/
def derive_required_statement : Prop :=
  ∀ (O : Oracles) (w : World) (c d : ClassDef) (nm : String) (op : DeriveOp), HasStructure w →
    KeysNodup c.allFields → deriveClass O w c nm op = .ok d → ∀ n, n ∈ d.required ↔ specRequires op c n = true

/-- C12: the derived class is a Structure class and not a subclass of its source. -/
theorem derive_not_subclass {O : Oracles} {w : World} (hS : HasStructure w) {c d : ClassDef}
    {nm : String} {op : DeriveOp} (h : deriveClass O w c nm op = .ok d)
    (hne : c.name ≠ nm) (hst : c.name ≠ "Structure") :
    c.name ∉ d.mro ∧ "Structure" ∈ d.mro := by
  rw [(derive_shape hS h).2.1]
  simp [hne, hst]

/-- C12: naming a non-existent field raises TypeError. -/
theorem derive_unknown_name_TypeError (O : Oracles) (w : World) (c : ClassDef) (nm : String)
    (names : List String) (k : String) (hk : k ∈ names) (hn : k ∉ c.fieldNames) :
    deriveClass O w c nm (.omit names) = .error .typeErr
    ∧ deriveClass O w c nm (.pick names) = .error .typeErr :=
  ⟨deriveClass_unknown_name O w c nm (op := .omit names) hk hn,
    deriveClass_unknown_name O w c nm (op := .pick names) hk hn⟩

/-- C12 (purity): applying an operator — successfully or not — leaves every existing class
    object, the source included, exactly as it was. -/
theorem derive_pure (O : Oracles) (w : World) (s : Step) (n : String) (c : ClassDef)
    (h : w.find n = some c) : (stepWorld O w s).find n = some c := by
  unfold stepWorld
  cases stepClass O w s with
  | ok d => exact find_add_of_some h
  | error e => exact h

/-- C12 (class-level None handling): the derived class ignores None exactly when the source does
    (whether `_ignore_none` is the source's own attribute or inherited). -/
theorem derive_ignore_none {O : Oracles} {w : World} (hS : HasStructure w) {c d : ClassDef}
    {nm : String} {op : DeriveOp} (h : deriveClass O w c nm op = .ok d) :
    d.ignoreNone = c.ignoreNone :=
  (derive_shape hS h).2.2.2.2.1

/-- C12 (AllFieldsRequired and Constants): a Constant of the source is carried over unchanged and
    is not required -/
theorem allRequired_keeps_constants {O : Oracles} {w : World} (hS : HasStructure w) {c d : ClassDef}
    {nm : String} (hk : KeysNodup c.allFields) (hr : ReqNoDefault c)
    (h : deriveClass O w c nm .allRequired = .ok d) {n : String} {v : PyVal}
    (hc : lookup n c.allFields = some (.const v)) :
    lookup n d.allFields = some (.const v) ∧ n ∉ d.required := by
  refine ⟨by rw [derive_field_same hS hk h]; simpa [keeps] using hc, ?_⟩
  intro hn
  have := (derive_required_partial hS hk hr h n).mp hn
  simp [specRequires, memberNeedsValue, hc, Member.needsValue] at this

/-! ### totality: on every class a history can define, an operator returns a class -/

/-- C12 (totality): in every world reachable by class statements (definitions at any depth and
    shape, mixins, earlier derivations), for every class of that world, every operator whose names —
    if it takes any — are fields of the class returns a class: no check of the class statement it
    ends in can fail.  The other conjuncts are the theorems above with their hypotheses discharged. -/
theorem derive_total (O : Oracles) {w : World} (hr : Reachable O w) {c : ClassDef} {cn : String}
    (hc : w.find cn = some c) (nm : String) (op : DeriveOp) (hn : ∀ k ∈ opNames op, k ∈ c.fieldNames) :
    ∃ d, deriveClass O w c nm op = .ok d
      ∧ (∀ n, n ∈ d.fieldNames ↔ specHasField op c.fieldNames n = true)
      ∧ (∀ n, lookup n d.allFields = if keeps op n then lookup n c.allFields else none)
      ∧ (ReqNoDefault c → ∀ n, n ∈ d.required ↔ specRequires op c n = true)
      ∧ d.mro = [nm, "Structure"] ∧ d.ignoreNone = c.ignoreNone := by
  have hS := reachable_hasStructure hr
  have hk := classOk_keysNodup (reachable_ok hr cn c hc)
  have h := c12_derive_total O hS (reachable_good hr cn c hc) nm op hn
  exact ⟨_, h, derive_fields hS hk h, derive_field_same hS hk h,
    fun hrd => derive_required_partial hS hk hrd h, (derive_shape hS h).2.1, derive_ignore_none hS h⟩

/-- C12 (when an operator raises): on a class of a reachable world an operator raises exactly when
    it is given a name that is not a field of the class (with TypeError: `deriveClass_unknown_name`) -/
theorem derive_raises_iff (O : Oracles) {w : World} (hr : Reachable O w) {c : ClassDef} {cn : String}
    (hc : w.find cn = some c) (nm : String) (op : DeriveOp) :
    (∃ e, deriveClass O w c nm op = .error e) ↔ ∃ k ∈ opNames op, k ∉ c.fieldNames := by
  constructor
  · rintro ⟨e, he⟩
    apply Classical.byContradiction
    intro hno
    rcases derive_total O hr hc nm op
      (fun k hk => Classical.byContradiction fun hk' => hno ⟨k, hk, hk'⟩) with ⟨d, hd, _⟩
    rw [hd] at he
    cases he
  · rintro ⟨k, hk, hkn⟩
    exact ⟨.typeErr, deriveClass_unknown_name O w c nm hk hkn⟩

/-- C12 (what is done with the other class-level settings): `_init_class_dict` copies `_fields`,
    `_ignore_none` and nothing else, so the derived class has NO `_additional_properties` /
    `_immutable` / `_serialization_mapper` / `_deserialization_mapper` of its own and reads typedpy's
    defaults through `Structure`: it admits additional properties (its constructor has `**kwargs`)
    and is mutable — whatever the source declares or inherits (an `ImmutableStructure` source,
    `_additional_properties = False`) -/
theorem derive_flags_not_copied {O : Oracles} {w : World} (hS : HasStructure w) {c d : ClassDef}
    {nm : String} {op : DeriveOp} (h : deriveClass O w c nm op = .ok d) :
    d.ownAddl = none ∧ d.addl = true ∧ d.sig.kwargs = true ∧ d.ownImmutable = none ∧ d.immutable = false
    ∧ d.ownMappers = [] := by
  have hb : (derivedSrc c nm (derivedFields c op) (derivedRequired c op)).bases = ["Structure"] := rfl
  rw [(deriveClass_ok h).2]
  simp only [build, sigOf]
  -- neither setting is written in the dict, and `Structure` carries neither
  rw [inheritedOpt_structure hS hb _ rfl, inheritedOpt_structure hS hb _ rfl]
  refine ⟨rfl, rfl, rfl, rfl, rfl, ?_⟩
  -- no entry of the dict is a mapper attribute
  refine congrArg (List.map _) (List.filter_eq_nil_iff.mpr fun p hp => ?_)
  rcases mem_derivedSrc_entries hp with rfl | ⟨q, _, rfl⟩
  · simp [mapperNames]
  · simp [isAttrEntry]

/-! ### closure under composition (any number of operators) and further extension -/

theorem hasStructure_add {w : World} (hS : HasStructure w) (d : ClassDef) : HasStructure (w.add d) :=
  find_add_of_some hS

theorem derived_keysNodup {O : Oracles} {w : World} (hS : HasStructure w) {c d : ClassDef}
    {nm : String} {op : DeriveOp} (h : deriveClass O w c nm op = .ok d) : KeysNodup d.allFields := by
  rw [(derive_shape hS h).1]; exact updateAll_keysNodup _ [] List.nodup_nil

/-- C12 (composition, constraints and defaults): after any number of operators a name that every one
    of them keeps holds the original source's Field object, and every other name is absent -/
theorem deriveMany_lookup (O : Oracles) : ∀ (ops : List (DeriveOp × String)) (w : World)
    (c : ClassDef) (w' : World) (r : ClassDef), HasStructure w → KeysNodup c.allFields →
    deriveMany O w c ops = .ok (w', r) →
    ∀ n, lookup n r.allFields = if ops.all (fun o => keeps o.1 n) then lookup n c.allFields else none
  | [], w, c, w', r, _, _, h, n => by
    simp only [deriveMany] at h
    cases h; rfl
  | (op, nm) :: rest, w, c, w', r, hS, hk, h, n => by
    simp only [deriveMany] at h
    rcases bindE_eq_ok h with ⟨d, hd, hrest⟩
    rw [deriveMany_lookup O rest (w.add d) d w' r (hasStructure_add hS d) (derived_keysNodup hS hd) hrest n,
      derive_field_same hS hk hd, List.all_cons]
    cases keeps op n <;> cases rest.all (fun o => keeps o.1 n) <;> rfl

theorem deriveMany_field_same (O : Oracles) : ∀ (ops : List (DeriveOp × String)) (w : World)
    (c : ClassDef) (w' : World) (r : ClassDef), HasStructure w → KeysNodup c.allFields →
    deriveMany O w c ops = .ok (w', r) →
    ∀ n m, lookup n r.allFields = some m → lookup n c.allFields = some m := by
  intro ops w c w' r hS hk h n m hl
  rw [deriveMany_lookup O ops w c w' r hS hk h n] at hl
  split at hl
  · exact hl
  · cases hl

theorem specHasFieldMany_eq : ∀ (ops : List DeriveOp) (fs : List String) (n : String),
    specHasFieldMany ops fs n = (fs.contains n && ops.all fun op => keeps op n)
  | [], fs, n => by simp [specHasFieldMany]
  | op :: rest, fs, n => by
    rw [specHasFieldMany, specHasFieldMany_eq rest]
    have : (fs.filter (specHasField op fs)).contains n = (fs.contains n && keeps op n) := by
      rw [Bool.eq_iff_iff]
      simp [List.mem_filter, specHasField_eq]
    rw [this, List.all_cons, Bool.and_assoc]

/-- C12 (composition): the field set after any number of operators is the documented one -/
theorem deriveMany_fields (O : Oracles) : ∀ (ops : List (DeriveOp × String)) (w : World)
    (c : ClassDef) (w' : World) (r : ClassDef), HasStructure w → KeysNodup c.allFields →
    deriveMany O w c ops = .ok (w', r) →
    ∀ n, n ∈ r.fieldNames ↔ specHasFieldMany (ops.map (·.1)) c.fieldNames n = true := by
  intro ops w c w' r hS hk h n
  rw [ClassDef.fieldNames, ← lookup_isSome_iff, deriveMany_lookup O ops w c w' r hS hk h n,
    specHasFieldMany_eq, List.all_map]
  exact isSome_lookup_if _ n c.allFields

theorem deriveMany_not_subclass (O : Oracles) : ∀ (ops : List (DeriveOp × String)) (w : World)
    (c : ClassDef) (w' : World) (r : ClassDef), HasStructure w → ops ≠ [] →
    deriveMany O w c ops = .ok (w', r) → ∃ nm, r.mro = [nm, "Structure"]
  | [], _, _, _, _, _, hne, _ => absurd rfl hne
  | (op, nm) :: rest, w, c, w', r, hS, _, h => by
    simp only [deriveMany] at h
    rcases bindE_eq_ok h with ⟨d, hd, hrest⟩
    cases rest with
    | nil =>
      simp only [deriveMany] at hrest
      cases hrest
      exact ⟨nm, (derive_shape hS hd).2.1⟩
    | cons o os =>
      exact deriveMany_not_subclass O (o :: os) (w.add d) d w' r (hasStructure_add hS d)
        (by simp) hrest

theorem deriveMany_pure (O : Oracles) : ∀ (ops : List (DeriveOp × String)) (w : World)
    (c : ClassDef) (w' : World) (r : ClassDef), deriveMany O w c ops = .ok (w', r) →
    ∀ n x, w.find n = some x → w'.find n = some x
  | [], w, c, w', r, h, n, x, hx => by
    simp only [deriveMany] at h
    cases h; exact hx
  | (op, nm) :: rest, w, c, w', r, h, n, x, hx => by
    simp only [deriveMany] at h
    rcases bindE_eq_ok h with ⟨d, _, hrest⟩
    exact deriveMany_pure O rest (w.add d) d w' r hrest n x (find_add_of_some hx)

/-- C12 (further extension): a class that extends a derived class (its only base) keeps, for every
    name it does not redeclare, the identical Field object of the *original source*. -/
theorem extended_derived_field_same {O : Oracles} {w : World} (hw : WorldOk w) (hS : HasStructure w)
    {c d e : ClassDef} {nm : String} {op : DeriveOp} {src : ClassSrc} {n : String}
    (hk : KeysNodup c.allFields) (hd : deriveClass O w c nm op = .ok d) (hfd : w.find nm = none)
    (hsrc : src.bases = [nm]) (he : defineClass O (w.add d) src = .ok e)
    (hfe : (w.add d).find src.name = none)
    (hn : n ∉ (ownMembers src.entries).map (·.1)) :
    lookup n e.allFields = if keeps op n then lookup n c.allFields else none := by
  rcases deriveClass_ok hd with ⟨hck, rfl⟩
  rw [C14.inherited_field_same (worldOk_add_build hw hck hfd) he hfe (b := nm) (by rw [hsrc]; simp)
    (find_add_fresh hfd)
    (by intro b' hb' hne; rw [hsrc] at hb'; simp at hb'; exact absurd hb' hne) hn]
  exact derive_field_same hS hk hd n

/-! ### kernel-checked counterexamples (known findings) and non-vacuity -/

def exO : Oracles := { reMatch := fun _ _ => true }
def W0 : World := initWorld true true
def intF : SrcEntry := .field (.integer {}) none none
def strD : SrcEntry := .field (.string none none none) (some (.lit (.str "x"))) none

def getCls (w : World) (n : String) : ClassDef := (w.find n).getD (mixinDef "?")

/-- fixed finding `ignore-none-dropped:inherited` (61d07fa): an `_ignore_none` the source only
    inherits is kept -/
def ignWorld : World :=
  runSteps exO W0 [.define { name := "Ba", bases := ["Structure"], entries := [("a", intF)], ignoreNone := some true },
                   .define { name := "Mid", bases := ["Ba"], entries := [("b", intF)] },
                   .derive .partialOf "Mid" "PMid"]

theorem inherited_ignore_none_kept :
    (getCls ignWorld "Mid").ignoreNone = true ∧ (getCls ignWorld "PMid").ignoreNone = true
    ∧ (getCls ignWorld "PMid").fieldNames = ["a", "b"] ∧ (getCls ignWorld "PMid").required = [] := by
  decide +kernel

/-- fixed finding `derive-raises:allRequired:constant` (c926eea): AllFieldsRequired on a class with a
    Constant returns a class; the Constant stays a constant and is not required -/
def constWorld : World :=
  runSteps exO W0 [.define { name := "Ba", bases := ["Structure"],
                             entries := [("a", intF), ("s", strD), ("c", .obj (.const (.int 3)))] },
                   .derive .allRequired "Ba" "R"]

theorem allRequired_constant_example :
    (getCls constWorld "R").fieldNames = ["a", "s", "c"] ∧ (getCls constWorld "R").required = ["a"]
    ∧ (getCls constWorld "R").constants.map (·.1) = ["c"] := by
  decide +kernel

/-- fixed route of finding `required-set:*:source-requires-field-with-default`: a subclass that
    lists an inherited field with a default in `_required` does not require it ("every field that has
    a default value is, by definition, optional"), so Extend agrees with its source -/
def reqDefWorld : World :=
  runSteps exO W0 [.define { name := "A", bases := ["Structure"], entries := [("a", strD)] },
                   .define { name := "S", bases := ["A"], entries := [("b", intF)], required := some ["a", "b"] },
                   .derive .extend "S" "ES"]

theorem fixed_inherited_default_not_required :
    (getCls reqDefWorld "S").required = ["b"] ∧ (getCls reqDefWorld "ES").required = ["b"] := by
  decide +kernel

/-- finding `required-set:extend:source-requires-field-with-default` (remaining route): with two
    bases the later one's required parameter is required in the subclass although the Field object
    the subclass holds (the earlier base's) has a default; Extend (and Omit / Pick) drop it -/
def reqDefWorld2 : World :=
  runSteps exO W0 [.define { name := "K1", bases := ["Structure"], entries := [("e", intF)] },
                   .define { name := "K2", bases := ["Structure"], entries := [("e", strD)] },
                   .define { name := "K3", bases := ["K2", "K1"], entries := [] },
                   .derive .extend "K3" "E3"]

theorem extend_drops_required :
    (getCls reqDefWorld2 "K3").required = ["e"] ∧ (getCls reqDefWorld2 "E3").required = [] := by
  decide +kernel

/-- non-vacuity: operators and a composition on a class with inheritance, a default and
    `_ignore_none` -/
def exWorld : World :=
  runSteps exO W0 [.define { name := "A", bases := ["Structure"], entries := [("a", intF), ("s", strD)],
                             ignoreNone := some true },
                   .define { name := "F", bases := ["A"], entries := [("b", intF), ("c", intF)] },
                   .derive .partialOf "F" "P", .derive .allRequired "F" "R", .derive (.omit ["a", "c"]) "F" "Om",
                   .derive (.pick ["s", "s"]) "Om" "Pk", .derive (.pick ["nope"]) "F" "Bad",
                   .define { name := "X", bases := ["P"], entries := [("x", intF)] }]

theorem derive_example :
    (getCls exWorld "F").fieldNames = ["a", "s", "b", "c"] ∧ (getCls exWorld "F").required = ["a", "b", "c"]
    ∧ (getCls exWorld "P").fieldNames = ["a", "s", "b", "c"] ∧ (getCls exWorld "P").required = []
    ∧ (getCls exWorld "R").required = ["a", "b", "c"]
    ∧ (getCls exWorld "Om").fieldNames = ["s", "b"] ∧ (getCls exWorld "Om").required = ["b"]
    ∧ (getCls exWorld "Pk").fieldNames = ["s"] ∧ (getCls exWorld "Pk").mro = ["Pk", "Structure"]
    ∧ (exWorld.find "Bad").isNone = true
    ∧ (getCls exWorld "X").fieldNames = ["a", "s", "b", "c", "x"] ∧ (getCls exWorld "X").required = ["x"] := by
  decide +kernel

/-- non-vacuity of `derive_flags_not_copied`: Partial of an ImmutableStructure class that forbids
    additional properties is mutable and admits them -/
def flagWorld : World :=
  runSteps exO W0 [.define { name := "Im", bases := ["ImmutableStructure"], entries := [("a", intF)], addl := some false },
                   .derive .partialOf "Im" "PIm"]

theorem flags_example :
    (getCls flagWorld "Im").immutable = true ∧ (getCls flagWorld "Im").addl = false
    ∧ (getCls flagWorld "PIm").immutable = false ∧ (getCls flagWorld "PIm").addl = true
    ∧ (getCls flagWorld "PIm").sig.kwargs = true ∧ (getCls flagWorld "PIm").fieldNames = ["a"] := by
  decide +kernel

end Typedpy.C12
