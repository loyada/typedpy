/-
  Lemmas/SchemaRename.lean — a key-renaming `_serialization_mapper` on the top-level class
  (`Sch.classSchemaM`, `Sch.renameDoc`): the renamed class object accepts the renamed serialization
  whenever the mapper-free statement holds, the key map is injective on the names in play
  (`injOnB`) and the in-place renaming of `required` ended with the image of the required names
  (`requiredFaithful`); and the dialect rewrite commutes with the key map on the class object.
-/
import TypedpyModel.Lemmas.SchemaAdmits
import TypedpyModel.Lemmas.SchemaDialect
namespace Typedpy.Sch
open Typedpy

theorem c08_injOnB_spec (km : KeyMap) (L : List String) (h : injOnB km L = true) (a b : String)
    (ha : a ∈ L) (hb : b ∈ L) (hab : mapName km a = mapName km b) : a = b := by
  simp only [injOnB, List.all_eq_true] at h
  have := h a ha b hb
  simpa [hab] using this

theorem c08_docKeys_mem (a : String) (v : PyVal) (r : List (PyVal × PyVal)) (h : (PyVal.str a, v) ∈ r) :
    a ∈ docKeys r := by
  simp only [docKeys, List.mem_filterMap]
  exact ⟨(.str a, v), h, rfl⟩

theorem c08_docKeys_cons (kv : PyVal × PyVal) (rest : List (PyVal × PyVal)) (b : String)
    (h : b ∈ docKeys rest) : b ∈ docKeys (kv :: rest) := by
  simp only [docKeys, List.mem_filterMap] at h ⊢
  obtain ⟨kv', hkv', hd⟩ := h
  exact ⟨kv', by simp [hkv'], hd⟩

/-- under a key map that is injective on the names in play (`L`: the field names and the keys of the document), looking
    the renamed name up in the renamed document is looking the name up in the document -/
theorem c08_getKw_rename (km : KeyMap) (L : List String) (hL : injOnB km L = true) (n : String) (hn : n ∈ L) :
    ∀ r : List (PyVal × PyVal), (∀ a ∈ docKeys r, a ∈ L) →
      getKw (mapName km n) (renameKeys km r) = getKw n r
  | [], _ => rfl
  | (k, v) :: rest, hr => by
    have ih := c08_getKw_rename km L hL n hn rest fun b hb => hr b (c08_docKeys_cons _ _ _ hb)
    cases k with
    | str a =>
      -- on a key of the document the renamed comparison is the comparison of the names
      have hkey : (mapName km a == mapName km n) = (a == n) :=
        Bool.eq_iff_iff.mpr (by
          rw [beq_iff_eq, beq_iff_eq]
          exact ⟨c08_injOnB_spec km L hL a n (hr a (c08_docKeys_mem a v _ List.mem_cons_self)) hn, congrArg _⟩)
      rw [renameKeys, getKw, getKw, keyIs, keyIs, hkey, ih]
    | _ => simpa only [renameKeys, getKw, keyIs, Bool.false_eq_true, if_false] using ih

theorem c08_renameKeys_mem (km : KeyMap) : ∀ (r : List (PyVal × PyVal)) (kv : PyVal × PyVal),
    kv ∈ renameKeys km r → ∃ k v, (k, v) ∈ r ∧ ∀ a, k = PyVal.str a → kv = (PyVal.str (mapName km a), v)
  | (k, v) :: rest, kv, h => by
    rcases List.mem_cons.mp h with rfl | h'
    · exact ⟨k, v, List.mem_cons_self, fun a ha => by subst ha; rfl⟩
    · obtain ⟨k', v', hm, he⟩ := c08_renameKeys_mem km rest kv h'
      exact ⟨k', v', List.mem_cons_of_mem _ hm, he⟩

theorem c08_propsOfM_names (km : KeyMap) : ∀ fields : List (String × PyVal),
    docKeys (propsOfM km [] fields) = fields.map (fun p => mapName km p.1)
  | [] => rfl
  | (n, _) :: rest => congrArg (mapName km n :: ·) (c08_propsOfM_names km rest)

theorem c08_jsProps_rename (R S) (km : KeyMap) (r : List (PyVal × PyVal))
    (L : List String) (hL : injOnB km L = true) (hr : ∀ a ∈ docKeys r, a ∈ L) :
    ∀ fields : List (String × PyVal), (∀ p ∈ fields, p.1 ∈ L) →
      jsProps R S (propsOfM km [] fields) (renameKeys km r) = propsB R S fields r
  | [], _ => rfl
  | (n, s) :: rest, hin => by
    simp only [propsOfM, lookup, addDefault, jsProps, kw, docKey, propsB]
    rw [c08_getKw_rename km L hL n (hin (n, s) List.mem_cons_self) r hr,
      c08_jsProps_rename R S km r L hL hr rest (fun p hp => hin p (List.mem_cons_of_mem _ hp))]
    cases getKw n r <;> rfl

theorem c08_sameSet_mem {a b : List String} (h : sameSet a b = true) (x : String) (hx : x ∈ a) : x ∈ b := by
  simp only [sameSet, Bool.and_eq_true_iff, List.all_eq_true] at h
  simpa using h.1 x hx

theorem c08_jsV_classObjM (R S) (km : KeyMap) (c : ClassOpts) (fields : List (String × PyVal))
    (r : List (PyVal × PyVal))
    (hinj : injOnB km (fields.map (·.1) ++ docKeys r) = true)
    (hreqF : requiredFaithful km c [] (fields.map (·.1)) = true)
    (h : jsV R S (classObj c [] fields) (.dict r) = true) :
    jsV R S (classObjM km c [] fields) (.dict (renameKeys km r)) = true := by
  rw [jsV_classObj_eq, objDoc_iff] at h
  obtain ⟨_, hr, hprops, hreq, haddl⟩ := h
  cases hr
  have hrL : ∀ a ∈ docKeys r, a ∈ fields.map (·.1) ++ docKeys r := fun a ha => List.mem_append_right _ ha
  rw [classObjM, jsV_objectSchema_eq, objDoc_iff]
  refine ⟨_, rfl, ?_, ?_, ?_⟩
  · exact (c08_jsProps_rename R S km r _ hinj hrL fields
      (fun p hp => List.mem_append_left _ (List.mem_map_of_mem hp))).trans hprops
  · intro e he
    obtain ⟨n, hn, rfl⟩ := List.mem_map.mp (c08_sameSet_mem hreqF e he)
    have hsome := hreq n hn
    obtain ⟨x, hg⟩ := Option.isSome_iff_exists.mp hsome
    rw [c08_getKw_rename km _ hinj n (hrL n (c08_docKeys_mem n x r (getKw_mem n x r hg))) r hrL]
    exact hsome
  · refine haddl.imp id fun h kv hkv => ?_
    obtain ⟨k, v, hm, he⟩ := c08_renameKeys_mem km r kv hkv
    obtain ⟨name, hn1, hn2⟩ := h _ hm
    obtain rfl : k = PyVal.str name := by
      cases k <;> simp [docKey] at hn1 <;> exact congrArg _ hn1
    rw [he name rfl]
    refine ⟨mapName km name, rfl, ?_⟩
    rw [c08_propsOfM_names]
    simp only [List.contains_eq_mem, List.mem_map, decide_eq_true_eq] at hn2 ⊢
    obtain ⟨b, hb, hbn⟩ := hn2
    exact ⟨b, hb, by rw [hbn]⟩

/-- the statement under a key map follows from the mapper-free one (`admits_class`) at the level of the two schemas -/
theorem c08_admits_class_renamed (O : Oracles) (S : String → String → Bool)
    (hS : ∀ p s, O.reMatch p s = true → S p s = true) (D : Defs) (km : KeyMap) (cls : FieldDecl) (x j : PyVal)
    (n : Nat) (hfrag : inSchemaFragment cls = true) (hrefs : ClassRefsFaithful D cls) (hd : refDepth cls ≤ n)
    (hreg : inAdmitRegion O cls x = true) (hser : serialize O cls x = .ok j)
    (hsafe : renameSafe km cls j = true) :
    jsV (resolver D S n) S (classSchemaM true km cls) (renameDoc km j) = true := by
  have h := admits_class O S hS D cls x j n hfrag hrefs hd hreg hser
  cases cls with
  | struct c fields defaults =>
    cases j with
    | dict r =>
      simp only [inSchemaFragment, Bool.and_eq_true_iff, Bool.not_eq_true'] at hfrag
      simp only [renameSafe, Bool.and_eq_true_iff] at hsafe
      obtain rfl : defaults = [] := List.isEmpty_iff.mp hsafe.1.1
      rw [classSchema_classObj true c fields [] hfrag.1.2] at h
      simp only [classSchemaM, hfrag.1.2, Bool.false_eq_true, if_false, renameDoc]
      exact c08_jsV_classObjM _ S km c (emitP true fields) r (by rw [emitP_names]; exact hsafe.1.2)
        (by rw [emitP_names]; exact hsafe.2) h
    | _ => simp [renameSafe] at hsafe
  | _ => simp [inSchemaFragment] at hfrag

theorem c08_fix_propsOfM (km : KeyMap) (defaults : List (String × PyVal)) : ∀ fields : List (String × PyVal),
    fixProps (propsOfM km defaults fields) = propsOfM km defaults (fixDefs fields)
  | [] => rfl
  | (n, s) :: rest => by
    simp only [propsOfM, fixProps, kw, fixDefs, c08_fix_addDefault, c08_fix_propsOfM km defaults rest]

theorem c08_fix_classObjM (km : KeyMap) (c : ClassOpts) (defaults : List (String × PyVal))
    (fields : List (String × PyVal)) :
    dialectFix (classObjM km c defaults fields) = classObjM km c defaults (fixDefs fields) := by
  rw [classObjM, fix_objectSchema, c08_fix_propsOfM, classObjM, c08_fixDefs_names]

end Typedpy.Sch
