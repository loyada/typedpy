/-
  C10: the declaration-level partition of the fast-serialization claim is
  exhaustive: a field shape is inside the proved region `fsafeD` or carries a named tag of `fdefD`.
-/
import TypedpyModel.Spec.FastSafe
import TypedpyModel.Lemmas.TrustedExh
namespace Typedpy

/-- for an Optional with option `x`, `fsafeOpt` is `!isNoneF x && fsafeD x && !isAnyOfD x` and the tags
    are `x`'s, plus "optional-shape:unproved" when `x` is `NoneField` or an `AnyOf` again -/
theorem c10_fexh_opt (NF : List String) (fs : List FieldDecl) (ho : isOptAnyOf fs = true)
    (hD : ∀ z ∈ fs, fsafeD NF z = true ∨ fdefD NF z ≠ []) :
    fsafeD NF (.anyOf fs) = true ∨ fdefD NF (.anyOf fs) ≠ [] := by
  rcases optOf_of_isOpt fs ho with ⟨x, h⟩
  have hx := hD x h.mem
  have e1 : fsafeOpt NF fs = (!isNoneF x && fsafeD NF x && !isAnyOfD x) := by
    cases h with
    | fst => simp [fsafeOpt, isNoneF_noneF', Bool.and_assoc]
    | snd y hy => simp [fsafeOpt, fsafeOptTail, isNoneF_noneF', isNoneF_of_ne hy]
  have e2 : fs.all (fun g => isNoneF g || isAnyOfD g) = (isNoneF x || isAnyOfD x) := by
    cases h <;> simp [isNoneF_noneF']
  have e3 : fdefL NF fs = fdefD NF x := by
    cases h <;> simp [fdefL, fdefD]
  unfold fsafeD fdefD
  rw [show (fs.length == 2 && fs.any isNoneF) = true from ho, e1, e2, e3]
  cases isNoneF x <;> cases isAnyOfD x <;> simp
  exact hx

mutual
theorem c10_fexh_D (NF : List String) : ∀ f : FieldDecl, fsafeD NF f = true ∨ fdefD NF f ≠ []
  | .number _ | .integer _ | .float _ | .string _ _ _ | .boolean | .noneF | .enumLit _ | .enumCls _ _ => Or.inl rfl
  | .seqOf _ item _ | .setOf _ item _ | .tupleOf item _ => c10_fexh_D NF item
  | .tuplePos items _ => c10_fexh_L NF items
  | .seqPos .list _ _ _ | .seqPos .deque _ _ _ => Or.inr (List.cons_ne_nil _ _)
  | .mapOf kf vf _ => and_or_append_ne_nil (c10_fexh_D NF kf) (c10_fexh_D NF vf)
  | .struct c fields _ => by
    unfold fsafeD fdefD
    exact and_or_append_ne_nil (and_or_append_ne_nil (and_or_append_ne_nil (not_or_ite_ne_nil _ _) (not_or_ite_ne_nil _ _))
      (true_or_ite_ne_nil _ _)) (c10_fexh_fields NF fields)
  | .anyOf fs => c10_fexh_any NF fs
  | .seqAny _ _ | .setAny _ _ | .mapAny _ | .oneOf _ | .allOf _ | .notF _ | .anything => Or.inr (List.cons_ne_nil _ _)

theorem c10_fexh_L (NF : List String) : ∀ fs : List FieldDecl, fsafeL NF fs = true ∨ fdefL NF fs ≠ []
  | [] => Or.inl rfl
  | f :: fs => and_or_append_ne_nil (c10_fexh_D NF f) (c10_fexh_L NF fs)

theorem c10_fexh_fields (NF : List String) : ∀ fields : List (String × FieldDecl),
    fsafeFields NF fields = true ∨ fdefFields NF fields ≠ []
  | [] => Or.inl rfl
  | (_, f) :: rest => and_or_append_ne_nil (c10_fexh_D NF f) (c10_fexh_fields NF rest)

theorem c10_fexh_any (NF : List String) : ∀ fs : List FieldDecl,
    fsafeD NF (.anyOf fs) = true ∨ fdefD NF (.anyOf fs) ≠ []
  | [] | [_] | _ :: _ :: _ :: _ => Or.inr (List.cons_ne_nil _ _)
  | [x, y] => by
    by_cases ho : isOptAnyOf [x, y] = true
    · exact c10_fexh_opt NF [x, y] ho
        (List.forall_mem_cons.mpr ⟨c10_fexh_D NF x, List.forall_mem_cons.mpr ⟨c10_fexh_D NF y, fun _ h => nomatch h⟩⟩)
    · right
      have ho' : ([x, y].length == 2 && [x, y].any isNoneF) = false := by simpa [isOptAnyOf] using ho
      unfold fdefD
      rw [ho']
      exact List.append_ne_nil_of_left_ne_nil (List.cons_ne_nil _ _) _
end

end Typedpy
