/-
  C10, fast serialization with key-renaming mappers: a class's mapper only
  renames that class's own keys (`C10.fast_mapper_own_keys`), an injective mapper loses no getter
  (`c10_keyDedupe_id`), classes without mappers below make the mapper environment irrelevant
  (`c10_fser_free`): together, the installed serializer of a class with a mapper returns the regular
  document with the class's keys renamed (`C10.fast_mapper_equiv_partial`).  With one simple mapper per
  class at any depth (`fmsafeD`), `serialize` under the mappers is the mapper-free `serialize`
  followed by the renaming `relV` of every class-level object (`c10_fser_rel`, by
  `FieldDecl.induction`).
-/
import TypedpyModel.Lemmas.Fast
namespace Typedpy
open PyVal (pyEq)

theorem c10_mapKey_none (n : String) : mapKey .none n = n := rfl

/-- the keys the installed serializer writes are pairwise different when the mapper is injective
    on the class's fields: `processed_mapper` loses no getter -/
theorem c10_fFields_keys (Mp : MapEnv) (NF JK : List String) (sn : Bool) (m : TMapper)
    (ds attrs : List (String × PyVal)) : ∀ (fields : List (String × FieldDecl)) (r : List (PyVal × PyVal)),
    strNodup (fields.map fun p => mapKey m p.1) = true →
    fFields Mp NF JK sn m ds attrs fields = .ok r →
    strKeysDistinct r = true ∧ ∀ kv ∈ r, ∃ p ∈ fields, kv.1 = .str (mapKey m p.1)
  | [], r, _, h => by
    simp only [fFields] at h
    cases h
    exact ⟨rfl, fun kv hkv => by simp at hkv⟩
  | (n, f) :: rest, r, hn, h => by
    simp only [List.map_cons, strNodup, Bool.and_eq_true_iff, Bool.not_eq_true'] at hn
    simp only [fFields] at h
    rcases bindE_eq_ok h with ⟨j, _, h2⟩
    rcases bindE_eq_ok h2 with ⟨r', h3, h4⟩
    have ih := c10_fFields_keys Mp NF JK sn m ds attrs rest r' hn.2 h3
    simp only [Except.ok.injEq] at h4
    by_cases hj : (j.isNone && !sn) = true
    · simp only [hj, if_true] at h4
      subst h4
      exact ⟨ih.1, fun kv hkv => by
        rcases ih.2 kv hkv with ⟨p, hp, e⟩
        exact ⟨p, by simp [hp], e⟩⟩
    · simp only [hj, Bool.false_eq_true, if_false] at h4
      subst h4
      refine ⟨?_, fun kv hkv => ?_⟩
      · simp only [strKeysDistinct, ih.1, Bool.and_true, Bool.not_eq_true']
        cases hany : (r'.any fun kv => match kv.1 with | .str k' => mapKey m n == k' | _ => false) with
        | false => rfl
        | true =>
          simp only [List.any_eq_true] at hany
          rcases hany with ⟨kv, hkv, hk⟩
          rcases ih.2 kv hkv with ⟨p, hp, e⟩
          rw [e] at hk
          have hk' : mapKey m n = mapKey m p.1 := by simpa using hk
          have : (rest.map fun p => mapKey m p.1).contains (mapKey m n) = true := by
            simp only [List.contains_eq_mem, List.mem_map, decide_eq_true_eq]
            exact ⟨p, hp, hk'.symm⟩
          rw [hn.1] at this; cases this
      · simp only [List.mem_cons] at hkv
        rcases hkv with hkv | hkv
        · exact ⟨(n, f), by simp, by rw [hkv]⟩
        · rcases ih.2 kv hkv with ⟨p, hp, e⟩
          exact ⟨p, by simp [hp], e⟩

theorem c10_keyDedupe_id (Mp : MapEnv) (NF JK : List String) (sn : Bool) (m : TMapper)
    (ds attrs : List (String × PyVal)) (fields : List (String × FieldDecl)) (r : List (PyVal × PyVal))
    (hn : strNodup (fields.map fun p => mapKey m p.1) = true)
    (h : fFields Mp NF JK sn m ds attrs fields = .ok r) : keyDedupe m r = r := by
  unfold keyDedupe
  split
  · rfl
  · exact dictOfPairs_distinct r (c10_fFields_keys Mp NF JK sn m ds attrs fields r hn h).1

/-- so the step through `processed_mapper` can be dropped in front of any continuation -/
theorem c10_keyDedupe_bind (Mp : MapEnv) (NF JK : List String) (sn : Bool) (m : TMapper)
    (ds attrs : List (String × PyVal)) (fields : List (String × FieldDecl)) {β} (k : List (PyVal × PyVal) → R β)
    (hn : strNodup (fields.map fun p => mapKey m p.1) = true) :
    (bindE (fFields Mp NF JK sn m ds attrs fields) fun r => k (keyDedupe m r))
      = bindE (fFields Mp NF JK sn m ds attrs fields) k := by
  cases h : fFields Mp NF JK sn m ds attrs fields with
  | error e => rfl
  | ok r => simp only [bindE_ok, c10_keyDedupe_id Mp NF JK sn m ds attrs fields r hn h]

theorem c10_keyDedupe_none (r : List (PyVal × PyVal)) : keyDedupe .none r = r := rfl

theorem c10_isNone_eq (m : TMapper) (h : m.isNone = true) : m = .none := by
  cases m <;> simp [TMapper.isNone] at h <;> rfl

mutual
theorem c10_fser_free (Mp : MapEnv) (NF JK : List String) : ∀ (f : FieldDecl) (v : PyVal),
    mfreeD Mp f = true → fser Mp NF JK f v = fser noMappers NF JK f v
  | .number _ | .integer _ | .float _ | .string _ _ _ | .boolean | .noneF | .enumLit _ | .enumCls _ _
  | .seqAny _ _ | .setAny _ _ | .mapAny _ | .anything | .oneOf _ => fun _ _ => rfl
  | .seqOf .list item _ | .seqOf .deque item _ | .setOf _ item _ | .tupleOf item _ => fun v h => by
    unfold mfreeD at h
    have : fser Mp NF JK item = fser noMappers NF JK item := funext fun x => c10_fser_free Mp NF JK item x h
    unfold fser
    simp only [this]
  | .seqPos .list items _ _ | .seqPos .deque items _ _ => fun v h => by
    unfold mfreeD at h
    have : fserZipRaw Mp NF JK items = fserZipRaw noMappers NF JK items :=
      funext fun xs => c10_fserZipRaw_free Mp NF JK items xs h
    unfold fser
    simp only [this]
  | .tuplePos items _ => fun v h => by
    unfold mfreeD at h
    have : fserZip Mp NF JK items = fserZip noMappers NF JK items :=
      funext fun xs => c10_fserZip_free Mp NF JK items xs h
    unfold fser
    simp only [this]
  | .mapOf kf vf _ => fun v h => by
    unfold mfreeD at h
    simp only [Bool.and_eq_true_iff] at h
    have h1 : fser Mp NF JK kf = fser noMappers NF JK kf := funext fun x => c10_fser_free Mp NF JK kf x h.1
    have h2 : fser Mp NF JK vf = fser noMappers NF JK vf := funext fun x => c10_fser_free Mp NF JK vf x h.2
    unfold fser
    simp only [h1, h2]
  | .struct c fields ds => fun v h => by
    unfold mfreeD at h
    simp only [Bool.and_eq_true_iff, Bool.or_eq_true] at h
    have hf : ∀ m a, fFields Mp NF JK false m ds a fields = fFields noMappers NF JK false m ds a fields :=
      fun m a => c10_fFields_free Mp NF JK false m ds a fields h.2
    have hi : ∀ d a, fInline Mp NF JK d a fields = fInline noMappers NF JK d a fields :=
      fun d a => c10_fInline_free Mp NF JK d a fields h.2
    unfold fser
    simp only [hi]
    split
    · rfl
    · rename_i hinl
      have hm : Mp c.name = .none := by
        rcases h.1 with h1 | h1
        · exact absurd h1 hinl
        · exact c10_isNone_eq _ h1
      simp only [hm, noMappers_apply, hf]
  | .anyOf fs => fun v h => by
    unfold mfreeD at h
    unfold fser
    simp only [c10_fserLast_free Mp NF JK fs v h]
  | .allOf fs | .notF fs => fun v h => by
    unfold mfreeD at h
    unfold fser
    simp only [c10_fserHead_free Mp NF JK fs v h]

theorem c10_fserZip_free (Mp : MapEnv) (NF JK : List String) : ∀ (fs : List FieldDecl) (xs : List PyVal),
    mfreeL Mp fs = true → fserZip Mp NF JK fs xs = fserZip noMappers NF JK fs xs
  | [], [], _ | [], _ :: _, _ | _ :: _, [], _ => rfl
  | f :: fs, x :: xs, h => by
    simp only [mfreeL, Bool.and_eq_true_iff] at h
    simp only [fserZip, c10_fser_free Mp NF JK f x h.1, c10_fserZip_free Mp NF JK fs xs h.2]

theorem c10_fserZipRaw_free (Mp : MapEnv) (NF JK : List String) : ∀ (fs : List FieldDecl) (xs : List PyVal),
    mfreeL Mp fs = true → fserZipRaw Mp NF JK fs xs = fserZipRaw noMappers NF JK fs xs
  | [], [], _ | [], _ :: _, _ | _ :: _, [], _ => rfl
  | f :: fs, x :: xs, h => by
    simp only [mfreeL, Bool.and_eq_true_iff] at h
    simp only [fserZipRaw, c10_fser_free Mp NF JK f x h.1, c10_fserZipRaw_free Mp NF JK fs xs h.2]

theorem c10_fserLast_free (Mp : MapEnv) (NF JK : List String) : ∀ (fs : List FieldDecl) (v : PyVal),
    mfreeL Mp fs = true → fserLast Mp NF JK fs v = fserLast noMappers NF JK fs v
  | [], _, _ => rfl
  | f :: rest, v, h => by
    simp only [mfreeL, Bool.and_eq_true_iff] at h
    simp only [fserLast, c10_fser_free Mp NF JK f v h.1, c10_fserLast_free Mp NF JK rest v h.2]

theorem c10_fserHead_free (Mp : MapEnv) (NF JK : List String) : ∀ (fs : List FieldDecl) (v : PyVal),
    mfreeL Mp fs = true → fserHead Mp NF JK fs v = fserHead noMappers NF JK fs v
  | [], _, _ => rfl
  | f :: _, v, h => by
    simp only [mfreeL, Bool.and_eq_true_iff] at h
    simp only [fserHead, c10_fser_free Mp NF JK f v h.1]

theorem c10_fInline_free (Mp : MapEnv) (NF JK : List String) (ds attrs : List (String × PyVal)) :
    ∀ fields : List (String × FieldDecl), mfreeFields Mp fields = true →
      fInline Mp NF JK ds attrs fields = fInline noMappers NF JK ds attrs fields
  | [], _ => rfl
  | (n, f) :: rest, h => by
    simp only [mfreeFields, Bool.and_eq_true_iff] at h
    simp only [fInline, c10_fser_free Mp NF JK f _ h.1, c10_fInline_free Mp NF JK ds attrs rest h.2]

theorem c10_fFields_free (Mp : MapEnv) (NF JK : List String) (sn : Bool) (m : TMapper)
    (ds attrs : List (String × PyVal)) :
    ∀ fields : List (String × FieldDecl), mfreeFields Mp fields = true →
      fFields Mp NF JK sn m ds attrs fields = fFields noMappers NF JK sn m ds attrs fields
  | [], _ => rfl
  | (n, f) :: rest, h => by
    simp only [mfreeFields, Bool.and_eq_true_iff] at h
    simp only [fFields, c10_fser_free Mp NF JK f _ h.1, c10_fFields_free Mp NF JK sn m ds attrs rest h.2]
end

theorem c10_bindE_ok_id {α} (r : R α) : bindE r (fun j => .ok j) = r := by
  cases r <;> rfl

theorem c10_mapE_bind {α β γ} (g : α → R β) (h : β → γ) : ∀ xs : List α,
    mapE (fun x => bindE (g x) fun j => .ok (h j)) xs = bindE (mapE g xs) fun ys => .ok (ys.map h)
  | [] => rfl
  | x :: xs => by
    simp only [mapE, c10_mapE_bind g h xs]
    cases g x with
    | error e => rfl
    | ok y =>
      simp only [bindE_ok]
      cases mapE g xs with
      | error e => rfl
      | ok ys => rfl

theorem c10_fList_rel (g : PyVal → R PyVal) (h : PyVal → PyVal) (v : PyVal) :
    fList (mapE (fun x => bindE (g x) fun j => .ok (h j))) v
      = bindE (fList (mapE g) v) fun j => .ok (match j with | .list js => .list (js.map h) | other => other) := by
  simp only [fList]
  cases iterElems v with
  | none => rfl
  | some xs =>
    simp only [c10_mapE_bind]
    cases mapE g xs with
    | error e => rfl
    | ok ys => rfl

theorem c10_nodup_of_map (g : String → String) (l : List String) (h : strNodup (l.map g) = true) :
    strNodup l = true :=
  (strNodup_iff l).mpr
    ((List.pairwise_map.mp ((strNodup_iff _).mp h)).imp fun hne e => hne (congrArg g e))

theorem isNSB_of_isNumOrStr (f : FieldDecl) (h : isNumOrStr f = true) : isNSB f = true := by
  cases f <;> first | (cases h; done) | rfl

theorem c10_rel_nsb (Mp : MapEnv) (f : FieldDecl) (h : isNSB f = true) (j : PyVal) : relV Mp f j = j := by
  cases f <;> first | (cases h; done) | rfl

mutual
theorem c10_relV_isNone (Mp : MapEnv) : ∀ (f : FieldDecl) (j : PyVal), (relV Mp f j).isNone = j.isNone
  | .struct c fields _, j => by
    cases j <;> simp only [relV]
    split <;> rfl
  | .seqOf _ _ _, j | .setOf _ _ _, j | .tupleOf _ _, j => by cases j <;> rfl
  | .anyOf fs, j => c10_relLast_isNone Mp fs j
  | .number _, _ | .integer _, _ | .float _, _ | .string _ _ _, _ | .boolean, _ | .noneF, _ | .enumLit _, _
  | .enumCls _ _, _ | .seqAny _ _, _ | .seqPos _ _ _ _, _ | .setAny _ _, _ | .tuplePos _ _, _ | .mapAny _, _
  | .mapOf _ _ _, _ | .oneOf _, _ | .allOf _, _ | .notF _, _ | .anything, _ => rfl
theorem c10_relLast_isNone (Mp : MapEnv) : ∀ (fs : List FieldDecl) (j : PyVal), (relLast Mp fs j).isNone = j.isNone
  | [], _ => rfl
  | f :: rest, j => by
    simp only [relLast]
    split
    · exact c10_relV_isNone Mp f j
    · exact c10_relLast_isNone Mp rest j
end

theorem c10_fGet_rel (Mp : MapEnv) (JK : List String) (f : FieldDecl) (a : PyVal)
    (ih : fser Mp [] JK f a = bindE (fser noMappers [] JK f a) fun j => .ok (relV Mp f j)) :
    fGet Mp [] JK f a = bindE (fGet noMappers [] JK f a) fun j => .ok (relV Mp f j) := by
  unfold fGet
  by_cases hnsb : isNSB f = true
  · simp only [hnsb, if_true, bindE_ok, c10_rel_nsb Mp f hnsb]
  · simp only [hnsb, Bool.false_eq_true, if_false]
    by_cases hnone : a.isNone = true
    · simp only [hnone, if_true, bindE_ok, isNone_iff.1 ((c10_relV_isNone Mp f .none).trans rfl)]
    · simp only [hnone, Bool.false_eq_true, if_false, ih]

theorem c10_relFields_skip (Mp : MapEnv) (m : TMapper) (n : String) (f : FieldDecl)
    (rest : List (String × FieldDecl)) (r : List (PyVal × PyVal))
    (h : ∀ kv ∈ r, ∃ p ∈ rest, kv.1 = .str p.1) (hn : (rest.map (·.1)).contains n = false) :
    relFields Mp m ((n, f) :: rest) r = relFields Mp m rest r := by
  cases r with
  | nil => cases rest <;> simp [relFields]
  | cons kv r' =>
    rcases h kv (by simp) with ⟨p, hp, e⟩
    obtain ⟨k, j⟩ := kv
    simp only at e
    subst e
    simp only [relFields, key_ne_of_mem hn hp, Bool.false_eq_true, if_false]

/-- a homogeneous container (Array / Deque / Set / `Tuple[X]`): its `serialize` maps the item's
    `serialize` over the elements, and `relV` maps the item's `relV` over the serialized list -/
theorem c10_fser_rel_elems (Mp : MapEnv) (JK : List String) (f item : FieldDecl) (v : PyVal)
    (hf : ∀ M, fser M [] JK f v = fList (mapE (fser M [] JK item)) v)
    (hr : ∀ j, relV Mp f j = match j with | .list js => .list (js.map (relV Mp item)) | other => other)
    (ih : ∀ x, fser Mp [] JK item x = bindE (fser noMappers [] JK item x) fun j => .ok (relV Mp item j)) :
    fser Mp [] JK f v = bindE (fser noMappers [] JK f v) fun j => .ok (relV Mp f j) := by
  rw [hf Mp, hf noMappers, funext ih, funext fun j => congrArg Except.ok (hr j)]
  exact c10_fList_rel _ _ v

theorem c10_fserLast_of (Mp : MapEnv) (JK : List String) : ∀ (fs : List FieldDecl) (v : PyVal),
    (∀ f ∈ fs, ∀ x, fmsafeD Mp f = true →
      fser Mp [] JK f x = bindE (fser noMappers [] JK f x) fun j => .ok (relV Mp f j)) →
    fmsafeL Mp fs = true →
    fserLast Mp [] JK fs v = bindE (fserLast noMappers [] JK fs v) fun j => .ok (relLast Mp fs j)
  | [], _, _, _ => rfl
  | f :: rest, v, IH, h => by
    simp only [fmsafeL, Bool.and_eq_true_iff] at h
    simp only [fserLast, relLast]
    split
    · exact IH f List.mem_cons_self v h.1
    · exact c10_fserLast_of Mp JK rest v (fun g hg => IH g (List.mem_cons_of_mem _ hg)) h.2

theorem c10_ffields_of (Mp : MapEnv) (JK : List String) (m : TMapper) (ds attrs : List (String × PyVal)) :
    ∀ fields : List (String × FieldDecl),
      (∀ nf ∈ fields, ∀ x, fmsafeD Mp nf.2 = true →
        fser Mp [] JK nf.2 x = bindE (fser noMappers [] JK nf.2 x) fun j => .ok (relV Mp nf.2 j)) →
      fmsafeFields Mp fields = true →
      strNodup (fields.map (·.1)) = true →
      fFields Mp [] JK false m ds attrs fields
        = bindE (fFields noMappers [] JK false .none ds attrs fields) fun r0 => .ok (relFields Mp m fields r0)
  | [], _, _, _ => by simp [fFields, relFields]
  | (n, f) :: rest, IH, h, hnd => by
    simp only [fmsafeFields, Bool.and_eq_true_iff] at h
    simp only [List.map_cons, strNodup, Bool.and_eq_true_iff, Bool.not_eq_true'] at hnd
    have ih := c10_ffields_of Mp JK m ds attrs rest (fun p hp => IH p (List.mem_cons_of_mem _ hp)) h.2 hnd.2
    have hg := c10_fGet_rel Mp JK f (getAttr ds attrs n) (IH (n, f) List.mem_cons_self _ h.1)
    simp only [fFields_cons, hg, ih]
    cases fGet noMappers [] JK f (getAttr ds attrs n) with
    | error e => rfl
    | ok j0 =>
      simp only [bindE_ok]
      cases hr : fFields noMappers [] JK false .none ds attrs rest with
      | error e => rfl
      | ok r0 =>
        simp only [bindE_ok, c10_relV_isNone, Bool.not_false, Bool.and_true, c10_mapKey_none]
        have hkeys := (c10_fFields_keys noMappers [] JK false .none ds attrs rest r0
          (by simpa [c10_mapKey_none] using hnd.2) hr).2
        have hkeys' : ∀ kv ∈ r0, ∃ p ∈ rest, kv.1 = .str p.1 := fun kv hkv => by
          rcases hkeys kv hkv with ⟨p, hp, e⟩
          exact ⟨p, hp, by simpa [c10_mapKey_none] using e⟩
        by_cases hj : j0.isNone = true
        · simp only [hj, if_true]
          rw [c10_relFields_skip Mp m n f rest r0 hkeys' hnd.1]
        · simp only [hj, Bool.false_eq_true, if_false]
          simp [relFields]

theorem c10_fser_rel (Mp : MapEnv) (JK : List String) : ∀ (f : FieldDecl) (v : PyVal),
    fmsafeD Mp f = true →
    fser Mp [] JK f v = bindE (fser noMappers [] JK f v) fun j => .ok (relV Mp f j) := by
  intro f
  induction f using FieldDecl.induction with
  | seqOf k item sz ih =>
    intro v h
    cases k
    case deque =>
      exact c10_fser_rel_elems Mp JK _ item v (fun _ => rfl) (fun j => by cases j <;> rfl)
        (fun x => ih x h)
    by_cases hn : isNumOrStr item = true
    · -- `list(value)`: the elements are scalars, which `relV` leaves alone
      have hr : ∀ j, relV Mp (.seqOf .list item sz) j = j := fun j => by
        cases j <;> try rfl
        exact congrArg PyVal.list (List.map_id'' (c10_rel_nsb Mp item (isNSB_of_isNumOrStr item hn)) _)
      simp only [hr, c10_bindE_ok_id]
      unfold fser
      simp only [hn, if_true]
    · refine c10_fser_rel_elems Mp JK _ item v (fun M => ?_) (fun j => by cases j <;> rfl)
        (fun x => ih x h)
      unfold fser
      simp only [hn, nonFastRef_nil, Bool.false_eq_true, if_false]
  | tuplePos | seqPos | mapOf =>
    -- no class with a mapper below: `relV` is the identity and the environment is irrelevant
    intro v h
    rw [c10_fser_free Mp [] JK]
    · unfold relV
      exact (c10_bindE_ok_id _).symm
    · exact h
  | setOf imm item sz ih =>
    intro v h
    refine c10_fser_rel_elems Mp JK _ item v (fun M => ?_) (fun j => by cases j <;> rfl)
      (fun x => ih x h)
    unfold fser
    simp only [nonFastRef_nil, Bool.false_eq_true, if_false]
  | tupleOf item u ih =>
    exact fun v h => c10_fser_rel_elems Mp JK _ item v (fun _ => rfl) (fun j => by cases j <;> rfl)
      (fun x => ih x h)
  | anyOf fs ih =>
    intro v h
    unfold fmsafeD at h
    unfold fser relV
    by_cases hv : v.isNone = true
    · simp only [hv, if_true, bindE_ok, isNone_iff.1 ((c10_relLast_isNone Mp fs .none).trans rfl)]
    · simp only [hv, Bool.false_eq_true, if_false]
      by_cases hm : anyOfMulti fs = true
      · simp only [hm, if_true]; rfl
      · simp only [hm, Bool.false_eq_true, if_false]
        exact c10_fserLast_of Mp JK fs v ih h
  | struct c fields ds ih =>
    intro v h
    unfold fmsafeD at h
    simp only [Bool.and_eq_true_iff, Bool.not_eq_true'] at h
    have hinl := h.1.1.1
    have hnd : strNodup (fields.map (·.1)) = true := by
      have := h.1.2
      rw [show (fields.map fun p => mapKey (Mp c.name) p.1) = (fields.map (·.1)).map (mapKey (Mp c.name)) by
        simp [List.map_map]] at this
      exact c10_nodup_of_map _ _ this
    unfold fser
    simp only [hinl, Bool.false_eq_true, if_false, List.contains_nil, noMappers_apply]
    cases v <;> try rfl
    rename_i cn attrs
    simp only
    rw [c10_keyDedupe_bind Mp [] JK false (Mp c.name) ds attrs fields (fun r => .ok (PyVal.dict r)) h.1.2,
      c10_ffields_of Mp JK (Mp c.name) ds attrs fields ih h.2 hnd]
    unfold relV
    cases fFields noMappers [] JK false .none ds attrs fields with
    | error e => rfl
    | ok r0 => simp only [bindE_ok, c10_keyDedupe_none, hinl, Bool.false_eq_true, if_false]
  | oneOf | allOf | notF => exact fun _ h => nomatch h
  | _ => exact fun v _ => (c10_bindE_ok_id _).symm

theorem c10_fserLast_rel (Mp : MapEnv) (JK : List String) : ∀ (fs : List FieldDecl) (v : PyVal),
    fmsafeL Mp fs = true →
    fserLast Mp [] JK fs v = bindE (fserLast noMappers [] JK fs v) fun j => .ok (relLast Mp fs j) :=
  fun fs v => c10_fserLast_of Mp JK fs v fun f _ => c10_fser_rel Mp JK f

theorem c10_ffields_rel (Mp : MapEnv) (JK : List String) (m : TMapper) (ds attrs : List (String × PyVal)) :
    ∀ fields : List (String × FieldDecl), fmsafeFields Mp fields = true →
      strNodup (fields.map (·.1)) = true →
      fFields Mp [] JK false m ds attrs fields
        = bindE (fFields noMappers [] JK false .none ds attrs fields) fun r0 => .ok (relFields Mp m fields r0) :=
  fun fields => c10_ffields_of Mp JK m ds attrs fields fun nf _ => c10_fser_rel Mp JK nf.2

end Typedpy
