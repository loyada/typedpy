/-
  C20: concurrent use of a class from several threads equals some sequential order.

  The model (Sem/Sched.lean) is an interleaving semantics of thread programs over the shared scratch cells that
  typedpy's collection validators write (`Field._name` of item / key / value / option fields).  The full statement
  (`C20_statement`) is FALSE of programs that all work on the Field objects of the class definition - typedpy before fix
  f42444e, the tree of `Pinned.sharedWrites` - by kernel-checked counter-schedules.  What is proved, for ALL schedules of
  any length and any number of threads: every finished thread returns / raises what it does alone as soon as no program
  writes a cell that another program reads (`conflict_free_linearizable`, from the cell-wise frame
  `thread_private_frame`), and more generally as soon as every such cell (`ConflictsIn`) is one into which all programs
  write the same constant and which they read only after their own write (`same_value_conflicts_linearizable`;
  `same_value_writes_linearizable` is the case of all cells).  `instFrom` makes the conflicts in private cells vanish
  (`instFrom_conflictFree`), so the programs the model runs for ANY table are linearizable when the calls conflict only in
  cells without a racy site (`model_linearizable`, `model_equals_sequential`); a table without racy row is the special
  case (`no_racy_site_linearizable`), and the table of the working tree is one (`current_tree_not_racy`).  A result never
  holds another thread's values (`no_foreign_values`).  The generated table obligation `tables_ok` is what a NEW shared
  write breaks.

  Partial: a step is one shared access, except that `write c (.cell c')` (a nested wrapper naming its option after its own
  scratch name) reads and writes in one step; the deserializer and serializer paths are not modelled (DESIGN.md §6 C20,
  "Trusted / not covered").
-/
import TypedpyModel.Lemmas.Sched
import TypedpyModel.Generated.SharedWrites
import TypedpyModel.Generated.FieldAliases
import TypedpyModel.Pinned.SharedWrites
namespace Typedpy.C20
open Typedpy.Sched

/-- every thread that has finished after the schedule returned / raised exactly what it does when run alone FROM THE
    INITIAL STORE.  Stronger than the "some sequential order" of the title: sequential orders are schedules too, so under
    `Linearizable` every one of them gives each thread this same result. -/
def Linearizable (sh : Shared) (progs : List (List Step)) : Prop :=
  ∀ (sched : List Nat) (i : Nat) (r : Outcome),
    resultAt (run (Cfg.init sh progs) sched) i = some r →
    ∃ p, progs[i]? = some p ∧ sequentialResult sh p = some r

/-- C20 at full strength for the validation programs of the collection fields, every cell being the Field object of the
    class definition (no `instFrom`): any initial content of the scratch cells, any number of concurrent calls, any
    schedule.  FALSE: `C20_statement_false`. -/
def C20_statement : Prop :=
  ∀ (sh : Shared) (calls : List Call), Linearizable sh (calls.map Call.prog)

theorem linearizable_of_alone {sh : Shared} {progs : List (List Step)}
    (h : ∀ sched i p, progs[i]? = some p →
      (run (Cfg.init sh progs) sched).threads[i]? = some (alone sh (TState.init p) (sched.count i)).2) :
    Linearizable sh progs := by
  intro sched i r hr
  unfold resultAt at hr
  cases hp : progs[i]? with
  | none =>
    -- thread `i` does not exist: the thread list has the length of `progs` at every point
    have : (run (Cfg.init sh progs) sched).threads[i]? = none := by
      rw [List.getElem?_eq_none_iff, run_length, Cfg.init, List.length_map]
      exact List.getElem?_eq_none_iff.mp hp
    rw [this] at hr
    exact nomatch hr
  | some p =>
    rw [h sched i p hp] at hr
    exact ⟨p, rfl, sequential_of_alone_result hr⟩

/-- Only the other threads' writes to cells that thread `i` READS matter: what they do to other cells, and what thread
    `i` itself writes (write / write overlaps included), is unrestricted. -/
theorem thread_private_frame (sh : Shared) (progs : List (List Step)) (i : Nat) (p : List Step)
    (hp : progs[i]? = some p)
    (hdisj : ∀ j q, j ≠ i → progs[j]? = some q → ∀ c ∈ writeCells q, c ∉ readCells p)
    (sched : List Nat) :
    (run (Cfg.init sh progs) sched).threads[i]? = some (alone sh (TState.init p) (sched.count i)).2 :=
  run_contended (fun _ => false) (fun _ => "") i sched (Cfg.init sh progs) (TState.init p)
    (by rw [init_threads, hp]; rfl) (sameOn_false _ _) (readsOwn_false _)
    fun j tj htj hj => by
      obtain ⟨q, hq, rfl⟩ := init_get htj
      exact ⟨fun c hc hR => absurd hR (hdisj j q hj hq c hc), sameOn_false _ _⟩

theorem no_shared_writes_frame (sh : Shared) (progs : List (List Step))
    (h : ∀ p ∈ progs, ∀ s ∈ p, s.writesShared = false) (sched : List Nat) :
    (run (Cfg.init sh progs) sched).shared = sh ∧
    ∀ i p, progs[i]? = some p →
      (run (Cfg.init sh progs) sched).threads[i]? = some (alone sh (TState.init p) (sched.count i)).2 := by
  have hw : ∀ j q, progs[j]? = some q → writeCells q = [] :=
    fun j q hq => writeCells_of_not_writes (h q (List.mem_of_getElem? hq))
  constructor
  · funext c
    refine run_shared_frame c sched (Cfg.init sh progs) fun j tj htj => ?_
    obtain ⟨q, hq, rfl⟩ := init_get htj
    exact hw j q hq ▸ List.not_mem_nil
  · exact fun i p hp => thread_private_frame sh progs i p hp
      (fun j q _ hq c hc => absurd (hw j q hq ▸ hc) List.not_mem_nil) sched

theorem no_shared_writes_linearizable (sh : Shared) (progs : List (List Step))
    (h : ∀ p ∈ progs, ∀ s ∈ p, s.writesShared = false) : Linearizable sh progs :=
  linearizable_of_alone fun sched => (no_shared_writes_frame sh progs h sched).2

/-- write / write overlaps are not conflicts: a cell nobody else reads cannot change a result -/
def ConflictFree (progs : List (List Step)) : Prop :=
  ∀ (i j : Nat) (p q : List Step), i ≠ j → progs[i]? = some p → progs[j]? = some q → ∀ c ∈ writeCells q, c ∉ readCells p

/-- every conflict of the programs (a cell one program writes and another reads) lies in `P`; `ConflictFree` is the case of
    an empty `P` -/
def ConflictsIn (P : Nat → Bool) (progs : List (List Step)) : Prop :=
  ∀ (i j : Nat) (p q : List Step), i ≠ j → progs[i]? = some p → progs[j]? = some q →
    ∀ c ∈ writeCells q, c ∈ readCells p → P c = true

theorem conflict_free_linearizable (sh : Shared) (progs : List (List Step)) (h : ConflictFree progs) :
    Linearizable sh progs :=
  linearizable_of_alone fun sched i p hp =>
    thread_private_frame sh progs i p hp (fun j q hj hq => h i j p q (Ne.symm hj) hp hq) sched

theorem conflictFree_of_get {α : Type} {progs : List (List Step)} {l : List α} {f : Nat → α → List Step}
    (hg : ∀ i, progs[i]? = l[i]?.map (f i))
    (h : ∀ i j a b, i ≠ j → l[i]? = some a → l[j]? = some b → ∀ c ∈ writeCells (f j b), c ∉ readCells (f i a)) :
    ConflictFree progs := by
  intro i j p q hij hp hq
  rw [hg, Option.map_eq_some_iff] at hp hq
  obtain ⟨a, ha, rfl⟩ := hp
  obtain ⟨b, hb, rfl⟩ := hq
  exact h i j a b hij ha hb

theorem conflictFreeB_sound {progs : List (List Step)} (h : conflictFreeB progs = true) : ConflictFree progs := by
  intro i j p q hij hp hq c hc hr
  have hi : i < progs.length := (List.getElem?_eq_some_iff.mp hp).1
  have hj : j < progs.length := (List.getElem?_eq_some_iff.mp hq).1
  simp only [conflictFreeB, List.all_eq_true, List.mem_range] at h
  have h1 := h i hi j hj
  rw [List.getD_eq_getElem?_getD, List.getD_eq_getElem?_getD, hp, hq] at h1
  simp only [Option.getD_some, Bool.or_eq_true, beq_iff_eq, disjointB, List.all_eq_true] at h1
  rcases h1 with h1 | h1
  · exact hij h1
  · simpa [hr] using h1 c hc

/-- C20 restricted by an explicit decidable exclusion: concurrent calls none of which renames a Field object whose name
    another one reads.  The driver evaluates `conflictFreeB` on the programs it runs and reports the bit. -/
theorem C20_partial (sh : Shared) (calls : List Call) (h : conflictFreeB (calls.map Call.prog) = true) :
    Linearizable sh (calls.map Call.prog) :=
  conflict_free_linearizable sh _ (conflictFreeB_sound h)

def sh0 : Shared := Shared.ofList []

/-- non-vacuity of `C20_partial`: two calls on different cells (e.g. `Array[Integer]` fields of two different classes):
    conflict free, and a fully interleaved schedule gives both threads their sequential results -/
theorem linearizable_example :
    conflictFreeB [progHomog 0 "a" true [(10, true)], progHomog 1 "a" true [(20, true), (21, true)]] = true ∧
    resultAt (run (Cfg.init sh0 [progHomog 0 "a" true [(10, true)], progHomog 1 "a" true [(20, true), (21, true)]])
      [0,1,0,1,0,1,0,1,0,1,1,1,1]) 0 = some (.ok [10]) ∧
    resultAt (run (Cfg.init sh0 [progHomog 0 "a" true [(10, true)], progHomog 1 "a" true [(20, true), (21, true)]])
      [0,1,0,1,0,1,0,1,0,1,1,1,1]) 1 = some (.ok [20, 21]) := by decide +kernel

/-- no Field object (cell) is used by two of the calls: what the alias table `Generated.fieldAliases = []` establishes
    for calls on different declarations -/
def OwnCells (calls : List Call) : Prop :=
  ∀ (i j : Nat) (ci cj : Call), i ≠ j → calls[i]? = some ci → calls[j]? = some cj →
    ∀ c, ¬ (ci.usesCell c = true ∧ cj.usesCell c = true)

/-- calls on declarations that own their Field objects (different fields / classes, no aliasing): by `Call.prog_cells` a
    call touches no other cells -/
theorem distinct_declarations_linearizable (sh : Shared) (calls : List Call) (h : OwnCells calls) :
    Linearizable sh (calls.map Call.prog) :=
  conflict_free_linearizable sh _ <| conflictFree_of_get (fun _ => List.getElem?_map) fun i j ci cj hij hci hcj c hw hr =>
    h i j ci cj hij hci hcj c ⟨ci.prog_cells.2 c hr, cj.prog_cells.1 c hw⟩

theorem instFrom_conflictFree (priv : Nat → Bool) (progs : List (List Step)) (h : ConflictsIn priv progs) :
    ConflictFree (instFrom priv progs.length 0 progs) := by
  refine conflictFree_of_get (l := progs) (f := fun i => renameProg (cellMap priv progs.length i))
    (fun i => by rw [instFrom_get, Nat.zero_add]) fun i j p q hij hp hq c hw hr => ?_
  obtain ⟨c1, hc1, h1⟩ := cells_rename (Step.rename_writeCells _) _ c hw
  obtain ⟨c2, hc2, h2⟩ := cells_rename (Step.rename_readCells _) _ c hr
  -- `c` is the instance of one cell, written by `q` and read by `p`: private, so made for one program
  obtain ⟨rfl, hpriv⟩ := cellMap_eq (List.getElem?_eq_some_iff.mp hp).1 (List.getElem?_eq_some_iff.mp hq).1
    (h2.symm.trans h1)
  exact hij (hpriv (h i j p q hij hp hq c2 hc1 hc2))

/-- for ANY choice `priv` of the private cells: started from the Field objects of the class definition (`instStore`), every
    finished thread has the result of its ORIGINAL program run alone, provided the programs conflict only in private
    cells.  `rename_sequential` takes the solo run of the instantiated program back to the original one. -/
theorem instFrom_equals_original (priv : Nat → Bool) (sh : Shared) (progs : List (List Step))
    (h : ConflictsIn priv progs) (sched : List Nat) (i : Nat) (r : Outcome)
    (hr : resultAt (run (Cfg.init (instStore progs.length sh) (instFrom priv progs.length 0 progs)) sched) i = some r) :
    ∃ p, progs[i]? = some p ∧ sequentialResult sh p = some r := by
  obtain ⟨p', hp', hs⟩ := conflict_free_linearizable _ _ (instFrom_conflictFree priv progs h) sched i r hr
  rw [instFrom_get, Nat.zero_add, Option.map_eq_some_iff] at hp'
  obtain ⟨p, hp, rfl⟩ := hp'
  have hi : i < progs.length := (List.getElem?_eq_some_iff.mp hp).1
  exact ⟨p, hp, instStore_cellMap priv hi sh ▸ (rename_sequential _ (cellMap_injective _ hi) _ p).symm.trans hs⟩

/-- ANY programs whatsoever, once each works on PRIVATE copies of the Field objects it renames (what `instFrom` builds
    when no site is racy) -/
theorem private_copies_linearizable (sh : Shared) (progs : List (List Step)) :
    Linearizable sh (instFrom (fun _ => true) progs.length 0 progs) :=
  conflict_free_linearizable sh _ (instFrom_conflictFree _ progs fun _ _ _ _ _ _ _ _ _ _ => rfl)

/-- Private copies, stated against the ORIGINAL programs: when every program works on private copies (made from the Field
    objects of the class definition: `instStore`), every thread returns / raises exactly what the ORIGINAL validator
    program - the one that renames the shared Field objects - computes when it runs alone.  So working on private copies
    changes nothing sequentially and removes every interference. -/
theorem private_copies_equal_original_sequential (sh : Shared) (progs : List (List Step)) (sched : List Nat) (i : Nat)
    (r : Outcome)
    (hr : resultAt (run (Cfg.init (instStore progs.length sh) (instFrom (fun _ => true) progs.length 0 progs)) sched) i
      = some r) : ∃ p, progs[i]? = some p ∧ sequentialResult sh p = some r :=
  instFrom_equals_original _ sh progs (fun _ _ _ _ _ _ _ _ _ _ => rfl) sched i r hr

/-- THE MODEL, for ANY table: calls that meet only in cells of sites the table does not list as racy are linearizable -/
theorem model_linearizable (tbl : List SharedWrite) (sites : List (Nat × String)) (sh : Shared) (calls : List Call)
    (h : ConflictsIn (tablePriv tbl sites) (calls.map Call.prog)) : Linearizable sh (modelProgs tbl sites calls) := by
  rw [modelProgs, ← List.length_map (f := Call.prog)]
  exact conflict_free_linearizable sh _ (instFrom_conflictFree _ _ h)

theorem model_equals_sequential (tbl : List SharedWrite) (sites : List (Nat × String)) (sh : Shared) (calls : List Call)
    (h : ConflictsIn (tablePriv tbl sites) (calls.map Call.prog)) (sched : List Nat) (i : Nat) (r : Outcome)
    (hr : resultAt (run (Cfg.init (instStore calls.length sh) (modelProgs tbl sites calls)) sched) i = some r) :
    ∃ c, calls[i]? = some c ∧ sequentialResult sh c.prog = some r := by
  rw [modelProgs, ← List.length_map (f := Call.prog)] at hr
  obtain ⟨p, hp1, hp2⟩ := instFrom_equals_original _ sh (calls.map Call.prog) h sched i r hr
  rw [List.getElem?_map, Option.map_eq_some_iff] at hp1
  obtain ⟨c, hc, rfl⟩ := hp1
  exact ⟨c, hc, hp2⟩

/-- On a table without a row that is unsafe AND read back (the only rows the model follows: `siteRacy`) every call works on
    private copies, so the thread programs are linearizable for EVERY schedule; `safe_table_linearizable` is the special
    case of a table without any unsafe row. -/
theorem no_racy_site_linearizable (tbl : List SharedWrite) (h : ∀ r ∈ tbl, (!r.safe && r.readBack) = false)
    (sites : List (Nat × String)) (sh : Shared) (calls : List Call) :
    Linearizable sh (modelProgs tbl sites calls) :=
  model_linearizable tbl sites sh calls fun _ _ _ _ _ _ _ c _ _ => tablePriv_of_no_racy h sites c

/-- The case of a table without ANY unsafe row.  It does not apply to the table of the working tree, which keeps its
    `ownerName` / `perCall` rows with `readBack := false`; `no_racy_site_linearizable` does. -/
theorem safe_table_linearizable (tbl : List SharedWrite) (h : ∀ r ∈ tbl, r.safe = true)
    (sites : List (Nat × String)) (sh : Shared) (calls : List Call) :
    Linearizable sh (modelProgs tbl sites calls) :=
  no_racy_site_linearizable tbl (fun r hr => by rw [h r hr]; rfl) sites sh calls

/-- End-to-end form, exactly what the driver evaluates (`modelProgs` of the tree's table, started from `instStore`): on a
    tree without a racy site, for EVERY schedule of ANY concurrent validation calls (collections and multi-field
    wrappers, same field or different fields, shared item instances or not), every call returns / raises what the original
    validator program of that call computes when it runs alone. -/
theorem no_racy_site_equals_sequential (tbl : List SharedWrite) (h : ∀ r ∈ tbl, (!r.safe && r.readBack) = false)
    (sites : List (Nat × String)) (sh : Shared) (calls : List Call) (sched : List Nat) (i : Nat) (r : Outcome)
    (hr : resultAt (run (Cfg.init (instStore calls.length sh) (modelProgs tbl sites calls)) sched) i = some r) :
    ∃ c, calls[i]? = some c ∧ sequentialResult sh c.prog = some r :=
  model_equals_sequential tbl sites sh calls (fun _ _ _ _ _ _ _ c _ _ => tablePriv_of_no_racy h sites c) sched i r hr

theorem same_value_conflicts_linearizable (C : Nat → Bool) (k : Nat → String) (sh : Shared) (progs : List (List Step))
    (hs : ∀ p ∈ progs, sameOn C k p) (hr : ∀ p ∈ progs, readsOwn C [] p)
    (hc : ConflictsIn C progs) :
    Linearizable sh progs :=
  linearizable_of_alone fun sched i p hp =>
    run_contended C k i sched (Cfg.init sh progs) (TState.init p)
      (by rw [init_threads, hp]; rfl) (hs p (List.mem_of_getElem? hp)) (hr p (List.mem_of_getElem? hp))
      fun j tj htj hj => by
        obtain ⟨q, hq, rfl⟩ := init_get htj
        exact ⟨hc i j p q (Ne.symm hj) hp hq, hs q (List.mem_of_getElem? hq)⟩

/-- Programs that write and read COMMON cells (`conflictFreeB` is false) and are linearizable all the same.  This is why
    concurrent `Set` / `ImmutableSet` / `Map` / `AllOf` / `AnyOf` validations of the SAME field are harmless even on the
    shared Field objects of the tree before fix f42444e (they all write the field's own name), while `Array[X]` (`a_0`,
    `a_1`, … per element) is not. -/
theorem same_value_writes_linearizable (k : Nat → String) (sh : Shared) (progs : List (List Step))
    (hu : ∀ p ∈ progs, uniformB k p = true) (hr : ∀ p ∈ progs, readsAfterOwnWrite [] p = true) :
    Linearizable sh progs :=
  same_value_conflicts_linearizable (fun _ => true) k sh progs (fun p hp => sameOn_of_uniformB (hu p hp))
    (fun p hp => readsOwn_of_readsAfterOwnWrite (hr p hp)) fun _ _ _ _ _ _ _ _ _ _ => rfl

/-- non-vacuity: two `Set.__set__` calls on the SAME field (one item object, cell 0) are NOT conflict free, yet satisfy the
    hypotheses of `same_value_writes_linearizable`, as do a `Map.__set__` and an `AnyOf.__set__` program; `Array[X]` does
    not -/
theorem same_value_writes_example :
    conflictFreeB [progSet 0 "a" [(1, true), (2, true)], progSet 0 "a" [(3, true)]] = false ∧
    uniformB (fun _ => "a") (progSet 0 "a" [(1, true), (2, true)]) = true ∧
    readsAfterOwnWrite [] (progSet 0 "a" [(1, true), (2, true)]) = true ∧
    uniformB (fun c => if c = 0 then "a_key" else "a_value") (progMap 0 1 "a" [((1, true), (2, true))]) = true ∧
    readsAfterOwnWrite [] (progMap 0 1 "a" [((1, true), (2, true))]) = true ∧
    uniformB (fun _ => "a") (progAnyOf (.const "a") 5 [(0, true), (1, false)]) = true ∧
    readsAfterOwnWrite [] (progAnyOf (.const "a") 5 [(0, true), (1, false)]) = true ∧
    uniformB (fun _ => "a") (progHomog 0 "a" true [(20, true), (21, true)]) = false := by decide +kernel

/-- Clause 1 of C20 holds in the model for EVERY schedule and every set of programs, racy or not: the result of a thread
    only contains values of that thread's own input (the temp structures are thread-private; what the race corrupts is
    WHICH of the thread's own elements is read back, or whether one is found at all). -/
theorem no_foreign_values (sh : Shared) (progs : List (List Step)) (sched : List Nat) (i : Nat) (p : List Step)
    (out : List Int) (hp : progs[i]? = some p)
    (hr : resultAt (run (Cfg.init sh progs) sched) i = some (.ok out)) : ∀ v ∈ out, v ∈ progVals p := by
  unfold resultAt at hr
  cases ht : (run (Cfg.init sh progs) sched).threads[i]? with
  | none => rw [ht] at hr; exact nomatch hr
  | some t =>
    have hinv := run_threads_invariant (J := fun k t => ∀ q, progs[k]? = some q → ownOnly (progVals q) t)
      (fun k sh t h q hq => stepT_ownOnly _ sh t (h q hq)) sched (Cfg.init sh progs)
      (fun k tk hk q hq => by
        obtain ⟨q', hq', rfl⟩ := init_get hk
        cases hq'.symm.trans hq
        exact ownOnly_init q) i t ht p hp
    simp only [ht, TState.result] at hr
    split at hr
    · exact nomatch hr
    · split at hr
      · cases hr
        exact hinv.out
      · exact nomatch hr

/-! Kernel-checked counter-schedules of programs on shared Field objects.  Their inputs are cases of the `sched` suite
    (`CANONICAL` in harness/suites/sched.py), which enumerates the schedules of the real code; on the working tree, which
    has no racy site, all of them come out sequential. -/

/-- two constructors of a class with `a = Array[Integer]` (or `Deque[Integer]`): `S(a=[10])` ∥ `S(a=[20,21,22])` -/
def arrA : List Step := progHomog 0 "a" true [(10, true)]
def arrB : List Step := progHomog 0 "a" true [(20, true), (21, true), (22, true)]

/-- site `array.py:extract_field_value`: thread 1 silently returns `[20, 20, 22]` -/
theorem counter_wrong_element_extract_field_value :
    resultAt (run (Cfg.init sh0 [arrA, arrB]) [1,1,1,1,1,1,1,0,0,0,1,1,1,1,0,0]) 1 = some (.ok [20, 20, 22]) ∧
    sequentialResult sh0 arrB = some (.ok [20, 21, 22]) := by decide +kernel

/-- site `array.py:extract_field_value`: thread 0 raises AttributeError `a_2` for the valid input `[10]` -/
theorem counter_missing_key_extract_field_value :
    resultAt (run (Cfg.init sh0 [arrA, arrB]) [0,0,0,0,1,1,1,1,1,1,1,1,1,0]) 0 = some (.raised (.missing "a_2")) ∧
    sequentialResult sh0 arrA = some (.ok [10]) := by decide +kernel

/-- site `array.py:extract_field_value`: the error of thread 0's invalid `[-1]` names element `a_1` of the other thread -/
theorem counter_wrong_field_named_extract_field_value :
    resultAt (run (Cfg.init sh0 [progHomog 0 "a" true [(-1, false)], arrB]) [0,0,0,1,1,1,1,1,1,0]) 0
      = some (.raised (.invalid "a_1")) ∧
    sequentialResult sh0 (progHomog 0 "a" true [(-1, false)]) = some (.raised (.invalid "a_0")) := by decide +kernel

theorem not_linearizable_extract_field_value : ¬ Linearizable sh0 [arrA, arrB] := by
  intro h
  obtain ⟨p, hp, hs⟩ := h [1,1,1,1,1,1,1,0,0,0,1,1,1,1,0,0] 1 (.ok [20, 20, 22])
    counter_wrong_element_extract_field_value.1
  cases hp
  rw [counter_wrong_element_extract_field_value.2] at hs
  exact absurd hs (by decide +kernel)

def efvCalls : List Call := [Call.homog 0 "a" true [(10, true)], Call.homog 0 "a" true [(20, true), (21, true), (22, true)]]

theorem C20_statement_false : ¬ C20_statement :=
  fun h => not_linearizable_extract_field_value (h sh0 efvCalls)

/-- site `tuple_field.py:Tuple.__set__` (homogeneous `Tuple[Integer]`): wrong element without any error -/
theorem counter_wrong_element_tuple :
    resultAt (run (Cfg.init sh0 [progHomog 0 "a" false [(10, true)],
        progHomog 0 "a" false [(20, true), (21, true), (22, true)]]) [1,1,1,1,1,1,0,0,1,1,1,1,0,0]) 1
      = some (.ok [20, 20, 22]) ∧
    sequentialResult sh0 (progHomog 0 "a" false [(20, true), (21, true), (22, true)]) = some (.ok [20, 21, 22]) := by
  decide +kernel

/-- site `set_field.py:Set.__set__`, one item Field instance used by the fields `a` and `b` of a class:
    thread 0 (assigning `a`) raises AttributeError `b` -/
theorem counter_missing_key_set :
    resultAt (run (Cfg.init sh0 [progSet 0 "a" [(1, true)], progSet 0 "b" [(2, true)]]) [0,0,0,1,0]) 0
      = some (.raised (.missing "b")) ∧
    sequentialResult sh0 (progSet 0 "a" [(1, true)]) = some (.ok [1]) := by decide +kernel

/-- site `map_field.py:Map.__set__`, key/value Field instances shared by the fields `a` and `b` -/
theorem counter_missing_key_map :
    resultAt (run (Cfg.init sh0 [progMap 0 1 "a" [((1, true), (2, true))], progMap 0 1 "b" [((3, true), (4, true))]])
        [0,0,0,0,0,1,1,0]) 0 = some (.raised (.missing "b_value")) ∧
    sequentialResult sh0 (progMap 0 1 "a" [((1, true), (2, true))]) = some (.ok [2, 1]) := by decide +kernel

/-- sites `array.py:Array.__set__`, `deque_field.py:Deque.__set__`, `tuple_field.py:Tuple.__set__` with positional
    items whose Field instances are shared by the fields `a` and `b` -/
theorem counter_missing_key_positional :
    resultAt (run (Cfg.init sh0 [progPos 0 "a" 2 [(1, true), (2, true)], progPos 0 "b" 2 [(3, true), (4, true)]])
        [0,0,0,1,1,0]) 0 = some (.raised (.missing "b_0")) ∧
    sequentialResult sh0 (progPos 0 "a" 2 [(1, true), (2, true)]) = some (.ok [1, 2]) := by decide +kernel

/-- site `set_field.py:ImmutableSet.__set__`, one item Field instance used by the fields `a` and `b` -/
theorem counter_missing_key_immutable_set :
    resultAt (run (Cfg.init sh0 [progISet 0 "a" [(1, true), (2, true)], progISet 0 "b" [(3, true)]]) [0,0,0,0,1,1,0]) 0
      = some (.raised (.missing "b")) ∧
    sequentialResult sh0 (progISet 0 "a" [(1, true), (2, true)]) = some (.ok [1, 2, 1, 2]) := by decide +kernel

/-- site `multified_wrappers.py:AnyOf.__set__`, one option Field instance used by `a = AnyOf[opt, String]` and
    `b = AnyOf[opt, String]`: thread 0 (`x.a = 5`) is pre-empted between the option's scratch validation and
    `matched.__set__(instance, value)`; the value lands under `b` and `instance.__dict__["a"]` raises KeyError -/
theorem counter_missing_key_anyof :
    resultAt (run (Cfg.init sh0 [progAnyOf (.const "a") 5 [(0, true), (1, false)],
        progAnyOf (.const "b") 7 [(0, true), (1, false)]]) [0,0,1,0,0]) 0 = some (.raised (.missing "a")) ∧
    sequentialResult sh0 (progAnyOf (.const "a") 5 [(0, true), (1, false)]) = some (.ok [5]) := by decide +kernel

/-- site `multified_wrappers.py:AllOf.__set__`, one option Field instance used by the fields `a` and `b`: the error of
    thread 0's invalid `-1` names field `b` -/
theorem counter_wrong_field_named_allof :
    resultAt (run (Cfg.init sh0 [progAllOf (.const "a") (-1) [(0, false), (1, true)],
        progAllOf (.const "b") 7 [(0, true), (1, true)]]) [0,1,0]) 0 = some (.raised (.invalid "b")) ∧
    sequentialResult sh0 (progAllOf (.const "a") (-1) [(0, false), (1, true)]) = some (.raised (.invalid "a")) := by
  decide +kernel

/-- sites `multified_wrappers.py:OneOf.__set__` + `array.py:extract_field_value`, `a = Array[OneOf[Integer(minimum=0), String]]`
    (cell 0 = the OneOf object, whose own `_name` is the scratch of the outer loop; cells 1, 2 = its options): thread 0's
    `[-4]` matches no option; its error names `a` (what thread 1's first write left) instead of element `a_0` -/
theorem counter_wrong_field_named_nested_oneOf :
    resultAt (run (Cfg.init sh0 [progNest 0 "a" .oneOf [(-4, [(1, false), (2, false)])],
        progNest 0 "a" .oneOf [(7, [(1, true), (2, false)])]]) [0,0,0,0,1,0,0,0,0,0]) 0 = some (.raised (.invalid "a")) ∧
    sequentialResult sh0 (progNest 0 "a" .oneOf [(-4, [(1, false), (2, false)])]) = some (.raised (.invalid "a_0")) := by
  decide +kernel

/-- sites `multified_wrappers.py:NotField.__set__` + `array.py:extract_field_value`, `a = Array[NotField[String]]`: thread 1
    silently stores `[20, 20, 22]` for the input `[20, 21, 22]` -/
theorem counter_wrong_element_nested_notField :
    resultAt (run (Cfg.init sh0 [progNest 0 "a" .notField [(10, [(1, false)])],
        progNest 0 "a" .notField [(20, [(1, false)]), (21, [(1, false)]), (22, [(1, false)])]])
      [1,1,1,1,1,1,1,1,1,1,1,1,1, 0,0,0, 1,1,1,1,1,1,1, 0,0,0,0,0]) 1 = some (.ok [20, 20, 22]) ∧
    sequentialResult sh0 (progNest 0 "a" .notField [(20, [(1, false)]), (21, [(1, false)]), (22, [(1, false)])])
      = some (.ok [20, 21, 22]) := by decide +kernel

def efvKey : String := "shared-_name:array.py:extract_field_value"

/-- the snapshot table without its racy rows.  (On the repaired tree the translator keeps these rows with
    `readBack := false`; `siteRacy` does not tell the difference.) -/
def repairedTable : List SharedWrite := Pinned.sharedWrites.filter fun r => r.safe || !r.readBack

/-- On the pinned table (extract_field_value listed as racy) the programs the driver runs for `S(a=[10]) ∥ S(a=[20,21,22])`
    go through ONE shared cell and the counter-schedule silently yields `[20, 20, 22]`; on the repaired table the SAME calls
    under the SAME schedule (followed by two entries for thread 0, which has finished: no-ops) go through private copies
    and both threads get their sequential results. -/
theorem model_follows_table :
    resultAt (run (Cfg.init sh0 (modelProgs Pinned.sharedWrites [(0, efvKey)] efvCalls))
      [1,1,1,1,1,1,1,0,0,0,1,1,1,1,0,0]) 1 = some (.ok [20, 20, 22]) ∧
    resultAt (run (Cfg.init sh0 (modelProgs repairedTable [(0, efvKey)] efvCalls))
      [1,1,1,1,1,1,1,0,0,0,1,1,1,1,0,0,0,0]) 1 = some (.ok [20, 21, 22]) ∧
    resultAt (run (Cfg.init sh0 (modelProgs repairedTable [(0, efvKey)] efvCalls))
      [1,1,1,1,1,1,1,0,0,0,1,1,1,1,0,0,0,0]) 0 = some (.ok [10]) ∧
    (∀ r ∈ repairedTable, (!r.safe && r.readBack) = false) := by
  have hrep : ∀ r ∈ repairedTable, (!r.safe && r.readBack) = false := by decide +kernel
  refine ⟨by decide +kernel, ?_, ?_, hrep⟩ <;> rw [modelProgs_private hrep] <;> decide +kernel

/-- calls whose reads of the scratch cells are dead: flat `OneOf` / `NotField` (option errors are swallowed, option results
    dropped, the value is stored under the wrapper's own name) -/
def deadReads : Call → Bool
  | .wrap .oneOf _ _ _ => true
  | .wrap .notField _ _ _ => true
  | _ => false

theorem deadReads_reads {c : Call} (h : deadReads c = true) : readCells c.prog = [] := by
  unfold deadReads at h
  split at h
  · exact oneOf_reads ..
  · exact notField_reads ..
  · exact nomatch h

/-- `OneOf.__set__` / `NotField.__set__` on a field of the class itself are linearizable for EVERY schedule although they
    rename option Field objects that other threads (and other fields) use: nothing ever reads the written name back
    effectively.  (Their rows stay in the table - the writes ARE there - but by themselves they cannot change a result;
    what the harness attributes to these sites is the race on the OWNER's name when the wrapper is nested under a
    homogeneous collection, i.e. the extract_field_value finding: `counter_wrong_field_named_nested_oneOf`,
    `counter_wrong_element_nested_notField`.)  NOT true of the store-through variant of tree b6495fe:
    `counter_missing_key_oneof_through`. -/
theorem flat_oneOf_notField_linearizable (sh : Shared) (calls : List Call) (h : ∀ c ∈ calls, deadReads c = true) :
    Linearizable sh (calls.map Call.prog) :=
  conflict_free_linearizable sh _ <| conflictFree_of_get (fun _ => List.getElem?_map) fun _ _ ci _ _ hci _ _ _ hr =>
    absurd (deadReads_reads (h ci (List.mem_of_getElem? hci)) ▸ hr) List.not_mem_nil

/-- non-vacuity: two `OneOf` fields sharing their option objects, fully interleaved -/
theorem flat_oneOf_example :
    resultAt (run (Cfg.init sh0 [progOneOf (.const "a") 5 [(0, true), (1, false)], progOneOf (.const "b") 7 [(0, true), (1, false)]])
      [0,1,0,1,0,1,0,1,0,1,0,1]) 0 = some (.ok [5]) ∧
    deadReads (.wrap .oneOf "a" 5 [(0, true), (1, false)]) = true := by decide +kernel

/-- the store-through `OneOf.__set__` of tree b6495fe (fix 95931f6: the matched option stores the value; replaced by
    89fd84a), one option Field instance used by `a = OneOf[opt, String]` and `b = OneOf[opt, String]`: thread 0 (`x.a = 5`)
    is pre-empted before `matched_field.__set__(instance, value)`; the value lands under `b` and
    `instance.__dict__["a"]` raises KeyError.  (The repair of C19 had made a dead write live.) -/
theorem counter_missing_key_oneof_through :
    resultAt (run (Cfg.init sh0 [progOneOfThrough (.const "a") 5 [(0, true), (1, false)],
        progOneOfThrough (.const "b") 7 [(0, true), (1, false)]]) [0,0,0,0,1,0,0]) 0 = some (.raised (.missing "a")) ∧
    sequentialResult sh0 (progOneOfThrough (.const "a") 5 [(0, true), (1, false)]) = some (.ok [5]) := by decide +kernel

/-- the store-through `AllOf.__set__` of tree b6495fe: same KeyError -/
theorem counter_missing_key_allof_through :
    resultAt (run (Cfg.init sh0 [progAllOfThrough (.const "a") 5 [(0, true), (1, true)],
        progAllOfThrough (.const "b") 7 [(0, true), (1, true)]]) [0,0,0,0,1,0,0]) 0 = some (.raised (.missing "a")) ∧
    sequentialResult sh0 (progAllOfThrough (.const "a") 5 [(0, true), (1, true)]) = some (.ok [5]) := by decide +kernel

/-- call sites whose shared write is a known finding.  Each must be a key of known_findings_C20.json: harness/props/c20.py
    checks it on the source text, taking every string literal between this definition and `tables_ok` for a key. -/
def knownFindingKeys : List String := [
  "shared-_name:array.py:extract_field_value",
  "shared-_name:array.py:Array.__set__",
  "shared-_name:deque_field.py:Deque.__set__",
  "shared-_name:tuple_field.py:Tuple.__set__",
  "shared-_name:set_field.py:Set.__set__",
  "shared-_name:set_field.py:ImmutableSet.__set__",
  "shared-_name:map_field.py:Map.__set__",
  "shared-_name:multified_wrappers.py:AllOf.__set__",
  "shared-_name:multified_wrappers.py:AnyOf.__set__",
  "shared-_name:multified_wrappers.py:OneOf.__set__",
  "shared-_name:multified_wrappers.py:NotField.__set__",
  "shared-_name:multified_wrappers.py:AnyOf.serialize"
]

/-- every shared write in the CURRENT working tree is either harmless (every thread writes an equivalent value) or a
    listed finding.  A new shared scratch write breaks this obligation. -/
theorem tables_ok : ∀ r ∈ Generated.sharedWrites, r.safe = true ∨ r.key ∈ knownFindingKeys := by decide +kernel

/-- the same obligation on the committed snapshot of the table (keeps `Pinned/` compiled and reviewable) -/
theorem pinned_tables_ok : ∀ r ∈ Pinned.sharedWrites, r.safe = true ∨ r.key ∈ knownFindingKeys := by decide +kernel

/-- the generated table is not empty, and the committed snapshot (the tree before fix f42444e) really contains the racy
    sites (non-vacuity of `tables_ok`; stated on the snapshot so that a repaired tree does not break it) -/
theorem tables_nonvacuous :
    Generated.sharedWrites.length ≥ 3 ∧
    (Pinned.sharedWrites.filter fun r => !r.safe).length ≥ 11 ∧
    (Pinned.sharedWrites.any fun r => r.key == "shared-_name:array.py:extract_field_value") = true := by decide +kernel

/-- does the current working tree still have a racy validator site?  (`false` ⇒ `no_racy_site_linearizable` applies to
    every program the driver runs; Drive/Sched.lean computes the same bit as `treeRacy`) -/
def currentTreeRacy : Bool := Generated.sharedWrites.any fun r => !r.safe && r.readBack

theorem current_tree_linearizable (h : currentTreeRacy = false) (sites : List (Nat × String)) (sh : Shared)
    (calls : List Call) : Linearizable sh (modelProgs Generated.sharedWrites sites calls) :=
  no_racy_site_linearizable _ (fun r hr => Bool.eq_false_iff.mpr (List.any_eq_false.mp h r hr)) sites sh calls

/-- Since fix f42444e the translator finds NO racy validator site in the working tree: every `_name` write that is left
    is residue that no validator reads back.  With `current_tree_linearizable` / `no_racy_site_equals_sequential`: all
    concurrent validation calls of the modelled kinds are linearizable for EVERY schedule on the current tree. -/
theorem current_tree_not_racy : currentTreeRacy = false := by decide +kernel

theorem current_tree_positive (sites : List (Nat × String)) (sh : Shared) (calls : List Call) :
    Linearizable sh (modelProgs Generated.sharedWrites sites calls) :=
  current_tree_linearizable current_tree_not_racy sites sh calls

/-- Field objects the library is KNOWN to share between different declarations (none) -/
def knownAliasKeys : List String := []

/-- The hypothesis of `distinct_declarations_linearizable` for calls on different fields / classes, checked on the
    CURRENT working tree: over the whole declaration vocabulary probed by extract/field_aliases.py (every spelling written
    out freshly for two fields of one class and a field of a second class) no Field object is reachable from two
    declarations.  A change that makes declarations share an item / option / key / value Field object (e.g. one
    module-level NoneField for every Optional) breaks this obligation. -/
theorem aliases_ok : ∀ r ∈ Generated.fieldAliases, r.key ∈ knownAliasKeys := by decide +kernel

/-- the probe really declared the vocabulary and walked Field objects -/
theorem aliases_nonvacuous : Generated.probedSpellings ≥ 30 ∧ Generated.probedObjects ≥ 300 := by decide +kernel

end Typedpy.C20
