/-
  Serialize / deserialize / re-validate round trip of the extension kinds (Sem/SerdeX.lean) on the fragment `xFrag`
  (Spec/FragX.lean), by induction over `XDecl` (`XDecl.induction`).  `RTX` is `RTg` (Lemmas/RoundTrip.lean) over the
  extension dispatchers: the core declarations embedded through `XDecl.base` re-use `round_trip`, the collection and
  class cases the closure lemmas of that file (`rt_seq`, `rt_tuple`, `rt_set`, `rt_map`, `rt_classRef`) and its
  attribute-list theorem `fields_round_trip`.
-/
import TypedpyModel.Spec.FragX
import TypedpyModel.Lemmas.RoundTrip
import TypedpyModel.Lemmas.DeserErr
namespace Typedpy
open PyVal (pyEq pyMem pyNodup)

def RTX (XO : XOracles) (opts : DeserOpts) (x : XDecl) : PyVal → Prop :=
  RTg (serX XO x) (deserX XO opts false x) (validateX XO x)

theorem c05_xOutside_type : xOutside .typeErr = false := rfl
theorem c05_xOutside_value : xOutside .valueErr = false := rfl

theorem c05_scalar_json (v : PyVal) (h : xScalarJson v = true) :
    isJson v = true ∧ v.isNone = false ∧ unhashable v = false := by
  cases v <;> simp [xScalarJson] at h <;> simp [isJson, PyVal.isNone, unhashable]

theorem rtx_decimal (XO : XOracles) (opts : DeserOpts) (o : NumOpts) (v : PyVal)
    (h : xFrag XO (.decimal o) v = true) : RTX XO opts (.decimal o) v := by
  cases v <;> (unfold xFrag at h; simp at h)
  rename_i q
  obtain ⟨hn, hq⟩ := h
  refine ⟨.float q, ?_, rfl, rfl, ?_, ?_⟩
  · unfold serX; simp [sDecimal, hq]
  · unfold deserX; simp [PyVal.isNone, dDecimal, xConvDecimal, PyVal.asNum]
  · unfold validateX; simp [sxDecimal, xConvDecimal, PyVal.asNum, hn]

theorem rtx_enumVal (XO : XOracles) (opts : DeserOpts) (cls : String) (ms : List (String × PyVal))
    (mx : Bool) (v : PyVal) (h : xFrag XO (.enumVal cls ms mx) v = true) :
    RTX XO opts (.enumVal cls ms mx) v := by
  cases v <;> (unfold xFrag at h; simp at h)
  rename_i c n
  obtain ⟨hc, hm⟩ := h
  subst hc
  unfold xMemberOk at hm
  cases hl : lookup n ms with
  | none => simp [hl] at hm
  | some val =>
    simp only [hl, Bool.and_eq_true_iff] at hm
    obtain ⟨hs, hfind⟩ := hm
    have hfind' : xFindByValue ms val = some n := by simpa using hfind
    obtain ⟨hj, hnn, hh⟩ := c05_scalar_json val hs
    refine ⟨val, ?_, hj, ?_, ?_, ?_⟩
    · unfold serX; simp [sEnumVal, hl, hs]
    · rw [hnn]; rfl
    · unfold deserX; simp [hnn, dEnumVal, hh, hfind']
    · have hcont : (ms.map (·.1)).contains n = true := by rw [← lookup_isSome_map, hl]; rfl
      unfold validateX; simp only [vEnumVal, hcont, beq_self_eq_true, Bool.and_self, if_true]

theorem rtx_temporal (XO : XOracles) (opts : DeserOpts) (ty fmt : String) (ints : Bool) (v : PyVal)
    (h : xFrag XO (.temporal ty fmt ints) v = true) : RTX XO opts (.temporal ty fmt ints) v := by
  cases v <;> (unfold xFrag at h; simp at h)
  rename_i t
  obtain ⟨hk, hp⟩ := h
  refine ⟨.str (XO.format ty fmt t), ?_, rfl, rfl, ?_, ?_⟩
  · unfold serX; simp [sTemporal]
  · unfold deserX; simp [PyVal.isNone, dTemporal, hp]
  · unfold validateX; simp [vTemporal, hk]

theorem rtx_enumName (XO : XOracles) (opts : DeserOpts) (cls : String) (ms : List (String × PyVal))
    (mx : Bool) (v : PyVal) (h : xFrag XO (.enumName cls ms mx) v = true) :
    RTX XO opts (.enumName cls ms mx) v := by
  cases v <;> (unfold xFrag at h; simp at h)
  rename_i c n
  obtain ⟨hc, hm⟩ := h
  subst hc
  have hcont : (ms.map (·.1)).contains n = true := by simpa using hm
  refine ⟨.str n, ?_, rfl, rfl, ?_, ?_⟩
  · unfold serX; simp [sEnumName]
  · unfold deserX
    simp only [PyVal.isNone, Bool.false_and, Bool.false_eq_true, if_false, dEnumName, hcont, if_true]
  · unfold validateX; simp only [vEnumVal, hcont, beq_self_eq_true, Bool.and_self, if_true]

theorem rtx_fmtStr (XO : XOracles) (opts : DeserOpts) (kind : String) (strict : Bool) (v : PyVal)
    (h : xFrag XO (.fmtStr kind strict) v = true) : RTX XO opts (.fmtStr kind strict) v := by
  cases v <;> (unfold xFrag at h; simp at h)
  rename_i s
  refine ⟨.str s, ?_, rfl, rfl, ?_, ?_⟩
  · unfold serX; simp [sScalar]
  · unfold deserX; simp [PyVal.isNone, dFmtStr]
  · unfold validateX; simp [vFmtStr, h]

/-- a declaration that refuses None fails on it with an exception of the real code, in the reader and in the
    constructor alike: `AnyOf[X, NoneField]` then falls through to NoneField -/
theorem c05_noNone_deser (XO : XOracles) (opts : DeserOpts) (x : XDecl) (h : xNoNone x = true) :
    xOptOf (deserX XO opts false x .none) .none = .ok .none := by
  cases x with
  | base f => cases f <;> first | (cases h; done) | rfl
  | enumVal cls ms mx =>
    simp only [xNoNone, Bool.not_eq_true'] at h
    have hf : ms.find? (fun m => pyEq PyVal.none m.2) = none :=
      List.find?_eq_none.mpr fun m hm => by simpa using (List.any_eq_false.mp h) m hm
    unfold deserX; simp [PyVal.isNone, dEnumVal, unhashable, xFindByValue, hf, xOptOf, xOutside]
  | enumName cls ms mx =>
    simp only [xNoNone, Bool.not_eq_true'] at h
    unfold deserX; simp [PyVal.isNone, dEnumName, dValidated, vEnumVal, h, xOptOf, xOutside]
  | opt x | anyOf xs => cases h
  -- every other kind refuses None by computation
  | _ => rfl

theorem c05_noNone_validate (XO : XOracles) (x : XDecl) (h : xNoNone x = true) :
    xOptOf (validateX XO x .none) .none = .ok .none := by
  cases x with
  | base f => cases f <;> first | (cases h; done) | rfl
  | enumVal cls ms mx | enumName cls ms mx =>
    simp only [xNoNone, Bool.not_eq_true'] at h
    unfold validateX; simp [vEnumVal, h, xOptOf, xOutside, PyVal.isNone]
  | opt x | anyOf xs => cases h
  | seqOf k x => cases k <;> rfl
  | _ => rfl

theorem rtx_opt_none (XO : XOracles) (opts : DeserOpts) (x : XDecl) (h : xNoNone x = true) :
    RTX XO opts (.opt x) .none :=
  ⟨.none, by unfold serX; simp [PyVal.isNone], rfl, rfl, c05_noNone_deser XO opts x h, c05_noNone_validate XO x h⟩

theorem rtx_opt_some (XO : XOracles) (opts : DeserOpts) (x : XDecl) (v : PyVal)
    (hn : v.isNone = false) (h : RTX XO opts x v) : RTX XO opts (.opt x) v := by
  rcases h with ⟨j, h1, h2, h3, h4, h5⟩
  have hjn : j.isNone = false := by rw [h3]; exact hn
  refine ⟨j, ?_, h2, h3, ?_, ?_⟩
  · unfold serX; simp [hn, h1]
  · unfold deserX; simp [hjn, h4, xOptOf]
  · unfold validateX; simp [h5, xOptOf]

theorem deserX_nonNone (XO : XOracles) (opts : DeserOpts) (ign : Bool) (x : XDecl) (v : PyVal)
    (h : v.isNone = false) : deserX XO opts ign x v = deserX XO opts false x v := by
  cases x with
  | base f => exact deser_nonNone XO.base opts ign f v h
  | _ => unfold deserX; simp [h]

theorem c05_errcls_not_outside (e : ErrCls) (h : e = .typeErr ∨ e = .valueErr ∨ e = .both) : xOutside e = false := by
  rcases h with rfl | rfl | rfl <;> rfl

/-- a first-match scan passes over an option that fails with an exception of the real code -/
theorem xFirst_skip {r : R PyVal} (h : (match r with | .error e => !xOutside e | .ok _ => false) = true)
    (rest : R PyVal) : xFirst r rest = rest := by
  cases r with
  | ok _ => cases h
  | error e =>
    simp only [Bool.not_eq_true'] at h
    simp [xFirst, h]

theorem c05_deserX_rejects_kind (XO : XOracles) (opts : DeserOpts) (x : XDecl) (j : PyVal)
    (h : acceptsDocX x (docKind j) = false) (rest : R PyVal) : xFirst (deserX XO opts false x j) rest = rest := by
  cases x with
  | base f =>
    have hk : acceptsDoc f (docKind j) = false := by
      cases hj : docKind j <;> rw [hj] at h <;> first | exact h | cases h
    cases hd : deser XO.base opts false f j with
    | ok y => rw [c05_deser_ok_kind XO.base opts f j y hd] at hk; cases hk
    | error e =>
      refine xFirst_skip ?_ rest
      unfold deserX
      simp [hd, c05_errcls_not_outside e (deser_err XO.base opts f false j e hd)]
  -- for the other kinds the JSON type of the document (with the kind's flag, where it has one) decides by
  -- computation: either the hypothesis is absurd or the reader refuses the document
  | temporal ty fmt ints => cases ints <;> cases j <;> first | (cases h; done) | rfl
  | fmtStr kind strict => cases strict <;> cases j <;> first | (cases h; done) | rfl
  | _ => cases j <;> first | (cases h; done) | rfl

/-- induction over an extension declaration, with list children as `∀ x ∈ xs, motive x` -/
theorem XDecl.induction {motive : XDecl → Prop}
    (base : ∀ f, motive (.base f)) (decimal : ∀ o, motive (.decimal o))
    (enumVal : ∀ cls ms mx, motive (.enumVal cls ms mx)) (temporal : ∀ ty fmt ints, motive (.temporal ty fmt ints))
    (enumName : ∀ cls ms mx, motive (.enumName cls ms mx)) (fmtStr : ∀ kind strict, motive (.fmtStr kind strict))
    (opt : ∀ x, motive x → motive (.opt x)) (anyOf : ∀ xs, (∀ x ∈ xs, motive x) → motive (.anyOf xs))
    (seqOf : ∀ k x, motive x → motive (.seqOf k x)) (setOf : ∀ x, motive x → motive (.setOf x))
    (mapStr : ∀ x, motive x → motive (.mapStr x)) (tuplePos : ∀ xs, (∀ x ∈ xs, motive x) → motive (.tuplePos xs))
    (struct : ∀ c fields, (∀ nf ∈ fields, motive nf.2) → motive (.struct c fields))
    (structU : ∀ c fields, (∀ nf ∈ fields, motive nf.2) → motive (.structU c fields)) (x : XDecl) : motive x :=
  XDecl.rec (motive_1 := motive) (motive_2 := fun xs => ∀ x ∈ xs, motive x)
    (motive_3 := fun fields => ∀ nf ∈ fields, motive nf.2) (motive_4 := fun nf => motive nf.2)
    base decimal enumVal temporal enumName fmtStr opt anyOf seqOf setOf mapStr tuplePos struct structU
    (fun _ h => nomatch h) (fun _ _ hg hgs _ h => (List.mem_cons.1 h).elim (· ▸ hg) (hgs _))
    (fun _ h => nomatch h) (fun _ _ hg hgs _ h => (List.mem_cons.1 h).elim (· ▸ hg) (hgs _))
    (fun _ _ h => h) x

/-! The list companions take the round trip of the members of the list as a hypothesis, so that the induction over
the declaration can call them on its sub-declarations. -/

theorem xround_trip_any_of (XO : XOracles) (opts : DeserOpts) : ∀ (xs : List XDecl),
    (∀ x ∈ xs, ∀ v, xFrag XO x v = true → RTX XO opts x v) → ∀ (v : PyVal),
    xFragAny XO xs v = true → RTg (serAnyX XO xs) (deserAnyX XO opts xs) (validateAnyX XO xs) v
  | [], _, _, h => by simp [xFragAny] at h
  | x :: xs, ih, v, h => by
    simp only [xFragAny] at h
    rcases (Bool.or_eq_true _ _).mp h with hc | hs
    · simp only [Bool.and_eq_true_iff] at hc
      rcases ih x (by simp) v hc.2 with ⟨j, h1, h2, h3, h4, h5⟩
      exact ⟨j, by simp [serAnyX, hc.1, h1, xFirst], h2, h3, by simp [deserAnyX, h4, xFirst],
        by simp [validateAnyX, h5, xFirst]⟩
    · simp only [Bool.and_eq_true_iff] at hs
      obtain ⟨⟨⟨hser, hval⟩, hdoc⟩, hrest⟩ := hs
      obtain ⟨j, g1, g2, g3, g4, g5⟩ := xround_trip_any_of XO opts xs (fun y hy => ih y (by simp [hy])) v hrest
      simp only [g1, Bool.not_eq_true'] at hdoc
      refine ⟨j, ?_, g2, g3, (c05_deserX_rejects_kind XO opts x j hdoc _).trans g4, (xFirst_skip hval _).trans g5⟩
      -- the serializer passes over the option at its shallow check, or when it raises
      rw [serAnyX]
      cases hsh : shallowOkX XO x v with
      | false => exact g1
      | true =>
        simp only [hsh, Bool.not_true, Bool.false_or] at hser
        exact (xFirst_skip hser _).trans g1

theorem xround_trip_zip_of (XO : XOracles) (opts : DeserOpts) : ∀ (xs : List XDecl),
    (∀ x ∈ xs, ∀ v, xFrag XO x v = true → RTX XO opts x v) → ∀ (ys : List PyVal),
    ys.length = xs.length → xFragZip XO xs ys = true →
    RTl (serZipX XO xs) (deserZipX XO opts xs) (validateZipX XO xs) ys
  | [], _, [], _, _ => ⟨[], by simp [serZipX, serAnyList], rfl, by simp [deserZipX], by simp [validateZipX]⟩
  | [], _, _ :: _, hl, _ => by simp at hl
  | _ :: _, _, [], hl, _ => by simp at hl
  | x :: xs, ih, y :: ys, hl, hf => by
    simp only [xFragZip, Bool.and_eq_true_iff] at hf
    rcases ih x (by simp) y hf.1 with ⟨j, h1, h2, _, h4, h5⟩
    rcases xround_trip_zip_of XO opts xs (fun z hz => ih z (by simp [hz])) ys (by simpa using hl) hf.2
      with ⟨js, g1, g2, g3, g4⟩
    refine ⟨j :: js, ?_, ?_, ?_, ?_⟩
    · simp [serZipX, h1, g1]
    · simp [isJsonList, h2, g2]
    · simp [deserZipX, h4, g3]
    · simp [validateZipX, h5, g4]

/-- the class's `ignoreNone` flag matters to the reader of a field for a null only -/
theorem rtx_member (XO : XOracles) (opts : DeserOpts) (ign : Bool) (x : XDecl) (v : PyVal)
    (h : RTX XO opts x v) (hn : v.isNone = false ∨ ign = false) :
    RTg (serX XO x) (deserX XO opts ign x) (validateX XO x) v := by
  obtain ⟨j, h1, h2, h3, h4, h5⟩ := h
  refine ⟨j, h1, h2, h3, ?_, h5⟩
  rcases hn with hv | hi
  · rw [deserX_nonNone XO opts ign x j (h3.trans hv)]; exact h4
  · rw [hi]; exact h4

theorem rtx_fields_of (XO : XOracles) (opts : DeserOpts) (c : ClassOpts) (fs : List (String × XDecl))
    (ih : ∀ nf ∈ fs, ∀ v, xFrag XO nf.2 v = true → RTX XO opts nf.2 v) (attrs : List (String × PyVal))
    (hnd : (fs.map (·.1)).Nodup) (hc : xCanonAttrs XO c fs attrs = true) :
    (∀ a ∈ attrs, a.1 ∈ fs.map (·.1)) ∧ (∀ a ∈ attrs, a.2.isNone = false) ∧
    ∃ kw : List (String × PyVal),
      mapE (fun (a : String × PyVal) =>
          bindE (serFieldX XO fs a.1 a.2) fun j => .ok (PyVal.str a.1, j)) attrs = .ok (kw.map rt_toPair)
      ∧ isJsonPairs (kw.map rt_toPair) = true
      ∧ kw.map (·.1) = attrs.map (·.1)
      ∧ deserFieldsX XO opts c kw fs = .ok attrs
      ∧ validateFieldsX XO c attrs fs = .ok attrs := by
  have hQ : ∀ x v, (!v.isNone && xFrag XO x v) = true → v.isNone = false ∧ xFrag XO x v = true :=
    fun x v h => by simpa using h
  obtain ⟨hnames, kw, args, g1, g2, g3, _, g4, g5, gsame⟩ :=
    fields_round_trip (serX XO) (deserX XO opts c.ignoreNone) (validateX XO) (fun x v => !v.isNone && xFrag XO x v)
      true True c [] (serFieldX XO) (deserFieldsX XO opts c) (validateFieldsX XO c) (xCanonAttrs XO c)
      (fun _ _ _ _ _ => rfl) (fun _ => rfl) (fun _ _ _ _ => rfl) (fun _ => rfl) (fun _ _ _ _ => rfl) (fun _ => rfl)
      (fun _ _ _ => rfl) (fun _ _ _ _ _ _ => rfl) (.inl fun x v h => (hQ x v h).1) fs
      (fun nf hnf v hq => ⟨v, rtx_member XO opts _ nf.2 v (ih nf hnf v (hQ _ v hq).2) (.inl (hQ _ v hq).1), rfl, fun _ => rfl⟩)
      attrs hnd hc
  cases gsame trivial
  exact ⟨fun a ha => (hnames a ha).1, fun a ha => (hnames a ha).2.elim fun x h => (hQ x a.2 h).1, kw, g1, g2, g3,
    g4 kw fun _ _ => rfl, g5 _ fun _ _ => rfl⟩

/-- the same for an `_enable_undefined_value` class: an attribute may hold None, and the reader is handed a null -/
theorem rtx_fieldsU_of (XO : XOracles) (opts : DeserOpts) (c : ClassOpts) (hign : c.ignoreNone = false)
    (fs : List (String × XDecl)) (ih : ∀ nf ∈ fs, ∀ v, xFrag XO nf.2 v = true → RTX XO opts nf.2 v)
    (attrs : List (String × PyVal)) (hnd : (fs.map (·.1)).Nodup) (hc : xCanonAttrsU XO c fs attrs = true) :
    (∀ a ∈ attrs, a.1 ∈ fs.map (·.1)) ∧
    ∃ kw : List (String × PyVal),
      mapE (fun (a : String × PyVal) =>
          bindE (serFieldX XO fs a.1 a.2) fun j => .ok (PyVal.str a.1, j)) attrs = .ok (kw.map rt_toPair)
      ∧ isJsonPairs (kw.map rt_toPair) = true
      ∧ kw.map (·.1) = attrs.map (·.1)
      ∧ deserFieldsXU XO opts c kw fs = .ok attrs
      ∧ validateFieldsX XO c attrs fs = .ok attrs := by
  obtain ⟨hnames, kw, args, g1, g2, g3, _, g4, g5, gsame⟩ :=
    fields_round_trip (serX XO) (deserX XO opts c.ignoreNone) (validateX XO) (xFrag XO)
      false True c [] (serFieldX XO) (deserFieldsXU XO opts c) (validateFieldsX XO c) (xCanonAttrsU XO c)
      (fun _ _ _ _ _ => rfl) (fun _ => rfl) (fun _ _ _ _ => rfl) (fun _ => rfl) (fun _ _ _ _ => rfl) (fun _ => rfl)
      (fun _ _ _ => rfl) (fun _ _ _ _ _ _ => rfl) (.inr ⟨rfl, hign⟩) fs
      (fun nf hnf v hq => ⟨v, rtx_member XO opts _ nf.2 v (ih nf hnf v hq) (.inr hign), rfl, fun _ => rfl⟩) attrs hnd hc
  cases gsame trivial
  exact ⟨fun a ha => (hnames a ha).1, kw, g1, g2, g3, g4 kw fun _ _ => rfl, g5 _ fun _ _ => rfl⟩

theorem xround_trip (XO : XOracles) (opts : DeserOpts) (x : XDecl) :
    ∀ (v : PyVal), xFrag XO x v = true → RTX XO opts x v := by
  induction x using XDecl.induction with
  | base f =>
    intro v h
    unfold xFrag at h
    simp only [Bool.and_eq_true_iff] at h
    exact round_trip XO.base opts f v h.1 h.2
  | decimal o => exact rtx_decimal XO opts o
  | enumVal cls ms mx => exact rtx_enumVal XO opts cls ms mx
  | temporal ty fmt ints => exact rtx_temporal XO opts ty fmt ints
  | enumName cls ms mx => exact rtx_enumName XO opts cls ms mx
  | fmtStr kind strict => exact rtx_fmtStr XO opts kind strict
  | opt x ih =>
    intro v h
    unfold xFrag at h
    by_cases hn : v.isNone = true
    · simp only [hn, if_true] at h
      have hv := isNone_iff.1 hn
      subst hv
      exact rtx_opt_none XO opts x h
    · have hn' : v.isNone = false := by simpa using hn
      simp only [hn', Bool.false_eq_true, if_false] at h
      exact rtx_opt_some XO opts x v hn' (ih v h)
  | anyOf xs ih =>
    intro v h
    unfold xFrag at h
    exact (xround_trip_any_of XO opts xs ih v h).guard fun _ => rfl
  | seqOf k x ih =>
    intro v h
    unfold xFrag at h
    cases hs : seqElems k v with
    | none => simp [hs] at h
    | some xs =>
      obtain rfl := seqElems_eq_some.1 hs
      simp only [hs] at h
      exact (rt_seq k {} rfl rfl rfl (rt_list fun y hy => ih y (List.all_eq_true.mp h y hy))).guard fun _ => rfl
  | setOf x ih =>
    intro v h
    unfold xFrag at h
    cases v with
    | set fr xs =>
      simp only [Bool.and_eq_true_iff] at h
      obtain ⟨⟨⟨hfr, hnd⟩, hh⟩, hall⟩ := h
      have hfr' : fr = false := by simpa using hfr
      subst hfr'
      exact (rt_set false {} hnd (by simpa using hh) rfl
        (rt_list fun y hy => ih y (List.all_eq_true.mp hall y hy))).guard fun _ => rfl
    | _ => simp at h
  | mapStr x ih =>
    intro v h
    unfold xFrag at h
    cases v with
    | dict kvs =>
      simp only [Bool.and_eq_true_iff] at h
      obtain ⟨hdist, hall⟩ := h
      refine (rt_map {} (strKeys_good kvs hdist) rfl
        (rt_pairs (Dk := fun k => dValidated (vString XO.base none none none k) k) fun kv hkv => ?_)).guard fun _ => rfl
      obtain ⟨k, hk⟩ := c05_strKeys_str kvs hdist kv hkv
      have hv : vString XO.base none none none (.str k) = .ok (.str k) := by simp [vString, leLen, geLen, vPattern]
      rw [hk]
      exact ⟨⟨rfl, rfl, by rw [hv]; rfl, hv⟩, ih kv.2 (List.all_eq_true.mp hall kv hkv)⟩
    | _ => simp at h
  | tuplePos xs ih =>
    intro v h
    unfold xFrag at h
    cases v with
    | tuple ys =>
      simp only [Bool.and_eq_true_iff] at h
      have hlen : ys.length = xs.length := by simpa using h.1
      exact (rt_tuple rfl (by simp [hlen]) (xround_trip_zip_of XO opts xs ih ys hlen h.2)).guard fun _ => rfl
    | _ => simp at h
  | structU c fields ih =>
    intro v h
    unfold xFrag at h
    simp only [Bool.and_eq_true_iff] at h
    obtain ⟨⟨⟨hign, hacc⟩, hnd⟩, hv⟩ := h
    obtain ⟨attrs, rfl, hreq, hcan⟩ := instShape_inv hv
    obtain ⟨hnames, kw, g1, g2, g3, g4, g5⟩ :=
      rtx_fieldsU_of XO opts c (by simpa using hign) fields ih attrs (of_decide_eq_true hnd) hcan
    exact RTw.guard (rt_classRef opts c _ _ hacc hreq hnames rfl (by unfold serX; simp [sInstU, g1]) g2 g3 rfl g4 g5)
      fun _ => rfl
  | struct c fields ih =>
    intro v h
    unfold xFrag at h
    simp only [Bool.and_eq_true_iff] at h
    obtain ⟨⟨hacc, hnd⟩, hv⟩ := h
    obtain ⟨attrs, rfl, hreq, hcan⟩ := instShape_inv hv
    obtain ⟨hnames, hnn, kw, g1, g2, g3, g4, g5⟩ := rtx_fields_of XO opts c fields ih attrs (of_decide_eq_true hnd) hcan
    exact RTw.guard (rt_classRef opts c _ _ hacc hreq hnames rfl (sInst_inst c hnn g1) g2 g3 rfl g4 g5) fun _ => rfl

theorem xround_trip_any (XO : XOracles) (opts : DeserOpts) : ∀ (xs : List XDecl) (v : PyVal),
    xFragAny XO xs v = true →
    ∃ j, serAnyX XO xs v = .ok j ∧ isJson j = true ∧ j.isNone = v.isNone
      ∧ deserAnyX XO opts xs j = .ok v ∧ validateAnyX XO xs v = .ok v :=
  fun xs => xround_trip_any_of XO opts xs fun x _ => xround_trip XO opts x

theorem xround_trip_zip (XO : XOracles) (opts : DeserOpts) : ∀ (xs : List XDecl) (ys : List PyVal),
    ys.length = xs.length → xFragZip XO xs ys = true →
    ∃ js, serZipX XO xs ys = .ok js ∧ isJsonList js = true
      ∧ deserZipX XO opts xs js = .ok ys ∧ validateZipX XO xs ys = .ok ys :=
  fun xs => xround_trip_zip_of XO opts xs fun x _ => xround_trip XO opts x

theorem rtx_fieldsU (XO : XOracles) (opts : DeserOpts) (c : ClassOpts) (hign : c.ignoreNone = false) :
    ∀ (fs : List (String × XDecl)) (attrs : List (String × PyVal)),
    (fs.map (·.1)).Nodup → xCanonAttrsU XO c fs attrs = true →
    ∃ kw : List (String × PyVal),
      mapE (fun (a : String × PyVal) =>
          bindE (serFieldX XO fs a.1 a.2) fun j => .ok (PyVal.str a.1, j)) attrs = .ok (kw.map rt_toPair)
      ∧ isJsonPairs (kw.map rt_toPair) = true
      ∧ kw.map (·.1) = attrs.map (·.1)
      ∧ deserFieldsXU XO opts c kw fs = .ok attrs
      ∧ validateFieldsX XO c attrs fs = .ok attrs :=
  fun fs attrs hnd hc => (rtx_fieldsU_of XO opts c hign fs (fun nf _ => xround_trip XO opts nf.2) attrs hnd hc).2

end Typedpy
