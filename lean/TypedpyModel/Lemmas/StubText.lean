/-
  Lemmas/StubText.lean — the generated headers are accepted by the recogniser of Sem/StubText.lean, and their tokens
  are ones the lexer reads back.  Three facts about annotation tokens carry the proofs: the expression machine accepts
  a well-formed annotation (`c16_runE_ann`; it only steps over names it has checked, hence lexable ones), the splitter
  passes over it whole (`Flat`), and it contains no `=` (`annTok`).  Every parameter of every header is the generator's
  `rparamToks` of some `RParam`, so one lemma (`c16_itemOk_rparam`) shows the items `ItemOk` (cut out whole, classified
  as intended, lexable); a header made of such items `Accepts` its parameter table as soon as the classified items obey
  the ordering rules (`c16_accepts_items`), and the ordering is shown per kind of header.  The end of the file stands
  apart: when the parameter names of a generated method are pairwise distinct (`c16_dupFree_method`), and that
  `get_type_info` renders well-formed annotations (`c16_typeInfo_wf`).
-/
import TypedpyModel.Sem.StubText
import TypedpyModel.Lemmas.Stub
namespace Typedpy.StubText
open Typedpy.Stub

theorem c16_runE_append (st : ESt) (xs ys : List Tok) :
    runE st (xs ++ ys) = (runE st xs).bind (fun s => runE s ys) := by
  induction xs generalizing st with
  | nil => simp [runE]
  | cons x xs ih =>
    simp only [List.cons_append, runE]
    cases h : stepE st x with
    | none => simp
    | some st' => simp [ih]

theorem c16_atomOk_of_identOk {s : String} (h : identOk s = true) : atomOk s = true := by
  simp [atomOk, h]

theorem c16_runE_dottedTail (stk : List Bool) (rest : List String) (ys : List Tok)
    (h : rest.all identOk = true) :
    runE (stk, .afterOp) (dottedTail rest ++ ys) = runE (stk, .afterOp) ys := by
  induction rest with
  | nil => simp [dottedTail]
  | cons a rest ih =>
    simp only [List.all_cons, Bool.and_eq_true] at h
    simp only [dottedTail, List.cons_append, runE, stepE, h.1, if_true]
    exact ih h.2

theorem c16_runE_dotted (stk : List Bool) (c : Bool) (ps : List String) (ys : List Tok)
    (h : dottedOk ps = true) :
    runE (stk, .operand c) (dottedToks ps ++ ys) = runE (stk, .afterOp) ys := by
  cases ps with
  | nil => simp [dottedOk] at h
  | cons a rest =>
    simp only [dottedOk, Bool.and_eq_true] at h
    simp only [dottedToks, List.cons_append, runE, stepE, h.1, if_true]
    exact c16_runE_dottedTail stk rest ys h.2

mutual
theorem c16_runE_ann : (a : Ann) → (stk : List Bool) → (c : Bool) → (ys : List Tok) → a.wf = true →
    runE (stk, .operand c) (annToks a ++ ys) = runE (stk, .afterOp) ys
  | .name ps, stk, c, ys, h => by
    simp only [Ann.wf] at h
    simp only [annToks]
    exact c16_runE_dotted stk c ps ys h
  | .sub hd args, stk, c, ys, h => by
    simp only [Ann.wf, Bool.and_eq_true] at h
    simp only [annToks, List.append_assoc]
    rw [c16_runE_dotted stk c hd _ h.1.1]
    simp only [List.cons_append, runE, stepE]
    cases args with
    | nil => simp at h
    | cons a rest =>
      rw [List.append_assoc, c16_runE_anns (a :: rest) false stk false _ h.2 (by simp)]
      rfl
  | .lst items, stk, c, ys, h => by
    simp only [Ann.wf] at h
    simp only [annToks, List.cons_append, runE, stepE]
    cases items with
    | nil => simp [annsToks, runE, stepE]
    | cons a rest =>
      rw [List.append_assoc, c16_runE_anns (a :: rest) true stk true _ h (by simp)]
      rfl
  | .ellipsis, stk, c, ys, _ => rfl
  | .lit, stk, c, ys, _ => rfl
theorem c16_runE_anns : (as : List Ann) → (b : Bool) → (stk : List Bool) → (c : Bool) → (ys : List Tok) →
    Ann.wfL as = true → as ≠ [] →
    runE (b :: stk, .operand c) (annsToks as ++ ys) = runE (b :: stk, .afterOp) ys
  | [], _, _, _, _, _, hne => absurd rfl hne
  | a :: rest, b, stk, c, ys, h, _ => by
    simp only [Ann.wfL, Bool.and_eq_true] at h
    simp only [annsToks, List.append_assoc]
    rw [c16_runE_ann a (b :: stk) c _ h.1]
    exact c16_runE_tail rest b stk ys h.2
theorem c16_runE_tail : (as : List Ann) → (b : Bool) → (stk : List Bool) → (ys : List Tok) →
    Ann.wfL as = true →
    runE (b :: stk, .afterOp) (annsTail as ++ ys) = runE (b :: stk, .afterOp) ys
  | [], _, _, _, _ => by simp [annsTail]
  | a :: rest, b, stk, ys, h => by
    simp only [Ann.wfL, Bool.and_eq_true] at h
    simp only [annsTail, List.cons_append, List.append_assoc, runE, stepE]
    rw [c16_runE_ann a (b :: stk) true _ h.1]
    exact c16_runE_tail rest b stk ys h.2
end

theorem c16_exprOk_ann (a : Ann) (h : a.wf = true) : exprOk (annToks a) = true := by
  have := c16_runE_ann a [] false [] h
  simp only [List.append_nil, runE] at this
  simp [exprOk, this]

/-- a token sequence the splitter swallows whole, at any depth -/
def Flat (xs : List Tok) : Prop :=
  ∀ (ys : List Tok) (d : Nat) (cur : List Tok) (acc : List (List Tok)),
    splitGo (xs ++ ys) d cur acc = splitGo ys d (cur ++ xs) acc

/-- the same one level down (commas allowed) -/
def FlatIn (xs : List Tok) : Prop :=
  ∀ (ys : List Tok) (d : Nat) (cur : List Tok) (acc : List (List Tok)),
    splitGo (xs ++ ys) (d + 1) cur acc = splitGo ys (d + 1) (cur ++ xs) acc

theorem c16_flat_nil : Flat [] := by intro ys d cur acc; simp

theorem c16_flat_append {xs zs : List Tok} (hx : Flat xs) (hz : Flat zs) : Flat (xs ++ zs) := by
  intro ys d cur acc
  rw [List.append_assoc, hx, hz, List.append_assoc]

theorem c16_flatIn_append {xs zs : List Tok} (hx : FlatIn xs) (hz : FlatIn zs) : FlatIn (xs ++ zs) := by
  intro ys d cur acc
  rw [List.append_assoc, hx, hz, List.append_assoc]

theorem c16_flatIn_of_flat {xs : List Tok} (hx : Flat xs) : FlatIn xs := fun ys d cur acc => hx ys (d + 1) cur acc

/-- tokens that do not change the depth and are not commas -/
def neutral (t : Tok) : Bool :=
  match t with
  | .name _ | .lit | .colon | .eq | .star | .dstar | .slash | .dot | .arrow | .ellipsis => true
  | _ => false

theorem c16_flat_neutral {t : Tok} (h : neutral t = true) : Flat [t] := by
  intro ys d cur acc
  cases t <;> simp [neutral] at h <;> rfl

theorem c16_flat_cons {t : Tok} {xs : List Tok} (h : neutral t = true) (hx : Flat xs) : Flat (t :: xs) :=
  c16_flat_append (c16_flat_neutral h) hx

theorem c16_flatIn_comma : FlatIn [.comma] := by
  intro ys d cur acc
  simp [splitGo]

theorem c16_flat_brackets {xs : List Tok} (hx : FlatIn xs) : Flat (.lsq :: (xs ++ [.rsq])) := by
  intro ys d cur acc
  simp only [List.cons_append, List.append_assoc, splitGo, isOpenTok]
  simp only [show (Tok.lsq = Tok.comma) = False from by simp, if_false, beq_self_eq_true, Bool.true_or, if_true]
  rw [hx]
  simp [splitGo, isOpenTok]

theorem c16_flat_dottedTail (rest : List String) : Flat (dottedTail rest) := by
  induction rest with
  | nil => exact c16_flat_nil
  | cons a rest ih => exact c16_flat_cons rfl (c16_flat_cons rfl ih)

theorem c16_flat_dotted (ps : List String) : Flat (dottedToks ps) := by
  cases ps with
  | nil => exact c16_flat_nil
  | cons a rest => exact c16_flat_cons rfl (c16_flat_dottedTail rest)

mutual
theorem c16_flat_ann : (a : Ann) → Flat (annToks a)
  | .name ps => by simp only [annToks]; exact c16_flat_dotted ps
  | .sub hd args => by
    simp only [annToks]
    exact c16_flat_append (c16_flat_dotted hd) (c16_flat_brackets (c16_flatIn_anns args))
  | .lst items => by
    simp only [annToks]
    exact c16_flat_brackets (c16_flatIn_anns items)
  | .ellipsis => c16_flat_neutral rfl
  | .lit => c16_flat_neutral rfl
theorem c16_flatIn_anns : (as : List Ann) → FlatIn (annsToks as)
  | [] => fun ys d cur acc => by simp [annsToks]
  | a :: rest => by
    simp only [annsToks]
    exact c16_flatIn_append (c16_flatIn_of_flat (c16_flat_ann a)) (c16_flatIn_tail rest)
theorem c16_flatIn_tail : (as : List Ann) → FlatIn (annsTail as)
  | [] => fun ys d cur acc => by simp [annsTail]
  | a :: rest => by
    simp only [annsTail]
    exact c16_flatIn_append c16_flatIn_comma
      (c16_flatIn_append (c16_flatIn_of_flat (c16_flat_ann a)) (c16_flatIn_tail rest))
end

/-- cutting a comma-joined list of flat items gives the items back -/
theorem c16_splitGo_joinTail (items : List (List Tok)) (h : ∀ x ∈ items, Flat x) (cur : List Tok)
    (acc : List (List Tok)) (tail : List Tok) :
    splitGo (joinTail items ++ .rpar :: tail) 0 cur acc = some (acc ++ [cur] ++ items, tail) := by
  induction items generalizing cur acc with
  | nil => simp [joinTail, splitGo, isOpenTok]
  | cons y rest ih =>
    simp only [joinTail, List.cons_append, List.append_assoc, splitGo, if_true]
    rw [h y List.mem_cons_self]
    rw [ih (fun x hx => h x (List.mem_cons_of_mem _ hx))]
    simp

theorem c16_splitParams_join (x : List Tok) (rest : List (List Tok)) (h : ∀ y ∈ x :: rest, Flat y)
    (tail : List Tok) :
    splitParams (joinComma (x :: rest) ++ .rpar :: tail) = some (x :: rest, tail) := by
  simp only [splitParams, joinComma, List.append_assoc]
  rw [h x List.mem_cons_self]
  rw [c16_splitGo_joinTail rest (fun y hy => h y (List.mem_cons_of_mem _ hy))]
  simp

def annTok (t : Tok) : Bool :=
  match t with
  | .name _ | .dot | .lsq | .rsq | .comma | .ellipsis | .lit => true
  | _ => false

theorem c16_annTok_dottedTail (rest : List String) : ∀ t ∈ dottedTail rest, annTok t = true := by
  induction rest with
  | nil => exact List.forall_mem_nil _
  | cons a rest ih => exact List.forall_mem_cons.mpr ⟨rfl, List.forall_mem_cons.mpr ⟨rfl, ih⟩⟩

theorem c16_annTok_dotted (ps : List String) : ∀ t ∈ dottedToks ps, annTok t = true := by
  cases ps with
  | nil => exact List.forall_mem_nil _
  | cons a rest => exact List.forall_mem_cons.mpr ⟨rfl, c16_annTok_dottedTail rest⟩

theorem c16_annTok_single {t : Tok} (h : annTok t = true) : ∀ u ∈ [t], annTok u = true :=
  List.forall_mem_cons.mpr ⟨h, List.forall_mem_nil _⟩

mutual
theorem c16_annTok_ann : (a : Ann) → ∀ t ∈ annToks a, annTok t = true
  | .name ps => by rw [annToks]; exact c16_annTok_dotted ps
  | .sub hd args => by
    rw [annToks]
    exact List.forall_mem_append.mpr ⟨c16_annTok_dotted hd, List.forall_mem_cons.mpr ⟨rfl,
      List.forall_mem_append.mpr ⟨c16_annTok_anns args, c16_annTok_single rfl⟩⟩⟩
  | .lst items => by
    rw [annToks]
    exact List.forall_mem_cons.mpr ⟨rfl, List.forall_mem_append.mpr ⟨c16_annTok_anns items, c16_annTok_single rfl⟩⟩
  | .ellipsis => c16_annTok_single rfl
  | .lit => c16_annTok_single rfl
theorem c16_annTok_anns : (as : List Ann) → ∀ t ∈ annsToks as, annTok t = true
  | [] => List.forall_mem_nil _
  | a :: rest => by
    rw [annsToks]
    exact List.forall_mem_append.mpr ⟨c16_annTok_ann a, c16_annTok_tail rest⟩
theorem c16_annTok_tail : (as : List Ann) → ∀ t ∈ annsTail as, annTok t = true
  | [] => List.forall_mem_nil _
  | a :: rest => by
    rw [annsTail]
    exact List.forall_mem_cons.mpr ⟨rfl, List.forall_mem_append.mpr ⟨c16_annTok_ann a, c16_annTok_tail rest⟩⟩
end

theorem c16_ne_eq_of_annTok {t : Tok} (h : annTok t = true) : t ≠ .eq := by
  rintro rfl
  cases h

theorem c16_splitEq_noEq (xs ys : List Tok) (h : ∀ t ∈ xs, annTok t = true) :
    splitEq (xs ++ ys) = (xs ++ (splitEq ys).1, (splitEq ys).2) := by
  induction xs with
  | nil => simp
  | cons x xs ih =>
    simp only [List.cons_append, splitEq, c16_ne_eq_of_annTok (h x List.mem_cons_self), if_false]
    rw [ih (fun t ht => h t (List.mem_cons_of_mem _ ht))]

theorem c16_annPartOk (ann : Option Ann) (h : optWf ann = true) : annPartOk (annPart ann) = true := by
  cases ann with
  | none => rfl
  | some a => simp only [annPart, annPartOk]; exact c16_exprOk_ann a h

theorem c16_splitEq_parts (ann dflt : Option Ann) :
    splitEq (annPart ann ++ dfltPart dflt) = (annPart ann, dflt.map annToks) := by
  have hd : splitEq (dfltPart dflt) = ([], dflt.map annToks) := by
    cases dflt with
    | none => rfl
    | some d => simp [dfltPart, splitEq]
  cases ann with
  | none => simpa [annPart] using hd
  | some a =>
    simp only [annPart, List.cons_append, splitEq]
    rw [if_neg (by simp), c16_splitEq_noEq _ _ (c16_annTok_ann a), hd]
    simp

theorem c16_flat_optPart (a : Option Ann) : Flat (annPart a) ∧ Flat (dfltPart a) := by
  cases a with
  | none => exact ⟨c16_flat_nil, c16_flat_nil⟩
  | some x => exact ⟨c16_flat_cons rfl (c16_flat_ann x), c16_flat_cons rfl (c16_flat_ann x)⟩

/-- a token the lexer reads back: names are identifier-shaped -/
def tokLexOk : Tok → Bool
  | .name s => identChars s.toList
  | _ => true

theorem c16_identChars_of_identOk {s : String} (h : identOk s = true) : identChars s.toList = true := by
  simp only [identOk, Bool.and_eq_true] at h
  exact h.1

theorem c16_identChars_of_atomOk {s : String} (h : atomOk s = true) : identChars s.toList = true := by
  simp only [atomOk, Bool.or_eq_true, beq_iff_eq] at h
  rcases h with ((h | rfl) | rfl) | rfl
  · exact c16_identChars_of_identOk h
  · decide
  · decide
  · decide

theorem c16_lexOk_of_stepE {st st' : ESt} {t : Tok} (h : stepE st t = some st') : tokLexOk t = true := by
  cases t with
  | name s =>
    obtain ⟨stk, pos⟩ := st
    cases pos with
    | operand c =>
      simp only [stepE] at h
      split at h
      · exact c16_identChars_of_atomOk ‹_›
      · cases h
    | afterOp => cases h
    | afterDot =>
      simp only [stepE] at h
      split at h
      · exact c16_identChars_of_identOk ‹_›
      · cases h
  | _ => rfl

theorem c16_lexOk_of_runE {xs : List Tok} {st st' : ESt} (h : runE st xs = some st') :
    ∀ t ∈ xs, tokLexOk t = true := by
  induction xs generalizing st with
  | nil => exact fun _ ht => nomatch ht
  | cons x xs ih =>
    simp only [runE] at h
    cases hx : stepE st x with
    | none => simp [hx] at h
    | some s1 =>
      rw [hx] at h
      exact List.forall_mem_cons.mpr ⟨c16_lexOk_of_stepE hx, ih h⟩

/-- the tokens of a well-formed annotation are lexable because the expression machine runs over them
    (`c16_runE_ann` with nothing after the annotation) -/
theorem c16_lexOk_ann (a : Ann) (h : a.wf = true) : ∀ t ∈ annToks a, tokLexOk t = true :=
  c16_lexOk_of_runE (List.append_nil _ ▸ c16_runE_ann a [] false [] h)

theorem c16_lexOk_anns : (as : List Ann) → Ann.wfL as = true → ∀ t ∈ annsToks as, tokLexOk t = true
  | [], _ => by simp [annsToks]
  | a :: rest, h =>
    c16_lexOk_of_runE (List.append_nil _ ▸ c16_runE_anns (a :: rest) false [] false [] h (List.cons_ne_nil _ _))

theorem c16_lexOk_tail : (as : List Ann) → Ann.wfL as = true → ∀ t ∈ annsTail as, tokLexOk t = true :=
  fun as h => c16_lexOk_of_runE (List.append_nil _ ▸ c16_runE_tail as false [] [] h)

theorem c16_lexOk_optPart (a : Option Ann) (h : optWf a = true) :
    (∀ t ∈ annPart a, tokLexOk t = true) ∧ (∀ t ∈ dfltPart a, tokLexOk t = true) ∧
    (∀ t ∈ retPart a, tokLexOk t = true) := by
  cases a with
  | none => exact ⟨List.forall_mem_nil _, List.forall_mem_nil _, List.forall_mem_nil _⟩
  | some x =>
    have hx := c16_lexOk_ann x h
    exact ⟨List.forall_mem_cons.mpr ⟨rfl, hx⟩, List.forall_mem_cons.mpr ⟨rfl, hx⟩, List.forall_mem_cons.mpr ⟨rfl, hx⟩⟩

theorem c16_lexOk_joinTail (items : List (List Tok)) (h : ∀ x ∈ items, ∀ t ∈ x, tokLexOk t = true) :
    ∀ t ∈ joinTail items, tokLexOk t = true := by
  induction items with
  | nil => exact List.forall_mem_nil _
  | cons x rest ih =>
    have h := List.forall_mem_cons.mp h
    exact List.forall_mem_cons.mpr ⟨rfl, List.forall_mem_append.mpr ⟨h.1, ih h.2⟩⟩

theorem c16_lexOk_joinComma (items : List (List Tok)) (h : ∀ x ∈ items, ∀ t ∈ x, tokLexOk t = true) :
    ∀ t ∈ joinComma items, tokLexOk t = true := by
  cases items with
  | nil => exact List.forall_mem_nil _
  | cons x rest =>
    have h := List.forall_mem_cons.mp h
    exact List.forall_mem_append.mpr ⟨h.1, c16_lexOk_joinTail rest h.2⟩

/-- `x` is an item of a parameter list that the splitter passes over whole, `classify` reads as `i`, and the lexer
    reads back from its text -/
structure ItemOk (x : List Tok) (i : Item) : Prop where
  flat : Flat x
  ne : x ≠ []
  classified : classify x = some i
  lexable : ∀ t ∈ x, tokLexOk t = true

/-- the item `classify` is to read off `rparamToks p` -/
def rItem (p : RParam) : Item :=
  match p.kind with
  | .va => .va p.name
  | .vk => .vk p.name
  | _ => .param p.name p.dflt.isSome

theorem c16_classify_name (n : String) (ann dflt : Option Ann) (hn : identOk n = true)
    (ha : optWf ann = true) (hd : optWf dflt = true) :
    classify (.name n :: (annPart ann ++ dfltPart dflt)) = some (.param n dflt.isSome) := by
  simp only [classify, c16_splitEq_parts, hn, c16_annPartOk _ ha, Bool.and_self, if_true]
  cases dflt with
  | none => rfl
  | some d => simp only [Option.map_some, Option.isSome_some]; rw [c16_exprOk_ann d hd]; rfl

theorem c16_classify_va (n : String) (ann : Option Ann) (hn : identOk n = true) (ha : optWf ann = true) :
    classify (.star :: .name n :: annPart ann) = some (.va n) := by
  simp [classify, hn, c16_annPartOk _ ha]

theorem c16_classify_vk (n : String) (ann : Option Ann) (hn : identOk n = true) (ha : optWf ann = true) :
    classify (.dstar :: .name n :: annPart ann) = some (.vk n) := by
  simp [classify, hn, c16_annPartOk _ ha]

theorem c16_classify_rparam (p : RParam) (hn : identOk p.name = true) (ha : optWf p.ann = true)
    (hd : optWf p.dflt = true) (hv : noVarDefault p = true) : classify (rparamToks p) = some (rItem p) := by
  unfold rparamToks rItem
  -- `*name` and `**name` carry no default, so only the annotation follows the name
  cases hk : p.kind <;> simp only [hk, noVarDefault, Option.isNone_iff_eq_none] at hv
  · exact c16_classify_name _ _ _ hn ha hd
  · exact c16_classify_name _ _ _ hn ha hd
  · simpa [kindPrefix, hv, dfltPart] using c16_classify_va _ _ hn ha
  · exact c16_classify_name _ _ _ hn ha hd
  · simpa [kindPrefix, hv, dfltPart] using c16_classify_vk _ _ hn ha

/-- every parameter of every generated header is an `rparamToks`: `get_init` and the helper methods write the
    positional-or-keyword form of it with their f-strings -/
theorem c16_itemOk_rparam (p : RParam) (hn : identOk p.name = true) (ha : optWf p.ann = true)
    (hd : optWf p.dflt = true) (hv : noVarDefault p = true) : ItemOk (rparamToks p) (rItem p) := by
  have hpre : Flat (kindPrefix p.kind) ∧ ∀ t ∈ kindPrefix p.kind, tokLexOk t = true := by
    cases p.kind
    case va | vk => exact ⟨c16_flat_neutral rfl, List.forall_mem_cons.mpr ⟨rfl, List.forall_mem_nil _⟩⟩
    all_goals exact ⟨c16_flat_nil, List.forall_mem_nil _⟩
  exact ⟨c16_flat_append hpre.1 (c16_flat_cons rfl (c16_flat_append (c16_flat_optPart _).1 (c16_flat_optPart _).2)),
    List.append_ne_nil_of_right_ne_nil _ (List.cons_ne_nil _ _), c16_classify_rparam p hn ha hd hv,
    List.forall_mem_append.mpr ⟨hpre.2, List.forall_mem_cons.mpr ⟨c16_identChars_of_identOk hn,
      List.forall_mem_append.mpr ⟨(c16_lexOk_optPart _ ha).1, (c16_lexOk_optPart _ hd).2.1⟩⟩⟩⟩

theorem c16_itemOk_slash : ItemOk [.slash] .slash := ⟨c16_flat_neutral rfl, List.cons_ne_nil _ _, rfl, by decide⟩

theorem c16_itemOk_star : ItemOk [.star] .star := ⟨c16_flat_neutral rfl, List.cons_ne_nil _ _, rfl, by decide⟩

def noneAnn : Ann := .name ["None"]

theorem c16_noneDefault : noneDefault = dfltPart (some noneAnn) := rfl

/-- the annotation part of what `get_all_type_info` stores for a field: wrapped in `Optional[…]` when the name is not
    required and the rendering does not start so already -/
def fieldAnn (a : Ann) (p : Param) : Ann :=
  if p.hasDefault then (if isOptHead a then a else .sub ["Optional"] [a]) else a

theorem c16_fieldItem_eq (a : Ann) (p : Param) :
    fieldItem a p = rparamToks ⟨p.name, .pk, some (fieldAnn a p), if p.hasDefault then some noneAnn else none⟩ := by
  unfold fieldItem fieldAnn rparamToks
  cases p.hasDefault <;> cases isOptHead a <;> simp [kindPrefix, annPart, dfltPart, c16_noneDefault]

theorem c16_helperItem_eq (a : Ann) (p : Param) :
    helperItem a p = rparamToks ⟨p.name, .pk, some (fieldAnn a p), some noneAnn⟩ := by
  unfold helperItem
  cases h : p.hasDefault
  · simp [rparamToks, kindPrefix, fieldAnn, h, annPart, dfltPart, c16_noneDefault]
  · simp [c16_fieldItem_eq, h]

/-- A string literal is by definition `String.ofList` of its characters, so rewriting with this lemma hands
    `identChars` the characters of a literal name without the kernel decoding its UTF-8 bytes. -/
theorem c16_identOk_ofList (cs : List Char) :
    identOk (String.ofList cs) = (identChars cs && !keywords.contains (String.ofList cs)) := by
  rw [identOk, String.toList_ofList]

/-- the names and annotations the generator writes literally -/
theorem c16_fixed_identOk :
    ∀ n ∈ ["__init__", "self", "cls", "source_object", "ignore_props", "kw", "kwargs"], identOk n = true := by
  simp only [List.forall_mem_cons, List.not_mem_nil, false_imp_iff, implies_true, and_true]
  repeat rw [c16_identOk_ofList]
  decide +kernel

theorem c16_fixed_wf :
    ∀ a ∈ [noneAnn, anyAnn, iterStrAnn, .name ["Optional"], .name ["Union"], .name ["dict"]], a.wf = true := by
  decide +kernel

theorem c16_noneAnn_wf : noneAnn.wf = true := c16_fixed_wf _ (by simp)

theorem c16_fieldAnn_wf (a : Ann) (p : Param) (h : a.wf = true) : (fieldAnn a p).wf = true := by
  have hopt : dottedOk ["Optional"] = true := c16_fixed_wf (.name ["Optional"]) (by simp)
  unfold fieldAnn
  cases p.hasDefault <;> cases isOptHead a <;> simp [h, Ann.wf, Ann.wfL, hopt]

theorem c16_itemOk_fieldItem (a : Ann) (p : Param) (hn : identOk p.name = true) (h : a.wf = true) :
    ItemOk (fieldItem a p) (.param p.name p.hasDefault) := by
  have hw : optWf (if p.hasDefault then some noneAnn else none) = true := by
    cases p.hasDefault
    · rfl
    · exact c16_noneAnn_wf
  have := c16_itemOk_rparam ⟨p.name, .pk, some (fieldAnn a p), if p.hasDefault then some noneAnn else none⟩ hn
    (c16_fieldAnn_wf a p h) hw rfl
  rw [c16_fieldItem_eq]
  cases hd : p.hasDefault <;> simpa [rItem, hd] using this

theorem c16_itemOk_helperItem (a : Ann) (p : Param) (hn : identOk p.name = true) (h : a.wf = true) :
    ItemOk (helperItem a p) (.param p.name true) := by
  rw [c16_helperItem_eq]
  exact c16_itemOk_rparam ⟨p.name, .pk, some (fieldAnn a p), some noneAnn⟩ hn (c16_fieldAnn_wf a p h) c16_noneAnn_wf rfl

theorem c16_classifyAll_cons (x : List Tok) (xs : List (List Tok)) (i : Item) (is : List Item)
    (h1 : classify x = some i) (h2 : classifyAll xs = some is) : classifyAll (x :: xs) = some (i :: is) := by
  simp [classifyAll, h1, h2]

theorem c16_classifyAll_append (xs ys : List (List Tok)) (is js : List Item)
    (h1 : classifyAll xs = some is) (h2 : classifyAll ys = some js) :
    classifyAll (xs ++ ys) = some (is ++ js) := by
  induction xs generalizing is with
  | nil => simp [classifyAll] at h1; subst h1; simpa using h2
  | cons x xs ih =>
    simp only [classifyAll] at h1
    cases hx : classify x with
    | none => simp [hx] at h1
    | some i =>
      cases hxs : classifyAll xs with
      | none => simp [hx, hxs] at h1
      | some is' =>
        simp only [hx, hxs, Option.some.injEq] at h1
        subst h1
        simp [classifyAll, hx, ih is' hxs]

/-- `ItemOk` item by item, with `classifyAll` for `classify` -/
structure ItemsOk (xs : List (List Tok)) (is : List Item) : Prop where
  flat : ∀ x ∈ xs, Flat x
  ne : ∀ x ∈ xs, x ≠ []
  classified : classifyAll xs = some is
  lexable : ∀ x ∈ xs, ∀ t ∈ x, tokLexOk t = true

theorem c16_itemsOk_nil : ItemsOk [] [] := ⟨nofun, nofun, rfl, nofun⟩

theorem c16_itemsOk_cons {x : List Tok} {i : Item} {xs : List (List Tok)} {is : List Item} (h : ItemOk x i)
    (hs : ItemsOk xs is) : ItemsOk (x :: xs) (i :: is) :=
  ⟨List.forall_mem_cons.mpr ⟨h.flat, hs.flat⟩, List.forall_mem_cons.mpr ⟨h.ne, hs.ne⟩,
    c16_classifyAll_cons _ _ _ _ h.classified hs.classified, List.forall_mem_cons.mpr ⟨h.lexable, hs.lexable⟩⟩

theorem c16_itemsOk_append {xs ys : List (List Tok)} {is js : List Item} (h1 : ItemsOk xs is) (h2 : ItemsOk ys js) :
    ItemsOk (xs ++ ys) (is ++ js) :=
  ⟨List.forall_mem_append.mpr ⟨h1.flat, h2.flat⟩, List.forall_mem_append.mpr ⟨h1.ne, h2.ne⟩,
    c16_classifyAll_append _ _ _ _ h1.classified h2.classified, List.forall_mem_append.mpr ⟨h1.lexable, h2.lexable⟩⟩

theorem c16_itemsOk_map {α} (ps : List α) (f : α → List Tok) (g : α → Item) (h : ∀ p ∈ ps, ItemOk (f p) (g p)) :
    ItemsOk (ps.map f) (ps.map g) := by
  induction ps with
  | nil => exact c16_itemsOk_nil
  | cons p ps ih =>
    exact c16_itemsOk_cons (h p List.mem_cons_self) (ih fun q hq => h q (List.mem_cons_of_mem _ hq))

theorem c16_itemsOk_if {x : List Tok} {i : Item} (c : Prop) [Decidable c] (h : ItemOk x i) :
    ItemsOk (if c then [x] else []) (if c then [i] else []) := by
  split
  · exact c16_itemsOk_cons h c16_itemsOk_nil
  · exact c16_itemsOk_nil

theorem c16_dropTrailing_id (xs : List (List Tok)) (h : ∀ x ∈ xs, x ≠ []) : dropTrailing xs = xs := by
  match xs with
  | [] => rfl
  | [x] => rfl
  | x :: y :: rest =>
    simp only [dropTrailing]
    rw [if_neg]
    intro hl
    have hm : ([] : List Tok) ∈ y :: rest := List.mem_of_getLast? hl
    exact h [] (List.mem_cons_of_mem _ hm) rfl

/-- `ts` is a `def` header of Python that says `d`: the recogniser reads `d` off the tokens, and the lexer reads the
    tokens off their text (`c16_accepts_text`, Lemmas/StubLex.lean) -/
structure Accepts (ts : List Tok) (d : DefInfo) : Prop where
  parses : parseDef ts = some d
  lexable : ∀ t ∈ ts, tokLexOk t = true

/-- the glue: a `def` header made of good items that obey the ordering rules is accepted -/
theorem c16_accepts_items (f : String) (xs : List (List Tok)) (is : List Item) (ps : List PInfo) (tail : List Tok)
    (hf : identOk f = true) (h : ItemsOk xs is) (ho : orderItems is = some ps)
    (ht : tailOk tail = true) (htl : ∀ t ∈ tail, tokLexOk t = true) :
    Accepts (.name "def" :: .name f :: .lpar :: (joinComma xs ++ .rpar :: tail)) ⟨f, ps⟩ := by
  refine ⟨?_, List.forall_mem_cons.mpr ⟨by decide, List.forall_mem_cons.mpr ⟨c16_identChars_of_identOk hf,
    List.forall_mem_cons.mpr ⟨rfl, List.forall_mem_append.mpr
      ⟨c16_lexOk_joinComma xs h.lexable, List.forall_mem_cons.mpr ⟨rfl, htl⟩⟩⟩⟩⟩⟩
  cases xs with
  | nil =>
    -- `def f()`: the splitter finds one empty item, which stands for no parameter
    obtain rfl : [] = is := Option.some.inj h.classified
    obtain rfl : [] = ps := Option.some.inj ho
    simp [parseDef, hf, joinComma, splitParams, splitGo, isOpenTok, ht, parseItems]
  | cons x rest =>
    have hpi : parseItems (x :: rest) = some ps := by
      unfold parseItems
      rw [if_neg, c16_dropTrailing_id _ h.ne, h.classified]
      · exact ho
      · intro e
        exact h.ne x List.mem_cons_self (List.cons.inj e).1
    simp only [parseDef, hf, if_true]
    rw [c16_splitParams_join x rest h.flat]
    simp [ht, hpi]

def pkInfo (p : Param) : PInfo := ⟨p.name, .pk, p.hasDefault⟩

/-- positional section: a `mandatoryFirst` list goes through; `df` is the default flag the header gives a field (its
    own in `__init__`, always set in the helper methods) -/
theorem c16_orderGo_pos (df : Param → Bool) (ps : List Param) (seenD : Bool)
    (acc : List PInfo) (rest : List Item) (h1 : seenD = true → ∀ p ∈ ps, df p = true)
    (h2 : mandatoryFirst (ps.map fun p => ⟨p.name, df p⟩) = true) :
    orderGo .p0 seenD acc (ps.map (fun p => .param p.name (df p)) ++ rest) =
      orderGo .p0 (seenD || ps.any df) ((ps.map fun p => ⟨p.name, .pk, df p⟩).reverse ++ acc) rest := by
  induction ps generalizing seenD acc with
  | nil => simp
  | cons p ps ih =>
    simp only [List.map_cons, mandatoryFirst] at h2
    simp only [List.map_cons, List.cons_append, orderGo, true_or, if_true, List.any_cons, List.reverse_cons,
      List.append_assoc, List.nil_append]
    cases hd : df p
    · have hsd : seenD = false := by
        cases seenD
        · rfl
        · have := h1 rfl p List.mem_cons_self
          rw [hd] at this; cases this
      subst hsd
      rw [hd] at h2
      exact ih false _ (fun h => by cases h) h2
    · rw [hd] at h2
      have hall := List.all_eq_true.mp h2
      simp only [Bool.not_true, Bool.false_and, Bool.false_eq_true, if_false, Bool.or_true, Bool.true_or]
      rw [ih true _ (fun _ q hq => hall _ (List.mem_map_of_mem hq)) (mandatoryFirst_of_all _ hall), Bool.true_or]

/-- keyword-only section: anything goes -/
theorem c16_orderGo_kw (df : Param → Bool) (ps : List Param) (seenD : Bool) (acc : List PInfo) (rest : List Item) :
    orderGo (.kw false) seenD acc (ps.map (fun p => .param p.name (df p)) ++ rest) =
      orderGo (.kw false) seenD ((ps.map fun p => ⟨p.name, .ko, df p⟩).reverse ++ acc) rest := by
  induction ps generalizing acc with
  | nil => simp
  | cons p ps ih =>
    simp only [List.map_cons, List.cons_append, orderGo]
    rw [if_neg (by simp), if_neg (by simp)]
    rw [ih (⟨p.name, .ko, df p⟩ :: acc)]
    simp

def kwInfos (kw : Bool) (n : String) : List PInfo := if kw then [⟨n, .vk, false⟩] else []
def kwItems (kw : Bool) (n : String) : List Item := if kw then [.vk n] else []
def kwToks (kw : Bool) (n : String) : List (List Tok) := if kw then [kwItem n] else []

theorem c16_of_textDomain {anns : String → Ann} {ps : List Param} (h : textDomain anns ps = true) :
    ∀ p ∈ ps, identOk p.name = true ∧ (anns p.name).wf = true := by
  intro p hp
  simpa using List.all_eq_true.mp h p hp

theorem c16_kwName_ok (ps : List Param) : identOk (kwName ps) = true := by
  unfold kwName
  split
  · exact c16_fixed_identOk "kwargs" (by simp)
  · exact c16_fixed_identOk "kw" (by simp)

theorem c16_itemsOk_kw (kw : Bool) (n : String) (hn : identOk n = true) : ItemsOk (kwToks kw n) (kwItems kw n) :=
  c16_itemsOk_if kw (c16_itemOk_rparam ⟨n, .vk, none, none⟩ hn rfl rfl rfl)

theorem c16_orderGo_kwEnd (s : Sect) (hs : s ≠ .done ∧ s ≠ .kw true) (seenD : Bool) (acc : List PInfo) (kw : Bool)
    (n : String) :
    orderGo s seenD acc (kwItems kw n) = some (acc.reverse ++ kwInfos kw n) := by
  cases kw
  · simp [kwItems, kwInfos, orderGo, hs.2]
  · simp [kwItems, kwInfos, orderGo, hs.1, hs.2]

theorem c16_helperFields_sublist (hk : Helper) (ps : List Param) : (helperFields hk ps).Sublist ps := by
  unfold helperFields
  cases hk
  · exact List.Sublist.refl _
  · exact List.filter_sublist
  · exact List.filter_sublist

theorem c16_helperFields_sub {hk : Helper} {ps : List Param} {p : Param} (h : p ∈ helperFields hk ps) : p ∈ ps :=
  (c16_helperFields_sublist hk ps).subset h

/-- a method whose parameters are `self`, then positional-or-keyword parameters with the mandatory ones first, then
    `**k` if `kw` -/
theorem c16_selfMethod_accepted (f : String) (xs : List (List Tok)) (qs : List Param) (df : Param → Bool) (kw : Bool)
    (k : String) (hf : identOk f = true) (hk : identOk k = true)
    (hxs : ItemsOk xs (qs.map fun p => .param p.name (df p)))
    (hm : mandatoryFirst (qs.map fun p => ⟨p.name, df p⟩) = true) :
    Accepts (defToks f ([[.name "self"]] ++ xs ++ kwToks kw k))
      ⟨f, ⟨"self", .pk, false⟩ :: (qs.map (fun p => ⟨p.name, .pk, df p⟩) ++ kwInfos kw k)⟩ := by
  refine c16_accepts_items f _ ([.param "self" false] ++ qs.map (fun p => .param p.name (df p)) ++ kwItems kw k) _ _ hf
    ?_ ?_ rfl (by decide)
  · exact c16_itemsOk_append (c16_itemsOk_append (c16_itemsOk_cons
      (c16_itemOk_rparam ⟨"self", .pk, none, none⟩ (c16_fixed_identOk _ (by simp)) rfl rfl rfl) c16_itemsOk_nil) hxs)
      (c16_itemsOk_kw kw k hk)
  · simp only [orderItems, List.cons_append, List.nil_append, orderGo, true_or, if_true, Bool.not_false,
      Bool.and_false, Bool.false_eq_true, if_false, Bool.or_false]
    rw [c16_orderGo_pos _ _ _ _ _ (fun h => by cases h) hm, c16_orderGo_kwEnd _ (by simp)]
    simp

/-- a classmethod `(cls, source_object: Any [= d], *, ignore_props: Iterable[str] = None, …)` whose further
    parameters are keyword-only -/
theorem c16_classMethod_accepted (f : String) (d : Option Ann) (xs : List (List Tok)) (qs : List Param)
    (df : Param → Bool) (kw : Bool) (k : String) (hf : identOk f = true) (hd : optWf d = true) (hk : identOk k = true)
    (hxs : ItemsOk xs (qs.map fun p => .param p.name (df p))) :
    Accepts (defToks f ([[.name "cls"], rparamToks ⟨"source_object", .pk, some anyAnn, d⟩, [.star],
        rparamToks ⟨"ignore_props", .pk, some iterStrAnn, some noneAnn⟩] ++ xs ++ kwToks kw k))
      ⟨f, [⟨"cls", .pk, false⟩, ⟨"source_object", .pk, d.isSome⟩, ⟨"ignore_props", .ko, true⟩] ++
        (qs.map (fun p => ⟨p.name, .ko, df p⟩) ++ kwInfos kw k)⟩ := by
  refine c16_accepts_items f _ ([.param "cls" false, .param "source_object" d.isSome, .star,
    .param "ignore_props" true] ++ qs.map (fun p => .param p.name (df p)) ++ kwItems kw k) _ _ hf ?_ ?_ rfl (by decide)
  · have hn := c16_fixed_identOk
    have hw := c16_fixed_wf
    exact c16_itemsOk_append (c16_itemsOk_append (c16_itemsOk_cons
        (c16_itemOk_rparam ⟨"cls", .pk, none, none⟩ (hn _ (by simp)) rfl rfl rfl)
      (c16_itemsOk_cons (c16_itemOk_rparam ⟨"source_object", .pk, some anyAnn, d⟩ (hn _ (by simp)) (hw anyAnn (by simp)) hd rfl)
      (c16_itemsOk_cons c16_itemOk_star
      (c16_itemsOk_cons (c16_itemOk_rparam ⟨"ignore_props", .pk, some iterStrAnn, some noneAnn⟩ (hn _ (by simp)) (hw iterStrAnn (by simp))
        c16_noneAnn_wf rfl) c16_itemsOk_nil)))) hxs) (c16_itemsOk_kw kw k hk)
  · simp only [orderItems, List.cons_append, List.nil_append, orderGo, true_or, if_true, Bool.not_false,
      Bool.and_false, Bool.false_eq_true, if_false, Bool.or_false, Bool.or_true, Bool.not_true, Bool.false_and]
    rw [if_neg (by simp), if_neg (by simp), c16_orderGo_kw, c16_orderGo_kwEnd _ (by simp)]
    simp

theorem c16_init_accepted (anns : String → Ann) (s : Sig) (hm : mandatoryFirst s.params = true)
    (h : textDomain anns s.params = true) :
    Accepts (initToks anns s)
      ⟨"__init__", ⟨"self", .pk, false⟩ :: (s.params.map pkInfo ++ kwInfos s.kw (kwName s.params))⟩ := by
  have hdom := c16_of_textDomain h
  exact c16_selfMethod_accepted _ _ _ (·.hasDefault) _ _ (c16_fixed_identOk _ (by simp)) (c16_kwName_ok _)
    (c16_itemsOk_map _ _ _ fun p hp => c16_itemOk_fieldItem _ p (hdom p hp).1 (hdom p hp).2) (by simpa using hm)

/-- what the parser must find for the fixed leading parameters (`helperLead`) of the three helper methods -/
def helperLeadInfos : Helper → List PInfo
  | .shallowClone => [⟨"self", .pk, false⟩]
  | .fromOtherClass => [⟨"cls", .pk, false⟩, ⟨"source_object", .pk, false⟩, ⟨"ignore_props", .ko, true⟩]
  | .fromTrustedData => [⟨"cls", .pk, false⟩, ⟨"source_object", .pk, true⟩, ⟨"ignore_props", .ko, true⟩]

def helperFieldKind : Helper → PKind
  | .shallowClone => .pk
  | _ => .ko

def helperInfo (h : Helper) (p : Param) : PInfo := ⟨p.name, helperFieldKind h, true⟩

theorem c16_helperName_ok (hk : Helper) : identOk (helperName hk) = true := by
  cases hk <;> (rw [helperName, c16_identOk_ofList]; decide +kernel)

theorem c16_helper_accepted (anns : String → Ann) (hk : Helper) (s : Sig)
    (h : textDomain anns s.params = true) :
    Accepts (helperToks anns hk s)
      ⟨helperName hk, helperLeadInfos hk ++ ((helperFields hk s.params).map (helperInfo hk) ++ kwInfos s.kw (kwName s.params))⟩ := by
  have hdom := c16_of_textDomain h
  have hxs : ItemsOk ((helperFields hk s.params).map (fun p => helperItem (anns p.name) p))
      ((helperFields hk s.params).map fun p => .param p.name true) :=
    c16_itemsOk_map _ _ _ fun p hp =>
      c16_itemOk_helperItem _ p (hdom p (c16_helperFields_sub hp)).1 (hdom p (c16_helperFields_sub hp)).2
  -- every field keyword of a helper method has a default
  cases hk with
  | shallowClone =>
    exact c16_selfMethod_accepted _ _ _ (fun _ => true) s.kw _ (c16_helperName_ok _) (c16_kwName_ok _) hxs
      (mandatoryFirst_of_all _ (by simp))
  | fromOtherClass =>
    exact c16_classMethod_accepted _ none _ _ (fun _ => true) s.kw _ (c16_helperName_ok _) rfl (c16_kwName_ok _) hxs
  | fromTrustedData =>
    exact c16_classMethod_accepted _ (some noneAnn) _ _ (fun _ => true) s.kw _ (c16_helperName_ok _) c16_noneAnn_wf
      (c16_kwName_ok _) hxs

def slashIf (b : Bool) : List Item := if b then [.slash] else []
def starIf (b : Bool) : List Item := if b then [.star] else []

/-- the items `sigItemsGo` writes, as `classify` reads them, by kind of the parameter: a pending `/` goes in front of
    the first parameter that is not positional-only, a bare `*` in front of a keyword-only one when there was no
    `*args` -/
def sigItemsI : Bool → Bool → List RParam → List Item
  | pending, _, [] => slashIf pending
  | pending, found, p :: rest =>
    match p.kind with
    | .po => rItem p :: sigItemsI true found rest
    | .pk => slashIf pending ++ (rItem p :: sigItemsI false found rest)
    | .va => slashIf pending ++ (rItem p :: sigItemsI false true rest)
    | .ko => slashIf pending ++ starIf (!found) ++ (rItem p :: sigItemsI false true rest)
    | .vk => slashIf pending ++ (rItem p :: sigItemsI false found rest)

theorem c16_itemsOk_sigItems (ps : List RParam) (pending found : Bool)
    (h : ∀ p ∈ ps, rparamOk p = true ∧ noVarDefault p = true) :
    ItemsOk (sigItemsGo pending found ps) (sigItemsI pending found ps) := by
  induction ps generalizing pending found with
  | nil => exact c16_itemsOk_if pending c16_itemOk_slash
  | cons p ps ih =>
    have hp := h p List.mem_cons_self
    simp only [rparamOk, Bool.and_eq_true] at hp
    have ih := fun a b => c16_itemsOk_cons (c16_itemOk_rparam p hp.1.1.1 hp.1.1.2 hp.1.2 hp.2)
      (ih a b fun q hq => h q (List.mem_cons_of_mem _ hq))
    have hs := fun c [Decidable c] => c16_itemsOk_if c c16_itemOk_slash
    -- the two flags of the loop, worked out for each kind
    cases hk : p.kind <;> simp [sigItemsGo, sigItemsI, slashIf, starIf, hk, BEq.beq]
    · exact ih _ _
    · exact c16_itemsOk_append (hs _) (ih _ _)
    · exact c16_itemsOk_append (hs _) (ih _ _)
    · exact c16_itemsOk_append (hs _) (c16_itemsOk_append (c16_itemsOk_if _ c16_itemOk_star) (ih _ _))
    · exact c16_itemsOk_append (hs _) (ih _ _)

theorem c16_valid_done (seenD : Bool) (ps : List RParam) (h : validGo .done seenD ps = true) : ps = [] := by
  cases ps with
  | nil => rfl
  | cons p rest =>
    simp only [validGo] at h
    cases hk : p.kind <;> simp [hk] at h

theorem c16_order_ko (ps : List RParam) (seenD : Bool) (acc : List PInfo)
    (h : validGo .ko seenD ps = true) :
    orderGo (.kw false) seenD acc (sigItemsI false true ps) = some (acc.reverse ++ ps.map RParam.info) := by
  induction ps generalizing acc with
  | nil => simp [sigItemsI, slashIf, orderGo]
  | cons p rest ih =>
    simp only [validGo] at h
    cases hk : p.kind <;> simp [hk] at h
    · simp only [sigItemsI, rItem, hk, slashIf, starIf, Bool.not_true, Bool.false_eq_true, if_false, List.nil_append,
        orderGo]
      rw [if_neg (by simp), if_neg (by simp), ih _ h]
      simp [RParam.info, hk]
    · have hr := c16_valid_done _ _ h.2
      subst hr
      simp [sigItemsI, rItem, hk, slashIf, orderGo, RParam.info, h.1]

theorem c16_noDefault_ok {d seenD : Bool} (h : d = true ∨ seenD = false) : (!d && seenD) = false := by
  cases d <;> cases seenD <;> simp_all

theorem c16_order_pk (ps : List RParam) (s : Sect) (hs : s = .p0 ∨ s = .p1) (seenD : Bool) (acc : List PInfo)
    (h : validGo .pk seenD ps = true) :
    orderGo s seenD acc (sigItemsI false false ps) = some (acc.reverse ++ ps.map RParam.info) := by
  induction ps generalizing seenD acc with
  | nil => rcases hs with rfl | rfl <;> simp [sigItemsI, slashIf, orderGo]
  | cons p rest ih =>
    simp only [validGo] at h
    cases hk : p.kind <;> simp [hk] at h
    · simp only [sigItemsI, rItem, hk, slashIf, Bool.false_eq_true, if_false, List.nil_append, orderGo, hs, if_true]
      rw [c16_noDefault_ok h.1]
      simp only [Bool.false_eq_true, if_false]
      rw [ih _ _ h.2]
      simp [RParam.info, hk]
    · simp only [sigItemsI, rItem, hk, slashIf, Bool.false_eq_true, if_false, List.nil_append, orderGo, hs, if_true]
      rw [c16_order_ko _ _ _ h.2]
      simp [RParam.info, hk, h.1]
    · simp only [sigItemsI, rItem, hk, slashIf, starIf, Bool.not_false, Bool.false_eq_true, if_false, if_true,
        List.nil_append, List.cons_append, orderGo, hs]
      rw [if_neg (by simp), if_neg (by simp)]
      rw [c16_order_ko _ _ _ h]
      simp [RParam.info, hk]
    · have hr := c16_valid_done _ _ h.2
      subst hr
      rcases hs with rfl | rfl <;> simp [sigItemsI, rItem, hk, slashIf, orderGo, RParam.info, h.1]

theorem c16_setPo_info (p : RParam) (hk : p.kind = .po) :
    setPo ⟨p.name, .pk, p.dflt.isSome⟩ = p.info := by
  simp [setPo, RParam.info, hk]

/-- a list that is legal before any positional-or-keyword parameter and does not start with a positional-only one is
    legal in the positional-or-keyword phase -/
theorem c16_valid_pk_of {ph : VPhase} (hph : ph = .po0 ∨ ph = .po1) {seenD : Bool} {p : RParam} {rest : List RParam}
    (hk : p.kind ≠ .po) (h : validGo ph seenD (p :: rest) = true) : validGo .pk seenD (p :: rest) = true := by
  simp only [validGo] at h ⊢
  cases hk' : p.kind
  · exact absurd hk' hk
  all_goals rcases hph with rfl | rfl <;> (simp only [hk'] at h ⊢; exact h)

theorem c16_sigI_pending (found : Bool) (p : RParam) (rest : List RParam) (hk : p.kind ≠ .po) :
    sigItemsI true found (p :: rest) = .slash :: sigItemsI false found (p :: rest) := by
  cases hk' : p.kind
  · exact absurd hk' hk
  all_goals simp [sigItemsI, slashIf, hk']

theorem c16_order_po1 (ps : List RParam) (seenD : Bool) (acc : List PInfo) (hacc : acc ≠ [])
    (h : validGo .po1 seenD ps = true) :
    orderGo .p0 seenD acc (sigItemsI true false ps) = some ((acc.map setPo).reverse ++ ps.map RParam.info) := by
  have hne : acc.isEmpty = false := by cases acc <;> simp_all
  induction ps generalizing seenD acc with
  | nil => simp [sigItemsI, slashIf, orderGo, hne]
  | cons p rest ih =>
    by_cases hk : p.kind = .po
    · simp only [validGo, hk] at h
      simp at h
      simp only [sigItemsI, rItem, hk, orderGo, true_or, if_true]
      rw [c16_noDefault_ok h.1]
      simp only [Bool.false_eq_true, if_false]
      rw [ih _ _ (by simp) h.2 (by simp)]
      simp [c16_setPo_info p hk]
    · -- after the `/` the list continues as one that starts with a positional-or-keyword parameter
      rw [c16_sigI_pending _ _ _ hk]
      simp only [orderGo, hne, Bool.not_false, Bool.and_true]
      exact c16_order_pk (p :: rest) .p1 (Or.inr rfl) seenD _ (c16_valid_pk_of (Or.inr rfl) hk h)

theorem c16_order_sig (ps : List RParam) (h : validSig ps = true) :
    orderItems (sigItemsI false false ps) = some (ps.map RParam.info) := by
  unfold validSig at h
  unfold orderItems
  cases ps with
  | nil => simp [sigItemsI, slashIf, orderGo]
  | cons p rest =>
    by_cases hk : p.kind = .po
    · simp only [validGo, hk] at h
      simp at h
      simp only [sigItemsI, rItem, hk, orderGo, true_or, if_true, Bool.and_false, Bool.false_eq_true, if_false,
        Bool.false_or]
      rw [c16_order_po1 _ _ _ (by simp) h]
      simp [c16_setPo_info p hk]
    · simpa using c16_order_pk (p :: rest) .p0 (Or.inl rfl) false [] (c16_valid_pk_of (Or.inl rfl) hk h)

theorem c16_tailOk_ret (ret : Option Ann) (hret : optWf ret = true) :
    tailOk (retPart ret ++ [.colon, .ellipsis]) = true := by
  cases ret with
  | none => rfl
  | some r =>
    simp only [retPart, tailOk, List.cons_append, List.reverse_append, List.reverse_cons, List.reverse_nil,
      List.nil_append, List.reverse_reverse]
    exact c16_exprOk_ann r hret

theorem c16_method_roundtrip (f : String) (ps : List RParam) (ret : Option Ann) (hf : identOk f = true)
    (hv : validSig ps = true) (hok : ∀ p ∈ ps, rparamOk p = true ∧ noVarDefault p = true)
    (hret : optWf ret = true) :
    Accepts (methodToks f ps ret) ⟨f, ps.map RParam.info⟩ :=
  c16_accepts_items f _ _ _ _ hf (c16_itemsOk_sigItems ps false false hok) (c16_order_sig ps hv)
    (c16_tailOk_ret ret hret) (List.forall_mem_append.mpr ⟨(c16_lexOk_optPart ret hret).2.2, by decide⟩)

theorem c16_dotted_ne (ps : List String) (h : dottedOk ps = true) : dottedToks ps ≠ [] := by
  cases ps with
  | nil => simp [dottedOk] at h
  | cons a rest => simp [dottedToks]

theorem c16_attr_parses (a : Ann) (p : Param) (hn : identOk p.name = true) (h : a.wf = true) :
    parseAttr (attrToks a p) = some (p.name, p.hasDefault) := by
  have hc := (c16_itemOk_fieldItem a p hn h).classified
  unfold attrToks
  unfold parseAttr
  rw [hc]
  simp [fieldItem]

theorem c16_dupFree_iff : ∀ xs : List String, dupFree xs = true ↔ xs.Nodup
  | [] => ⟨fun _ => .nil, fun _ => rfl⟩
  | _ :: xs => nodupBool_cons (c16_dupFree_iff xs)

theorem c16_dupFree_append (xs ys : List String) :
    dupFree (xs ++ ys) = (dupFree xs && dupFree ys && xs.all (fun x => !ys.contains x)) := by
  rw [Bool.eq_iff_iff]
  simp only [Bool.and_eq_true, c16_dupFree_iff, List.nodup_append, List.all_eq_true, Bool.not_eq_true',
    List.contains_eq_mem, decide_eq_false_iff_not]
  constructor
  · rintro ⟨h1, h2, h3⟩
    exact ⟨⟨h1, h2⟩, fun x hx hy => h3 x hx x hy rfl⟩
  · rintro ⟨⟨h1, h2⟩, h3⟩
    exact ⟨h1, h2, fun a ha b hb e => h3 a ha (e ▸ hb)⟩

/-- the fixed parameter names a field keyword can collide with; `k` is the name of the var-keyword -/
def fixedNames (lead : List String) (kw : Bool) (k : String) : List String := lead ++ (if kw then [k] else [])

theorem c16_dupFree_method (lead : List String) (fs : List String) (kw : Bool) (k : String) (hl : dupFree lead = true)
    (hk : lead.contains k = false) (hf : fs.Nodup) :
    dupFree (lead ++ (fs ++ (if kw then [k] else []))) = fs.all (fun n => !(fixedNames lead kw k).contains n) := by
  have hfix : (fixedNames lead kw k).Nodup := by
    have hl' := (c16_dupFree_iff lead).mp hl
    have hk' : k ∉ lead := by simpa using hk
    cases kw
    · simpa [fixedNames] using hl'
    · simpa [fixedNames, List.nodup_append, hl'] using fun a ha (e : a = k) => hk' (e ▸ ha)
  -- with the field names moved to the front: they are distinct, the fixed names are, so only the two groups can clash
  rw [Bool.eq_iff_iff, c16_dupFree_iff, (List.perm_append_comm_assoc _ _ _).nodup_iff, List.nodup_append]
  unfold fixedNames at hfix ⊢
  simp only [hf, hfix, true_and, List.all_eq_true, Bool.not_eq_true', List.contains_eq_mem,
    decide_eq_false_iff_not]
  exact ⟨fun h n hn hc => h n hn n hc rfl, fun h a ha b hb (e : a = b) => h a ha (e ▸ hb)⟩

theorem c16_all_not_fixed (lead : List String) (kw : Bool) (k : String) (fs : List String)
    (h : ∀ n ∈ fs, n ∉ lead ∧ n ≠ k) : fs.all (fun n => !(fixedNames lead kw k).contains n) = true := by
  rw [List.all_eq_true]
  intro n hn
  cases kw <;> simp [fixedNames, h n hn]

mutual
theorem c16_typeInfo_wf : (t : FTy) → FTy.wf t = true → (typeInfo t).wf = true
  | .leaf a, h => by simpa [FTy.wf, typeInfo] using h
  | .opt x, h => by
    have hd : dottedOk ["Optional"] = true := c16_fixed_wf (.name ["Optional"]) (by simp)
    simp only [FTy.wf] at h
    simp [typeInfo, Ann.wf, Ann.wfL, c16_typeInfo_wf x h, hd]
  | .union xs, h => by
    have hd : dottedOk ["Union"] = true := c16_fixed_wf (.name ["Union"]) (by simp)
    simp only [FTy.wf, Bool.and_eq_true] at h
    simp only [typeInfo, Ann.wf, hd, c16_typeInfoL_wf xs h.2, Bool.and_true, Bool.true_and]
    cases xs with
    | nil => simp at h
    | cons x rest => rfl
  | .map xs, h => by
    have hd : dottedOk ["dict"] = true := c16_fixed_wf (.name ["dict"]) (by simp)
    simp only [FTy.wf, Bool.and_eq_true] at h
    simp only [typeInfo, Ann.wf, hd, c16_typeInfoL_wf xs h.2, Bool.and_true, Bool.true_and]
    cases xs with
    | nil => simp at h
    | cons x rest => rfl
theorem c16_typeInfoL_wf : (ts : List FTy) → FTy.wfL ts = true → Ann.wfL (typeInfoL ts) = true
  | [], _ => rfl
  | x :: rest, h => by
    simp only [FTy.wfL, Bool.and_eq_true] at h
    simp only [typeInfoL, Ann.wfL, c16_typeInfo_wf x h.1, c16_typeInfoL_wf rest h.2, Bool.and_self]
end

end Typedpy.StubText
