import TypedpyModel.Sem.Mutate
import TypedpyModel.Lemmas.Basic
namespace Typedpy

theorem assocSet_keys {α} (P : String → Bool) (f : String) (v : α) (hf : P f = true) (s : List (String × α))
    (h : s.all (fun a => P a.1) = true) : (assocSet f v s).all (fun a => P a.1) = true := by
  have e : ∀ l : List (String × α), l.all (fun a => P a.1) = (l.map (·.1)).all P := fun _ => List.all_map.symm
  rw [e] at h
  rw [e, keys_assocSet]
  split
  · exact h
  · rw [List.all_append, h, List.all_cons, hf]; rfl

theorem assocDel_eq_filter {α} (f : String) : ∀ s : List (String × α), assocDel f s = s.filter (fun p => p.1 != f)
  | [] => rfl
  | (k, w) :: rest => by
    rw [assocDel, List.filter_cons, assocDel_eq_filter f rest, bne, BEq.comm]
    cases k == f <;> rfl

theorem lookup_assocDel {α} (f g : String) (s : List (String × α)) :
    lookup g (assocDel f s) = if g == f then none else lookup g s := by
  rw [assocDel_eq_filter, lookup_filter_key (· != f), bne]
  cases g == f <;> rfl

theorem assocDel_keys {α} (P : String → Bool) (f : String) (s : List (String × α))
    (h : s.all (fun a => P a.1) = true) : (assocDel f s).all (fun a => P a.1) = true := by
  rw [assocDel_eq_filter]
  exact List.all_eq_true.2 fun a ha => List.all_eq_true.1 h a (List.mem_filter.1 ha).1

theorem fieldsConform_update (O : Oracles) (s s' : Attrs) (fs : List (String × FieldDecl))
    (h : ∀ name fd, (name, fd) ∈ fs → ∀ v, lookup name s' = some v →
      lookup name s = some v ∨ conforms O fd v = true)
    (hc : fieldsConform O s fs = true) : fieldsConform O s' fs = true :=
  (fieldsConform_iff O s' fs).2 fun n g hm v hl =>
    (h n g hm v hl).elim ((fieldsConform_iff O s fs).1 hc n g hm v) id

theorem findRec_mem {tbl : List MethodRec} {w m : String} {r : MethodRec}
    (h : findRec tbl w m = some r) : r ∈ tbl :=
  List.mem_of_find?_eq_some h

/-- An invariant that every admitted step keeps is kept by every admitted history.  `run` is any
    function that folds `step` over the operations (`run`, `runB`, `runR`). -/
theorem run_invariant {σ ω : Type} (step : σ → ω → σ × Outcome) (run : σ → List ω → σ × List Outcome)
    (hnil : ∀ s, (run s []).1 = s)
    (hcons : ∀ s op rest, (run s (op :: rest)).1 = (run (step s op).1 rest).1)
    (I : σ → Prop) (A : ω → Bool) (hstep : ∀ s op, A op = true → I s → I (step s op).1) :
    ∀ (ops : List ω) (s : σ), ops.all A = true → I s → I (run s ops).1
  | [], s, _, hs => by rw [hnil]; exact hs
  | op :: rest, s, hops, hs => by
    rw [List.all_cons, Bool.and_eq_true] at hops
    rw [hcons]
    exact run_invariant step run hnil hcons I A hstep rest _ hops.2 (hstep s op hops.1 hs)

end Typedpy
