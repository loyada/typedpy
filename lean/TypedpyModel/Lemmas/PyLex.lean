/-
  Lemmas/PyLex.lean — the literal producers are faithful with respect to the lexer model:
  the docstring template with `_docstring_text` escaping lexes back to the description for every
  description; `repr(str)` lexes back to the string for every string.  Both producers are cascades of
  tests on one character that write it as itself or as a backslash escape; each is characterised
  once in these terms (`Written`, `Escape`: `reprChar_form`, `docEsc_step`) and everything else
  follows from the shape.
-/
import TypedpyModel.Sem.PyLex
namespace Typedpy.PyLex

theorem nnl_id (cs : List Char) (h : ∀ c ∈ cs, c ≠ cCR) : nnl false cs = cs := by
  induction cs with
  | nil => rfl
  | cons c r ih =>
    have hc : c ≠ cCR := h c (by simp)
    have hr : ∀ d ∈ r, d ≠ cCR := fun d hd => h d (by simp [hd])
    simp [nnl, hc, ih hr]

theorem clean_src {src : List Char} (h : ∀ c ∈ src, c ≠ cNUL ∧ c ≠ cCR) :
    src.contains cNUL = false ∧ normNewlines src = src :=
  ⟨Bool.eq_false_iff.2 fun hcon => (h cNUL (List.contains_iff_mem.1 hcon)).1 rfl,
    nnl_id src fun c hc => (h c hc).2⟩

theorem emit_some (c : Char) (w : List Char) : emit c (some w) = some (c :: w) := rfl

theorem emit_isSome (c : Char) (k : Option (List Char)) : (emit c k).isSome = k.isSome := by
  cases k <;> rfl

theorem lexS_esc_char (long : Bool) (q c d : Char) (rest : List Char) (h : escKind c = .char d) :
    lexS long q .esc (c :: rest) = emit d (lexS long q .norm rest) := by
  simp [lexS, escCase, h]

theorem lexS_norm_raw (long : Bool) (q c : Char) (rest : List Char)
    (h1 : isClose long q c rest = false) (h2 : c ≠ cBS) (h3 : ¬ (c = cLF ∧ long = false)) :
    lexS long q .norm (c :: rest) = emit c (lexS long q .norm rest) := by
  simp [lexS, normCase, h1, h2, h3]

theorem lexS_norm_bs (long : Bool) (q : Char) (hq : q ≠ cBS) (rest : List Char) :
    lexS long q .norm (cBS :: rest) = lexS long q .esc rest := by
  have : ¬ (cBS = q) := fun h => hq h.symm
  cases rest <;> simp [lexS, normCase, isClose, this]

theorem lexS_raw_run (q : Char) : ∀ (w rest : List Char), (∀ c ∈ w, c ≠ cBS ∧ c ≠ q) →
    lexS true q .norm (w ++ rest) = (lexS true q .norm rest).map (w ++ ·)
  | [], rest, _ => by simp
  | c :: w, rest, h => by
    obtain ⟨h1, h2⟩ := h c (by simp)
    rw [List.cons_append, lexS_norm_raw true q c _ (by simp [isClose, h2]) h1 (by simp),
      lexS_raw_run q w rest fun d hd => h d (by simp [hd])]
    cases lexS true q .norm rest <;> rfl

/-! ### escapes: `\xHH` / `\uHHHH` / `\UHHHHHHHH` are read two hex digits at a time -/

theorem hexVal_hexDigit (k : Nat) (h : k < 16) : hexVal (hexDigit k) = some k := by
  have : ∀ k : Fin 16, hexVal (hexDigit k.val) = some k.val := by decide
  exact this ⟨k, h⟩

theorem hexVal_plain {q c : Char} (hq : q = cSQ ∨ q = cDQ) {d : Nat} (h : hexVal c = some d) :
    c ≠ cBS ∧ c ≠ q ∧ c ≠ cLF := by
  have e : ∀ x ∈ [cBS, cSQ, cDQ, cLF], hexVal x = none := by decide
  have ne : ∀ x ∈ [cBS, cSQ, cDQ, cLF], c ≠ x := fun x hx hcx => by rw [hcx, e x hx] at h; cases h
  exact ⟨ne _ (by simp), by rcases hq with rfl | rfl <;> exact ne _ (by simp), ne _ (by simp)⟩

theorem octVal_hexVal {c : Char} {d : Nat} (h : octVal c = some d) : hexVal c = some d := by
  simp only [octVal] at h
  split at h
  · rename_i hc
    simp only [hexVal]
    rw [if_pos ⟨hc.1, by omega⟩]; exact h
  · cases h

theorem hexDigit_ge (k : Nat) (h : k < 16) : 48 ≤ (hexDigit k).toNat := by
  have : ∀ k : Fin 16, 48 ≤ (hexDigit k.val).toNat := by decide
  exact this ⟨k, h⟩

theorem ofCode_toNat (c : Char) : ofCode c.toNat = some c := by
  have hv := c.valid
  have : c.toNat < 0xd800 ∨ (0xdfff < c.toNat ∧ c.toNat < 0x110000) := hv
  simp [ofCode, this, Char.ofNat_toNat]

theorem lexS_hex2_mid (long : Bool) (q : Char) (left acc n : Nat) (r : List Char) :
    lexS long q (.hex (left + 2) acc) (hex2 n ++ r) = lexS long q (.hex left (acc * 256 + n % 256)) r := by
  have h1 := hexVal_hexDigit (n / 16 % 16) (Nat.mod_lt _ (by decide))
  have h2 := hexVal_hexDigit (n % 16) (Nat.mod_lt _ (by decide))
  have e : (acc * 16 + n / 16 % 16) * 16 + n % 16 = acc * 256 + n % 256 := by omega
  simp [hex2, lexS, hexCase, h1, h2, e]

theorem lexS_hex2_end (long : Bool) (q : Char) (acc n : Nat) (c : Char) (r : List Char)
    (h : acc * 256 + n % 256 = c.toNat) :
    lexS long q (.hex 1 acc) (hex2 n ++ r) = emit c (lexS long q .norm r) := by
  have h1 := hexVal_hexDigit (n / 16 % 16) (Nat.mod_lt _ (by decide))
  have h2 := hexVal_hexDigit (n % 16) (Nat.mod_lt _ (by decide))
  have e : (acc * 16 + n / 16 % 16) * 16 + n % 16 = c.toNat := by omega
  simp [hex2, lexS, hexCase, h1, h2, e, ofCode_toNat]

theorem lexS_esc_hex (long : Bool) (q e : Char) (n : Nat) (he : escKind e = .hex (n + 1)) (r : List Char) :
    lexS long q .esc (e :: r) = lexS long q (.hex n 0) r := by
  cases r <;> simp [lexS, escCase, he]

theorem hex2_ge (n : Nat) : ∀ d ∈ hex2 n, 32 ≤ d.toNat := by
  intro d hd
  simp only [hex2, List.mem_cons, List.not_mem_nil, or_false] at hd
  rcases hd with rfl | rfl <;> exact Nat.le_trans (by decide) (hexDigit_ge _ (Nat.mod_lt _ (by decide)))

theorem hex4_ge (n : Nat) : ∀ d ∈ hex4 n, 32 ≤ d.toNat := by
  intro d hd
  rcases List.mem_append.1 hd with hd | hd <;> exact hex2_ge _ d hd

theorem hex8_ge (n : Nat) : ∀ d ∈ hex8 n, 32 ≤ d.toNat := by
  intro d hd
  rcases List.mem_append.1 hd with hd | hd <;> exact hex4_ge _ d hd

/-- What may follow a backslash so that the two denote `c`: the letter of a one-letter escape, or a
    hex escape. -/
inductive Escape (c : Char) : List Char → Prop
  | letter (e : Char) : escKind e = .char c → 32 ≤ e.toNat → Escape c [e]
  | hex2 : c.toNat < 256 → Escape c ('x' :: hex2 c.toNat)
  | hex4 : c.toNat < 65536 → Escape c ('u' :: hex4 c.toNat)
  | hex8 : Escape c ('U' :: hex8 c.toNat)

theorem Escape.lexS {c : Char} {t : List Char} (h : Escape c t) (long : Bool) (q : Char) (rest : List Char) :
    lexS long q .esc (t ++ rest) = emit c (lexS long q .norm rest) := by
  cases h with
  | letter e he _ => exact lexS_esc_char _ _ _ _ _ he
  | hex2 h => exact (lexS_esc_hex long q 'x' 1 (by decide) _).trans (lexS_hex2_end _ _ _ _ c _ (by omega))
  | hex4 h =>
    rw [List.cons_append, lexS_esc_hex long q 'u' 3 (by decide), PyLex.hex4, List.append_assoc, lexS_hex2_mid _ _ 1,
      lexS_hex2_end _ _ _ _ c _ (by omega)]
  | hex8 =>
    have hn : c.toNat < 0x110000 := by
      have hv : c.toNat < 0xd800 ∨ (0xdfff < c.toNat ∧ c.toNat < 0x110000) := c.valid
      omega
    rw [List.cons_append, lexS_esc_hex long q 'U' 7 (by decide), PyLex.hex8, PyLex.hex4, PyLex.hex4,
      List.append_assoc, List.append_assoc, List.append_assoc, lexS_hex2_mid _ _ 5, lexS_hex2_mid _ _ 3,
      lexS_hex2_mid _ _ 1, lexS_hex2_end _ _ _ _ c _ (by omega)]

theorem Escape.ge {c : Char} {t : List Char} (h : Escape c t) : ∀ d ∈ t, 32 ≤ d.toNat := by
  cases h with
  | letter e _ he => simpa using he
  | hex2 _ => exact List.forall_mem_cons.2 ⟨by decide, hex2_ge _⟩
  | hex4 _ => exact List.forall_mem_cons.2 ⟨by decide, hex4_ge _⟩
  | hex8 => exact List.forall_mem_cons.2 ⟨by decide, hex8_ge _⟩

theorem clean_of_ge {d : Char} (h : 32 ≤ d.toNat) : d ≠ cNUL ∧ d ≠ cCR := by
  constructor <;> (rintro rfl; exact absurd h (by decide))

/-- How a producer writes the character `c`: as itself, where `ok` holds, or as a backslash escape.
    Everything proved about `reprChar` and `docEsc` goes through this. -/
inductive Written (ok : Prop) (c : Char) : List Char → Prop
  | raw : ok → Written ok c [c]
  | esc (t : List Char) : Escape c t → Written ok c (cBS :: t)

section
variable {ok : Prop} {c : Char} {w : List Char} (h : Written ok c w)
include h

theorem Written.lexS (long : Bool) {q : Char} (hq : q ≠ cBS) (rest : List Char)
    (hraw : ok → lexS long q .norm (c :: rest) = emit c (lexS long q .norm rest)) :
    lexS long q .norm (w ++ rest) = emit c (lexS long q .norm rest) := by
  cases h with
  | raw h => exact hraw h
  | esc t ht => exact (lexS_norm_bs long q hq _).trans (ht.lexS long q rest)

theorem Written.clean (hraw : ok → c ≠ cNUL ∧ c ≠ cCR) : ∀ d ∈ w, d ≠ cNUL ∧ d ≠ cCR := by
  cases h with
  | raw h => simpa using hraw h
  | esc t ht => exact List.forall_mem_cons.2 ⟨by decide, fun d hd => clean_of_ge (ht.ge d hd)⟩

theorem Written.head : ∃ a t, w = a :: t ∧ (a = c ∧ ok ∨ a = cBS) := by
  cases h with
  | raw h => exact ⟨c, [], rfl, .inl ⟨rfl, h⟩⟩
  | esc t _ => exact ⟨cBS, t, rfl, .inr rfl⟩

end

/-- `docEsc` writes the character `c` followed by `r` raw (a quote only where no `"""` starts), as a
    one-letter escape or as `\x00`. -/
theorem docEsc_step (k : Nat) (c : Char) (r : List Char) :
    ∃ w k', docEsc k (c :: r) = w ++ docEsc k' r ∧
      Written (c ≠ cBS ∧ c ≠ cCR ∧ c ≠ cNUL ∧ (c = cDQ → (r.take 2 == [cDQ, cDQ]) = false)) c w := by
  have esc : ∀ {ok : Prop} (e : Char) k', escKind e = .char c → 32 ≤ e.toNat →
      ∃ w k'', cBS :: e :: docEsc k' r = w ++ docEsc k'' r ∧ Written ok c w :=
    fun e k' h1 h2 => ⟨_, k', rfl, .esc _ (.letter e h1 h2)⟩
  rw [docEsc]
  by_cases hc : c = cDQ
  · subst hc
    rw [if_pos rfl]
    by_cases hk : 0 < k
    · rw [if_pos hk]; exact esc cDQ _ (by decide) (by decide)
    rw [if_neg hk]
    cases h3 : (r.take 2 == [cDQ, cDQ])
    · rw [if_neg (by simp)]
      exact ⟨_, 0, rfl, .raw ⟨by decide, by decide, by decide, fun _ => rfl⟩⟩
    · rw [if_pos rfl]; exact esc cDQ _ (by decide) (by decide)
  rw [if_neg hc]
  by_cases hb : c = cBS
  · subst hb; rw [if_pos rfl]; exact esc cBS _ (by decide) (by decide)
  rw [if_neg hb]
  by_cases hr : c = cCR
  · subst hr; rw [if_pos rfl]; exact esc 'r' _ (by decide) (by decide)
  rw [if_neg hr]
  by_cases hn : c = cNUL
  · subst hn; rw [if_pos rfl]; exact ⟨_, 0, rfl, .esc _ (.hex2 (by decide))⟩
  rw [if_neg hn]
  exact ⟨_, 0, rfl, .raw ⟨hb, hr, hn, fun h => absurd h hc⟩⟩

theorem docEsc_head (k : Nat) (r t : List Char) (ht : ∀ c r', t = c :: r' → c ≠ cDQ)
    (ys : List Char) (h : docEsc k r ++ t = cDQ :: ys) :
    ∃ r' k', r = cDQ :: r' ∧ ys = docEsc k' r' ++ t := by
  cases r with
  | nil => exact absurd rfl (ht _ _ h)
  | cons x r' =>
    obtain ⟨w, k', e, hs⟩ := docEsc_step k x r'
    rw [e] at h
    cases hs with
    | raw =>
      obtain ⟨rfl, rfl⟩ := List.cons.inj h
      exact ⟨r', k', rfl, rfl⟩
    | esc => exact absurd (List.cons.inj h).1 (by decide)

theorem docEsc_take2 (k : Nat) (r t : List Char) (ht : ∀ c r', t = c :: r' → c ≠ cDQ)
    (h : (docEsc k r ++ t).take 2 = [cDQ, cDQ]) : r.take 2 = [cDQ, cDQ] := by
  match hL : docEsc k r ++ t, h with
  | y :: z :: zs, h =>
    simp only [List.take_succ_cons, List.take_zero, List.cons.injEq, and_true] at h
    obtain ⟨rfl, rfl⟩ := h
    obtain ⟨r1, k1, rfl, hys⟩ := docEsc_head k r t ht _ hL
    obtain ⟨r2, _, rfl, _⟩ := docEsc_head k1 r1 t ht _ hys.symm
    rfl
  | [y], h => simp at h
  | [], h => simp at h

theorem lexS_docEsc (t v : List Char) (ht : ∀ c r, t = c :: r → c ≠ cDQ)
    (hv : lexS true cDQ .norm t = some v) :
    ∀ (d : List Char) (k : Nat), lexS true cDQ .norm (docEsc k d ++ t) = some (d ++ v) := by
  intro d
  induction d with
  | nil => intro k; simpa [docEsc] using hv
  | cons c r ih =>
    intro k
    obtain ⟨w, k', hE, hs⟩ := docEsc_step k c r
    rw [hE, List.append_assoc, hs.lexS true (by decide) _ ?_, ih]; rfl
    rintro ⟨hb, _, _, hq⟩
    refine lexS_norm_raw _ _ _ _ ?_ hb (by simp)
    -- a quote written raw does not begin a `"""`: none begins there in the description
    by_cases hc : c = cDQ
    · have h3 := hq hc
      simp only [isClose, hc, beq_self_eq_true, Bool.true_and, Bool.not_true, Bool.false_or]
      apply Bool.eq_false_iff.2
      intro hcon
      have := docEsc_take2 k' r t ht (by simpa using hcon)
      simp [this] at h3
    · simp [isClose, hc]

theorem docEsc_clean : ∀ (d : List Char) (k : Nat) (x : Char), x ∈ docEsc k d → x ≠ cNUL ∧ x ≠ cCR
  | [], k, x, hx => by simp [docEsc] at hx
  | c :: r, k, x, hx => by
    obtain ⟨w, k', e, hs⟩ := docEsc_step k c r
    rw [e] at hx
    rcases List.mem_append.1 hx with hw | hr
    · exact hs.clean (fun h => ⟨h.2.2.1, h.2.1⟩) x hw
    · exact docEsc_clean r k' x hr

theorem docWrapL_clean (d : List Char) : ∀ c ∈ docWrapL d, c ≠ cNUL ∧ c ≠ cCR := by
  have hA : ∀ c ∈ [cDQ, cDQ, cDQ, cLF] ++ indent4, c ≠ cNUL ∧ c ≠ cCR := by decide
  have hB : ∀ c ∈ [cLF] ++ indent4 ++ [cDQ, cDQ, cDQ], c ≠ cNUL ∧ c ≠ cCR := by decide
  intro c hc
  simp only [docWrapL, List.append_assoc] at hc
  rcases List.mem_append.1 hc with h | h
  · exact hA c (List.mem_append_left _ h)
  · rcases List.mem_append.1 h with h | h
    · exact hA c (List.mem_append_right _ h)
    · rcases List.mem_append.1 h with h | h
      · exact docEsc_clean d 0 c h
      · exact hB c (by simpa [List.append_assoc] using h)

/-- the docstring literal denotes the intended `__doc__` for EVERY description (NUL included: it is
    written `\x00`) -/
theorem lexSrc_docWrapL (d : List Char) :
    lexSrc (docWrapL d) = some (docValueL d) := by
  obtain ⟨hNUL, hnn⟩ := clean_src (docWrapL_clean d)
  have h2 := lexS_docEsc ([cLF] ++ indent4 ++ [cDQ, cDQ, cDQ]) ([cLF] ++ indent4)
    (by intro c r h; simp at h; rw [← h.1]; decide) (by decide) d 0
  have hbody : lexS true cDQ .norm (([cLF] ++ indent4) ++ (docEsc 0 d ++ ([cLF] ++ indent4 ++ [cDQ, cDQ, cDQ])))
      = some (([cLF] ++ indent4) ++ (d ++ ([cLF] ++ indent4))) := by
    rw [lexS_raw_run cDQ _ _ (by decide), h2]; rfl
  unfold lexSrc
  rw [hNUL, hnn]
  simp only [docWrapL, docValueL] at hbody ⊢
  simpa [cDQ, cSQ, List.append_assoc] using hbody

theorem reprQuote_cases (cs : List Char) : reprQuote cs = cSQ ∨ reprQuote cs = cDQ := by
  unfold reprQuote; split <;> simp

theorem q_ne_bs {q : Char} (hq : q = cSQ ∨ q = cDQ) : q ≠ cBS := by
  rcases hq with rfl | rfl <;> decide

theorem char_of_toNat {c : Char} {n : Nat} (h : c.toNat = n) : c = Char.ofNat n := by
  rw [← h, Char.ofNat_toNat]

theorem reprChar_form (pr : Char → Bool) {q : Char} (hq : q = cSQ ∨ q = cDQ) (c : Char) :
    Written (c ≠ q ∧ c ≠ cBS ∧ 32 ≤ c.toNat) c (reprChar pr q c) := by
  unfold reprChar
  show Written _ c (if c = q ∨ c = cBS then _ else _)
  -- one `by_cases` per test of the cascade, rewriting with `if_pos`/`if_neg`: `split` on the whole
  -- cascade is very slow to check
  by_cases h1 : c = q ∨ c = cBS
  · rw [if_pos h1]
    refine .esc _ (.letter c ?_ ?_)
    · rcases h1 with rfl | rfl
      · rcases hq with rfl | rfl <;> rfl
      · rfl
    · rcases h1 with rfl | rfl
      · rcases hq with rfl | rfl <;> decide
      · decide
  rw [if_neg h1]
  by_cases h2 : c.toNat = 9
  · rw [if_pos h2, char_of_toNat h2]; exact .esc _ (.letter 't' rfl (by decide))
  rw [if_neg h2]
  by_cases h3 : c.toNat = 10
  · rw [if_pos h3, char_of_toNat h3]; exact .esc _ (.letter 'n' rfl (by decide))
  rw [if_neg h3]
  by_cases h4 : c.toNat = 13
  · rw [if_pos h4, char_of_toNat h4]; exact .esc _ (.letter 'r' rfl (by decide))
  rw [if_neg h4]
  by_cases h5 : c.toNat < 32 ∨ c.toNat = 127
  · rw [if_pos h5]; exact .esc _ (.hex2 (by omega))
  rw [if_neg h5]
  have raw : Written (c ≠ q ∧ c ≠ cBS ∧ 32 ≤ c.toNat) c [c] :=
    .raw ⟨fun h => h1 (.inl h), fun h => h1 (.inr h), by omega⟩
  by_cases h6 : c.toNat < 127
  · rw [if_pos h6]; exact raw
  rw [if_neg h6]
  by_cases h7 : pr c = true
  · rw [if_pos h7]; exact raw
  rw [if_neg h7]
  by_cases h8 : c.toNat < 256
  · rw [if_pos h8]; exact .esc _ (.hex2 h8)
  rw [if_neg h8]
  by_cases h9 : c.toNat < 65536
  · rw [if_pos h9]; exact .esc _ (.hex4 h9)
  rw [if_neg h9]; exact .esc _ .hex8

theorem lexS_reprChar (pr : Char → Bool) (q : Char) (hq : q = cSQ ∨ q = cDQ) (c : Char)
    (rest : List Char) :
    lexS false q .norm (reprChar pr q c ++ rest) = emit c (lexS false q .norm rest) :=
  (reprChar_form pr hq c).lexS false (q_ne_bs hq) rest fun ⟨h1, h2, h3⟩ =>
    lexS_norm_raw false q c rest (by simp [isClose, h1]) h2 (by rintro ⟨rfl, _⟩; exact absurd h3 (by decide))

theorem lexS_reprBody (pr : Char → Bool) (q : Char) (hq : q = cSQ ∨ q = cDQ) (cs : List Char) :
    lexS false q .norm (reprBody pr q cs ++ [q]) = some cs := by
  induction cs with
  | nil => simp [reprBody, lexS, normCase, isClose, atEnd]
  | cons c r ih =>
    simp only [reprBody, List.append_assoc]
    rw [lexS_reprChar pr q hq c, ih]
    rfl

theorem reprBody_clean (pr : Char → Bool) (q : Char) (hq : q = cSQ ∨ q = cDQ) (cs : List Char) :
    ∀ d ∈ reprBody pr q cs, d ≠ cNUL ∧ d ≠ cCR := by
  induction cs with
  | nil => intro d hd; simp [reprBody] at hd
  | cons c r ih =>
    intro d hd
    simp only [reprBody, List.mem_append] at hd
    rcases hd with hd | hd
    · exact (reprChar_form pr hq c).clean (fun h => clean_of_ge h.2.2) d hd
    · exact ih d hd

/-- after the opening quote of `repr(s)` the next two characters are not both the quote: it does not
    open a long literal -/
theorem reprBody_take2 (pr : Char → Bool) {q : Char} (hq : q = cSQ ∨ q = cDQ) (cs : List Char) :
    ((reprBody pr q cs ++ [q]).take 2 == [q, q]) = false := by
  cases cs with
  | nil => simp [reprBody]
  | cons c cs' =>
    obtain ⟨a, t, e, ha⟩ := (reprChar_form pr hq c).head
    have hne : a ≠ q := by
      rcases ha with ⟨rfl, h, _⟩ | rfl
      · exact h
      · exact (q_ne_bs hq).symm
    simp [reprBody, e, hne]

theorem pyReprL_clean (pr : Char → Bool) (cs : List Char) : ∀ c ∈ pyReprL pr cs, c ≠ cNUL ∧ c ≠ cCR := by
  have hq := reprQuote_cases cs
  have hqc : reprQuote cs ≠ cNUL ∧ reprQuote cs ≠ cCR := by rcases hq with h | h <;> rw [h] <;> decide
  intro d hd
  simp only [pyReprL, List.mem_cons, List.mem_append, List.not_mem_nil, or_false] at hd
  rcases hd with rfl | hd | rfl
  · exact hqc
  · exact reprBody_clean pr _ hq cs d hd
  · exact hqc

theorem lexSrc_pyReprL (pr : Char → Bool) (cs : List Char) : lexSrc (pyReprL pr cs) = some cs := by
  have hq := reprQuote_cases cs
  obtain ⟨hNUL, hnn⟩ := clean_src (pyReprL_clean pr cs)
  have hbody := lexS_reprBody pr (reprQuote cs) hq cs
  unfold lexSrc
  rw [hNUL, hnn]
  simp only [pyReprL, Bool.false_eq_true, if_false]
  rcases hq with h | h
  · rw [h] at hbody ⊢
    simp [hbody]
  · rw [h] at hbody ⊢
    have hne : ¬ (cDQ = cSQ) := by decide
    simp only [hne, if_false, if_true]
    rw [reprBody_take2 pr (.inr rfl) cs]
    simpa using hbody

end Typedpy.PyLex
