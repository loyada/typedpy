/-
  Lemmas/SchemaExactClass.lean — exactness beyond scalars, on documents: `exactDoc`, by induction over the
  declaration (`FieldDecl.induction`) on the fragment `exactF` (exact scalars, `Array[X]`, `Tuple[X]`, `Optional[X]`,
  `Map[String, X]`, nested classes, at any depth): a JSON document of the field (`docOk`) is accepted by
  `deserialize_single_field` and the field's validation; and the class level `c08_exact_class`: a JSON object that
  the class's schema admits is accepted by the model of `Deserializer(cls).deserialize` (Sem/Deser.deserialize =
  per-field pass + constructor), for every flag setting.  The definitions table and the fuel enter only through
  `jsV_emit` / `jsV_classSchema`.
-/
import TypedpyModel.Lemmas.SchemaExact
import TypedpyModel.Lemmas.Complete
namespace Typedpy.Sch
open Typedpy

theorem c08_lookup_kwOfDict (n : String) : ∀ (kvs : List (PyVal × PyVal)) (kw : List (String × PyVal)),
    kwOfDict kvs = some kw → lookup n kw = getKw n kvs
  | [], kw, h => by cases h; rfl
  | (k, v) :: rest, kw, h => by
    cases k <;> simp [kwOfDict] at h
    obtain ⟨r, hr, rfl⟩ := h
    rw [lookup_cons, getKw, keyIs, c08_lookup_kwOfDict n rest r hr, BEq.comm]

theorem c08_kwOfDict_mem (kvs : List (PyVal × PyVal)) (kw : List (String × PyVal)) (h : kwOfDict kvs = some kw) :
    ∀ a ∈ kw, (PyVal.str a.1, a.2) ∈ kvs := by
  induction kvs generalizing kw with
  | nil => simp [kwOfDict] at h; subst h; simp
  | cons x rest ih =>
    obtain ⟨k, v⟩ := x
    cases k <;> simp [kwOfDict] at h
    rename_i s
    obtain ⟨r, hr, rfl⟩ := h
    intro a ha
    rcases List.mem_cons.mp ha with rfl | ha'
    · simp
    · simp [ih r hr a ha']

theorem c08_validateFields_ok (O : Oracles) (c : ClassOpts) (kw : List (String × PyVal)) :
    ∀ fs : List (String × FieldDecl),
      (∀ n f, (n, f) ∈ fs → ∀ y, lookup n kw = some y → ∃ y', validate O f y = .ok y') →
      ∃ attrs, validateFields O c [] kw fs = .ok attrs
  | [], _ => ⟨[], by simp [validateFields]⟩
  | (name, f) :: rest, h => by
    obtain ⟨attrs, ha⟩ := c08_validateFields_ok O c kw rest (fun n g hm y hy => h n g (by simp [hm]) y hy)
    simp only [validateFields, argFor, lookup]
    cases hl : lookup name kw with
    | none => exact ⟨attrs, by simp [ha]⟩
    | some v =>
      simp only []
      cases hc : (v.isNone && c.ignoreNone && !c.required.contains name) with
      | true => exact ⟨attrs, by simp [ha]⟩
      | false =>
        obtain ⟨y', hv⟩ := h name f (by simp) v hl
        exact ⟨(name, y') :: attrs, by simp [hv, ha]⟩

theorem c08_jsonDoc_kw : ∀ (kvs : List (PyVal × PyVal)), jsonDocP kvs = true → ∃ kw, kwOfDict kvs = some kw
  | [], _ => ⟨[], rfl⟩
  | (k, v) :: rest, h => by
    simp only [jsonDocP, Bool.and_eq_true_iff] at h
    obtain ⟨kw, hkw⟩ := c08_jsonDoc_kw rest h.2
    cases k <;> simp [isStrJ] at h
    rename_i s
    exact ⟨(s, v) :: kw, by simp [kwOfDict, hkw]⟩

theorem c08_jsonDocP_mem (kvs : List (PyVal × PyVal)) (h : jsonDocP kvs = true) :
    ∀ kv ∈ kvs, isStrJ kv.1 = true ∧ jsonDoc kv.2 = true :=
  fun kv hkv => Bool.and_eq_true_iff.mp ((allB_iff (p := fun kv : PyVal × PyVal => isStrJ kv.1 && jsonDoc kv.2)
    (by rw [jsonDocP]) (fun (_, _) _ => by rw [jsonDocP]) kvs).mp h kv hkv)

theorem c08_jsonDocL_mem (xs : List PyVal) (h : jsonDocL xs = true) : ∀ x ∈ xs, jsonDoc x = true :=
  (allB_iff (by rw [jsonDocL]) (fun _ _ => by rw [jsonDocL]) xs).mp h

/-- `construct_fields_map` succeeds when every present non-null member is accepted by its field -/
theorem c08_deserFields_acc (O : Oracles) (opts : DeserOpts) (c : ClassOpts) (kw : List (String × PyVal)) :
    ∀ fs : List (String × FieldDecl),
      (∀ n f, (n, f) ∈ fs → ∀ v, lookup n kw = some v →
        v.isNone = false ∧ Accepted O opts c.ignoreNone f v) →
      ∃ args, deserFields O opts c kw fs false = .ok args
        ∧ (∀ a ∈ args, ∃ f y', (a.1, f) ∈ fs ∧ validate O f a.2 = .ok y')
        ∧ (∀ n f, (n, f) ∈ fs → (lookup n kw).isSome = true → (lookup n args).isSome = true)
  | [], _ => ⟨[], by simp [deserFields], fun _ h => (nomatch h), fun _ _ h => (nomatch h)⟩
  | (name, f) :: rest, hacc => by
    obtain ⟨args, h1, h2, h3⟩ := c08_deserFields_acc O opts c kw rest
      (fun n g hm => hacc n g (List.mem_cons_of_mem _ hm))
    have h2' : ∀ a ∈ args, ∃ g y', (a.1, g) ∈ (name, f) :: rest ∧ validate O g a.2 = .ok y' :=
      fun a ha => let ⟨g, y', hm, hv⟩ := h2 a ha; ⟨g, y', List.mem_cons_of_mem _ hm, hv⟩
    cases hl : lookup name kw with
    | none =>
      refine ⟨args, by simp [deserFields, hl, h1], h2', fun n g hm hs => ?_⟩
      rcases List.mem_cons.mp hm with heq | hm'
      · cases heq; simp [hl] at hs
      · exact h3 n g hm' hs
    | some v =>
      obtain ⟨hnn, y, y', hd, hv⟩ := hacc name f List.mem_cons_self v hl
      refine ⟨(name, y) :: args, by simp [deserFields, hl, hnn, hd, h1], fun a ha => ?_, fun n g hm hs => ?_⟩
      · rcases List.mem_cons.mp ha with rfl | ha'
        · exact ⟨f, y', List.mem_cons_self, hv⟩
        · exact h2' a ha'
      · by_cases hn : n = name
        · rw [hn, lookup_cons_self]; rfl
        · rw [lookup_cons_ne hn]
          exact h3 n g ((List.mem_cons.mp hm).resolve_left fun h => hn (congrArg Prod.fst h)) hs

/-- `deserialize_structure_internal` of a class without defaults (per-field pass, then the constructor) succeeds
    on a JSON document of the class, given that every field accepts its documents -/
theorem deserialize_of_docOk (O : Oracles) (S) (opts : DeserOpts) (c : ClassOpts) (fields : List (String × FieldDecl))
    (v : PyVal)
    (hnd : nodupS (fields.map (·.1)) = true)
    (hreqn : c.required.all (fields.map (·.1)).contains = true)
    (hfields : ∀ n f, (n, f) ∈ fields → ∀ w, jsonDoc w = true → docOk S f w = true →
      w.isNone = false ∧ Accepted O opts c.ignoreNone f w)
    (hdoc : jsonDoc v = true) (h : docOk S (.struct c fields []) v = true) :
    ∃ kvs attrs, v = .dict kvs ∧ deserialize O opts (.struct c fields []) (.dict kvs) = .ok (.inst c.name attrs) := by
  rw [docOk] at h
  obtain ⟨kvs, rfl, hp, hreq, haddl⟩ := (objDoc_iff _ _ _ _ v).mp h
  have hprops := (docOkP_iff S kvs fields).mp hp
  have hreq : ∀ n ∈ c.required, (getKw n kvs).isSome = true := by simpa [schemaRequired] using hreq
  simp only [jsonDoc] at hdoc
  obtain ⟨kw, hkw⟩ := c08_jsonDoc_kw kvs hdoc
  have hacc : ∀ n f, (n, f) ∈ fields → ∀ w, lookup n kw = some w →
      w.isNone = false ∧ Accepted O opts c.ignoreNone f w := fun n f hm w hw =>
    hfields n f hm w (c08_jsonDocP_mem kvs hdoc _ (c08_kwOfDict_mem kvs kw hkw (n, w) (lookup_mem hw))).2
      (hprops n f hm w (by rw [← c08_lookup_kwOfDict n kvs kw hkw]; exact hw))
  obtain ⟨args, h1, h2, h3⟩ := c08_deserFields_acc O opts c kw fields hacc
  have hskip : ∀ n, (fields.map (·.1)).contains n = true →
      lookup n (deserExtras opts c (fields.map (·.1)) kw ++ args) = lookup n args := by
    intro n hn
    refine lookup_append_of_not_mem (fun hm => ?_) _
    obtain ⟨a, ha, e⟩ := List.mem_map.1 hm
    have hf := (List.mem_filter.mp ha).2
    simp only [Bool.and_eq_true_iff, Bool.not_eq_true'] at hf
    rw [e, hn] at hf
    simp at hf
  have hbind : bindOk c (fields.map (·.1)) (deserExtras opts c (fields.map (·.1)) kw ++ args) = true := by
    rw [bindOk_eq, kwShapeOk, Bool.and_eq_true_iff, List.all_eq_true, Bool.or_eq_true, List.all_eq_true]
    refine ⟨fun r hr => ?_, haddl.imp id fun h' a ha' => ?_⟩
    · have hrn := List.all_eq_true.mp hreqn r hr
      rw [hskip r hrn]
      obtain ⟨p, hp, rfl⟩ := List.mem_map.mp (List.contains_iff_mem.mp hrn)
      exact h3 p.1 p.2 hp (by rw [c08_lookup_kwOfDict p.1 kvs kw hkw]; exact hreq p.1 hr)
    · rcases List.mem_append.mp ha' with hx | hx
      · obtain ⟨nm, hn1, hn2⟩ := h' _ (c08_kwOfDict_mem kvs kw hkw a (List.mem_filter.mp hx).1)
        cases hn1
        exact hn2
      · obtain ⟨g, _, hm, _⟩ := h2 a hx
        exact mem_names_of_mem a.1 g fields hm
  obtain ⟨attrs, hattrs⟩ := c08_validateFields_ok O c
    (deserExtras opts c (fields.map (·.1)) kw ++ args) fields (by
      intro n f hm y hy
      rw [hskip n (mem_names_of_mem n f fields hm)] at hy
      obtain ⟨g, y', hg, hv⟩ := h2 _ (lookup_mem hy)
      have : g = f := Option.some.inj ((lookup_of_mem_nodupS n g fields hnd hg).symm.trans (lookup_of_mem_nodupS n f fields hnd hm))
      subst this
      exact ⟨y', hv⟩)
  exact ⟨kvs, extrasOf c (fields.map (·.1)) (deserExtras opts c (fields.map (·.1)) kw ++ args) ++ attrs, rfl,
    by simp [deserialize, dClassRef, hkw, h1, vConstruct, hbind, hattrs]⟩

theorem c08_deser_strkey (O : Oracles) (opts : DeserOpts) (ks : String) :
    deser O opts false (.string none none none) (.str ks) = .ok (.str ks) := by
  simp [deser, PyVal.isNone, dValidated, vString, vPattern, geLen, leLen]

theorem c08_validate_strkey (O : Oracles) (ks : String) :
    validate O (.string none none none) (.str ks) = .ok (.str ks) := by
  simp [validate, vString, vPattern, geLen, leLen]

/-- the per-entry pass of `deserialize_map` over a JSON object: every value accepted, every key a string -/
theorem c08_map_entries (O : Oracles) (opts : DeserOpts) (vf : FieldDecl) :
    ∀ kvs : List (PyVal × PyVal), jsonDocP kvs = true → (∀ kv ∈ kvs, Accepted O opts false vf kv.2) →
      ∃ r, mapE (fun (kv : PyVal × PyVal) =>
          bindE (deser O opts false vf kv.2) fun v' =>
          bindE (deser O opts false (.string none none none) kv.1) fun k' =>
            .ok (k', v')) kvs = .ok r
        ∧ r.all (fun kv => (match kv.1 with | .str _ => true | _ => false) && (validate O vf kv.2).toBool) = true
  | [], _, _ => ⟨[], rfl, rfl⟩
  | (k, w) :: rest, hj, hp => by
    simp only [jsonDocP, Bool.and_eq_true_iff] at hj
    obtain ⟨y, y', hd, hv⟩ := hp (k, w) List.mem_cons_self
    obtain ⟨r, hr, hall⟩ := c08_map_entries O opts vf rest hj.2 (fun kv hkv => hp kv (List.mem_cons_of_mem _ hkv))
    cases k <;> first | exact Bool.noConfusion hj.1.1 | skip
    rename_i ks
    refine ⟨(.str ks, y) :: r, by simp only [mapE, hd, hr, c08_deser_strkey, bindE_ok], ?_⟩
    simp only [List.all_cons, Bool.and_eq_true_iff]
    exact ⟨by simp [hv, Except.toBool], hall⟩

theorem c08_map_validate (O : Oracles) (vf : FieldDecl) : ∀ es : List (PyVal × PyVal),
    es.all (fun kv => (match kv.1 with | .str _ => true | _ => false) && (validate O vf kv.2).toBool) = true →
    ∃ r', mapE (fun (kv : PyVal × PyVal) =>
        bindE (validate O (.string none none none) kv.1) fun k' =>
        bindE (validate O vf kv.2) fun v' => .ok (k', v')) es = .ok r'
  | [], _ => ⟨[], rfl⟩
  | (k, w) :: rest, h => by
    simp only [List.all_cons, Bool.and_eq_true_iff] at h
    obtain ⟨⟨hk, hw⟩, hrest⟩ := h
    obtain ⟨r', hr'⟩ := c08_map_validate O vf rest hrest
    cases k with
    | str ks =>
      cases hv : validate O vf w with
      | error e => rw [hv] at hw; cases hw
      | ok w' =>
        exact ⟨(.str ks, w') :: r', by simp only [mapE, hv, hr', c08_validate_strkey, bindE_ok]⟩
    | _ => exact Bool.noConfusion hk

theorem c08_exactOpt_inv : ∀ fs : List FieldDecl, exactOpt fs = true → ∃ g, fs = [g, .noneF] ∧ exactF g = true
  | [], h => by simp [exactOpt] at h
  | g :: rest, h => by
    simp only [exactOpt, Bool.and_eq_true_iff] at h
    have h2 := h.2
    split at h2
    · exact ⟨g, rfl, h.1⟩
    · cases h2

theorem exactFields_mem (fields : List (String × FieldDecl)) (h : exactFields fields = true) :
    ∀ nf ∈ fields, exactF nf.2 = true :=
  (allB_iff (p := fun nf : String × FieldDecl => exactF nf.2) (by rw [exactFields])
    (fun (_, _) _ => by rw [exactFields]) fields).mp h

theorem c08_exact_array (O : Oracles) (S) (opts : DeserOpts) (f : FieldDecl) (sz : SizeOpts) (v : PyVal)
    (hacc : ∀ x, jsonDoc x = true → docOk S f x = true → Accepted O opts false f x)
    (hj : jsonDoc v = true) (h : arrDoc false sz (itemsDoc (some (docOk S f))) v = true) :
    ∃ xs ys ys', v = .list xs ∧ sizeOk sz xs.length = true ∧ mapE (deser O opts false f) xs = .ok ys
      ∧ mapE (validate O f) ys = .ok ys' ∧ ys.length = xs.length := by
  obtain ⟨xs, rfl, _, hsz, hall⟩ := (arrDoc_iff false sz _ v).mp h
  rw [itemsDoc_some] at hall
  obtain ⟨ys, p⟩ := Pointwise.of_forall_exists
    (R := fun x y => ∃ y', deser O opts false f x = .ok y ∧ validate O f y = .ok y')
    fun x hx => hacc x (c08_jsonDocL_mem xs hj x hx) (List.all_eq_true.mp hall x hx)
  obtain ⟨ys', p'⟩ := Pointwise.of_forall_exists (R := fun y y' => validate O f y = .ok y')
    fun y hy => let ⟨_, _, y', _, hv⟩ := p.mem_right y hy; ⟨y', hv⟩
  exact ⟨xs, ys, ys', rfl, hsz, mapE_eq_ok_iff.2 (p.imp fun _ _ _ _ ⟨_, hd, _⟩ => hd), mapE_eq_ok_iff.2 p',
    p.length_eq⟩

theorem exactDoc (O : Oracles) (S : String → String → Bool)
    (hS : ∀ p s, startAnchored p = true → S p s = true → O.reMatch p s = true) :
    ∀ (f : FieldDecl) (opts : DeserOpts) (ign : Bool) (v : PyVal), exactF f = true →
    jsonDoc v = true → docOk S f v = true → v.isNone = false ∧ Accepted O opts ign f v := by
  intro f
  induction f using FieldDecl.induction with
  | seqOf k f sz ih =>
    intro opts ign v hf hj h
    simp only [exactF, Bool.and_eq_true_iff] at hf
    have hk : k = .list := by simpa using hf.1.1.1
    subst hk
    have hu : sz.uniq = false := by simpa using hf.1.1.2
    rw [docOk, hu, elemDoc_of_not_anyOf f _ (by simpa using hf.1.2)] at h
    obtain ⟨xs, ys, ys', rfl, hsz, hdd, hv, hl⟩ := c08_exact_array O S opts f sz v
      (fun x hx hv => (ih opts false x hf.2 hx hv).2) hj h
    refine ⟨rfl, .list ys, .list ys', ?_, ?_⟩
    · simp [deser, PyVal.isNone, dSeq, docSeq, hdd, toValueErr, mkSeq]
    · have hl' : ys.length = xs.length := hl
      simp [validate, vSeq, seqElems, uniqOk, hu, hl', hsz, hv, mkSeq]
  | tupleOf f u ih =>
    intro opts ign v hf hj h
    simp only [exactF, Bool.and_eq_true_iff] at hf
    have hu : u = false := by simpa using hf.1.1
    subst hu
    rw [docOk, elemDoc_of_not_anyOf f _ (by simpa using hf.1.2)] at h
    obtain ⟨xs, ys, ys', rfl, _, hdd, hv, _⟩ := c08_exact_array O S opts f { uniq := false } v
      (fun x hx hv => (ih opts false x hf.2 hx hv).2) hj h
    refine ⟨rfl, .tuple ys, .tuple ys', ?_, ?_⟩
    · simp [deser, PyVal.isNone, dSeq, docSeq, hdd, toValueErr]
    · simp [validate, vTuple, uniqOk, hv]
  | struct c fields defaults ih =>
    intro opts ign v hf hj h
    simp only [exactF, Bool.and_eq_true_iff] at hf
    obtain ⟨⟨⟨⟨⟨hni, hdef⟩, hacc0⟩, hnd⟩, hreqn⟩, hex⟩ := hf
    have hin : c.inline = false := by simpa using hni
    have hdef' : defaults = [] := by simpa using hdef
    subst hdef'
    obtain ⟨kvs, attrs, rfl, hcore⟩ := deserialize_of_docOk O S opts c fields v hnd hreqn
      (fun nm f hm w => ih (nm, f) hm opts c.ignoreNone w (exactFields_mem fields hex (nm, f) hm)) hj h
    refine ⟨rfl, .inst c.name attrs, .inst c.name attrs, ?_, ?_⟩
    · simp only [deser, PyVal.isNone, Bool.false_and, Bool.false_eq_true, if_false, hin]
      exact hcore
    · have hmem : c.name ∈ c.accepts := by simpa using hacc0
      simp [validate, hin, vClassRef, hmem]
  | anyOf fs ih =>
    intro opts ign v hf hj h
    obtain ⟨g, rfl, hg⟩ := c08_exactOpt_inv fs hf
    rw [docOk_optional] at h
    obtain ⟨hnn, y, y', hdd, hv⟩ := ih g List.mem_cons_self opts false v hg hj h
    refine ⟨hnn, y, y', ?_, ?_⟩
    · simp [deser, hnn, deserAny, hdd]
    · simp [validate, validateAny, hv]
  | mapOf k vf sz _ ih =>
    intro opts ign v hf hj h
    simp only [exactF, Bool.and_eq_true_iff] at hf
    obtain ⟨⟨⟨⟨hkey, hmin⟩, hmax⟩, hnopt⟩, hvf⟩ := hf
    have hk : k = .string none none none := by
      cases k with
      | string lo hi pat =>
        cases lo <;> cases hi <;> cases pat <;> simp [exactKey] at hkey
        rfl
      | _ => simp [exactKey] at hkey
    subst hk
    have hmin' : sz.min = none := by simpa using hmin
    have hmax' : sz.max = none := by simpa using hmax
    rw [docOk, elemDoc_of_not_anyOf vf _ (by simpa using hnopt), mapMember_plain S _ _ rfl] at h
    obtain ⟨kvs, rfl, _, hall⟩ := (mapDoc_iff sz _ v).mp h
    simp only [jsonDoc] at hj
    obtain ⟨r, hr, hrall⟩ := c08_map_entries O opts vf kvs hj
      fun kv hkv => (ih opts false kv.2 hvf (c08_jsonDocP_mem kvs hj kv hkv).2 (hall kv hkv)).2
    refine ⟨rfl, .dict (dictOfPairs r), ?_⟩
    have hsz : ∀ m, sizeOk sz m = true := by intro m; simp [sizeOk, hmin', hmax', geLen, leLen]
    obtain ⟨r', hr'⟩ := c08_map_validate O vf (dictOfPairs r)
      (dictOfPairs_all _ (fun kk => match kk with | .str _ => true | _ => false)
        (fun w => (validate O vf w).toBool) (fun kv => rfl) r hrall)
    refine ⟨.dict (dictOfPairs r'), ?_, ?_⟩
    · have hnu : r.any (fun kv => unhashable kv.1) = false := by
        rw [List.any_eq_false]
        intro kv hkv
        have := List.all_eq_true.mp hrall kv hkv
        simp only [Bool.and_eq_true_iff] at this
        cases hk1 : kv.1 <;> simp [hk1] at this <;> simp [unhashable]
      rw [deser]
      simp only [PyVal.isNone, Bool.false_and, Bool.false_eq_true, if_false, dMap, hr, bindE_ok, hnu]
    · rw [validate]
      simp only [vMap, hsz, Bool.not_true, Bool.false_eq_true, if_false, hr', bindE_ok]
  | number _ | integer _ | float _ | string _ _ _ | boolean | enumLit _ | enumCls _ _ =>
    intro opts ign v hf _ h
    exact exactDoc_scalar O S hS opts ign _ v hf h
  | _ => intro _ _ _ hf; exact Bool.noConfusion hf

/-- the class level: the schema of a class outside the field-wrapper form is its class object -/
theorem c08_exact_class (O : Oracles) (S : String → String → Bool)
    (hS : ∀ p s, startAnchored p = true → S p s = true → O.reMatch p s = true)
    (opts : DeserOpts) (D : Defs) (cls : FieldDecl) (n : Nat) (kvs : List (PyVal × PyVal))
    (hfrag : inExactFragment cls = true) (hrefs : ClassRefsFaithful D cls) (hd : refDepth cls ≤ n)
    (hdoc : jsonDoc (.dict kvs) = true)
    (h : jsV (resolver D S n) S (classSchema true cls) (.dict kvs) = true) :
    ∃ x, deserialize O opts cls (.dict kvs) = .ok x := by
  cases cls with
  | struct c fields defaults =>
    simp only [inExactFragment, Bool.and_eq_true_iff] at hfrag
    obtain ⟨⟨⟨⟨⟨hni, hdef⟩, hncol⟩, hnd⟩, hreqn⟩, hex⟩ := hfrag
    have hin : c.inline = false := by simpa using hni
    have hdef' : defaults = [] := by simpa using hdef
    subst hdef'
    simp only [refDepth, hin, Bool.false_eq_true, if_false] at hd
    rw [jsV_classSchema S D c fields [] n _ (by simpa using hncol) hrefs (by omega)] at h
    obtain ⟨_, attrs, hkvs, hcore⟩ := deserialize_of_docOk O S opts c fields _ hnd hreqn
      (fun nm f hm w => exactDoc O S hS f opts c.ignoreNone w (exactFields_mem fields hex (nm, f) hm)) hdoc h
    cases hkvs
    exact ⟨_, hcore⟩
  | _ => simp [inExactFragment] at hfrag

end Typedpy.Sch
