/-
  Lemmas/Define.lean — helper lemmas about the class-definition model (Sem/Define.lean):
  check lists, the own fields of a class body, C3 linearisation, association lists (`dict.update`,
  lookups, keys), and the first owner of a name along a linearisation.
-/
import TypedpyModel.Sem.Derive
import TypedpyModel.Lemmas.Basic
namespace Typedpy

theorem runChecks_ok_iff {cs : List (R Unit)} : runChecks cs = .ok () ↔ ∀ c ∈ cs, c = .ok () := by
  induction cs with
  | nil => simp [runChecks]
  | cons x xs ih => cases x <;> simp [runChecks, ih]

theorem raiseIf_ok {b : Bool} {e : ErrCls} : (if b then .error e else okU) = .ok () ↔ b = false := by
  cases b <;> simp [okU]

theorem raiseUnless_ok {b : Bool} {e : ErrCls} : (if b then okU else .error e) = .ok () ↔ b = true := by
  cases b <;> simp [okU]

theorem mem_checks {O : Oracles} {w : World} {src : ClassSrc} {c : R Unit} : c ∈ checks O w src ↔
    (∃ p ∈ src.entries, kwDefaultCheck O p.2 = c) ∨ c = unknownBaseCheck w src
    ∨ (∃ p ∈ src.entries, nameCheck p = c) ∨ (∃ p ∈ src.entries, nonTypedpyCheck w p = c)
    ∨ (∃ p ∈ src.entries, eqDefaultCheck O p.2 = c) ∨ c = mroCheck w src ∨ c = finalCheck w src
    ∨ (∃ p ∈ resolvedFields w src, constCheck p = c) ∨ c = optionalCheck w src
    ∨ (∃ p ∈ src.entries, blockConstCheck w p = c) ∨ c = sigCheck w src ∨ c = keysOfCheck w src := by
  simp only [checks, List.mem_append, List.mem_map, List.mem_cons, List.not_mem_nil, or_false,
    or_assoc]

theorem defineClass_ok {O : Oracles} {w : World} {src : ClassSrc} {cd : ClassDef}
    (h : defineClass O w src = .ok cd) :
    runChecks (checks O w src) = .ok () ∧ cd = build w src := by
  rcases bindE_eq_ok h with ⟨_, hr, hb⟩
  exact ⟨hr, by cases hb; rfl⟩

theorem defineClass_name {O : Oracles} {w : World} {src : ClassSrc} {cd : ClassDef}
    (h : defineClass O w src = .ok cd) : cd.name = src.name := by
  rcases defineClass_ok h with ⟨_, rfl⟩; rfl

theorem defineClass_of_checks {O : Oracles} {w : World} {src : ClassSrc}
    (h : runChecks (checks O w src) = .ok ()) : defineClass O w src = .ok (build w src) := by
  rw [defineClass, h, bindE_ok]

theorem defineClass_error_of_check {O : Oracles} {w : World} {src : ClassSrc} {c : R Unit}
    {e : ErrCls} (hm : c ∈ checks O w src) (hc : c = .error e) :
    ∃ e', defineClass O w src = .error e' := by
  cases hd : defineClass O w src with
  | error e' => exact ⟨e', rfl⟩
  | ok cd => cases hc ▸ runChecks_ok_iff.mp (defineClass_ok hd).1 c hm

theorem stepWorld_define_error {O : Oracles} {w : World} {src : ClassSrc} (h : ∃ e, defineClass O w src = .error e) :
    stepWorld O w (.define src) = w := by
  obtain ⟨e, he⟩ := h
  rw [stepWorld, stepClass, he]

/-! ### the class record a statement builds

  Projections of `build`, stated once: unifying through `build` (or through a `match` on a lookup in
  `allFieldsOf`) makes Lean evaluate the merge along the MRO, which is slow. -/

section
variable (w : World) (src : ClassSrc)
theorem build_allFields : (build w src).allFields = allFieldsOf w src := by simp only [build]
theorem build_required : (build w src).required = requiredOf w src := by simp only [build]
theorem build_constants : (build w src).constants = constantsOf (resolvedFields w src) := by
  simp only [build]
theorem build_sig : (build w src).sig = sigOf w src := by simp only [build]
end

theorem ownMembers_eq_filterMap : ∀ es : List (String × SrcEntry),
    ownMembers es = es.filterMap fun p => (entryMember p.2).map fun m => (p.1, m)
  | [] => rfl
  | (k, e) :: rest => by
    rw [ownMembers, List.filterMap_cons, ownMembers_eq_filterMap rest]
    cases entryMember e <;> rfl

theorem ownMembers_append (l1 l2 : List (String × SrcEntry)) :
    ownMembers (l1 ++ l2) = ownMembers l1 ++ ownMembers l2 := by
  rw [ownMembers_eq_filterMap, ownMembers_eq_filterMap, ownMembers_eq_filterMap, List.filterMap_append]

theorem mem_ownMembers {n : String} {m : Member} {es : List (String × SrcEntry)}
    (h : (n, m) ∈ ownMembers es) : ∃ e, (n, e) ∈ es ∧ entryMember e = some m := by
  rw [ownMembers_eq_filterMap, List.mem_filterMap] at h
  obtain ⟨⟨k, e⟩, hp, hm⟩ := h
  obtain ⟨m', he, hpair⟩ := Option.map_eq_some_iff.mp hm
  cases hpair
  exact ⟨e, hp, he⟩

theorem pickHead_some {all : List (List String)} :
    ∀ {l : List (List String)} {h : String}, pickHead all l = some h →
      notInTails h all = true ∧ ∃ t, (h :: t) ∈ l
  | [], h, hp => by cases hp
  | [] :: rest, h, hp => by
    rcases pickHead_some (l := rest) hp with ⟨h1, t, ht⟩
    exact ⟨h1, t, List.mem_cons_of_mem _ ht⟩
  | (x :: t) :: rest, h, hp => by
    simp only [pickHead] at hp
    split at hp
    · rename_i hn
      cases hp
      exact ⟨hn, t, List.mem_cons_self⟩
    · rcases pickHead_some hp with ⟨h1, t', ht⟩
      exact ⟨h1, t', List.mem_cons_of_mem _ ht⟩

theorem dropHead_sublist (h : String) : ∀ s : List String, (dropHead h s).Sublist s
  | [] => List.Sublist.refl _
  | y :: t => by
    simp only [dropHead]
    split
    · exact List.sublist_cons_self _ _
    · exact List.Sublist.refl _

theorem c3merge_induct {P : List (List String) → List String → Prop}
    (empty : ∀ seqs, allEmpty seqs = true → P seqs [])
    (step : ∀ seqs hd fuel out', pickHead seqs seqs = some hd →
      c3merge fuel (seqs.map (dropHead hd)) = some out' → P (seqs.map (dropHead hd)) out' →
      P seqs (hd :: out')) :
    ∀ (fuel : Nat) (seqs : List (List String)) (out : List String), c3merge fuel seqs = some out → P seqs out
  | 0, seqs, out, h => by
    simp only [c3merge] at h
    split at h
    · cases h; exact empty _ ‹_›
    · cases h
  | fuel + 1, seqs, out, h => by
    simp only [c3merge] at h
    split at h
    · cases h; exact empty _ ‹_›
    · cases hp : pickHead seqs seqs with
      | none => simp [hp] at h
      | some hd =>
        simp only [hp, Option.map_eq_some_iff] at h
        rcases h with ⟨out', hr, rfl⟩
        exact step seqs hd fuel out' hp hr (c3merge_induct empty step fuel _ out' hr)

theorem c3merge_sublist : ∀ (fuel : Nat) (seqs : List (List String)) (out : List String),
    c3merge fuel seqs = some out → ∀ s ∈ seqs, s.Sublist out := by
  refine c3merge_induct (fun seqs he s hs => ?_) fun seqs hd _ out' _ _ ih s hs => ?_
  · rw [List.isEmpty_iff.mp (List.all_eq_true.mp he s hs)]; exact List.nil_sublist _
  · have ih := ih (dropHead hd s) (List.mem_map_of_mem hs)
    cases s with
    | nil => exact List.nil_sublist _
    | cons x t =>
      simp only [dropHead] at ih
      split at ih
      · rename_i hx
        rw [eq_of_beq hx]
        exact List.Sublist.cons_cons _ ih
      · exact List.Sublist.cons _ ih

theorem c3merge_origin : ∀ (fuel : Nat) (seqs : List (List String)) (out : List String),
    c3merge fuel seqs = some out → ∀ x ∈ out, ∃ s ∈ seqs, x ∈ s := by
  refine c3merge_induct (fun _ _ x hx => by cases hx) fun seqs hd _ out' hp _ ih x hx => ?_
  rcases List.mem_cons.mp hx with rfl | hx
  · rcases pickHead_some hp with ⟨_, t, ht⟩
    exact ⟨_, ht, List.mem_cons_self⟩
  · rcases ih x hx with ⟨s', hs', hxs⟩
    rcases List.mem_map.mp hs' with ⟨s, hs, rfl⟩
    exact ⟨s, hs, (dropHead_sublist hd s).subset hxs⟩

theorem not_mem_dropHead {all : List (List String)} {h : String} (hn : notInTails h all = true)
    {s : List String} (hs : s ∈ all) : h ∉ dropHead h s := by
  have ht : h ∉ s.tail := by simpa using List.all_eq_true.mp hn s hs
  cases s with
  | nil => exact List.not_mem_nil
  | cons y t =>
    simp only [dropHead]
    split
    · exact ht
    · rename_i hy
      intro hm
      rcases List.mem_cons.mp hm with h1 | h1
      · exact hy (by rw [h1]; exact beq_self_eq_true _)
      · exact ht h1

/-- a C3 merge never repeats a class: a sequence that does can never give up its repeated head -/
theorem c3merge_nodup : ∀ (fuel : Nat) (seqs : List (List String)) (out : List String),
    c3merge fuel seqs = some out → out.Nodup := by
  refine c3merge_induct (fun _ _ => List.nodup_nil) fun seqs hd f out' hp hr ih => ?_
  refine List.nodup_cons.mpr ⟨fun hm => ?_, ih⟩
  -- the head picked occurs in no tail, so it is gone from every sequence
  rcases c3merge_origin f _ out' hr hd hm with ⟨s', hs', hxs⟩
  rcases List.mem_map.mp hs' with ⟨s, hs, rfl⟩
  exact not_mem_dropHead (pickHead_some hp).1 hs hxs

/-- a list without repeated keys, as a Python dict is -/
def KeysNodup {α} (l : List (String × α)) : Prop := (l.map (·.1)).Nodup

section
variable {α : Type}

theorem lookup_append_orElse (n : String) (l1 l2 : List (String × α)) :
    lookup n (l1 ++ l2) = (lookup n l1).orElse fun _ => lookup n l2 := by
  rw [lookup_append, Option.or_eq_orElse]

theorem isSome_lookup_if (b : Bool) (n : String) (l : List (String × α)) :
    (if b then lookup n l else none).isSome = true ↔ ((l.map (·.1)).contains n && b) = true := by
  cases b
  · simp
  · simp only [if_true, Bool.and_true, List.contains_eq_mem, decide_eq_true_eq]
    exact lookup_isSome_iff n l

theorem lookup_filterMap_val {β : Type} (g : α → Option β) : ∀ {l : List (String × α)}, KeysNodup l →
    ∀ n, lookup n (l.filterMap fun p => (g p.2).map fun b => (p.1, b)) = (lookup n l).bind g
  | [], _, n => rfl
  | (k, a) :: rest, h, n => by
    have hnd := List.nodup_cons.mp h
    have ih := lookup_filterMap_val g hnd.2 n
    by_cases hk : n = k
    · subst hk
      cases hg : g a with
      | some b => simp [hg, lookup]
      | none =>
        simp only [List.filterMap_cons, hg, Option.map_none, ih, lookup_none_of_not_mem hnd.1,
          lookup, beq_self_eq_true, if_true, Option.bind_some, Option.bind_none]
    · cases hg : g a <;> simp [hg, lookup, hk, ih]

theorem lookup_updateAll (n : String) :
    ∀ (l acc : List (String × α)),
      lookup n (updateAll acc l) = (lookup n l.reverse).orElse fun _ => lookup n acc
  | [], acc => rfl
  | p :: ps, acc => by
    simp only [updateAll, List.reverse_cons]
    rw [lookup_updateAll n ps, lookup_append_orElse, lookup_assocSet]
    cases lookup n ps.reverse with
    | some v => rfl
    | none =>
      simp only [Option.orElse_none, lookup]
      split <;> rfl

theorem lookup_updateAll_nil (n : String) (l : List (String × α)) :
    lookup n (updateAll [] l) = lookup n l.reverse := by
  rw [lookup_updateAll]
  cases lookup n l.reverse <;> rfl

theorem updateAll_append : ∀ (l1 l2 acc : List (String × α)),
    updateAll acc (l1 ++ l2) = updateAll (updateAll acc l1) l2
  | [], _, _ => rfl
  | _ :: ps, l2, _ => updateAll_append ps l2 _

theorem mergeAll_eq : ∀ (ls : List (List (String × α))) (acc : List (String × α)),
    mergeAll acc ls = updateAll acc ls.flatten
  | [], acc => rfl
  | l :: ls, acc => by
    simp only [mergeAll, List.flatten_cons, updateAll_append]
    exact mergeAll_eq ls _

theorem updateAll_keysNodup : ∀ (l acc : List (String × α)), KeysNodup acc →
    KeysNodup (updateAll acc l)
  | [], _, h => h
  | p :: ps, acc, h => by
    apply updateAll_keysNodup ps
    simp only [KeysNodup, keys_assocSet]
    split
    · exact h
    · rename_i hk
      exact List.nodup_append.mpr ⟨h, by simp, fun a ha b hb hab =>
        hk (by rw [← List.mem_singleton.mp hb, ← hab]; exact ha)⟩

theorem updateAll_nodup_eq : ∀ (l acc : List (String × α)), KeysNodup (acc ++ l) →
    updateAll acc l = acc ++ l
  | [], acc, _ => (List.append_nil _).symm
  | p :: ps, acc, h => by
    have hp : p.1 ∉ acc.map (·.1) := by
      simp only [KeysNodup, List.map_append, List.map_cons] at h
      exact fun hm => (List.nodup_append.mp h).2.2 _ hm _ List.mem_cons_self rfl
    have hset : assocSet p.1 p.2 acc = acc ++ [p] := by
      clear h
      induction acc with
      | nil => rfl
      | cons q qs ih =>
        simp only [List.map_cons, List.mem_cons, not_or] at hp
        simp only [assocSet, beq_eq_false_iff_ne.mpr hp.1, Bool.false_eq_true, if_false, ih hp.2,
          List.cons_append]
    rw [updateAll, hset, updateAll_nodup_eq ps (acc ++ [p]) (by simpa using h), List.append_assoc]
    rfl

theorem mem_of_mem_updateAll {q : String × α} {l : List (String × α)} (h : q ∈ updateAll [] l) :
    q ∈ l := by
  have := lookup_of_mem (updateAll_keysNodup l [] List.nodup_nil) h
  rw [lookup_updateAll_nil] at this
  exact List.mem_reverse.mp (lookup_mem this)

/-- the first class of a linearisation whose own fields include `n` -/
def firstOwner (g : String → List (String × α)) (n : String) : List String → Option String
  | [] => none
  | k :: ks => if (lookup n (g k)).isSome then some k else firstOwner g n ks

theorem lookup_flatten_map (g : String → List (String × α)) (n : String) :
    ∀ l : List String, lookup n ((l.map g).flatten) = (firstOwner g n l).bind fun k => lookup n (g k)
  | [] => rfl
  | k :: ks => by
    simp only [List.map_cons, List.flatten_cons, lookup_append_orElse, firstOwner]
    cases hk : lookup n (g k) with
    | some v => simp [hk]
    | none => simp [lookup_flatten_map g n ks]

theorem firstOwner_eq_find? (g : String → List (String × α)) (n : String) : ∀ l : List String,
    firstOwner g n l = l.find? fun k => (lookup n (g k)).isSome
  | [] => rfl
  | k :: ks => by
    rw [firstOwner, List.find?_cons, firstOwner_eq_find? g n ks]
    cases (lookup n (g k)).isSome <;> rfl

theorem firstOwner_some {g : String → List (String × α)} {n k : String} :
    ∀ {l : List String}, firstOwner g n l = some k → k ∈ l ∧ (lookup n (g k)).isSome = true := by
  intro l h
  rw [firstOwner_eq_find?] at h
  exact ⟨List.mem_of_find?_eq_some h, List.find?_some (p := fun k => (lookup n (g k)).isSome) h⟩

theorem firstOwner_isSome_mono {g : String → List (String × α)} {n : String} {l1 l2 : List String}
    (hs : l1 ⊆ l2) (h : (firstOwner g n l1).isSome = true) : (firstOwner g n l2).isSome = true := by
  rw [firstOwner_eq_find?, List.find?_isSome] at h ⊢
  exact h.imp fun k hk => ⟨hs hk.1, hk.2⟩

theorem firstOwner_sublist {g : String → List (String × α)} {n k : String} :
    ∀ {l1 l2 : List String}, l1.Sublist l2 → l2.Nodup → firstOwner g n l2 = some k → k ∈ l1 →
      firstOwner g n l1 = some k := by
  intro l1 l2 hs
  induction hs with
  | slnil => intro _ h; cases h
  | cons x hs ih =>
    intro hnd h hk
    have hx := List.nodup_cons.mp hnd
    simp only [firstOwner] at h
    split at h
    · cases h
      exact absurd (hs.subset hk) hx.1
    · exact ih hx.2 h hk
  | cons_cons x hs ih =>
    intro hnd h hk
    have hx := List.nodup_cons.mp hnd
    simp only [firstOwner] at h ⊢
    split
    · rename_i hox; rw [if_pos hox] at h; exact h
    · rename_i hox
      rw [if_neg hox] at h
      rcases List.mem_cons.mp hk with rfl | h1
      · exact absurd (firstOwner_some h).2 hox
      · exact ih hx.2 h h1

theorem firstOwner_sublist_of_empty {g : String → List (String × α)} {n : String} {l1 l2 : List String}
    (hs : l1.Sublist l2) (hnd : l2.Nodup) (h : ∀ k ∈ l2, k ∉ l1 → lookup n (g k) = none) :
    firstOwner g n l2 = firstOwner g n l1 := by
  cases hk : firstOwner g n l2 with
  | some k =>
    -- the first owner owns `n`, so it is in `l1`
    rcases firstOwner_some hk with ⟨hk2, ho⟩
    have hk1 : k ∈ l1 := Classical.byContradiction fun hn => by rw [h k hk2 hn] at ho; cases ho
    exact (firstOwner_sublist hs hnd hk hk1).symm
  | none =>
    rw [firstOwner_eq_find?, List.find?_eq_none] at hk
    rw [firstOwner_eq_find?, eq_comm, List.find?_eq_none]
    exact fun x hx => hk x (hs.subset hx)

end

theorem lookup_dedupKeys {α} (n : String) : ∀ l : List (String × α), lookup n (dedupKeys l) = lookup n l
  | [] => rfl
  | (a, v) :: rest => by
    simp only [dedupKeys, lookup]
    split
    · rfl
    · rename_i hna
      rw [lookup_filter_ne (fun h => hna (by rw [h]; simp)), lookup_dedupKeys n rest]

theorem mem_dedupStr {x : String} : ∀ {l : List String}, x ∈ dedupStr l ↔ x ∈ l
  | [] => Iff.rfl
  | y :: ys => by
    simp only [dedupStr, List.mem_cons, List.mem_filter, mem_dedupStr (l := ys)]
    by_cases h : x = y <;> simp [h]

theorem lookup_mapConst (n : String) (b : Bool) :
    ∀ l : List String, lookup n (l.map fun k => (k, b)) = if l.contains n then some b else none
  | [] => rfl
  | k :: ks => by
    simp only [List.map_cons, lookup, List.contains_cons, lookup_mapConst n b ks]
    by_cases h : n = k <;> simp [h]

theorem lookup_map_key {α β} (f : String → β) (n : String) : ∀ l : List (String × α),
    lookup n (l.map fun p => (p.1, f p.1)) = (lookup n l).map fun _ => f n
  | [] => rfl
  | (k, v) :: rest => by
    simp only [List.map_cons, lookup]
    split
    · rename_i h; rw [eq_of_beq h]; rfl
    · exact lookup_map_key f n rest

end Typedpy
