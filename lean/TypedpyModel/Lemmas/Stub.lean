/-
  Lemmas/Stub.lean — the stub / runtime-signature model of Sem/Stub.lean.  The merged field table of an MRO has
  distinct keys (`NodupN`); a lookup after `overlay` finds the last own definition, else what was there (`lookupLast`).
  `BaseInv` is the invariant of the `get_base_info` loop; under it membership in `make_signature` has a closed form
  (`mem_makeSignature`), and an induction over the tree of bases (`names_inv`) shows that the runtime signature accepts
  exactly the names whose final field is not a Constant, which is the set the stub generator reads (`names_stubArgs`).
-/
import TypedpyModel.Sem.Stub
import TypedpyModel.Lemmas.ListBasic
namespace Typedpy.Stub

theorem mem_dedupS (xs : List String) (s : String) : s ∈ dedupS xs ↔ s ∈ xs :=
  mem_dedupLast (by rw [dedupS]) (fun _ _ => by rw [dedupS]) s xs

/-- last field named `n` (proof helper: what `overlay` ends up storing) -/
def lookupLast : List FieldInfo → String → Option FieldInfo
  | [], _ => none
  | f :: fs, n => (lookupLast fs n).or (if f.name = n then some f else none)

theorem map_name_upsert (acc : List FieldInfo) (f : FieldInfo) :
    (upsert acc f).map (·.name) =
      if f.name ∈ acc.map (·.name) then acc.map (·.name) else acc.map (·.name) ++ [f.name] := by
  induction acc with
  | nil => simp [upsert]
  | cons g rest ih =>
    simp only [upsert]
    by_cases h : g.name = f.name
    · simp [h]
    · have h' : ¬ f.name = g.name := fun e => h e.symm
      simp only [h, if_false, List.map_cons, ih, List.mem_cons, h', false_or]
      split <;> simp

theorem lookupF_upsert (acc : List FieldInfo) (f : FieldInfo) (n : String) :
    lookupF (upsert acc f) n = if f.name = n then some f else lookupF acc n := by
  induction acc with
  | nil => simp [upsert, lookupF, List.find?]
  | cons g rest ih =>
    simp only [upsert]
    by_cases h : g.name = f.name
    · simp only [h, if_true, lookupF, List.find?_cons]
      by_cases hn : f.name = n
      · simp [hn]
      · simp [hn]
    · simp only [h, if_false]
      unfold lookupF at ih ⊢
      simp only [List.find?_cons]
      by_cases hg : g.name = n
      · have : ¬ f.name = n := fun e => h (hg.trans e.symm)
        simp [hg, this]
      · simp [hg, ih]

theorem lookupF_overlay (fs acc : List FieldInfo) (n : String) :
    lookupF (overlay acc fs) n = (lookupLast fs n).or (lookupF acc n) := by
  induction fs generalizing acc with
  | nil => simp [overlay, lookupLast]
  | cons f fs ih =>
    have := ih (upsert acc f)
    simp only [overlay, List.foldl_cons] at this ⊢
    rw [this, lookupF_upsert, lookupLast]
    cases lookupLast fs n <;> by_cases h : f.name = n <;> simp [h]

theorem lookupLast_isSome (fs : List FieldInfo) (n : String) :
    (lookupLast fs n).isSome = true ↔ n ∈ fs.map (·.name) := by
  induction fs with
  | nil => simp [lookupLast]
  | cons f fs ih =>
    rw [lookupLast, Option.isSome_or, Bool.or_eq_true, ih, List.map_cons, List.mem_cons, or_comm]
    refine or_congr ?_ Iff.rfl
    by_cases hf : n = f.name
    · simp [hf]
    · simp [hf, Ne.symm hf]

theorem lookupLast_some {fs : List FieldInfo} {n : String} {f : FieldInfo} (h : lookupLast fs n = some f) :
    f ∈ fs ∧ f.name = n := by
  induction fs with
  | nil => simp [lookupLast] at h
  | cons g fs ih =>
    rcases Option.or_eq_some_iff.mp h with hl | ⟨_, hg⟩
    · exact ⟨List.mem_cons_of_mem _ (ih hl).1, (ih hl).2⟩
    · split at hg
      · cases hg
        exact ⟨List.mem_cons_self, ‹_›⟩
      · cases hg

theorem lookupF_some {fs : List FieldInfo} {n : String} {f : FieldInfo} (h : lookupF fs n = some f) :
    f ∈ fs ∧ f.name = n := by
  unfold lookupF at h
  exact ⟨List.mem_of_find?_eq_some h, by simpa using List.find?_some h⟩

theorem lookupF_isSome (fs : List FieldInfo) (n : String) :
    (lookupF fs n).isSome = true ↔ n ∈ fs.map (·.name) := by
  unfold lookupF
  simp only [List.find?_isSome, List.mem_map, decide_eq_true_eq]

def NodupN (fs : List FieldInfo) : Prop := (fs.map (·.name)).Nodup

theorem eq_of_nodup_map {α β : Type} {f : α → β} {l : List α} (h : (l.map f).Nodup) {p q : α} (hp : p ∈ l)
    (hq : q ∈ l) (e : f p = f q) : p = q := by
  induction l with
  | nil => cases hp
  | cons x xs ih =>
    simp only [List.map_cons, List.nodup_cons] at h
    rcases List.mem_cons.mp hp with rfl | hp' <;> rcases List.mem_cons.mp hq with rfl | hq'
    · rfl
    · exact absurd (e ▸ List.mem_map_of_mem hq') h.1
    · exact absurd (e ▸ List.mem_map_of_mem hp') h.1
    · exact ih h.2 hp' hq'

theorem lookupF_of_mem {fs : List FieldInfo} (hn : NodupN fs) {f : FieldInfo} (h : f ∈ fs) :
    lookupF fs f.name = some f := by
  have hs : (lookupF fs f.name).isSome = true := (lookupF_isSome fs f.name).mpr (List.mem_map_of_mem h)
  obtain ⟨g, hg⟩ := Option.isSome_iff_exists.mp hs
  rw [hg, eq_of_nodup_map hn (lookupF_some hg).1 h (lookupF_some hg).2]

theorem nodupN_upsert {acc : List FieldInfo} (h : NodupN acc) (f : FieldInfo) : NodupN (upsert acc f) := by
  unfold NodupN at *
  rw [map_name_upsert]
  split
  · exact h
  · rename_i hne
    exact List.nodup_append.mpr ⟨h, by simp, by
      intro a ha b hb
      simp only [List.mem_singleton] at hb
      subst hb
      exact fun e => hne (e ▸ ha)⟩

theorem nodupN_overlay (fs : List FieldInfo) {acc : List FieldInfo} (h : NodupN acc) : NodupN (overlay acc fs) := by
  induction fs generalizing acc with
  | nil => exact h
  | cons f fs ih => exact ih (nodupN_upsert h f)

theorem nodupN_fieldsByName (ds : List Decl) : NodupN (fieldsByName ds) := by
  induction ds with
  | nil => simp [fieldsByName, NodupN]
  | cons d rest ih => exact nodupN_overlay _ ih

theorem lookupF_fieldsByName_cons (d : Decl) (rest : List Decl) (n : String) :
    lookupF (fieldsByName (d :: rest)) n = (lookupLast d.fields n).or (lookupF (fieldsByName rest) n) := by
  simp only [fieldsByName, lookupF_overlay]

theorem lookupF_fieldsByName_append (xs ys : List Decl) (n : String) :
    lookupF (fieldsByName (xs ++ ys)) n = (lookupF (fieldsByName xs) n).or (lookupF (fieldsByName ys) n) := by
  induction xs with
  | nil => simp [fieldsByName, lookupF]
  | cons x xs ih =>
    simp only [List.cons_append, lookupF_fieldsByName_cons, ih, Option.or_assoc]

/-- invariant of the `get_base_info` loop: exactly the inherited parameters without default are in
    `bases_required`, and `bases_required` only names inherited parameters -/
def BaseInv (acc : List Param × List String) : Prop :=
  (∀ p ∈ acc.1, (p.name ∈ acc.2 ↔ p.hasDefault = false)) ∧ (∀ n ∈ acc.2, n ∈ acc.1.map (·.name))

theorem any_name_iff (ps : List Param) (n : String) :
    ps.any (fun q => q.name = n) = true ↔ n ∈ ps.map (·.name) := by
  simp only [List.any_eq_true, decide_eq_true_eq, List.mem_map]

theorem names_replaceP (ps : List Param) (p : Param) : (replaceP ps p).map (·.name) = ps.map (·.name) := by
  rw [replaceP, List.map_map]
  refine List.map_congr_left fun q _ => ?_
  show (if q.name = p.name then p else q).name = q.name
  split
  · exact ‹q.name = p.name›.symm
  · rfl

theorem names_bpStep (acc : List Param × List String) (p : Param) (n : String) :
    n ∈ (bpStep acc p).1.map (·.name) ↔ n ∈ acc.1.map (·.name) ∨ n = p.name := by
  unfold bpStep
  by_cases h : acc.1.any (fun q => q.name = p.name) = true
  · have hp : p.name ∈ acc.1.map (·.name) := (any_name_iff _ _).mp h
    simp only [h, if_true]
    rw [or_iff_left_of_imp (by rintro rfl; exact hp)]
    split
    · rw [names_replaceP]
    · exact Iff.rfl
  · simp only [h]
    simp [List.mem_append]

theorem baseInv_bpStep {acc : List Param × List String} (h : BaseInv acc) (p : Param) : BaseInv (bpStep acc p) := by
  unfold bpStep
  by_cases hc : acc.1.any (fun q => q.name = p.name) = true
  · rw [if_pos hc]
    have hp : p.name ∈ acc.1.map (·.name) := (any_name_iff _ _).mp hc
    split
    · rename_i hcond
      simp only [Bool.and_eq_true, Bool.not_eq_true', List.contains_eq_mem, decide_eq_false_iff_not] at hcond
      refine ⟨?_, ?_⟩
      · intro q hq
        dsimp only at hq ⊢
        unfold replaceP at hq
        obtain ⟨r, hr, rfl⟩ := List.mem_map.mp hq
        by_cases hrn : r.name = p.name
        · simp only [hrn, if_true, List.mem_append, List.mem_singleton, or_true, true_iff]
          exact hcond.2
        · simp only [hrn, if_false, List.mem_append, List.mem_singleton, or_false]
          exact h.1 r hr
      · intro n hn
        dsimp only at hn ⊢
        rw [names_replaceP]
        simp only [List.mem_append, List.mem_singleton] at hn
        rcases hn with hn | rfl
        · exact h.2 n hn
        · exact hp
    · exact h
  · have hnot : ¬ p.name ∈ acc.1.map (·.name) := fun e => hc ((any_name_iff _ _).mpr e)
    have hnot2 : ¬ p.name ∈ acc.2 := fun e => hnot (h.2 _ e)
    rw [if_neg hc]
    refine ⟨?_, ?_⟩
    · intro q hq
      dsimp only at hq ⊢
      simp only [List.mem_append, List.mem_singleton] at hq
      rcases hq with hq | rfl
      · have hne : ¬ q.name = p.name := fun e => hnot (e ▸ List.mem_map_of_mem (f := (·.name)) hq)
        cases hd : p.hasDefault
        · simp [hne, h.1 q hq]
        · simp [h.1 q hq]
      · cases hd : q.hasDefault
        · simp
        · simp [hnot2]
    · intro n hn
      dsimp only at hn ⊢
      cases hd : p.hasDefault
      · simp only [hd, Bool.false_eq_true, if_false, List.mem_append, List.mem_singleton] at hn
        rcases hn with hn | rfl
        · simp [List.mem_append]; exact Or.inl (by simpa using h.2 n hn)
        · simp
      · simp only [hd, if_true] at hn
        simp [List.mem_append]; exact Or.inl (by simpa using h.2 n hn)

theorem fold_bpStep (ps : List Param) (acc : List Param × List String) (h : BaseInv acc) :
    BaseInv (ps.foldl bpStep acc) ∧
    ∀ n, n ∈ (ps.foldl bpStep acc).1.map (·.name) ↔ n ∈ acc.1.map (·.name) ∨ n ∈ ps.map (·.name) := by
  induction ps generalizing acc with
  | nil => exact ⟨h, by simp⟩
  | cons p ps ih =>
    obtain ⟨h1, h2⟩ := ih (bpStep acc p) (baseInv_bpStep h p)
    refine ⟨h1, fun n => ?_⟩
    simp only [List.foldl_cons, h2, names_bpStep, List.map_cons, List.mem_cons]
    exact or_assoc

theorem fold_sigs (sigs : List Sig) (acc : List Param × List String) (h : BaseInv acc) :
    BaseInv (sigs.foldl (fun acc s => s.params.foldl bpStep acc) acc) ∧
    ∀ n, n ∈ (sigs.foldl (fun acc s => s.params.foldl bpStep acc) acc).1.map (·.name) ↔
      n ∈ acc.1.map (·.name) ∨ ∃ s ∈ sigs, n ∈ s.params.map (·.name) := by
  induction sigs generalizing acc with
  | nil => exact ⟨h, by simp⟩
  | cons s sigs ih =>
    obtain ⟨hb, hn⟩ := fold_bpStep s.params acc h
    obtain ⟨h1, h2⟩ := ih _ hb
    refine ⟨h1, fun n => ?_⟩
    simp only [List.foldl_cons, h2, hn, List.mem_cons, exists_eq_or_imp, or_assoc]

theorem baseInfoOf_inv (sigs : List Sig) : BaseInv (baseInfoOf sigs) :=
  (fold_sigs sigs ([], []) ⟨by simp, by simp⟩).1

theorem baseInfoOf_names (sigs : List Sig) (n : String) :
    n ∈ (baseInfoOf sigs).1.map (·.name) ↔ ∃ s ∈ sigs, n ∈ s.params.map (·.name) := by
  have := (fold_sigs sigs ([], []) ⟨by simp, by simp⟩).2 n
  unfold baseInfoOf
  simpa using this

theorem param_eq {p q : Param} (h1 : p.name = q.name) (h2 : p.hasDefault = q.hasDefault) : p = q := by
  cases p; cases q; simp_all

/-- the value `{**xs, **ys}` keeps under the key of `x`: the entry of `ys` with that name, else `x` itself -/
theorem dictMerge_value (ys : List Param) (x : Param) :
    ((ys.find? (fun q => q.name = x.name)).getD x).name = x.name ∧
      ((ys.find? (fun q => q.name = x.name)).getD x ∈ ys ∨
        ((ys.find? (fun q => q.name = x.name)).getD x = x ∧ x.name ∉ ys.map (·.name))) := by
  cases hf : ys.find? (fun q => q.name = x.name) with
  | some y => exact ⟨by simpa using List.find?_some hf, .inl (List.mem_of_find?_eq_some hf)⟩
  | none =>
    refine ⟨rfl, .inr ⟨rfl, fun hmem => ?_⟩⟩
    obtain ⟨y, hym, hyn⟩ := List.mem_map.mp hmem
    simpa [hyn] using List.find?_eq_none.mp hf y hym

/-- `{**xs, **ys}` when every surviving value carries the same default flag `b` -/
theorem mem_dictMerge_flag (b : Bool) (xs ys : List Param)
    (hx : ∀ x ∈ xs, x.hasDefault = b ∨ x.name ∈ ys.map (·.name))
    (hy : ∀ y ∈ ys, y.hasDefault = b) (p : Param) :
    p ∈ dictMerge xs ys ↔ (p.hasDefault = b ∧ (p.name ∈ xs.map (·.name) ∨ p.name ∈ ys.map (·.name))) := by
  have hflag : ∀ x ∈ xs, ((ys.find? (fun q => q.name = x.name)).getD x).hasDefault = b := by
    intro x hxm
    rcases (dictMerge_value ys x).2 with hr | ⟨hr, hnot⟩
    · exact hy _ hr
    · rw [hr]; exact (hx x hxm).resolve_right hnot
  unfold dictMerge
  simp only [List.mem_append, List.mem_map, List.mem_filter]
  constructor
  · rintro (⟨x, hxm, rfl⟩ | ⟨hpy, _⟩)
    · exact ⟨hflag x hxm, .inl ⟨x, hxm, (dictMerge_value ys x).1.symm⟩⟩
    · exact ⟨hy p hpy, .inr ⟨p, hpy, rfl⟩⟩
  · rintro ⟨hb, hn⟩
    by_cases hex : ∃ x ∈ xs, x.name = p.name
    · obtain ⟨x, hxm, hxn⟩ := hex
      exact .inl ⟨x, hxm, param_eq ((dictMerge_value ys x).1.trans hxn) ((hflag x hxm).trans hb.symm)⟩
    · obtain ⟨y, hym, hyn⟩ := hn.resolve_left hex
      obtain rfl : y = p := param_eq hyn ((hy y hym).trans hb.symm)
      refine .inr ⟨hym, ?_⟩
      simp only [Bool.not_eq_true', List.any_eq_false, decide_eq_true_eq]
      exact fun x hxm hxn => hex ⟨x, hxm, hxn⟩

theorem mem_filter_name (ps : List Param) (Q : String → Bool) (n : String) :
    n ∈ (ps.filter (fun p => Q p.name)).map (·.name) ↔ n ∈ ps.map (·.name) ∧ Q n = true := by
  simp only [List.mem_map, List.mem_filter]
  constructor
  · rintro ⟨p, ⟨hp, hq⟩, rfl⟩; exact ⟨⟨p, hp, rfl⟩, hq⟩
  · rintro ⟨⟨p, hp, rfl⟩, hq⟩; exact ⟨p, ⟨hp, hq⟩, rfl⟩

theorem mem_makeSignature (own req : List String) (addl : Bool) (bp : List Param) (breq consts : List String)
    (hinv : BaseInv (bp, breq)) (p : Param) :
    p ∈ (makeSignature own req addl bp breq consts).params ↔
      (p.hasDefault = false ∧ (p.name ∈ own ∨ p.name ∈ bp.map (·.name)) ∧ p.name ∉ consts ∧
          (p.name ∈ req ∨ p.name ∈ breq)) ∨
      (p.hasDefault = true ∧ p.name ∉ consts ∧ p.name ∉ req ∧
          (p.name ∈ own ∨ (p.name ∈ bp.map (·.name) ∧ p.name ∉ breq))) := by
  have hq : p.name ∈ breq → p.name ∈ bp.map (·.name) := hinv.2 _
  unfold makeSignature
  simp only [List.mem_append]
  rw [mem_dictMerge_flag false, mem_dictMerge_flag true]
  · rw [mem_filter_name bp (fun n => (req.contains n || breq.contains n) && !consts.contains n),
        mem_filter_name bp (fun n => !req.contains n && !breq.contains n && !consts.contains n)]
    simp only [List.map_map, List.mem_map, List.mem_filter, mem_dedupS, List.mem_append, Function.comp,
      Bool.and_eq_true, Bool.or_eq_true, Bool.not_eq_true', exists_eq_right,
      List.contains_eq_mem, decide_eq_true_eq, decide_eq_false_iff_not] at hq ⊢
    refine or_congr (and_congr_right fun _ => ⟨?_, ?_⟩) (and_congr_right fun _ => ⟨?_, ?_⟩)
    · rintro (⟨hB, hRQ, hC⟩ | ⟨⟨hAB, hC⟩, hR⟩)
      · exact ⟨.inr hB, hC, hRQ⟩
      · exact ⟨hAB, hC, .inl hR⟩
    · rintro ⟨hAB, hC, hR | hQ⟩
      · exact .inr ⟨⟨hAB, hC⟩, hR⟩
      · exact .inl ⟨hq hQ, .inr hQ, hC⟩
    · rintro (⟨hB, ⟨hR, hQ⟩, hC⟩ | ⟨hA, hR, hC⟩)
      · exact ⟨hC, hR, .inr ⟨hB, hQ⟩⟩
      · exact ⟨hC, hR, .inl hA⟩
    · rintro ⟨hC, hR, hA | ⟨hB, hQ⟩⟩
      · exact .inr ⟨hA, hR, hC⟩
      · exact .inl ⟨hB, ⟨hR, hQ⟩, hC⟩
  -- the side conditions of `mem_dictMerge_flag`: by `BaseInv` an inherited parameter lacks a default exactly when it is
  -- in `bases_required`, so each of the two filters of `bp` holds one flag only, or names the class part overrides
  · intro x hx
    simp only [List.mem_filter, Bool.and_eq_true, Bool.not_eq_true', List.contains_eq_mem,
      decide_eq_false_iff_not] at hx
    left
    cases hd : x.hasDefault
    · exact absurd ((hinv.1 x hx.1).mpr hd) hx.2.1.2
    · rfl
  · intro y hy
    simp only [List.mem_map] at hy
    obtain ⟨n, _, rfl⟩ := hy
    rfl
  · intro x hx
    simp only [List.mem_filter, Bool.and_eq_true, Bool.or_eq_true, Bool.not_eq_true', List.contains_eq_mem,
      decide_eq_true_eq, decide_eq_false_iff_not] at hx
    by_cases hr : x.name ∈ req
    · right
      simp only [List.map_map, List.mem_map, List.mem_filter, mem_dedupS, List.mem_append, Function.comp,
        Bool.not_eq_true', List.contains_eq_mem, decide_eq_true_eq, decide_eq_false_iff_not, exists_eq_right]
      exact ⟨⟨Or.inr ⟨x, hx.1, rfl⟩, hx.2.2⟩, hr⟩
    · left
      rcases hx.2.1 with h | h
      · exact absurd h hr
      · exact (hinv.1 x hx.1).mp h
  · intro y hy
    simp only [List.mem_map] at hy
    obtain ⟨n, _, rfl⟩ := hy
    rfl

theorem names_makeSignature (own req : List String) (addl : Bool) (bp : List Param) (breq consts : List String)
    (hinv : BaseInv (bp, breq)) (n : String) :
    n ∈ (makeSignature own req addl bp breq consts).params.map (·.name) ↔
      (n ∈ own ∨ n ∈ bp.map (·.name)) ∧ n ∉ consts := by
  constructor
  · intro h
    obtain ⟨p, hp, rfl⟩ := List.mem_map.mp h
    rcases (mem_makeSignature own req addl bp breq consts hinv p).mp hp with ⟨_, h1, h2, _⟩ | ⟨_, h2, _, h1⟩
    · exact ⟨h1, h2⟩
    · exact ⟨h1.elim Or.inl (fun h => Or.inr h.1), h2⟩
  · rintro ⟨h1, h2⟩
    by_cases hr : n ∈ req ∨ n ∈ breq
    · exact List.mem_map.mpr ⟨⟨n, false⟩,
        (mem_makeSignature own req addl bp breq consts hinv ⟨n, false⟩).mpr (Or.inl ⟨rfl, h1, h2, hr⟩), rfl⟩
    · have hr1 : n ∉ req := fun e => hr (Or.inl e)
      have hr2 : n ∉ breq := fun e => hr (Or.inr e)
      exact List.mem_map.mpr ⟨⟨n, true⟩,
        (mem_makeSignature own req addl bp breq consts hinv ⟨n, true⟩).mpr
          (Or.inr ⟨rfl, h2, hr1, h1.elim Or.inl (fun h => Or.inr ⟨h, hr2⟩)⟩), rfl⟩

/-- the field a name finally denotes in a class (most derived definition wins) -/
def finalField (c : ClassInfo) (n : String) : Option FieldInfo := lookupF (allFields c) n

theorem mem_constNames {fs : List FieldInfo} (hn : NodupN fs) (n : String) :
    n ∈ constNames fs ↔ ∃ f, lookupF fs n = some f ∧ f.isConst = true := by
  unfold constNames
  simp only [List.mem_map, List.mem_filter]
  constructor
  · rintro ⟨f, ⟨hf, hc⟩, rfl⟩; exact ⟨f, lookupF_of_mem hn hf, hc⟩
  · rintro ⟨f, hl, hc⟩; exact ⟨f, ⟨(lookupF_some hl).1, hc⟩, (lookupF_some hl).2⟩

theorem lookup_bases (bs : List ClassInfo) (n : String) :
    lookupF (fieldsByName (mroL bs)) n = bs.findSome? (finalField · n) := by
  induction bs with
  | nil => rfl
  | cons b bs ih =>
    rw [List.findSome?_cons, ← ih]
    simp only [mroL, lookupF_fieldsByName_append, finalField, allFields]
    cases lookupF (fieldsByName (mro b)) n <;> rfl

theorem mem_runtimeSigs (dflt : Bool) (bs : List ClassInfo) (s : Sig) :
    s ∈ runtimeSigs dflt bs ↔ ∃ b ∈ bs, s = runtimeSig dflt b := by
  induction bs with
  | nil => simp [runtimeSigs]
  | cons b bs ih =>
    simp only [runtimeSigs, List.mem_cons, ih, exists_eq_or_imp]

theorem names_step (dflt : Bool) (d : Decl) (bases : List ClassInfo)
    (ih : ∀ b ∈ bases, ∀ n, n ∈ (runtimeSig dflt b).params.map (·.name) ↔
            ∃ f, finalField b n = some f ∧ f.isConst = false) (n : String) :
    n ∈ (runtimeSig dflt (.mk d bases)).params.map (·.name) ↔
      ∃ f, finalField (.mk d bases) n = some f ∧ f.isConst = false := by
  have hN : NodupN (fieldsByName (d :: mroL bases)) := nodupN_fieldsByName _
  have hF : finalField (.mk d bases) n = (lookupLast d.fields n).or (lookupF (fieldsByName (mroL bases)) n) :=
    lookupF_fieldsByName_cons _ _ _
  have hinv : BaseInv ((baseInfoOf (runtimeSigs dflt bases)).1, (baseInfoOf (runtimeSigs dflt bases)).2) :=
    baseInfoOf_inv _
  simp only [runtimeSig, sigOf]
  rw [names_makeSignature _ _ _ _ _ _ hinv, baseInfoOf_names, mem_constNames hN, hF, lookupF_fieldsByName_cons,
    lookup_bases]
  constructor
  · rintro ⟨h1, h2⟩
    have hsome : ((lookupLast d.fields n).or (bases.findSome? (finalField · n))).isSome = true := by
      rw [Option.isSome_or, Bool.or_eq_true, lookupLast_isSome, List.findSome?_isSome_iff]
      refine h1.imp_right ?_
      rintro ⟨s, hs, hn⟩
      obtain ⟨b, hb, rfl⟩ := (mem_runtimeSigs dflt bases s).mp hs
      obtain ⟨f, hf, _⟩ := (ih b hb n).mp hn
      exact ⟨b, hb, by rw [hf]; rfl⟩
    obtain ⟨g, hv⟩ := Option.isSome_iff_exists.mp hsome
    refine ⟨g, hv, ?_⟩
    cases hc : g.isConst with
    | false => rfl
    | true => exact absurd ⟨g, hv, hc⟩ h2
  · rintro ⟨f, hf, hc⟩
    refine ⟨?_, ?_⟩
    · rcases Option.or_eq_some_iff.mp hf with hl | ⟨_, hbs⟩
      · exact .inl ((lookupLast_isSome d.fields n).mp (by rw [hl]; rfl))
      · obtain ⟨b, hb, hfb⟩ := List.exists_of_findSome?_eq_some hbs
        exact .inr ⟨runtimeSig dflt b, (mem_runtimeSigs dflt bases _).mpr ⟨b, hb, rfl⟩,
          (ih b hb n).mpr ⟨f, hfb, hc⟩⟩
    · rintro ⟨g, hg, hgc⟩
      rw [hf] at hg
      cases hg
      simp [hc] at hgc

mutual
theorem names_inv (dflt : Bool) : (c : ClassInfo) → ∀ n, n ∈ (runtimeSig dflt c).params.map (·.name) ↔
    ∃ f, finalField c n = some f ∧ f.isConst = false
  | .mk d bases => names_step dflt d bases (names_invL dflt bases)
theorem names_invL (dflt : Bool) : (bs : List ClassInfo) → ∀ b ∈ bs, ∀ n,
    n ∈ (runtimeSig dflt b).params.map (·.name) ↔ ∃ f, finalField b n = some f ∧ f.isConst = false
  | [] => fun _ h => nomatch h
  | b :: bs => fun b' hb' =>
    (List.mem_cons.mp hb').elim (fun e => e ▸ names_inv dflt b) (fun h => names_invL dflt bs b' h)
end

theorem orderedArgs_perm (ps : List Param) : (orderedArgs ps).Perm ps := by
  simpa only [orderedArgs, Bool.not_not] using List.filter_append_perm (fun p : Param => !p.hasDefault) ps

theorem mem_orderedArgs (ps : List Param) (p : Param) : p ∈ orderedArgs ps ↔ p ∈ ps := (orderedArgs_perm ps).mem_iff

theorem mandatoryFirst_of_all (ps : List Param) (h : ∀ p ∈ ps, p.hasDefault = true) : mandatoryFirst ps = true := by
  cases ps with
  | nil => rfl
  | cons p ps =>
    simp only [mandatoryFirst, h p List.mem_cons_self, if_true, List.all_eq_true]
    exact fun q hq => h q (List.mem_cons_of_mem _ hq)

theorem mandatoryFirst_append (xs ys : List Param) (hx : ∀ p ∈ xs, p.hasDefault = false)
    (hy : ∀ p ∈ ys, p.hasDefault = true) : mandatoryFirst (xs ++ ys) = true := by
  induction xs with
  | nil => exact mandatoryFirst_of_all ys hy
  | cons x xs ih =>
    simp only [List.cons_append, mandatoryFirst, hx x List.mem_cons_self, Bool.false_eq_true, if_false]
    exact ih (fun p hp => hx p (List.mem_cons_of_mem _ hp))

theorem mandatoryFirst_orderedArgs (ps : List Param) : mandatoryFirst (orderedArgs ps) = true :=
  mandatoryFirst_append _ _ (fun p hp => by simpa using (List.mem_filter.mp hp).2)
    (fun p hp => by simpa using (List.mem_filter.mp hp).2)

/-- `get_all_type_info` appends `= None` exactly for the names not in `_required`, whatever the shape of the type -/
theorem annEndsNone_eq (req : List String) (f : FieldInfo) : annEndsNone req f = !req.contains f.name := by
  unfold annEndsNone
  cases req.contains f.name <;> cases f.optShape <;> rfl

theorem mem_stubArgs (dflt : Bool) (c : ClassInfo) (p : Param) :
    p ∈ stubArgs dflt c ↔ (∃ f, finalField c p.name = some f ∧ f.isConst = false) ∧
      p.hasDefault = !(clsRequired dflt c).contains p.name := by
  unfold stubArgs allTypeInfo
  rw [mem_orderedArgs]
  simp only [List.mem_map, List.mem_filter, Bool.not_eq_true', annEndsNone_eq]
  constructor
  · rintro ⟨f, ⟨hf, hc⟩, rfl⟩
    exact ⟨⟨f, lookupF_of_mem (nodupN_fieldsByName (mro c)) hf, hc⟩, rfl⟩
  · rintro ⟨⟨f, hl, hc⟩, hd⟩
    have hn := (lookupF_some hl).2
    exact ⟨f, ⟨(lookupF_some hl).1, hc⟩, param_eq hn (by rw [hd, hn])⟩

theorem names_stubArgs (dflt : Bool) (c : ClassInfo) (n : String) :
    n ∈ (stubArgs dflt c).map (·.name) ↔ ∃ f, finalField c n = some f ∧ f.isConst = false := by
  simp only [List.mem_map]
  constructor
  · rintro ⟨p, hp, rfl⟩
    exact ((mem_stubArgs dflt c p).mp hp).1
  · intro h
    exact ⟨⟨n, !(clsRequired dflt c).contains n⟩, (mem_stubArgs dflt c _).mpr ⟨h, rfl⟩, rfl⟩

theorem nodup_names_stubArgs (dflt : Bool) (c : ClassInfo) : ((stubArgs dflt c).map (·.name)).Nodup := by
  unfold stubArgs
  rw [((orderedArgs_perm _).map _).nodup_iff]
  unfold allTypeInfo
  rw [List.map_map]
  have hsub : ((allFields c).filter (fun f => !f.isConst)).map (·.name) |>.Sublist ((allFields c).map (·.name)) :=
    List.Sublist.map _ List.filter_sublist
  exact hsub.nodup (nodupN_fieldsByName (mro c))

theorem runtimeRequired_iff (dflt : Bool) (c : ClassInfo) (n : String) :
    runtimeRequired dflt c n = true ↔
      (∃ f, finalField c n = some f ∧ f.isConst = false) ∧ n ∈ clsRequired dflt c := by
  rw [← names_inv dflt c n]
  unfold runtimeRequired
  rw [List.contains_iff_mem]
  cases c with
  | mk d bases =>
    have hinv : BaseInv ((baseInfoOf (runtimeSigs dflt bases)).1, (baseInfoOf (runtimeSigs dflt bases)).2) :=
      baseInfoOf_inv _
    simp only [runtimeSig, sigOf, clsRequired]
    rw [mem_makeSignature _ _ _ _ _ _ hinv, names_makeSignature _ _ _ _ _ _ hinv]
    simp only [List.mem_append, List.mem_filter]
    constructor
    · rintro (⟨_, h1, h2, h3⟩ | ⟨h, _⟩)
      · exact ⟨⟨h1, h2⟩, Or.inl h3.symm⟩
      · cases h
    · rintro ⟨⟨h1, h2⟩, h3⟩
      rcases h3 with h3 | ⟨hc, _⟩
      · exact Or.inl ⟨trivial, h1, h2, h3.symm⟩
      · exact absurd hc h2

/-- `make_signature` passes its `addl` argument through: the `**kwargs` of `__signature__` is the inherited flag -/
theorem runtimeSig_kw (dflt : Bool) (c : ClassInfo) : (runtimeSig dflt c).kw = (addlLookup (mro c)).getD dflt := by
  cases c with
  | mk d bases => rfl

/-- `__signature__.bind` and the `__setattr__` guard consult the same flag -/
theorem runtimeAdmitsExtra_eq (dflt : Bool) (c : ClassInfo) :
    runtimeAdmitsExtra dflt c = (addlLookup (mro c)).getD dflt := by
  rw [runtimeAdmitsExtra, runtimeSig_kw, setattrAllows, Bool.and_self]

end Typedpy.Stub
