/-
  Lemmas/Basic.lean — what every proof about the validation model starts from.

  * The equations of the recursive model functions (`validate`, `admits`, `norm`, `conforms`, their companions on
    lists, `construct`, `wellFormed`), one per constructor: `<function>_<constructor>`.
  * `FieldDecl.induction`: induction over the declaration tree in which a list of children contributes
    `∀ f ∈ fs, motive f`.  What such an induction needs of a list of children is a lemma named `…_of`
    (`round_trip_zip_of`, `round_trip_any_of`, Lemmas/RoundTrip.lean), proved by list induction with that hypothesis; the
    list statement without the hypothesis follows from the theorem afterwards.  `wfDecls_iff` / `wfFields_iff` bring the
    side condition on children into the same membership form.  (The four theorems of the validation base, `validate_spec`,
    `norm_conforms`, `norm_stable`, `norm_allInst`, do not go through it: they are mutual structural recursions together
    with their list statements, as `validate` / `validateZip` / … are defined.)
  * The facts about association lists (`lookup`) and the inversions of `bindE` / `mapE` (`mapE_eq_ok_iff`: a successful
    `mapE` pass is the relation `Pointwise`, Lemmas/ListBasic.lean, between the two lists).
  * `ErrIn P r`: every error of `r` lies in `P`; closed under the combinators the model is written with, so that "rejects
    only with a documented class" composes along a definition instead of being read off its cases.
-/
import TypedpyModel.Spec.Conforms
import TypedpyModel.Spec.WfDecl
import TypedpyModel.Lemmas.ListBasic
namespace Typedpy
open PyVal (pyEq pyMem pyNodup)

/-! ### equations of the recursive model functions

One per constructor, by `rfl`, so that a proof rewrites with the one equation it needs
(`simp only [validate_seqOf]`) instead of asking for all equations of the function.  The first equation of each
function is proved `by simp only [f]` and not by `rfl`: that makes Lean generate `f`'s own equation lemmas here, once,
for every module further down that rewrites with `f` itself. -/

theorem validate_number (O o v) : validate O (.number o) v = vNumber o v := by simp only [validate]
theorem validate_integer (O o v) : validate O (.integer o) v = vInteger o v := rfl
theorem validate_float (O o v) : validate O (.float o) v = vFloat o v := rfl
theorem validate_string (O lo hi pat v) : validate O (.string lo hi pat) v = vString O lo hi pat v := rfl
theorem validate_boolean (O v) : validate O .boolean v = vBoolean v := rfl
theorem validate_enumLit (O vals v) : validate O (.enumLit vals) v = vEnumLit vals v := rfl
theorem validate_enumCls (O cls names v) : validate O (.enumCls cls names) v = vEnumCls cls names v := rfl
theorem validate_seqAny (O k sz v) :
    validate O (.seqAny k sz) v = vSeq k sz (fun _ => true) (fun xs => .ok xs) v := rfl
theorem validate_seqOf (O k f sz v) :
    validate O (.seqOf k f sz) v = vSeq k sz (fun _ => true) (mapE (validate O f)) v := rfl
theorem validate_seqPos (O k fs addl sz v) :
    validate O (.seqPos k fs addl sz) v =
        vSeq k sz (fun xs => decide (fs.length ≤ xs.length) && (addl || decide (xs.length ≤ fs.length)))
          (validateZip O fs) v := rfl
theorem validate_setAny (O imm sz v) : validate O (.setAny imm sz) v = vSet imm sz (fun xs => .ok xs) v := rfl
theorem validate_setOf (O imm f sz v) :
    validate O (.setOf imm f sz) v = vSet imm sz (mapE (validate O f)) v := rfl
theorem validate_tupleOf (O f uniq v) :
    validate O (.tupleOf f uniq) v = vTuple uniq (fun _ => true) (mapE (validate O f)) v := rfl
theorem validate_tuplePos (O fs uniq v) :
    validate O (.tuplePos fs uniq) v = vTuple uniq (fun xs => fs.length == xs.length) (validateZip O fs) v := rfl
theorem validate_mapAny (O sz v) : validate O (.mapAny sz) v = vMap sz (fun kvs => .ok kvs) v := rfl
theorem validate_mapOf (O kf vf sz v) :
    validate O (.mapOf kf vf sz) v =
        vMap sz (mapE (fun (kv : PyVal × PyVal) =>
          bindE (validate O kf kv.1) fun k' =>
          bindE (validate O vf kv.2) fun v' => .ok (k', v'))) v := rfl
theorem validate_struct (O c fields defaults v) :
    validate O (.struct c fields defaults) v =
        if c.inline then
          vInline v (fun kw =>
            vConstruct c (fields.map (·.1)) kw (validateFields O c defaults kw fields))
        else vClassRef c v := rfl
theorem validate_anyOf (O fs v) : validate O (.anyOf fs) v = validateAny O fs v := rfl
theorem validate_oneOf (O fs v) :
    validate O (.oneOf fs) v = if countOk O fs v == 1 then .ok v else .error .valueErr := rfl
theorem validate_allOf (O fs v) : validate O (.allOf fs) v = bindE (validateEach O fs v) fun _ => .ok v := rfl
theorem validate_notF (O fs v) :
    validate O (.notF fs) v = if countOk O fs v == 0 then .ok v else .error .valueErr := rfl
theorem validate_noneF (O v) : validate O .noneF v = vNone v := rfl
theorem validate_anything (O v) : validate O .anything v = .ok v := rfl

theorem admits_number (O o v) : admits O (.number o) v = aNumber o v := by simp only [admits]
theorem admits_integer (O o v) : admits O (.integer o) v = aInteger o v := rfl
theorem admits_float (O o v) : admits O (.float o) v = aFloat o v := rfl
theorem admits_string (O lo hi pat v) : admits O (.string lo hi pat) v = aString O lo hi pat v := rfl
theorem admits_boolean (O v) : admits O .boolean v = aBoolean v := rfl
theorem admits_enumLit (O vals v) : admits O (.enumLit vals) v = pyMem v vals := rfl
theorem admits_enumCls (O cls names v) : admits O (.enumCls cls names) v = aEnumCls cls names v := rfl
theorem admits_seqAny (O k sz v) :
    admits O (.seqAny k sz) v = aSeq k sz (fun _ => true) (fun _ => true) id v := rfl
theorem admits_seqOf (O k f sz v) :
    admits O (.seqOf k f sz) v = aSeq k sz (fun _ => true) (fun xs => xs.all (admits O f)) (List.map (norm O f)) v := rfl
theorem admits_seqPos (O k fs addl sz v) :
    admits O (.seqPos k fs addl sz) v =
        aSeq k sz (fun xs => decide (fs.length ≤ xs.length) && (addl || decide (xs.length ≤ fs.length)))
          (admitsZip O fs) (normZip O fs) v := rfl
theorem admits_setAny (O imm sz v) : admits O (.setAny imm sz) v = aSet sz (fun _ => true) id v := rfl
theorem admits_setOf (O imm f sz v) :
    admits O (.setOf imm f sz) v = aSet sz (fun xs => xs.all (admits O f)) (List.map (norm O f)) v := rfl
theorem admits_tupleOf (O f uniq v) :
    admits O (.tupleOf f uniq) v =
        aTuple uniq (fun _ => true) (fun xs => xs.all (admits O f)) (List.map (norm O f)) v := rfl
theorem admits_tuplePos (O fs uniq v) :
    admits O (.tuplePos fs uniq) v =
        aTuple uniq (fun xs => fs.length == xs.length) (admitsZip O fs) (normZip O fs) v := rfl
theorem admits_mapAny (O sz v) : admits O (.mapAny sz) v = aMap sz (fun _ => true) id v := rfl
theorem admits_mapOf (O kf vf sz v) :
    admits O (.mapOf kf vf sz) v =
        aMap sz (fun kvs => kvs.all (fun kv => admits O kf kv.1 && admits O vf kv.2))
          (List.map (fun kv => (norm O kf kv.1, norm O vf kv.2))) v := rfl
theorem admits_struct (O c fields defaults v) :
    admits O (.struct c fields defaults) v =
        if c.inline then
          aInline v (fun kw => kwShapeOk c (fields.map (·.1)) kw && admitsFields O c defaults kw fields)
        else aClassRef c v := rfl
theorem admits_anyOf (O fs v) : admits O (.anyOf fs) v = admitsAny O fs v := rfl
theorem admits_oneOf (O fs v) : admits O (.oneOf fs) v = (countAdmits O fs v == 1) := rfl
theorem admits_allOf (O fs v) : admits O (.allOf fs) v = admitsAll O fs v := rfl
theorem admits_notF (O fs v) : admits O (.notF fs) v = (countAdmits O fs v == 0) := rfl
theorem admits_noneF (O v) : admits O .noneF v = v.isNone := rfl
theorem admits_anything (O v) : admits O .anything v = true := rfl

theorem norm_number (O o v) : norm O (.number o) v = v := by simp only [norm]
theorem norm_integer (O o v) : norm O (.integer o) v = v := rfl
theorem norm_float (O o v) : norm O (.float o) v = nFloat v := rfl
theorem norm_string (O lo hi pat v) : norm O (.string lo hi pat) v = v := rfl
theorem norm_boolean (O v) : norm O .boolean v = nBoolean v := rfl
theorem norm_enumLit (O vals v) : norm O (.enumLit vals) v = v := rfl
theorem norm_enumCls (O cls names v) : norm O (.enumCls cls names) v = nEnumCls cls v := rfl
theorem norm_seqAny (O k sz v) : norm O (.seqAny k sz) v = nSeq k id v := rfl
theorem norm_seqOf (O k f sz v) : norm O (.seqOf k f sz) v = nSeq k (List.map (norm O f)) v := rfl
theorem norm_seqPos (O k fs addl sz v) : norm O (.seqPos k fs addl sz) v = nSeq k (normZip O fs) v := rfl
theorem norm_setAny (O imm sz v) : norm O (.setAny imm sz) v = nSet imm id v := rfl
theorem norm_setOf (O imm f sz v) : norm O (.setOf imm f sz) v = nSet imm (List.map (norm O f)) v := rfl
theorem norm_tupleOf (O f uniq v) : norm O (.tupleOf f uniq) v = nTuple (List.map (norm O f)) v := rfl
theorem norm_tuplePos (O fs uniq v) : norm O (.tuplePos fs uniq) v = nTuple (normZip O fs) v := rfl
theorem norm_mapAny (O sz v) : norm O (.mapAny sz) v = nMap id v := rfl
theorem norm_mapOf (O kf vf sz v) :
    norm O (.mapOf kf vf sz) v = nMap (List.map (fun kv => (norm O kf kv.1, norm O vf kv.2))) v := rfl
theorem norm_struct (O c fields defaults v) :
    norm O (.struct c fields defaults) v =
        if c.inline then
          nInline v (fun kw =>
            .inst c.name (extrasOf c (fields.map (·.1)) kw ++ normFields O c defaults kw fields))
        else v := rfl
theorem norm_anyOf (O fs v) : norm O (.anyOf fs) v = normAny O fs v := rfl
theorem norm_oneOf (O fs v) : norm O (.oneOf fs) v = v := rfl
theorem norm_allOf (O fs v) : norm O (.allOf fs) v = v := rfl
theorem norm_notF (O fs v) : norm O (.notF fs) v = v := rfl
theorem norm_noneF (O v) : norm O .noneF v = v := rfl
theorem norm_anything (O v) : norm O .anything v = v := rfl

theorem conforms_number (O o v) : conforms O (.number o) v = aNumber o v := by simp only [conforms]
theorem conforms_integer (O o v) : conforms O (.integer o) v = aInteger o v := rfl
theorem conforms_float (O o v) : conforms O (.float o) v = cFloat o v := rfl
theorem conforms_string (O lo hi pat v) : conforms O (.string lo hi pat) v = aString O lo hi pat v := rfl
theorem conforms_boolean (O v) : conforms O .boolean v = cBoolean v := rfl
theorem conforms_enumLit (O vals v) : conforms O (.enumLit vals) v = pyMem v vals := rfl
theorem conforms_enumCls (O cls names v) : conforms O (.enumCls cls names) v = cEnumCls cls names v := rfl
theorem conforms_seqAny (O k sz v) :
    conforms O (.seqAny k sz) v = cSeq k sz (fun _ => true) (fun _ => true) v := rfl
theorem conforms_seqOf (O k f sz v) :
    conforms O (.seqOf k f sz) v = cSeq k sz (fun _ => true) (fun xs => xs.all (conforms O f)) v := rfl
theorem conforms_seqPos (O k fs addl sz v) :
    conforms O (.seqPos k fs addl sz) v =
        cSeq k sz (fun xs => decide (fs.length ≤ xs.length) && (addl || decide (xs.length ≤ fs.length)))
          (conformsZip O fs) v := rfl
theorem conforms_setAny (O imm sz v) : conforms O (.setAny imm sz) v = cSet imm sz (fun _ => true) v := rfl
theorem conforms_setOf (O imm f sz v) :
    conforms O (.setOf imm f sz) v = cSet imm sz (fun xs => xs.all (conforms O f)) v := rfl
theorem conforms_tupleOf (O f uniq v) :
    conforms O (.tupleOf f uniq) v = cTuple uniq (fun _ => true) (fun xs => xs.all (conforms O f)) v := rfl
theorem conforms_tuplePos (O fs uniq v) :
    conforms O (.tuplePos fs uniq) v = cTuple uniq (fun xs => fs.length == xs.length) (conformsZip O fs) v := rfl
theorem conforms_mapAny (O sz v) : conforms O (.mapAny sz) v = cMap sz (fun _ => true) v := rfl
theorem conforms_mapOf (O kf vf sz v) :
    conforms O (.mapOf kf vf sz) v =
        cMap sz (fun kvs => kvs.all (fun kv => conforms O kf kv.1 && conforms O vf kv.2)) v := rfl
theorem conforms_struct (O c fields defaults v) :
    conforms O (.struct c fields defaults) v =
        if c.inline then
          cInline c v (fun attrs => wfAttrs c (fields.map (·.1)) attrs (fieldsConform O attrs fields))
        else aClassRef c v := rfl
theorem conforms_anyOf (O fs v) : conforms O (.anyOf fs) v = conformsAny O fs v := rfl
theorem conforms_oneOf (O fs v) : conforms O (.oneOf fs) v = (countAdmits O fs v == 1) := rfl
theorem conforms_allOf (O fs v) : conforms O (.allOf fs) v = admitsAll O fs v := rfl
theorem conforms_notF (O fs v) : conforms O (.notF fs) v = (countAdmits O fs v == 0) := rfl
theorem conforms_noneF (O v) : conforms O .noneF v = v.isNone := rfl
theorem conforms_anything (O v) : conforms O .anything v = true := rfl

theorem validateZip_nil (O xs) : validateZip O [] xs = .ok xs := by simp only [validateZip]
theorem validateZip_cons_nil (O f fs) : validateZip O (f :: fs) [] = .ok [] := rfl
theorem validateZip_cons_cons (O f fs x xs) :
    validateZip O (f :: fs) (x :: xs)
      = bindE (validate O f x) fun y => bindE (validateZip O fs xs) fun ys => .ok (y :: ys) := rfl
theorem validateAny_nil (O v) : validateAny O [] v = .error .valueErr := by simp only [validateAny]
theorem validateAny_cons (O f fs v) :
    validateAny O (f :: fs) v
      = match validate O f v with
        | .ok y => .ok y
        | .error _ => validateAny O fs v := rfl
theorem countOk_nil (O v) : countOk O [] v = 0 := by simp only [countOk]
theorem countOk_cons (O f fs v) :
    countOk O (f :: fs) v
      = (match validate O f v with | .ok _ => 1 | .error _ => 0) + countOk O fs v := rfl
theorem validateEach_nil (O v) : validateEach O [] v = .ok () := by simp only [validateEach]
theorem validateEach_cons (O f fs v) :
    validateEach O (f :: fs) v = bindE (validate O f v) fun _ => validateEach O fs v := rfl
theorem validateFields_nil (O c defaults kw) : validateFields O c defaults kw [] = .ok [] := by simp only [validateFields]
theorem validateFields_cons (O c defaults kw name f rest) :
    validateFields O c defaults kw ((name, f) :: rest)
      = match argFor c defaults kw name with
        | none => validateFields O c defaults kw rest
        | some v =>
          bindE (validate O f v) fun y =>
          bindE (validateFields O c defaults kw rest) fun ys => .ok ((name, y) :: ys) := rfl
theorem construct_struct (O c fields defaults kw) :
    construct O (.struct c fields defaults) kw
      = vConstruct c (fields.map (·.1)) kw (validateFields O c defaults kw fields) := rfl

theorem admitsZip_nil (O xs) : admitsZip O [] xs = true := by simp only [admitsZip]
theorem admitsZip_cons_nil (O f fs) : admitsZip O (f :: fs) [] = true := rfl
theorem admitsZip_cons_cons (O f fs x xs) :
    admitsZip O (f :: fs) (x :: xs) = (admits O f x && admitsZip O fs xs) := rfl
theorem normZip_nil (O xs) : normZip O [] xs = xs := by simp only [normZip]
theorem normZip_cons_nil (O f fs) : normZip O (f :: fs) [] = [] := rfl
theorem normZip_cons_cons (O f fs x xs) : normZip O (f :: fs) (x :: xs) = norm O f x :: normZip O fs xs := rfl
theorem admitsAny_nil (O v) : admitsAny O [] v = false := by simp only [admitsAny]
theorem admitsAny_cons (O f fs v) : admitsAny O (f :: fs) v = (admits O f v || admitsAny O fs v) := rfl
theorem admitsAll_nil (O v) : admitsAll O [] v = true := by simp only [admitsAll]
theorem admitsAll_cons (O f fs v) : admitsAll O (f :: fs) v = (admits O f v && admitsAll O fs v) := rfl
theorem countAdmits_nil (O v) : countAdmits O [] v = 0 := by simp only [countAdmits]
theorem countAdmits_cons (O f fs v) :
    countAdmits O (f :: fs) v = (if admits O f v then 1 else 0) + countAdmits O fs v := rfl
theorem normAny_nil (O v) : normAny O [] v = v := by simp only [normAny]
theorem normAny_cons (O f fs v) :
    normAny O (f :: fs) v = if admits O f v then norm O f v else normAny O fs v := rfl
theorem admitsFields_nil (O c defaults kw) : admitsFields O c defaults kw [] = true := by simp only [admitsFields]
theorem admitsFields_cons (O c defaults kw name f rest) :
    admitsFields O c defaults kw ((name, f) :: rest)
      = ((match argFor c defaults kw name with
          | none => true
          | some v => admits O f v) && admitsFields O c defaults kw rest) := rfl
theorem normFields_nil (O c defaults kw) : normFields O c defaults kw [] = [] := by simp only [normFields]
theorem normFields_cons (O c defaults kw name f rest) :
    normFields O c defaults kw ((name, f) :: rest)
      = match argFor c defaults kw name with
        | none => normFields O c defaults kw rest
        | some v => (name, norm O f v) :: normFields O c defaults kw rest := rfl

theorem conformsZip_nil (O xs) : conformsZip O [] xs = true := by simp only [conformsZip]
theorem conformsZip_cons_nil (O f fs) : conformsZip O (f :: fs) [] = true := rfl
theorem conformsZip_cons_cons (O f fs x xs) :
    conformsZip O (f :: fs) (x :: xs) = (conforms O f x && conformsZip O fs xs) := rfl
theorem conformsAny_nil (O v) : conformsAny O [] v = false := by simp only [conformsAny]
theorem conformsAny_cons (O f fs v) :
    conformsAny O (f :: fs) v = (conforms O f v || conformsAny O fs v) := rfl
theorem fieldsConform_nil (O attrs) : fieldsConform O attrs [] = true := by simp only [fieldsConform]
theorem fieldsConform_cons (O attrs name f rest) :
    fieldsConform O attrs ((name, f) :: rest)
      = ((match lookup name attrs with
          | some v => conforms O f v
          | none => true) && fieldsConform O attrs rest) := rfl
theorem wellFormed_struct (O c fields defaults x) :
    wellFormed O (.struct c fields defaults) x
      = cInline c x (fun attrs => wfAttrs c (fields.map (·.1)) attrs (fieldsConform O attrs fields)) := rfl

/-- Induction over the declaration tree with the children of a node given by membership (the recursor of the
    nested inductive has auxiliary motives for the two kinds of list and for the pair instead). -/
theorem FieldDecl.induction {motive : FieldDecl → Prop}
    (number : ∀ o, motive (.number o)) (integer : ∀ o, motive (.integer o))
    (float : ∀ o, motive (.float o)) (string : ∀ lo hi pat, motive (.string lo hi pat))
    (boolean : motive .boolean) (enumLit : ∀ vals, motive (.enumLit vals))
    (enumCls : ∀ cls names, motive (.enumCls cls names)) (seqAny : ∀ k sz, motive (.seqAny k sz))
    (seqOf : ∀ k f sz, motive f → motive (.seqOf k f sz))
    (seqPos : ∀ k fs addl sz, (∀ f ∈ fs, motive f) → motive (.seqPos k fs addl sz))
    (setAny : ∀ imm sz, motive (.setAny imm sz))
    (setOf : ∀ imm f sz, motive f → motive (.setOf imm f sz))
    (tupleOf : ∀ f uniq, motive f → motive (.tupleOf f uniq))
    (tuplePos : ∀ fs uniq, (∀ f ∈ fs, motive f) → motive (.tuplePos fs uniq))
    (mapAny : ∀ sz, motive (.mapAny sz))
    (mapOf : ∀ kf vf sz, motive kf → motive vf → motive (.mapOf kf vf sz))
    (struct : ∀ c fields defaults, (∀ nf ∈ fields, motive nf.2) → motive (.struct c fields defaults))
    (anyOf : ∀ fs, (∀ f ∈ fs, motive f) → motive (.anyOf fs))
    (oneOf : ∀ fs, (∀ f ∈ fs, motive f) → motive (.oneOf fs))
    (allOf : ∀ fs, (∀ f ∈ fs, motive f) → motive (.allOf fs))
    (notF : ∀ fs, (∀ f ∈ fs, motive f) → motive (.notF fs))
    (noneF : motive .noneF) (anything : motive .anything) (f : FieldDecl) : motive f :=
  FieldDecl.rec (motive_1 := motive) (motive_2 := fun fs => ∀ f ∈ fs, motive f)
    (motive_3 := fun fields => ∀ nf ∈ fields, motive nf.2) (motive_4 := fun nf => motive nf.2)
    number integer float string boolean enumLit enumCls seqAny seqOf seqPos setAny setOf tupleOf
    tuplePos mapAny mapOf struct anyOf oneOf allOf notF noneF anything
    (fun _ h => nomatch h) (fun _ _ hg hgs _ h => (List.mem_cons.1 h).elim (· ▸ hg) (hgs _))
    (fun _ h => nomatch h) (fun _ _ hg hgs _ h => (List.mem_cons.1 h).elim (· ▸ hg) (hgs _))
    (fun _ _ h => h) f

theorem wfDecls_iff : ∀ fs : List FieldDecl, wfDecls fs = true ↔ ∀ f ∈ fs, wfDecl f = true :=
  allB_iff (by rw [wfDecls]) fun _ _ => by rw [wfDecls]

theorem wfFields_iff : ∀ fields : List (String × FieldDecl),
    wfFields fields = true ↔ ∀ nf ∈ fields, wfDecl nf.2 = true :=
  allB_iff (p := fun nf : String × FieldDecl => wfDecl nf.2) (by rw [wfFields]) fun (_, _) _ => by rw [wfFields]

theorem strNodup_iff : ∀ (l : List String), strNodup l = true ↔ l.Nodup
  | [] => ⟨fun _ => .nil, fun _ => rfl⟩
  | _ :: xs => nodupBool_cons (strNodup_iff xs)

theorem isNone_iff {v : PyVal} : v.isNone = true ↔ v = .none :=
  ⟨fun h => by cases v <;> (first | rfl | cases h), fun h => h ▸ rfl⟩

theorem pyNodup_iff : ∀ l : List PyVal, pyNodup l = true ↔ l.Pairwise (fun a b => pyEq a b = false)
  | [] => ⟨fun _ => .nil, fun _ => rfl⟩
  | x :: l => by
    rw [pyNodup, Bool.and_eq_true, Bool.not_eq_true', pyMem, List.any_eq_false, List.pairwise_cons, pyNodup_iff l]
    simp only [Bool.not_eq_true]

/-- `SizedString`: the two upper bounds come as one, the tighter -/
theorem leLen_min {hi m n : Nat} (h : leLen (some (min hi m)) n = true) : n ≤ m ∧ n ≤ hi := by
  have : n ≤ min hi m := of_decide_eq_true h
  omega

section
universe u
variable {α : Type u}

theorem lookup_cons (k k' : String) (v : α) (rest : List (String × α)) :
    lookup k ((k', v) :: rest) = if k == k' then some v else lookup k rest := rfl

theorem lookup_cons_self (k : String) (v : α) (l : List (String × α)) : lookup k ((k, v) :: l) = some v := by
  rw [lookup_cons, if_pos (beq_self_eq_true k)]

theorem lookup_cons_ne {n k : String} (h : n ≠ k) (v : α) (l : List (String × α)) :
    lookup n ((k, v) :: l) = lookup n l := by
  rw [lookup_cons, if_neg (by simpa using h)]

theorem lookup_eq_find? (n : String) : ∀ l : List (String × α),
    lookup n l = (l.find? fun p => n == p.1).map (·.2)
  | [] => rfl
  | (k, v) :: rest => by
    simp only [lookup, List.find?_cons, lookup_eq_find? n rest]
    cases n == k <;> rfl

theorem lookup_append (n : String) (l1 l2 : List (String × α)) :
    lookup n (l1 ++ l2) = (lookup n l1).or (lookup n l2) := by
  rw [lookup_eq_find?, lookup_eq_find?, lookup_eq_find?, List.find?_append]
  cases l1.find? fun p => n == p.1 <;> rfl

theorem lookup_isSome_iff (n : String) :
    ∀ l : List (String × α), (lookup n l).isSome = true ↔ n ∈ l.map (·.1) := by
  intro l
  rw [lookup_eq_find?, Option.isSome_map, List.find?_isSome, List.mem_map]
  exact exists_congr fun p => and_congr_right fun _ => beq_iff_eq.trans eq_comm

theorem mem_keys_iff_lookup {n : String} {l : List (String × α)} :
    n ∈ l.map (·.1) ↔ ∃ v, lookup n l = some v := by
  rw [← lookup_isSome_iff, Option.isSome_iff_exists]

theorem lookup_isSome_map {α} (k : String) (l : List (String × α)) :
    (lookup k l).isSome = (l.map (·.1)).contains k :=
  Bool.eq_iff_iff.mpr ((lookup_isSome_iff k l).trans List.contains_iff_mem.symm)

theorem lookup_isNone_map {α} (k : String) (l : List (String × α)) :
    (lookup k l).isNone = !(l.map (·.1)).contains k := by
  rw [← lookup_isSome_map]; cases lookup k l <;> rfl

theorem mem_names_of_mem {α} (name : String) (f : α) (fields : List (String × α))
    (h : (name, f) ∈ fields) : (fields.map (·.1)).contains name = true :=
  List.contains_iff_mem.mpr (List.mem_map_of_mem (f := (·.1)) h)

theorem lookup_none_of_not_mem {n : String} {l : List (String × α)} (h : n ∉ l.map (·.1)) :
    lookup n l = none :=
  Option.not_isSome_iff_eq_none.mp fun hs => h ((lookup_isSome_iff n l).mp hs)

theorem lookup_append_of_not_mem {n : String} {l1 : List (String × α)} (h : n ∉ l1.map (·.1))
    (l2 : List (String × α)) : lookup n (l1 ++ l2) = lookup n l2 := by
  rw [lookup_append, lookup_none_of_not_mem h, Option.none_or]

theorem lookup_mem {n : String} {v : α} : ∀ {l : List (String × α)}, lookup n l = some v → (n, v) ∈ l := by
  intro l h
  rw [lookup_eq_find?, Option.map_eq_some_iff] at h
  rcases h with ⟨p, hp, rfl⟩
  rw [eq_of_beq (List.find?_some (p := fun p : String × α => n == p.1) hp)]
  exact List.mem_of_find?_eq_some hp

theorem lookup_of_mem : ∀ {l : List (String × α)}, (l.map (·.1)).Nodup → ∀ {p : String × α}, p ∈ l →
    lookup p.1 l = some p.2
  | (k, v) :: rest, hk, p, hp => by
    have hnd := List.nodup_cons.mp hk
    rcases List.mem_cons.mp hp with rfl | h1
    · exact lookup_cons_self ..
    · have hne : p.1 ≠ k := fun he => hnd.1 (he ▸ List.mem_map_of_mem (f := (·.1)) h1)
      rw [lookup_cons_ne hne]
      exact lookup_of_mem hnd.2 h1

theorem lookup_assocSet (n k : String) (v : α) :
    ∀ l : List (String × α), lookup n (assocSet k v l) = if n == k then some v else lookup n l
  | [] => by simp [assocSet, lookup]
  | (k', v') :: rest => by
    simp only [assocSet]
    split
    · rename_i hk
      cases eq_of_beq hk
      simp only [lookup]; split <;> rfl
    · rename_i hk
      simp only [lookup, lookup_assocSet n k v rest]
      by_cases hn : n = k'
      · subst hn
        have : (n == k) = false := beq_eq_false_iff_ne.mpr fun h => hk (by rw [h]; simp)
        simp [this]
      · simp [hn]

theorem keys_assocSet (k : String) (v : α) : ∀ (l : List (String × α)),
    (assocSet k v l).map (·.1) = if k ∈ l.map (·.1) then l.map (·.1) else l.map (·.1) ++ [k]
  | [] => rfl
  | (a, b) :: rest => by
    simp only [assocSet]
    split
    · rename_i hk; simp [eq_of_beq hk]
    · rename_i hk
      have hka : k ≠ a := fun h => hk (by rw [h]; simp)
      simp only [List.map_cons, keys_assocSet k v rest, List.mem_cons, hka, false_or]
      split <;> rfl

theorem lookup_filter_key (f : String → Bool) (n : String) : ∀ l : List (String × α),
    lookup n (l.filter fun p => f p.1) = if f n then lookup n l else none
  | [] => by simp [lookup]
  | (a, v) :: rest => by
    have ih := lookup_filter_key f n rest
    by_cases hna : n = a
    · subst hna
      cases hfa : f n <;> simp [hfa, lookup, ih]
    · cases hfa : f a <;> simp [hfa, lookup, hna, ih]

theorem lookup_filter_ne {n k : String} (hne : n ≠ k) (l : List (String × α)) :
    lookup n (l.filter (fun q => q.1 != k)) = lookup n l := by
  rw [lookup_filter_key (· != k), if_pos (bne_iff_ne.mpr hne)]

end

theorem fieldsConform_iff (O : Oracles) (attrs : List (String × PyVal)) :
    ∀ fs : List (String × FieldDecl), fieldsConform O attrs fs = true ↔
      ∀ name f, (name, f) ∈ fs → ∀ v, lookup name attrs = some v → conforms O f v = true
  | [] => ⟨(fun _ _ _ hm => nomatch hm), fun _ => rfl⟩
  | (name, f) :: rest => by
    rw [fieldsConform_cons, Bool.and_eq_true_iff, fieldsConform_iff O attrs rest]
    constructor
    · rintro ⟨h1, h2⟩ n g hm v hl
      rcases List.mem_cons.1 hm with heq | hm
      · cases heq; rw [hl] at h1; exact h1
      · exact h2 n g hm v hl
    · intro h
      refine ⟨?_, fun n g hm => h n g (List.mem_cons_of_mem _ hm)⟩
      cases hl : lookup name attrs with
      | none => rfl
      | some v => exact h name f List.mem_cons_self v hl

theorem validateAny_ok_of (O : Oracles) {P : PyVal → Prop} : ∀ (fs : List FieldDecl) (v u : PyVal),
    (∀ f ∈ fs, ∀ u, validate O f v = .ok u → P u) → validateAny O fs v = .ok u → P u
  | [], _, _, _, h => nomatch h
  | f :: fs, v, u, ih, h => by
    rw [validateAny_cons] at h
    cases hd : validate O f v with
    | ok y => rw [hd] at h; cases h; exact ih f List.mem_cons_self u hd
    | error e => rw [hd] at h; exact validateAny_ok_of O fs v u (fun g hg => ih g (List.mem_cons_of_mem _ hg)) h

/-- a rejection with one of the documented exception classes (`InvalidStructureErr` is a
    subclass of both TypeError and ValueError) -/
def IsReject {α} (r : R α) : Prop := ∃ e, r = .error e ∧ (e = .typeErr ∨ e = .valueErr ∨ e = .both)

theorem isReject_type {α} : IsReject (.error .typeErr : R α) := ⟨_, rfl, Or.inl rfl⟩
theorem isReject_value {α} : IsReject (.error .valueErr : R α) := ⟨_, rfl, Or.inr (Or.inl rfl)⟩

def OkErr (e : ErrCls) : Prop := e = .typeErr ∨ e = .valueErr ∨ e = .both

theorem OkErr.typeErr : OkErr .typeErr := Or.inl rfl
theorem OkErr.valueErr : OkErr .valueErr := Or.inr (Or.inl rfl)
theorem OkErr.both : OkErr .both := Or.inr (Or.inr rfl)

def ErrIn {α} (P : ErrCls → Prop) (r : R α) : Prop := ∀ e, r = .error e → P e

section closure
variable {α β : Type} {P : ErrCls → Prop}

theorem ErrIn.ok (a : α) : ErrIn P (.ok a : R α) := fun _ h => nomatch h

theorem ErrIn.error {e : ErrCls} (h : P e) : ErrIn P (.error e : R α) := fun _ h' => by cases h'; exact h

theorem ErrIn.bindE {r : R α} {k : α → R β} (hr : ErrIn P r) (hk : ∀ a, ErrIn P (k a)) : ErrIn P (bindE r k) := by
  cases r with
  | error e => exact .error (hr e rfl)
  | ok a => exact hk a

theorem ErrIn.mapE {g : α → R β} : ∀ {xs : List α}, (∀ x ∈ xs, ErrIn P (g x)) → ErrIn P (mapE g xs)
  | [], _ => .ok _
  | x :: _, h => .bindE (h x (List.mem_cons_self ..)) fun _ =>
      .bindE (ErrIn.mapE fun y hy => h y (List.mem_cons_of_mem _ hy)) fun _ => .ok _

theorem ErrIn.ite {c : Prop} [Decidable c] {a b : R α} (ha : ErrIn P a) (hb : ErrIn P b) :
    ErrIn P (if c then a else b) :=
  iteInduction (fun _ => ha) fun _ => hb

/-- the guard in front of every reader: a null that is ignored is handed on -/
theorem ErrIn.unless {c : Prop} [Decidable c] (a : α) {r : R α} (h : ErrIn P r) :
    ErrIn P (if c then .ok a else r) := .ite (.ok a) h

end closure

theorem bindE_eq_ok {α β} {r : R α} {k : α → R β} {z : β} (h : bindE r k = .ok z) :
    ∃ y, r = .ok y ∧ k y = .ok z := by
  cases r with
  | error e => simp at h
  | ok y => exact ⟨y, rfl, by simpa using h⟩

theorem bindE_eq_ok_iff {α β} {r : R α} {k : α → R β} {z : β} : bindE r k = .ok z ↔ ∃ y, r = .ok y ∧ k y = .ok z :=
  ⟨bindE_eq_ok, fun ⟨_, hr, hk⟩ => hr ▸ hk⟩

theorem bindE_eq_error {α β} {r : R α} {k : α → R β} {e : ErrCls} (h : bindE r k = .error e) :
    r = .error e ∨ ∃ y, r = .ok y ∧ k y = .error e := by
  cases r with
  | error e' => exact Or.inl (congrArg Except.error (Except.error.inj h))
  | ok y => exact Or.inr ⟨y, rfl, h⟩

theorem ok_of_ite_error {α} {b : Bool} {e : ErrCls} {r : R α} {x : α}
    (h : (if b then .error e else r) = .ok x) : r = .ok x := by
  cases b
  · exact h
  · cases h

theorem guard_eq_ok_iff {α} {c : Bool} {e : ErrCls} {r : R α} {x : α} :
    (if (!c) = true then .error e else r) = .ok x ↔ c = true ∧ r = .ok x := by
  cases c
  · exact ⟨fun h => (nomatch h), fun h => (nomatch h.1)⟩
  · exact ⟨fun h => ⟨rfl, h⟩, fun h => h.2⟩

theorem mapE_eq_ok_iff {α β} {g : α → R β} {xs : List α} {ys : List β} :
    mapE g xs = .ok ys ↔ Pointwise (fun x y => g x = .ok y) xs ys := by
  constructor
  · intro h
    induction xs generalizing ys with
    | nil => cases h; exact .nil
    | cons x xs ih =>
      rw [mapE] at h
      cases hx : g x with
      | error e => rw [hx] at h; cases h
      | ok y =>
        cases hr : mapE g xs with
        | error e => rw [hx, hr] at h; cases h
        | ok ys' => rw [hx, hr] at h; cases h; exact .cons hx (ih hr)
  · intro h
    induction h with
    | nil => rfl
    | cons hr _ ih => rw [mapE, hr, ih]; rfl

theorem mapE_length {α β} (g : α → R β) :
    ∀ (xs : List α) (ys : List β), mapE g xs = .ok ys → ys.length = xs.length :=
  fun _ _ h => (mapE_eq_ok_iff.1 h).length_eq

theorem mapE_all {α β} (g : α → R β) (P : β → Bool) :
    ∀ (xs : List α) (ys : List β), (∀ x ∈ xs, ∀ y, g x = .ok y → P y = true) →
      mapE g xs = .ok ys → ys.all P = true :=
  fun _ _ hp h => List.all_eq_true.2 fun y hy =>
    let ⟨x, hx, hxy⟩ := (mapE_eq_ok_iff.1 h).mem_right y hy
    hp x hx y hxy

theorem Pointwise.mapE_eq {α β γ} {g : α → R γ} {g' : β → R γ} {xs : List α} {ys : List β}
    (h : Pointwise (fun x y => g x = g' y) xs ys) : mapE g xs = mapE g' ys := by
  induction h with
  | nil => rfl
  | cons hr _ ih => rw [mapE, mapE, hr, ih]

theorem mapE_congr {α β} {g g' : α → R β} : ∀ xs : List α, (∀ x ∈ xs, g x = g' x) → mapE g xs = mapE g' xs :=
  fun _ h => (Pointwise.refl h).mapE_eq

end Typedpy
