/-
  C06: deserialization accepts exactly the JSON images of constructor-valid data.

  `deserialize` (Sem/Deser.lean) mirrors Deserializer(cls).deserialize without mappers: the
  document is pre-processed field by field and the result is handed to the constructor.  That results are
  well-formed, which exception classes a rejection can have, and what happens to undeclared keys is proved for
  every class, every document (any nesting) and every flag combination.
  The "exactly the images" direction uses the documented JSON form read backwards
  (Spec/Lift.lean: `expectedDeser` = constructor ∘ `liftDoc`): it
  is evaluated by the driver on every case as the oracle for the real Deserializer; its agreement
  with `deserialize` is proved on the exact fragment `exactDecl` (`deserialize_exact_partial`) and checked by
  correspondence elsewhere.
-/
import TypedpyModel.Lemmas.DeserErr
import TypedpyModel.Lemmas.LiftEquiv
import TypedpyModel.Props.C01
import TypedpyModel.Sem.SerdeX
import TypedpyModel.Sem.Decimal
namespace Typedpy.C06
open Typedpy

theorem deserialize_goes_through_constructor (O : Oracles) (opts : DeserOpts) (cls : FieldDecl)
    (d x : PyVal) (h : deserialize O opts cls d = .ok x) :
    ∃ kw, construct O cls kw = .ok x := by
  unfold deserialize at h
  cases cls with
  | struct c fields defaults => ?_
  | _ => simp at h
  simp only at h
  split at h
  · rename_i kvs
    rcases C01.c01_dClassRef_dict_ok kvs _ _ _ x h with ⟨kw, hk⟩
    rcases bindE_eq_ok hk with ⟨args, _, h2⟩
    exact ⟨args, h2⟩
  · cases h

/-- **C06 ⊆ C01**: every deserialized instance is well-formed -/
theorem deserialize_sound (O : Oracles) (opts : DeserOpts) (cls : FieldDecl) (d x : PyVal)
    (hw : wfDecl cls = true) (h : deserialize O opts cls d = .ok x) : wellFormed O cls x = true :=
  C01.deserialize_sound O opts cls d x hw h

/-- **C06**: every rejection is a TypeError or a ValueError (or InvalidStructureErr, their common
    subclass) — for every class, document and flag setting -/
theorem deserialize_err_class (O : Oracles) (opts : DeserOpts) (c : ClassOpts)
    (fields : List (String × FieldDecl)) (defaults : List (String × PyVal)) (d : PyVal) (e : ErrCls)
    (h : deserialize O opts (.struct c fields defaults) d = .error e) :
    e = .typeErr ∨ e = .valueErr ∨ e = .both := by
  unfold deserialize at h
  simp only at h
  split at h
  · exact dClassRef_fields_err O opts c fields defaults _ _ (fun kw => deserFields_err O opts c kw fields false) e h
  · cases h; exact Or.inl rfl

theorem non_object_rejected (O : Oracles) (opts : DeserOpts) (c : ClassOpts)
    (fields : List (String × FieldDecl)) (defaults : List (String × PyVal)) (d : PyVal)
    (hd : ∀ kvs, d ≠ .dict kvs) :
    deserialize O opts (.struct c fields defaults) d = .error .typeErr := by
  unfold deserialize
  cases d <;> first | rfl | (rename_i kvs; exact absurd rfl (hd kvs))

/-- which undeclared keys are handed to the constructor -/
theorem extra_keys_policy (opts : DeserOpts) (c : ClassOpts) (names : List String)
    (doc : List (String × PyVal)) (a : String × PyVal) :
    a ∈ deserExtras opts c names doc ↔
      a ∈ doc ∧ names.contains a.1 = false ∧ opts.keepUndefined = true
        ∧ (c.addl = true ∨ opts.ignoreInvalidAddl = false) := by
  unfold deserExtras
  simp only [List.mem_filter, Bool.and_eq_true, Bool.not_eq_true', Bool.or_eq_true, and_assoc]

/-- an undeclared key can only become an attribute of a class that allows additional properties:
    for a class that does not, the constructor refuses any undeclared keyword (TypeError) -/
theorem extra_keys_need_additional_properties (O : Oracles) (c : ClassOpts)
    (fields : List (String × FieldDecl)) (defaults kw : List (String × PyVal)) (a : String × PyVal)
    (hadd : c.addl = false) (ha : a ∈ kw) (hn : (fields.map (·.1)).contains a.1 = false) :
    construct O (.struct c fields defaults) kw = .error .typeErr := by
  have hb : bindOk c (fields.map (·.1)) kw = false := by
    unfold bindOk
    have : kw.any (fun a => !(fields.map (·.1)).contains a.1) = true :=
      List.any_eq_true.mpr ⟨a, ha, by rw [hn]; rfl⟩
    rw [hadd, this]
    exact Bool.and_false _
  simp [construct, vConstruct, hb]

/-- **C06, "exactly the images" (partial: the exact fragment)**: for every class of the fragment
    `exactDecl` — scalars with every constraint, enums, Array / Deque / Tuple (uniqueItems only over
    plain scalar items), Set of strings (mutable or immutable), Map from strings to anything of the
    fragment, `Optional[X]` (either order of the options), NoneField, nested Structure classes and
    StructureReference, at any depth — every JSON document `d` and every flag setting, the
    Deserializer succeeds with result `x` exactly when `d` is the documented JSON form of keyword
    arguments that the constructor accepts, and `x` is the instance the constructor builds from them -/
theorem deserialize_exact_partial (O : Oracles) (opts : DeserOpts) (c : ClassOpts)
    (fields : List (String × FieldDecl)) (defaults : List (String × PyVal)) (d x : PyVal)
    (hex : exactDecl (.struct c fields defaults) = true) (hj : strictJson d = true) :
    deserialize O opts (.struct c fields defaults) d = .ok x
      ↔ expectedDeser O opts (.struct c fields defaults) d = some x := by
  obtain ⟨hex, hef⟩ := Bool.and_eq_true_iff.mp hex
  obtain ⟨_, hnd⟩ := Bool.and_eq_true_iff.mp hex
  cases d with
  | dict kvs =>
    rcases strict_kwOfDict kvs (Bool.and_eq_true_iff.mp hj).2 with ⟨doc, hdoc, hall⟩
    simp only [deserialize, dClassRef, hdoc]
    rw [← okOf_eq_some, okOf_ctorD, ctorThen_congr O opts c fields defaults doc _ _
        (fields_then_eq O opts c defaults doc hall fields (fun nf _ => okEq_field O opts nf.2) hef (of_decide_eq_true hnd)),
      ← okOf_ctorL]
    simp only [expectedDeser, liftDoc, hdoc, Option.bind_some, construct]
    cases liftFields O opts c doc fields with
    | none => rfl
    | some args =>
      simp only [Option.map_some]
      generalize vConstruct c _ _ _ = r
      cases r <;> rfl
  | _ =>
    first
    | (simp [strictJson] at hj; done)
    | simp [deserialize, expectedDeser, liftDoc]

theorem expectedDeser_eq_some {O : Oracles} {opts : DeserOpts} {cls : FieldDecl} {d x : PyVal} :
    expectedDeser O opts cls d = some x
      ↔ ∃ kw, liftDoc O opts cls d = some kw ∧ construct O cls kw = .ok x := by
  unfold expectedDeser
  cases liftDoc O opts cls d with
  | none => simp
  | some kw => cases h : construct O cls kw <;> simp [h]

theorem deserialize_accepts_iff_partial (O : Oracles) (opts : DeserOpts) (c : ClassOpts)
    (fields : List (String × FieldDecl)) (defaults : List (String × PyVal)) (d : PyVal)
    (hex : exactDecl (.struct c fields defaults) = true) (hj : strictJson d = true) :
    (∃ x, deserialize O opts (.struct c fields defaults) d = .ok x)
      ↔ ∃ kw x, liftDoc O opts (.struct c fields defaults) d = some kw
          ∧ construct O (.struct c fields defaults) kw = .ok x :=
  (exists_congr fun x => (deserialize_exact_partial O opts c fields defaults d x hex hj).trans
    expectedDeser_eq_some).trans exists_comm

def exO : Oracles := { reMatch := fun _ _ => true }
def exCls : FieldDecl :=
  .struct { name := "A", required := ["a"], addl := false, accepts := ["A"] }
    [("a", .seqOf .list (.enumCls "Color" ["RED", "BLUE"]) { max := some 2 }),
     ("b", .float { min := some ⟨0, 1⟩ })] []

theorem deserialize_example :
    (match deserialize exO {} exCls (.dict [(.str "a", .list [.str "RED"]), (.str "b", .int 3)]) with
      | .ok (.inst "A" [("a", .list [.enumv "Color" "RED"]), ("b", .float _)]) => true
      | _ => false) = true
    ∧ (match deserialize exO {} exCls (.dict [(.str "a", .list [.str "PINK"])]) with
      | .error .valueErr => true | _ => false) = true
    ∧ (match deserialize exO {} exCls (.dict [(.str "b", .int 3)]) with
      | .error .typeErr => true | _ => false) = true
    ∧ (match deserialize exO { keepUndefined := true, ignoreInvalidAddl := false } exCls
          (.dict [(.str "a", .list []), (.str "zz", .int 1)]) with
      | .error .typeErr => true | _ => false) = true
    ∧ (match deserialize exO {} exCls (.dict [(.str "a", .list []), (.str "zz", .int 1)]) with
      | .ok (.inst "A" [("a", .list [])]) => true | _ => false) = true
    ∧ (match expectedDeser exO {} exCls (.dict [(.str "a", .list [.str "RED"]), (.str "b", .int 3)]) with
      | some (.inst "A" _) => true | _ => false) = true := by
  decide +kernel

/-- the example class lies in the exact fragment and its documents are JSON: the hypotheses of
    `deserialize_exact_partial` are satisfiable -/
theorem exact_fragment_example :
    exactDecl exCls = true
    ∧ strictJson (.dict [(.str "a", .list [.str "RED"]), (.str "b", .int 3)]) = true
    ∧ exactDecl (.struct { name := "Outer", required := ["n"], accepts := ["Outer"] }
        [("n", exCls), ("t", .tuplePos [.integer {}, .string none (some 3) none] false),
         ("u", .seqOf .deque (.string none none none) { uniq := true, min := some 1 })] []) = true := by
  decide +kernel

/-- Set and Map inside the exact fragment: duplicates of the set collapse, enum names become members; a document
    whose set holds a non-string is rejected by the model and by the specification -/
def exMapCls : FieldDecl :=
  .struct { name := "M", required := ["tags", "m"], addl := false, accepts := ["M"] }
    [("tags", .setOf false (.string none (some 3) none) { max := some 2 }),
     ("m", .mapOf (.string (some 1) none none) (.seqOf .list exCls {}) { min := some 1 })] []

theorem exact_set_map_example :
    exactDecl exMapCls = true
    ∧ strictJson (.dict [(.str "tags", .list [.str "x", .str "y", .str "x"]),
        (.str "m", .dict [(.str "k", .list [.dict [(.str "a", .list [.str "RED"])]])])]) = true
    ∧ (match deserialize exO {} exMapCls (.dict [(.str "tags", .list [.str "x", .str "y", .str "x"]),
          (.str "m", .dict [(.str "k", .list [.dict [(.str "a", .list [.str "RED"])]])])]) with
      | .ok (.inst "M" [("tags", .set false [.str "x", .str "y"]),
            ("m", .dict [(.str "k", .list [.inst "A" [("a", .list [.enumv "Color" "RED"])]])])]) => true
      | _ => false) = true
    ∧ (match expectedDeser exO {} exMapCls (.dict [(.str "tags", .list [.str "x", .str "y", .str "x"]),
          (.str "m", .dict [(.str "k", .list [.dict [(.str "a", .list [.str "RED"])]])])]) with
      | some (.inst "M" _) => true | _ => false) = true
    ∧ (match deserialize exO {} exMapCls (.dict [(.str "tags", .list [.str "x", .int 1]),
          (.str "m", .dict [(.str "k", .list [])])]) with
      | .error _ => true | _ => false) = true
    ∧ (expectedDeser exO {} exMapCls (.dict [(.str "tags", .list [.str "x", .int 1]),
          (.str "m", .dict [(.str "k", .list [])])])).isNone = true := by
  decide +kernel

/-- `Optional[X]` inside the exact fragment, in both orders of the options: null elements become None; a value
    neither None nor an `X` is rejected by the model and by the specification -/
def exOptCls : FieldDecl :=
  .struct { name := "P", required := ["xs"], addl := false, accepts := ["P"] }
    [("o", .anyOf [.noneF, .integer { min := some ⟨0, 1⟩ }]),
     ("xs", .seqOf .list (.anyOf [.string none none none, .noneF]) {})] []

theorem exact_optional_example :
    exactDecl exOptCls = true
    ∧ strictJson (.dict [(.str "o", .int 5), (.str "xs", .list [.str "a", .none])]) = true
    ∧ (match deserialize exO {} exOptCls (.dict [(.str "o", .int 5), (.str "xs", .list [.str "a", .none])]) with
      | .ok (.inst "P" [("o", .int 5), ("xs", .list [.str "a", .none])]) => true
      | _ => false) = true
    ∧ (match expectedDeser exO {} exOptCls (.dict [(.str "o", .int 5), (.str "xs", .list [.str "a", .none])]) with
      | some (.inst "P" [("o", .int 5), ("xs", .list [.str "a", .none])]) => true | _ => false) = true
    ∧ (match deserialize exO {} exOptCls (.dict [(.str "o", .none), (.str "xs", .list [])]) with
      | .ok (.inst "P" [("xs", .list [])]) => true | _ => false) = true
    ∧ (match deserialize exO {} exOptCls (.dict [(.str "o", .int (-1)), (.str "xs", .list [])]) with
      | .error _ => true | _ => false) = true
    ∧ (expectedDeser exO {} exOptCls (.dict [(.str "o", .int (-1)), (.str "xs", .list [])])).isNone = true
    ∧ (expectedDeser exO {} exOptCls (.dict [(.str "xs", .list [.int 3])])).isNone = true := by
  decide +kernel

/-- StructureReference and NoneField inside the exact fragment: the inline class has its own undeclared-key
    policy — an undeclared key inside a closed inline class is rejected (model and specification alike)
    when the flags keep it, and dropped when they drop it -/
def exInlineCls : FieldDecl :=
  .struct { name := "H", required := ["pts"], addl := false, accepts := ["H"] }
    [("pts", .seqOf .list (.struct { name := "StructureReference_1", required := ["x"], addl := false, inline := true }
                [("x", .integer { min := some ⟨0, 1⟩ }), ("tag", .string none none none)] []) {}),
     ("nothing", .noneF)] []

theorem exact_inline_example :
    exactDecl exInlineCls = true
    ∧ strictJson (.dict [(.str "pts", .list [.dict [(.str "x", .int 3)], .dict [(.str "x", .int 0), (.str "tag", .str "")]])]) = true
    ∧ (match deserialize exO {} exInlineCls
          (.dict [(.str "pts", .list [.dict [(.str "x", .int 3)], .dict [(.str "x", .int 0), (.str "tag", .str "")]])]) with
      | .ok (.inst "H" [("pts", .list [.inst "StructureReference_1" [("x", .int 3)],
                                       .inst "StructureReference_1" [("x", .int 0), ("tag", .str "")]])]) => true
      | _ => false) = true
    ∧ (match expectedDeser exO {} exInlineCls
          (.dict [(.str "pts", .list [.dict [(.str "x", .int 3)], .dict [(.str "x", .int 0), (.str "tag", .str "")]])]) with
      | some (.inst "H" _) => true | _ => false) = true
    ∧ (match deserialize exO { keepUndefined := true, ignoreInvalidAddl := false } exInlineCls
          (.dict [(.str "pts", .list [.dict [(.str "x", .int 3), (.str "zz", .int 1)]])]) with
      | .error _ => true | _ => false) = true
    ∧ (expectedDeser exO { keepUndefined := true, ignoreInvalidAddl := false } exInlineCls
          (.dict [(.str "pts", .list [.dict [(.str "x", .int 3), (.str "zz", .int 1)]])])).isNone = true
    ∧ (match deserialize exO {} exInlineCls (.dict [(.str "pts", .list [.dict [(.str "x", .int 3), (.str "zz", .int 1)]])]) with
      | .ok (.inst "H" [("pts", .list [.inst "StructureReference_1" [("x", .int 3)]])]) => true | _ => false) = true
    ∧ (match deserialize exO {} exInlineCls (.dict [(.str "pts", .list []), (.str "nothing", .int 0)]) with
      | .error _ => true | _ => false) = true
    ∧ (expectedDeser exO {} exInlineCls (.dict [(.str "pts", .list []), (.str "nothing", .int 0)])).isNone = true := by
  decide +kernel

theorem xdeserialize_goes_through_constructor (XO : XOracles) (opts : DeserOpts) (cls : XDecl)
    (d x : PyVal) (h : deserializeX XO opts cls d = .ok x) :
    ∃ kw, constructX XO cls kw = .ok x := by
  unfold deserializeX at h
  cases cls with
  | struct c fields | structU c fields =>
    cases d with
    | dict kvs =>
      unfold deserX at h; simp only [PyVal.isNone, Bool.false_and, Bool.false_eq_true, if_false] at h
      rcases C01.c01_dClassRef_dict_ok kvs _ _ _ x h with ⟨kw, hk⟩
      rcases bindE_eq_ok hk with ⟨args, _, h2⟩
      exact ⟨args, h2⟩
    | _ => simp at h
  | _ => simp at h

theorem deserX_enumVal (XO : XOracles) (opts : DeserOpts) (cls : String) (ms : List (String × PyVal)) (mx : Bool)
    (d : PyVal) : deserX XO opts false (.enumVal cls ms mx) d = dEnumVal cls ms d := by
  unfold deserX; exact noneGuard_false

theorem dEnumVal_eq_ok_iff {cls : String} {ms : List (String × PyVal)} {d y : PyVal} :
    dEnumVal cls ms d = .ok y
      ↔ unhashable d = false ∧ ∃ m, ms.find? (fun m => PyVal.pyEq d m.2) = some m ∧ y = .enumv cls m.1 := by
  unfold dEnumVal xFindByValue
  cases unhashable d with
  | true => simp
  | false =>
    cases ms.find? (fun m => PyVal.pyEq d m.2) with
    | none => simp
    | some m => simp [eq_comm]

/-- **C06, Enum by value, "exactly the images"**: the Deserializer accepts a document value exactly when
    it is hashable and `==` to the value of some member, whatever that value's truthiness -/
theorem enumVal_accepts_iff (XO : XOracles) (opts : DeserOpts) (cls : String)
    (ms : List (String × PyVal)) (mx : Bool) (d : PyVal) :
    (∃ y, deserX XO opts false (.enumVal cls ms mx) d = .ok y)
      ↔ (unhashable d = false ∧ ∃ m ∈ ms, PyVal.pyEq d m.2 = true) := by
  -- some member passes the test exactly when the scan finds one (the first such, `List.find?_isSome`)
  simp only [deserX_enumVal, dEnumVal_eq_ok_iff, ← List.find?_isSome, Option.isSome_iff_exists]
  exact ⟨fun ⟨_, hu, m, hf, _⟩ => ⟨hu, m, hf⟩, fun ⟨hu, m, hf⟩ => ⟨_, hu, m, hf, rfl⟩⟩

theorem enumVal_result_is_member (XO : XOracles) (opts : DeserOpts) (cls : String)
    (ms : List (String × PyVal)) (mx : Bool) (d y : PyVal)
    (h : deserX XO opts false (.enumVal cls ms mx) d = .ok y) :
    ∃ m ∈ ms, PyVal.pyEq d m.2 = true ∧ y = .enumv cls m.1
      ∧ validateX XO (.enumVal cls ms mx) y = .ok y := by
  rw [deserX_enumVal] at h
  obtain ⟨_, m, hf, rfl⟩ := dEnumVal_eq_ok_iff.1 h
  have hm := List.mem_of_find?_eq_some hf
  refine ⟨m, hm, List.find?_some (p := fun m : String × PyVal => PyVal.pyEq d m.2) hf, rfl, ?_⟩
  have hc : (ms.map (·.1)).contains m.1 = true := List.contains_iff_mem.mpr (List.mem_map_of_mem hm)
  unfold validateX; simp only [vEnumVal, hc, beq_self_eq_true, Bool.and_self, if_true]

/-- **C06, DecimalNumber**: the documented lifting of a JSON value is the value itself (the constructor
    converts), and deserialize-then-construct IS construct: accepted exactly when the constructor
    accepts, with the same stored Decimal, rejected with the same exception class otherwise -/
theorem decimal_deser_exact (XO : XOracles) (opts : DeserOpts) (o : NumOpts) (d : PyVal) :
    bindE (deserX XO opts false (.decimal o) d) (validateX XO (.decimal o)) = validateX XO (.decimal o) d := by
  unfold deserX; rw [show validateX XO (.decimal o) = sxDecimal XO o from rfl]
  simp only [Bool.and_false, Bool.false_eq_true, if_false, dDecimal, sxDecimal]
  cases hc : xConvDecimal XO d with
  | error e => simp
  | ok q => simp [sxDecimal, xConvDecimal, PyVal.asNum]

/-- **C06, DateField / DateTime**: likewise for every document value (a JSON document holds no date
    object), provided `strptime` returns a value of the field's type -/
theorem temporal_deser_exact (XO : XOracles) (opts : DeserOpts) (ty fmt : String) (ints : Bool) (d : PyVal)
    (hd : ∀ t, d ≠ .opaque t)
    (hp : ∀ s t, XO.parse ty fmt s = some t → xIsKind XO ty t = true) :
    bindE (deserX XO opts false (.temporal ty fmt ints) d) (validateX XO (.temporal ty fmt ints))
      = validateX XO (.temporal ty fmt ints) d := by
  unfold deserX; rw [show validateX XO (.temporal ty fmt ints) = vTemporal XO ty fmt ints from rfl]
  simp only [Bool.and_false, Bool.false_eq_true, if_false]
  cases d with
  | str s =>
    simp only [vTemporal, dTemporal]
    cases hps : XO.parse ty fmt s with
    | none => simp
    | some t => simp [vTemporal, hp s t hps]
  | int i =>
    simp only [vTemporal, dTemporal]
    split <;> simp
  | _ => first | (rename_i t; exact absurd rfl (hd t)) | simp [vTemporal, dTemporal]

/-- **C06, formatted strings** (DateString, IPV4, HostName): the deserializer checks the type only, the
    constructor the type and the format: deserialize-then-construct IS construct -/
theorem fmtStr_deser_exact (XO : XOracles) (opts : DeserOpts) (kind : String) (d : PyVal) :
    bindE (deserX XO opts false (.fmtStr kind true) d) (validateX XO (.fmtStr kind true))
      = validateX XO (.fmtStr kind true) d := by
  unfold deserX; rw [show validateX XO (.fmtStr kind true) = vFmtStr XO kind from rfl]
  simp only [Bool.and_false, Bool.false_eq_true, if_false]
  cases d <;> simp [dFmtStr, vFmtStr]

/-- **C06, Enum by name over a mixin enum class** (the documented JSON form of a member is its name, which the
    constructor accepts and converts): deserialize-then-construct IS construct, for every document value -/
theorem enumName_deser_exact (XO : XOracles) (opts : DeserOpts) (cls : String) (ms : List (String × PyVal))
    (mx : Bool) (d : PyVal) :
    bindE (deserX XO opts false (.enumName cls ms mx) d) (validateX XO (.enumName cls ms mx))
      = validateX XO (.enumName cls ms mx) d := by
  unfold deserX; rw [show validateX XO (.enumName cls ms mx) = vEnumVal cls ms mx from rfl]
  simp only [Bool.and_false, Bool.false_eq_true, if_false]
  cases d with
  | str n =>
    simp only [dEnumName, vEnumVal]
    cases hc : (ms.map (·.1)).contains n with
    | true => simp only [if_true, bindE_ok, vEnumVal, hc, beq_self_eq_true, Bool.and_self]
    | false => simp
  | _ => simp only [dEnumName]; exact dValidated_same (vEnumVal cls ms mx) _

/-- **one DecimalNumber, two models**: wherever the extension model (Sem/SerdeX.lean, used for C05/C06) does not
    answer "not modelled" (a NaN / Infinity string, a (sign, digits, exponent) sequence), its constructor
    `sxDecimal` is the constructor model of C01/C02 (`Typedpy.vDecimal`, Sem/Decimal.lean), with that model's string
    parser read off this model's oracle: the two properties talk about the same DecimalNumber -/
theorem decimal_models_agree (XO : XOracles) (o : NumOpts) (v : PyVal)
    (h : ∀ e, sxDecimal XO o v = .error e → xOutside e = false) :
    sxDecimal XO o v = Typedpy.vDecimal (fun s => (XO.decOfStr s).bind id) o v := by
  cases v with
  | str s =>
    cases hd : XO.decOfStr s with
    | none =>
      have := h (.other "outside-model:decimal-str") (by simp [sxDecimal, xConvDecimal, hd])
      exact absurd this (by decide)
    | some r =>
      cases r with
      | none => simp [sxDecimal, xConvDecimal, hd, Typedpy.vDecimal, toDecimal, decValue, decErr]
      | some q =>
        simp [sxDecimal, xConvDecimal, hd, Typedpy.vDecimal, toDecimal, decValue, vNumber, PyVal.asNum]
  | list xs | tuple xs =>
    have := h (.other "outside-model:decimal-seq") (by simp [sxDecimal, xConvDecimal])
    exact absurd this (by decide)
  | bool _ | int _ | float _ | dec _ =>
    simp [sxDecimal, xConvDecimal, Typedpy.vDecimal, toDecimal, decValue, vNumber, PyVal.asNum]
  | _ => simp [sxDecimal, xConvDecimal, Typedpy.vDecimal, toDecimal, decValue, decErr, PyVal.asNum]

def exXO : XOracles :=
  { base := exO, toFloat := fun q => q,
    parse := fun _ _ s => if s == "2020-01-31" then some "date:2020-01-31" else none,
    format := fun _ _ _ => "2020-01-31",
    typeOf := fun t => if t == "date:2020-01-31" then "date" else "?" }

def exLevel : XDecl := .enumVal "Level" [("OFF", .int 0), ("LOW", .int 1), ("HIGH", .int 2)] true
def exTask : XDecl :=
  .struct { name := "Task", required := ["priority"], accepts := ["Task"], addl := false }
    [("priority", exLevel), ("levels", .seqOf .list exLevel), ("due", .opt (.temporal "date" "%Y-%m-%d" false)),
     ("price", .decimal { min := some ⟨0, 1⟩ })]

/-- non-vacuity: the document value 0 denotes the
    FALSY member `Level.OFF` and is accepted (bare and as an array item); 7 is the value of no member
    (ValueError), a list is unhashable (TypeError); `false == 0` finds the same member; a negative price
    is converted by the deserializer and rejected by the constructor (ValueError), a date that does not
    parse is a ValueError, a number for an Optional date matches no option (ValueError) and is a TypeError
    for the bare field -/
theorem xdeserialize_example :
    (match deserializeX exXO {} exTask (.dict [(.str "priority", .int 0), (.str "levels", .list [.int 2, .int 0, .bool false])]) with
      | .ok (.inst "Task" [("priority", .enumv "Level" "OFF"),
            ("levels", .list [.enumv "Level" "HIGH", .enumv "Level" "OFF", .enumv "Level" "OFF"])]) => true
      | _ => false) = true
    ∧ (match deserializeX exXO {} exTask (.dict [(.str "priority", .int 7)]) with
      | .error .valueErr => true | _ => false) = true
    ∧ (match deserializeX exXO {} exTask (.dict [(.str "priority", .list [])]) with
      | .error .typeErr => true | _ => false) = true
    ∧ (match deserializeX exXO {} exTask (.dict [(.str "priority", .int 1), (.str "price", .int (-1))]) with
      | .error .valueErr => true | _ => false) = true
    ∧ (match deserializeX exXO {} exTask (.dict [(.str "priority", .int 1), (.str "price", .float ⟨5, 2⟩), (.str "due", .str "2020-01-31")]) with
      | .ok (.inst "Task" [("priority", .enumv "Level" "LOW"), ("due", .opaque "date:2020-01-31"), ("price", .dec _)]) => true
      | _ => false) = true
    ∧ (match deserializeX exXO {} exTask (.dict [(.str "priority", .int 1), (.str "due", .str "2020-13-45")]) with
      | .error .valueErr => true | _ => false) = true
    ∧ (match deserializeX exXO {} exTask (.dict [(.str "priority", .int 1), (.str "due", .float ⟨3, 2⟩)]) with
      | .error .valueErr => true | _ => false) = true
    ∧ (match deserX exXO {} false (.temporal "date" "%Y-%m-%d" false) (.float ⟨3, 2⟩) with
      | .error .typeErr => true | _ => false) = true := by
  decide +kernel

end Typedpy.C06

