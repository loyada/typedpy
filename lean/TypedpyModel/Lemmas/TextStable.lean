/-
  A JSON document in the strict sense (`docStable`, Spec/SerFrag.lean: object keys are
  strings) survives `json.loads(json.dumps(·))` (`jsonRound`, Sem/Serde.lean) unchanged.
-/
import TypedpyModel.Spec.SerFrag
namespace Typedpy

mutual
theorem c05_jsonRound_stable : ∀ (j : PyVal), docStable j = true → jsonRound j = some j
  | .none, _ => rfl
  | .bool _, _ => rfl
  | .int _, _ => rfl
  | .float _, _ => rfl
  | .str _, _ => rfl
  | .list xs, h => by
    simp only [docStable] at h
    simp [jsonRound, c05_jsonRoundList_stable xs h]
  | .dict kvs, h => by
    simp only [docStable] at h
    simp [jsonRound, c05_jsonRoundPairs_stable kvs h]
  | .dec _, h => by simp [docStable] at h
  | .tuple _, h => by simp [docStable] at h
  | .set _ _, h => by simp [docStable] at h
  | .deque _, h => by simp [docStable] at h
  | .enumv _ _, h => by simp [docStable] at h
  | .inst _ _, h => by simp [docStable] at h
  | .opaque _, h => by simp [docStable] at h
theorem c05_jsonRoundList_stable : ∀ (xs : List PyVal), docStableList xs = true → jsonRoundList xs = some xs
  | [], _ => rfl
  | x :: xs, h => by
    simp only [docStableList, Bool.and_eq_true] at h
    simp [jsonRoundList, c05_jsonRound_stable x h.1, c05_jsonRoundList_stable xs h.2]
theorem c05_jsonRoundPairs_stable : ∀ (kvs : List (PyVal × PyVal)), docStablePairs kvs = true →
    jsonRoundPairs kvs = some kvs
  | [], _ => rfl
  | (k, v) :: rest, h => by
    simp only [docStablePairs, Bool.and_eq_true] at h
    cases k <;> simp at h
    simp [jsonRoundPairs, jsonKeyStr, c05_jsonRound_stable v h.1, c05_jsonRoundPairs_stable rest h.2]
end

end Typedpy
