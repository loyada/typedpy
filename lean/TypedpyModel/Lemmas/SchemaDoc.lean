/-
  Lemmas/SchemaDoc.lean — what the exported schema of a declaration MEANS: `docOk S f d`, "the schema
  `convert_to_schema(f)` admits the JSON document `d`", read off the declaration by recursion, class
  references followed into the class (no keyword list, no `$ref`, no definitions table, no fuel).
  The document predicates of the keyword groups (`numDoc`, `strDoc`, `arrDoc`, `mapDoc`, `objDoc`, …) come with
  the lemmas through which `admits_doc` and `exactDoc` use them, and with one equation per keyword
  group (`jsV_<group>_eq`): the draft-4 validator on that group, on ANY document, is the predicate.
  `Lemmas/SchemaBridge.lean` puts the equations together (`jsV_emit`).
-/
import TypedpyModel.Lemmas.JsValid
import TypedpyModel.Spec.SchemaFrag
namespace Typedpy.Sch
open Typedpy

/-- `multipleOf`, `minimum`, `maximum` / `exclusiveMaximum` as the number mappers emit them -/
def boundsOk (isInt : Bool) (o : NumOpts) (q : Q) : Bool :=
  multOk o.mult q && geMin (effMin isInt o) q && leMax (effMax isInt o) (exclEff o) q

theorem boundsOk_iff (isInt : Bool) (o : NumOpts) (q : Q) : boundsOk isInt o q = true ↔
    multOk o.mult q = true ∧ geMin (effMin isInt o) q = true ∧ leMax (effMax isInt o) (exclEff o) q = true := by
  simp only [boundsOk, Bool.and_eq_true_iff, and_assoc]

/-- `type: integer` admits an int only, `type: number` an int or a float; a bool is neither -/
def numDoc (isInt : Bool) (o : NumOpts) : PyVal → Bool
  | .int i => boundsOk isInt o (Q.ofInt i)
  | .float q => !isInt && boundsOk isInt o q
  | _ => false

theorem numDoc_int (isInt : Bool) (o : NumOpts) (i : Int) :
    numDoc isInt o (.int i) = boundsOk isInt o (Q.ofInt i) := rfl
theorem numDoc_float (o : NumOpts) (q : Q) : numDoc false o (.float q) = boundsOk false o q := rfl

def strDoc (S : String → String → Bool) (lo hi : Option Nat) (pat : Option String) : PyVal → Bool
  | .str s => geLen lo s.length && leLen hi s.length && (match pat with | none => true | some p => S p s)
  | _ => false

theorem strDoc_iff (S) (lo hi : Option Nat) (pat : Option String) (d : PyVal) : strDoc S lo hi pat d = true ↔
    ∃ s, d = .str s ∧ geLen lo s.length = true ∧ leLen hi s.length = true
      ∧ (match pat with | none => true | some p => S p s) = true := by
  constructor
  · intro h
    cases d with
    | str s =>
      simp only [strDoc, Bool.and_eq_true_iff] at h
      exact ⟨s, rfl, h.1.1, h.1.2, h.2⟩
    | _ => exact Bool.noConfusion h
  · rintro ⟨s, rfl, h1, h2, h3⟩
    simp only [strDoc, Bool.and_eq_true_iff]
    exact ⟨⟨h1, h2⟩, h3⟩

def boolDoc : PyVal → Bool
  | .bool _ => true
  | _ => false

/-- an array document: `uniqueItems`, the size bounds, and what `items` / `additionalItems` say -/
def arrDoc (uniq : Bool) (sz : SizeOpts) (items : List PyVal → Bool) : PyVal → Bool
  | .list ys => (!uniq || jsonNodup ys) && sizeOk sz ys.length && items ys
  | _ => false

theorem arrDoc_iff (uniq : Bool) (sz : SizeOpts) (items : List PyVal → Bool) (d : PyVal) :
    arrDoc uniq sz items d = true ↔
      ∃ ys, d = .list ys ∧ (!uniq || jsonNodup ys) = true ∧ sizeOk sz ys.length = true ∧ items ys = true := by
  constructor
  · intro h
    cases d with
    | list ys =>
      rw [arrDoc, Bool.and_eq_true_iff, Bool.and_eq_true_iff] at h
      exact ⟨ys, rfl, h.1.1, h.1.2, h.2⟩
    | _ => exact Bool.noConfusion h
  · rintro ⟨ys, rfl, hu, hs, hi⟩
    rw [arrDoc, hu, hs, hi]
    rfl

/-- `items` as one schema for every element, or absent -/
def itemsDoc : Option (PyVal → Bool) → List PyVal → Bool
  | some b, ys => ys.all b
  | none, _ => true

theorem itemsDoc_some (b : PyVal → Bool) (ys : List PyVal) : itemsDoc (some b) ys = ys.all b := rfl

/-- an object document used as a map: the size bounds and what is asked of every member -/
def mapDoc (sz : SizeOpts) (member : PyVal × PyVal → Bool) : PyVal → Bool
  | .dict kvs => sizeOk sz kvs.length && kvs.all member
  | _ => false

theorem mapDoc_iff (sz : SizeOpts) (member : PyVal × PyVal → Bool) (d : PyVal) : mapDoc sz member d = true ↔
    ∃ kvs, d = .dict kvs ∧ sizeOk sz kvs.length = true ∧ ∀ kv ∈ kvs, member kv = true := by
  constructor
  · intro h
    cases d with
    | dict kvs =>
      rw [mapDoc, Bool.and_eq_true_iff, List.all_eq_true] at h
      exact ⟨kvs, rfl, h⟩
    | _ => exact Bool.noConfusion h
  · rintro ⟨kvs, rfl, h⟩
    rw [mapDoc, Bool.and_eq_true_iff, List.all_eq_true]
    exact h

/-- a member of `Map[K, V]`: under a constrained key (`patternProperties`) only the members whose name the key
    pattern matches are judged, otherwise (`additionalProperties`) every member -/
def mapMember (S : String → String → Bool) (k : FieldDecl) (b : PyVal → Bool) (kv : PyVal × PyVal) : Bool :=
  if mapKeyPattern k != "" then
    (match docKey kv.1 with
     | some name => !S (mapKeyPattern k) name || b kv.2
     | none => true)
  else b kv.2

theorem mapMember_of (S) (k : FieldDecl) (b : PyVal → Bool) (kv : PyVal × PyVal) (h : b kv.2 = true) :
    mapMember S k b kv = true := by
  unfold mapMember
  split
  · cases docKey kv.1 <;> simp only [h, Bool.or_true]
  · exact h

theorem mapMember_plain (S) (k : FieldDecl) (b : PyVal → Bool) (hk : mapKeyPattern k = "") :
    mapMember S k b = fun kv => b kv.2 := by
  funext kv
  simp only [mapMember, hk, bne_self_eq_false, Bool.false_eq_true, if_false]

/-- an object document against `properties` (what `props` says of the members, `names` the names it lists),
    `required` and `additionalProperties: <bool>` -/
def objDoc (req : List String) (addl : Bool) (names : List String) (props : List (PyVal × PyVal) → Bool) :
    PyVal → Bool
  | .dict r =>
    props r && req.all (fun n => (getKw n r).isSome)
      && (addl || r.all (fun kv => (docKey kv.1).any names.contains))
  | _ => false

theorem objDoc_iff (req : List String) (addl : Bool) (names : List String)
    (props : List (PyVal × PyVal) → Bool) (d : PyVal) : objDoc req addl names props d = true ↔
    ∃ r, d = .dict r ∧ props r = true ∧ (∀ n ∈ req, (getKw n r).isSome = true)
      ∧ (addl = true ∨ ∀ kv ∈ r, ∃ name, docKey kv.1 = some name ∧ names.contains name = true) := by
  constructor
  · intro h
    cases d with
    | dict r =>
      simp only [objDoc, Bool.and_eq_true_iff, Bool.or_eq_true, List.all_eq_true, Option.any_eq_true] at h
      exact ⟨r, rfl, h.1.1, h.1.2, h.2⟩
    | _ => exact Bool.noConfusion h
  · rintro ⟨r, rfl, hp, hr, ha⟩
    simp only [objDoc, Bool.and_eq_true_iff, Bool.or_eq_true, List.all_eq_true, Option.any_eq_true]
    exact ⟨⟨hp, hr⟩, ha⟩

def isDictB : PyVal → Bool
  | .dict _ => true
  | _ => false

/-- element position (array item, map value): there `Optional[X]` also admits null (`_element_schema`) -/
def elemDoc (f : FieldDecl) (b : PyVal → Bool) (d : PyVal) : Bool :=
  if isOptional f && isDictB (emit true f) then b d || d.isNone else b d

theorem elemDoc_of (f : FieldDecl) (b : PyVal → Bool) (d : PyVal) (h : b d = true) : elemDoc f b d = true := by
  unfold elemDoc
  split
  · rw [h]; rfl
  · exact h

theorem elemDoc_of_not_anyOf (f : FieldDecl) (b : PyVal → Bool) (h : isOptionalF f = false) : elemDoc f b = b := by
  funext d
  cases f <;> first | exact Bool.noConfusion h | simp [elemDoc, isOptional]

/-- positional items: document element `i` against item `i`, as far as both go -/
def zipDoc : List (PyVal → Bool) → List PyVal → Bool
  | [], _ => true
  | _ :: _, [] => true
  | b :: bs, y :: ys => b y && zipDoc bs ys

theorem zipDoc_cons_cons (b : PyVal → Bool) (bs : List (PyVal → Bool)) (y : PyVal) (ys : List PyVal) :
    zipDoc (b :: bs) (y :: ys) = (b y && zipDoc bs ys) := rfl

/-- `AnyOf[X, None]` is exported as the schema of `X`, every other `AnyOf` as `anyOf` -/
def anyOfDoc (fs : List FieldDecl) (bs : List Bool) : Bool :=
  match fs, bs with
  | [_, .noneF], [b, _] => b
  | _, _ => bs.any id

theorem anyOfDoc_plain (fs : List FieldDecl) (bs : List Bool) (hp : fs.all plainScalar = true) :
    anyOfDoc fs bs = bs.any id := by
  unfold anyOfDoc
  split
  · simp [plainScalar] at hp
  · rfl

mutual
/-- the documents the exported schema of `f` admits, class references followed into the class -/
def docOk (S : String → String → Bool) : FieldDecl → PyVal → Bool
  | .number o, d => numDoc false o d
  | .integer o, d => numDoc true o d
  | .float o, d => numDoc false o d
  | .string lo hi p, d => strDoc S lo hi p d
  | .boolean, d => boolDoc d
  | .enumLit vs, d => jsonMem d vs
  | .enumCls _ names, d => jsonMem d (names.map PyVal.str)
  | .seqAny _ sz, d => arrDoc sz.uniq sz (itemsDoc none) d
  | .seqOf _ f sz, d => arrDoc sz.uniq sz (itemsDoc (some (elemDoc f (docOk S f)))) d
  | .seqPos _ fs addl sz, d =>
    arrDoc sz.uniq sz (fun ys => zipDoc (docOkLW S fs) ys && (addl || decide (ys.length ≤ fs.length))) d
  | .setAny _ sz, d => arrDoc true sz (itemsDoc none) d
  | .setOf _ f sz, d => arrDoc true sz (itemsDoc (some (elemDoc f (docOk S f)))) d
  | .tupleOf f u, d => arrDoc u { uniq := u } (itemsDoc (some (elemDoc f (docOk S f)))) d
  | .tuplePos fs u, d => arrDoc u {} (fun ys => zipDoc (docOkLW S fs) ys && decide (ys.length ≤ fs.length)) d
  | .mapAny sz, d => mapDoc sz (fun _ => true) d
  | .mapOf k v sz, d => mapDoc sz (mapMember S k (elemDoc v (docOk S v))) d
  | .struct c fields defaults, d =>
    objDoc (schemaRequired c defaults) c.addl (fields.map (·.1)) (docOkP S fields) d
  | .anyOf fs, d => anyOfDoc fs (docOkL S fs d)
  | .oneOf fs, d => (docOkL S fs d).countP id == 1
  | .allOf fs, d => (docOkL S fs d).all id
  | .notF fs, d => !(docOkL S fs d).any id
  | .noneF, _ => false
  | .anything, _ => false
termination_by structural f => f
/-- the verdicts of the options of a multi-field wrapper on one document -/
def docOkL (S : String → String → Bool) : List FieldDecl → PyVal → List Bool
  | [], _ => []
  | f :: fs, d => docOk S f d :: docOkL S fs d
termination_by structural fs => fs
/-- positional items, each in element position -/
def docOkLW (S : String → String → Bool) : List FieldDecl → List (PyVal → Bool)
  | [] => []
  | f :: fs => elemDoc f (docOk S f) :: docOkLW S fs
termination_by structural fs => fs
/-- `properties`: a member of the document that carries a field's name is a document of that field -/
def docOkP (S : String → String → Bool) : List (String × FieldDecl) → List (PyVal × PyVal) → Bool
  | [], _ => true
  | (n, f) :: ps, r => (match getKw n r with | some x => docOk S f x | none => true) && docOkP S ps r
termination_by structural ps => ps
end

theorem docOk_optional (S) (f : FieldDecl) (d : PyVal) : docOk S (.anyOf [f, .noneF]) d = docOk S f d := by
  simp only [docOk, docOkL, anyOfDoc]

theorem docOkL_eq_map (S) (d : PyVal) : ∀ fs : List FieldDecl, docOkL S fs d = fs.map (fun f => docOk S f d)
  | [] => rfl
  | f :: fs => by rw [docOkL, docOkL_eq_map S d fs]; rfl

theorem docOkP_iff (S) (r : List (PyVal × PyVal)) : ∀ fields : List (String × FieldDecl),
    docOkP S fields r = true ↔ ∀ n f, (n, f) ∈ fields → ∀ x, getKw n r = some x → docOk S f x = true
  | [] => ⟨fun _ _ _ h => (nomatch h), fun _ => rfl⟩
  | (k, g) :: rest => by
    simp only [docOkP, Bool.and_eq_true_iff, docOkP_iff S r rest, List.mem_cons, Prod.mk.injEq]
    constructor
    · rintro ⟨h1, h2⟩ n f (⟨rfl, rfl⟩ | hm) x hx
      · simpa only [hx] using h1
      · exact h2 n f hm x hx
    · intro h
      refine ⟨?_, fun n f hm => h n f (Or.inr hm)⟩
      cases hx : getKw k r with
      | none => rfl
      | some x => exact h k g (Or.inl ⟨rfl, rfl⟩) x hx

section
variable (R : String → PyVal → Bool) (S : String → String → Bool)

theorem jsV_numKws_eq (ty : String) (hty : ty = "number" ∨ ty = "integer") (isInt : Bool) (o : NumOpts) (d : PyVal) :
    jsV R S (.dict (numKws true ty isInt o)) d =
      (typeIs ty d && (match jsNum d with | some q => boundsOk isInt o q | none => true)) := by
  rw [jsV_dict _ _ _ _ (getKw_ref_numKws ty isInt o)]
  cases hq : jsNum d with
  | some q =>
    rw [jsKws_numKws R S _ ty isInt o d q (boolKw_exclMax_numKws ty isInt o) (boolKw_exclMin_numKws ty isInt o) hq]
    simp only [boundsOk, Bool.and_assoc]
  | none =>
    -- what is no number fails on `type`
    have hno : typeIs ty d = false := by
      rcases hty with rfl | rfl <;> cases d <;> first | rfl | cases hq
    simp only [numKws, List.append_assoc, List.cons_append, jsKws_type, hno, Bool.false_and]

theorem jsV_strKws_eq (lo hi : Option Nat) (pat : Option String) (d : PyVal) :
    jsV R S (.dict (strKws lo hi pat)) d = strDoc S lo hi pat d := by
  rw [jsV_dict _ _ _ _ (getKw_ref_strKws lo hi pat)]
  cases d with
  | str s => exact jsKws_strKws R S _ lo hi pat s
  | _ => simp only [strKws, List.append_assoc, List.cons_append, jsKws_type, typeIs_string, Bool.false_and, strDoc]

theorem jsV_boolean_eq (d : PyVal) : jsV R S (.dict [kw "type" (.str "boolean")]) d = boolDoc d := by
  rw [jsV_dict _ _ _ _ (by decide +kernel), jsKws_type, jsKws_nil, Bool.and_true, typeIs_boolean]
  cases d <;> rfl

/-- `Array`, `Array[X]`, `Tuple[X]`: no `additionalItems`, `items` absent or one schema -/
theorem jsV_arrKws_eq (sz : SizeOpts) (items : Option PyVal) (hs : items.all dictOrNone = true) (d : PyVal) :
    jsV R S (.dict (arrKws sz none items)) d =
      arrDoc sz.uniq sz (itemsDoc (items.map (jsV R S))) d := by
  rw [jsV_dict _ _ _ _ (getKw_ref_arrKws sz none items)]
  cases d with
  | list ys =>
    rw [jsKws_arrKws]
    cases items with
    | none => simp only [arrDoc, itemsDoc, Option.map, sizeOk, optKw, jsKws_nil, Bool.and_true]; ac_rfl
    | some s =>
      simp only [arrDoc, itemsDoc, Option.map, sizeOk, optKw, jsKws_items_single R S _ s hs]; ac_rfl
  | _ => simp only [arrKws, List.append_assoc, List.cons_append, jsKws_type, typeIs_array, Bool.false_and, arrDoc]

/-- positional `Array(items=[…])`, with or without `additionalItems=False` -/
theorem jsV_arrPos_eq (sz : SizeOpts) (addl : Bool) (ss : List PyVal) (d : PyVal) :
    jsV R S (.dict (arrKws sz (if addl then none else some (.bool false)) (some (.list ss)))) d =
      arrDoc sz.uniq sz (fun ys => jsZip R S ss ys && (addl || decide (ys.length ≤ ss.length))) d := by
  have hil := itemsLen_arrKws sz (if addl then none else some (.bool false)) ss
  rw [jsV_dict _ _ _ _ (getKw_ref_arrKws _ _ _)]
  cases d with
  | list ys =>
    rw [jsKws_arrKws]
    cases addl with
    | true => simp only [arrDoc, sizeOk, optKw, jsKws_items_pos, if_true, jsKws_nil, Bool.and_true, Bool.true_or]; ac_rfl
    | false =>
      simp only [Bool.false_eq_true, if_false] at hil ⊢
      simp only [arrDoc, sizeOk, optKw, jsKws_items_pos, jsKws_additionalItems_false R S _ _ hil, Bool.false_or]
      ac_rfl
  | _ =>
    simp only [arrKws, List.append_assoc, List.cons_append, jsKws_type, typeIs_array, Bool.false_and, arrDoc]

theorem jsV_setKws_eq (sz : SizeOpts) (items : Option PyVal) (hs : items.all dictOrNone = true) (d : PyVal) :
    jsV R S (.dict (setKws sz items)) d =
      arrDoc true sz (itemsDoc (items.map (jsV R S))) d := by
  rw [setKws_eq_arrKws]
  exact jsV_arrKws_eq R S { sz with uniq := true } items hs d

/-- `Tuple`: `items` positional and `additionalItems: false` -/
theorem jsV_tupKws_eq (u : Bool) (ss : List PyVal) (d : PyVal) :
    jsV R S (.dict (tupKws u ss)) d =
      arrDoc u {} (fun ys => jsZip R S ss ys && decide (ys.length ≤ ss.length)) d := by
  rw [tupKws_eq_arrKws]
  exact jsV_arrPos_eq R S { uniq := u } false ss d

theorem jsV_mapAny_eq (sz : SizeOpts) (d : PyVal) :
    jsV R S (.dict (mapKws none none sz)) d = mapDoc sz (fun _ => true) d := by
  rw [jsV_dict _ _ _ _ (by simp [mapKws, getKw_append, getKw_optKw, getKw_kw_cons])]
  cases d with
  | dict kvs =>
    have hall : (kvs.all fun _ => true) = true := List.all_eq_true.mpr fun _ _ => rfl
    simp only [mapKws, jsKws_append, jsKws_type, jsKws_nil, typeIs_object, jsKws_maxProperties_opt,
      jsKws_minProperties_opt, sizeOk, mapDoc, hall, Bool.true_and, Bool.and_true]
    ac_rfl
  | _ => simp only [mapKws, List.append_assoc, List.cons_append, jsKws_type, typeIs_object, Bool.false_and, mapDoc]

/-- `Map[String(…), V]`: `patternProperties` under a constrained key, `additionalProperties` otherwise; the enclosing
    object names no property, so `additionalProperties` ranges over every member -/
theorem jsV_mapOf_eq (k : FieldDecl) (s : PyVal) (hs : dictOrNone s = true) (sz : SizeOpts) (d : PyVal) :
    jsV R S (.dict (mapKws (some k) (some s) sz)) d = mapDoc sz (mapMember S k (jsV R S s)) d := by
  have href : getKw "$ref" (mapKws (some k) (some s) sz) = none := by
    cases hk : (mapKeyPattern k != "") <;> simp [mapKws, hk, getKw_append, getKw_optKw, getKw_kw_cons]
  rw [jsV_dict _ _ _ _ href]
  cases d with
  | dict kvs =>
    unfold mapMember
    cases hk : (mapKeyPattern k != "") with
    | true =>
      simp only [mapKws, hk, if_true, jsKws_append, jsKws_type, jsKws_nil, typeIs_object, jsKws_maxProperties_opt,
        jsKws_minProperties_opt, jsKws_patternProperties, jsPats_single, sizeOk, mapDoc, Bool.and_true, Bool.true_and]
      ac_rfl
    | false =>
      have hx : extraMembers S (mapKws (some k) (some s) sz) kvs = kvs := by
        have hm1 : memberNames "properties" (mapKws (some k) (some s) sz) = [] := by
          simp [memberNames, mapKws, hk, getKw_append, getKw_optKw, getKw_kw_cons]
        have hm2 : memberNames "patternProperties" (mapKws (some k) (some s) sz) = [] := by
          simp [memberNames, mapKws, hk, getKw_append, getKw_optKw, getKw_kw_cons]
        unfold extraMembers
        rw [hm1, hm2, List.filter_eq_self]
        intro kv _
        cases docKey kv.1 <;> rfl
      suffices h : ∀ ctx, extraMembers S ctx kvs = kvs →
          jsKws R S ctx (mapKws (some k) (some s) sz) (.dict kvs) =
            (sizeOk sz kvs.length && kvs.all (fun kv => jsV R S s kv.2)) from by
        simp only [mapDoc, Bool.false_eq_true, if_false]; exact h _ hx
      intro ctx hx
      simp only [mapKws, hk, Bool.false_eq_true, if_false, jsKws_append, jsKws_type, jsKws_nil,
        typeIs_object, jsKws_maxProperties_opt, jsKws_minProperties_opt, jsKws_additionalProperties, hx, sizeOk,
        Bool.and_true, Bool.true_and]
      cases s <;> first | exact Bool.noConfusion hs | ac_rfl
  | _ => simp only [mapKws, List.append_assoc, List.cons_append, jsKws_type, typeIs_object, Bool.false_and, mapDoc]

/-- `properties` over the field schemas of a class, as a verdict on the members of the document -/
def propsB : List (String × PyVal) → List (PyVal × PyVal) → Bool
  | [], _ => true
  | (n, s) :: rest, r => (match getKw n r with | some x => jsV R S s x | none => true) && propsB rest r

/-- a `default` written into a property schema is ignored by the validator -/
theorem jsProps_propsOf_eq (defaults : List (String × PyVal)) (r : List (PyVal × PyVal)) :
    ∀ fields : List (String × PyVal), jsProps R S (propsOf defaults fields) r = propsB R S fields r
  | [] => rfl
  | (n, s) :: rest => by
    simp only [propsOf, jsProps, kw, docKey, propsB, jsProps_propsOf_eq defaults r rest]
    cases getKw n r <;> simp only [c08_jsV_addDefault]

theorem propsOf_names (defaults : List (String × PyVal)) : ∀ fields : List (String × PyVal),
    docKeys (propsOf defaults fields) = fields.map (·.1)
  | [] => rfl
  | (n, _) :: rest => congrArg (n :: ·) (propsOf_names defaults rest)

theorem filter_isEmpty {α} (p : α → Bool) : ∀ l : List α, (l.filter p).isEmpty = l.all (fun x => !p x)
  | [] => rfl
  | x :: l => by cases h : p x <;> simp [List.filter, h, filter_isEmpty p l]

/-- the object schema of a class, with or without a key map: `type`, `properties`, `required`, `additionalProperties` -/
theorem jsV_objectSchema_eq (ps : List (PyVal × PyVal)) (req : List String) (addl : Bool) (d : PyVal) :
    jsV R S (.dict [kw "type" (.str "object"), kw "properties" (.dict ps),
      kw "required" (.list (req.map PyVal.str)), kw "additionalProperties" (.bool addl)]) d
      = objDoc req addl (docKeys ps) (jsProps R S ps) d := by
  rw [jsV_dict _ _ _ _ rfl, jsKws_type, jsKws_properties, jsKws_required, jsKws_additionalProperties, jsKws_nil]
  cases d with
  | dict r =>
    -- the enclosing object names exactly the members of `properties` and has no `patternProperties`
    have hmn : memberNames "properties" [kw "type" (.str "object"), kw "properties" (.dict ps),
      kw "required" (.list (req.map PyVal.str)), kw "additionalProperties" (.bool addl)]
        = docKeys ps := rfl
    have hpp : memberNames "patternProperties" [kw "type" (.str "object"), kw "properties" (.dict ps),
      kw "required" (.list (req.map PyVal.str)), kw "additionalProperties" (.bool addl)] = [] := rfl
    simp only [typeIs_object, Bool.true_and, Bool.and_true, List.all_map, objDoc]
    unfold extraMembers
    rw [filter_isEmpty, hmn, hpp, ← Bool.and_assoc]
    refine congr (congrArg and rfl) (congrArg (or addl) (congrArg (List.all r) (funext fun kv => ?_)))
    cases docKey kv.1 <;> simp
  | _ => simp only [typeIs_object, Bool.false_and, objDoc]

theorem jsV_classObj_eq (c : ClassOpts) (defaults : List (String × PyVal)) (fields : List (String × PyVal))
    (d : PyVal) :
    jsV R S (classObj c defaults fields) d =
      objDoc (schemaRequired c defaults) c.addl (fields.map (·.1)) (propsB R S fields) d := by
  rw [classObj, jsV_objectSchema_eq, propsOf_names,
    show jsProps R S (propsOf defaults fields) = propsB R S fields from
      funext fun r => jsProps_propsOf_eq R S defaults r fields]

theorem jsV_elemWrap_eq (f : FieldDecl) (s d : PyVal) :
    jsV R S (elemWrap f s) d = (if isOptional f && isDictB s then jsV R S s d || d.isNone else jsV R S s d) := by
  unfold elemWrap
  cases isOptional f with
  | false => rfl
  | true =>
    cases s with
    | dict kvs =>
      have hnull : jsV R S nullSchema d = d.isNone := by
        rw [nullSchema, jsV_dict _ _ _ _ (by decide +kernel), jsKws_type, jsKws_nil, Bool.and_true]
        cases d <;> rfl
      simp only [if_true, Bool.true_and, isDictB, jsV_anyOf, jsAnyL, Bool.or_false, hnull]
    | _ => rfl

theorem jsV_elemWrap_emit (f : FieldDecl) (b : PyVal → Bool) (h : ∀ x, jsV R S (emit true f) x = b x) :
    jsV R S (elemWrap f (emit true f)) = elemDoc f b :=
  funext fun x => by rw [jsV_elemWrap_eq, elemDoc, h x]

theorem jsAnyL_map (d : PyVal) : ∀ ss : List PyVal, jsAnyL R S ss d = (ss.map (fun s => jsV R S s d)).any id
  | [] => rfl
  | s :: ss => by simp only [jsAnyL, List.map_cons, List.any_cons, id, jsAnyL_map d ss]

theorem jsAllL_map (d : PyVal) : ∀ ss : List PyVal, jsAllL R S ss d = (ss.map (fun s => jsV R S s d)).all id
  | [] => rfl
  | s :: ss => by simp only [jsAllL, List.map_cons, List.all_cons, id, jsAllL_map d ss]

theorem jsCount_map (d : PyVal) : ∀ ss : List PyVal, jsCount R S ss d = (ss.map (fun s => jsV R S s d)).countP id
  | [] => rfl
  | s :: ss => by
    simp only [jsCount, List.map_cons, List.countP_cons, id, jsCount_map d ss]
    cases jsV R S s d <;> simp <;> omega

theorem jsZip_map : ∀ (ss ys : List PyVal), jsZip R S ss ys = zipDoc (ss.map (jsV R S)) ys
  | [], _ => rfl
  | _ :: _, [] => rfl
  | s :: ss, y :: ys => by simp only [jsZip, List.map_cons, zipDoc_cons_cons, jsZip_map ss ys]

theorem jsV_anyOfShape (fs : List FieldDecl) (ss : List PyVal) (d : PyVal) :
    jsV R S (anyOfShape fs ss) d = anyOfDoc fs (ss.map (fun s => jsV R S s d)) := by
  unfold anyOfShape anyOfDoc
  split
  · rfl
  · rename_i hneg
    rw [jsV_anyOf, jsAnyL_map]
    split
    · rename_i heq
      -- a two-element list of verdicts comes from a two-element list of schemas
      match ss, heq with
      | [a, b], _ => exact (hneg _ _ _ rfl rfl).elim
      | [], h => simp at h
      | [_], h => simp at h
      | _ :: _ :: _ :: _, h => simp at h
    · rfl

end
end Typedpy.Sch
