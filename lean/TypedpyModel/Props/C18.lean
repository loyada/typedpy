/-
  Props/C18.lean — C18: rejections name the offending field; collect-all mode reports all
  invalid ones.

  Model: Sem/Errors.lean, which mirrors /repo 18c6055 (with 4d96101, 041aebb, 9c7ef9a, 23519e1, 8de2ad2,
  3e97bbb): the message regexes are DOTALL with field group `(?:[\w.]|[^\x00-\x7f\s])+`, no check raises
  a foreign exception, nested and inline structures name the field that holds them.  "Which fields are
  invalid" is `invalidFields`, defined from `validate` (Sem/Validate.lean) and from nothing in the
  message code.

  A message is `<path>: <body>`, and the first regex group takes the path iff it lies in the field
  group, whatever the body holds (`render_parse_exact`).  So which fields are reported depends on
  the names alone (`collect_all_exact`: no condition on the texts), and the texts matter only for
  recovering value and problem (`render_parse`, `render_parse_inverts`).  The path of a constructor
  rejection is computed by `locate` from `validate` and leads to the first rejected position at any
  depth (`locate_sound`, `locate_seqOf_first`); deserialization wraps every inner message in its own
  field's name (`p1SiteD_names_own_field`).
  False: a class name outside the field group — `type('My Class', …)` — loses the field
  (`non_word_name_loses_field`, `statement_false`); collect-all deserialization reports only what
  its first phase rejects, if that is anything (`two_phase_example`, `deserInvalid_nil_ctorOnly`).
-/
import TypedpyModel.Lemmas.Errors
import TypedpyModel.Lemmas.SerdeBasic
namespace Typedpy.C18
open Typedpy Typedpy.Err

/-- side condition on the texts of a message, per shape, for a NON-EMPTY parsed problem (the field
    needs none).  All typedpy problem texts (`Expected …`, `Does not match …`) satisfy it. -/
def goodTexts : Shape → Text → Text → Bool
  | .gotFirst, _, p => !p.isEmpty
  | .gotLast, _, p => !p.isEmpty && p.head? != some 'G'
  | .plain, _, p => !p.isEmpty && p.head? != some 'G' && p.head? != some ';'

theorem field_chars_necessary (W : Word) (s : Text) (f : Text) (h : (parseMsg W s).field = some f) :
    identOk W f = true := by
  unfold parseMsg at h
  split at h
  · rename_i a as c rest h1 h2
    split at h
    · simp only [Option.some.injEq] at h
      rw [← h, ← h1, identOk_iff]
      exact ⟨by rw [h1]; simp, spanField_fst_all W s⟩
    · simp at h
  · simp at h

/-- `<field>: <rest>` keeps its field iff the field text lies in the field group of the three regexes
    (`identOk`), whatever the rest contains (newlines, `;`, `; Got `, JSON, …) -/
theorem render_parse_exact (W : Word) (hW : W.Sound) (f rest : Text) :
    (parseMsg W (f ++ ':' :: ' ' :: rest)).field = some f ↔ identOk W f = true :=
  ⟨field_chars_necessary W _ f, parse_field W hW f rest⟩

theorem render_eq (m : Msg) :
    m.render = m.fullPath ++ ':' :: ' ' :: body m.shape m.value m.problem := by
  simp [Msg.render, Msg.fullPath, withClass_append]

theorem splitLast_prepend (pat : Text) (s a b : Text) (h : splitLast pat s = some (a, b)) :
    ∀ p : Text, splitLast pat (p ++ s) = some (p ++ a, b) := by
  intro p
  induction p with
  | nil => simpa using h
  | cons c p ih => simp [splitLast, ih]

/-- the side condition for a non-empty problem mentions neither the value nor `;` or newlines -/
theorem render_parse (W : Word) (hW : W.Sound) (m : Msg) (hp : identOk W m.fullPath = true)
    (ht : goodTexts m.shape m.value m.problem = true) :
    (parseMsg W m.render).field = some m.fullPath ∧ (parseMsg W m.render).problem ≠ [] := by
  refine ⟨by rw [render_eq]; exact parse_field W hW _ _ hp, ?_⟩
  rw [render_eq, parseMsg_header W hW _ _ hp]
  obtain ⟨cls, path, shape, v, p⟩ := m
  cases shape with
  | gotFirst =>
    simp only [goodTexts, Bool.not_eq_true', List.isEmpty_eq_false_iff] at ht
    rw [parseTail_space]
    cases h1 : m1tail (body .gotFirst v p) with
    | some vp =>
      exact transform_nonempty vp.2 (List.ne_nil_of_length_pos
        (Nat.lt_of_lt_of_le (List.length_pos_iff.2 ht) (m1tail_problem_length v p vp h1)))
    | none => exact m23tail_problem_nonempty _ (by simp [body, sGot]) (by simp [body, sGot])
  | gotLast =>
    simp only [goodTexts, Bool.and_eq_true, Bool.not_eq_true', bne_iff_ne, ne_eq,
      List.isEmpty_eq_false_iff] at ht
    obtain ⟨hne, hG⟩ := ht
    rw [parseTail_gotLast v p hG]
    -- greedy first group: the split is at or after the separator, so the problem contains `p`
    obtain ⟨⟨a, b⟩, hab⟩ := splitLast_of_prefix sSemiGot (by decide) v
    simp only [body, m23tail, splitLast_prepend sSemiGot _ a b hab p]
    exact transform_nonempty _ (by simp [hne])
  | plain =>
    simp only [goodTexts, Bool.and_eq_true, Bool.not_eq_true', bne_iff_ne, ne_eq,
      List.isEmpty_eq_false_iff] at ht
    obtain ⟨⟨hne, hG⟩, hS⟩ := ht
    rw [parseTail_of_head (body .plain v p) (by simpa [body] using hG)]
    exact m23tail_problem_nonempty _ (by simpa [body] using hne) (by simpa [body] using hS)

/-- the side condition of `render_parse` is needed: an empty problem text is parsed as empty -/
theorem empty_problem_example :
    (parseMsg asciiWord (Msg.render ⟨some "Foo".toList, "i".toList, .gotFirst, "1".toList, []⟩)).problem = [] := by
  -- a literal is `String.ofList` of its characters: `toList` of it is taken by the lemma, which costs
  -- nothing, where evaluation would run the UTF-8 encoder and decoder in the kernel for every character
  repeat rw [String.toList_ofList]
  decide +kernel

theorem render_parse_gotFirst (W : Word) (hW : W.Sound) (f v p : Text) (hf : identOk W f = true)
    (hv : noSemi v = true) :
    parseMsg W (f ++ ':' :: ' ' :: body .gotFirst v p) = ⟨some f, some v, transform p⟩ := by
  rw [parseMsg_header W hW _ _ hf, parseTail_space, m1tail_gotFirst v p hv]

def noOcc (pat : Text) : Text → Bool
  | [] => (dropPre pat []).isNone
  | c :: cs => (dropPre pat (c :: cs)).isNone && noOcc pat cs

theorem splitLast_cons_none (pat : Text) (c : Char) (cs : Text) (h : splitLast pat cs = none) :
    splitLast pat (c :: cs) = (dropPre pat (c :: cs)).map fun r => ([], r) := by
  rw [splitLast, h]

theorem splitLast_none_of_noOcc (pat : Text) : ∀ (s : Text), noOcc pat s = true → splitLast pat s = none := by
  intro s
  induction s with
  | nil => intro _; rfl
  | cons c cs ih =>
    intro h
    simp only [noOcc, Bool.and_eq_true, Option.isNone_iff_eq_none] at h
    rw [splitLast_cons_none pat c cs (ih h.2), h.1]; rfl

theorem splitLast_semiGot_base (v : Text) (h : noOcc sSemiGot v = true) :
    splitLast sSemiGot (sSemiGot ++ v) = some ([], v) := by
  have h1 : noOcc sSemiGot (' ' :: 'G' :: 'o' :: 't' :: ' ' :: v) = true := by
    simpa [noOcc, dropPre, sSemiGot] using h
  show splitLast sSemiGot (';' :: ' ' :: 'G' :: 'o' :: 't' :: ' ' :: v) = some ([], v)
  rw [splitLast_cons_none _ _ _ (splitLast_none_of_noOcc _ _ h1)]
  exact congrArg _ (dropPre_append sSemiGot v)

/-- the greedy first group of regex 2 splits at the LAST `; Got `, which is the separator when the value
    holds none -/
theorem m23tail_gotLast_exact (v p : Text) (h : noOcc sSemiGot v = true) :
    m23tail (p ++ (sSemiGot ++ v)) = (some v, p) := by
  have := splitLast_prepend sSemiGot _ _ _ (splitLast_semiGot_base v h) p
  simp only [m23tail, this, List.append_nil]

theorem render_parse_gotLast (W : Word) (hW : W.Sound) (f v p : Text) (hf : identOk W f = true)
    (hG : p.head? ≠ some 'G') (hv : noOcc sSemiGot v = true) :
    parseMsg W (f ++ ':' :: ' ' :: body .gotLast v p) = ⟨some f, some v, transform p⟩ := by
  rw [parseMsg_header W hW _ _ hf, parseTail_gotLast v p hG]
  simp only [body, m23tail_gotLast_exact v p hv]

theorem render_parse_plain (W : Word) (hW : W.Sound) (f p : Text) (hf : identOk W f = true)
    (hG : p.head? ≠ some 'G') (hp : noOcc sSemiGot p = true) :
    parseMsg W (f ++ ':' :: ' ' :: body .plain [] p) = ⟨some f, none, transform p⟩ := by
  rw [parseMsg_header W hW _ _ hf, parseTail_of_head _ (by simpa [body] using hG)]
  simp only [body, m23tail, splitLast_none_of_noOcc sSemiGot p hp]

/-- the (decidable) side condition under which the parse INVERTS the formatter, per shape; no
    condition on newlines anywhere (the regexes are DOTALL) -/
def cleanTexts : Shape → Text → Text → Bool
  | .gotFirst, v, _ => noSemi v
  | .gotLast, v, p => noOcc sSemiGot v && (p.head? != some 'G')
  | .plain, _, p => noOcc sSemiGot p && (p.head? != some 'G')

/-- what `ErrorInfo` should carry for a message -/
def msgInfo (m : Msg) : Parsed :=
  ⟨some m.fullPath, (match m.shape with | .plain => none | _ => some m.value), transform m.problem⟩

/-- the parse inverts the formatter: for every class name / field path in the field group, every shape
    and all clean texts (newlines, quotes, non-ASCII, JSON … allowed), the regex cascade returns exactly
    the path, the value and the readable problem that were rendered -/
theorem render_parse_inverts (W : Word) (hW : W.Sound) (m : Msg) (hp : identOk W m.fullPath = true)
    (hc : cleanTexts m.shape m.value m.problem = true) : parseMsg W m.render = msgInfo m := by
  rw [render_eq]
  obtain ⟨cls, path, shape, v, p⟩ := m
  cases shape with
  | gotFirst =>
    simp only [cleanTexts] at hc
    exact render_parse_gotFirst W hW _ v p hp hc
  | gotLast =>
    simp only [cleanTexts, Bool.and_eq_true, bne_iff_ne, ne_eq] at hc
    exact render_parse_gotLast W hW _ v p hp hc.2 hc.1
  | plain =>
    simp only [cleanTexts, Bool.and_eq_true, bne_iff_ne, ne_eq] at hc
    have := render_parse_plain W hW (Msg.fullPath ⟨cls, path, .plain, v, p⟩) p hp hc.2 hc.1
    simpa [body, msgInfo] using this

/-- the conditions are needed: a value containing `; Got ` moves the split of shape 2, a problem
    starting with `Got ` is taken by regex 1 -/
theorem unclean_texts_examples :
    parseMsg asciiWord (Msg.render ⟨some "Foo".toList, "b".toList, .gotLast, "'x; Got y'".toList,
      "Expected <class 'bool'>".toList⟩) =
      ⟨some "Foo.b".toList, some "y'".toList, "Expected <class 'bool'>; Got 'x".toList⟩ ∧
    parseMsg asciiWord (Msg.render ⟨some "Foo".toList, "b".toList, .gotLast, "1".toList,
      "Got ; it".toList⟩) = ⟨some "Foo.b".toList, some [], "it; Got 1".toList⟩ := by
  repeat rw [String.toList_ofList]
  decide +kernel

/-- `wrap_val(v)` for a `str`: the text between single quotes -/
def quoteStr (s : Text) : Text := '\'' :: (s ++ ['\''])

theorem noSemi_quoteStr (s : Text) : noSemi (quoteStr s) = noSemi s := by
  simp [noSemi, quoteStr, List.all_append]

theorem dropPre_none_snoc (pat : Text) (q : Char) (hq : ∀ c ∈ pat, c ≠ q) :
    ∀ t : Text, dropPre pat t = none → dropPre pat (t ++ [q]) = none := by
  induction pat with
  | nil => intro t h; cases t <;> simp [dropPre] at h
  | cons a p ih =>
    intro t h
    cases t with
    | nil =>
      have : a ≠ q := hq a List.mem_cons_self
      simp [dropPre, this]
    | cons b t' =>
      simp only [List.cons_append, dropPre] at h ⊢
      split
      · rename_i hab
        simp only [hab, if_true] at h
        exact ih (fun c hc => hq c (List.mem_cons_of_mem _ hc)) t' h
      · rfl

theorem noOcc_snoc (pat : Text) (hne : pat ≠ []) (q : Char) (hq : ∀ c ∈ pat, c ≠ q) :
    ∀ t : Text, noOcc pat t = true → noOcc pat (t ++ [q]) = true := by
  have hnil : dropPre pat [] = none := by
    cases pat with
    | nil => exact absurd rfl hne
    | cons a p => rfl
  have hone : dropPre pat [q] = none := dropPre_none_snoc pat q hq [] hnil
  intro t
  induction t with
  | nil => intro _; simp [noOcc, hone, hnil]
  | cons c cs ih =>
    intro h
    simp only [noOcc, Bool.and_eq_true, Option.isNone_iff_eq_none] at h
    simp only [List.cons_append, noOcc, Bool.and_eq_true, Option.isNone_iff_eq_none]
    exact ⟨dropPre_none_snoc pat q hq (c :: cs) h.1, ih h.2⟩

theorem noOcc_quoteStr (s : Text) (h : noOcc sSemiGot s = true) : noOcc sSemiGot (quoteStr s) = true := by
  have hs := noOcc_snoc sSemiGot (by decide) '\'' (by decide) s h
  simp only [quoteStr, noOcc, Bool.and_eq_true]
  exact ⟨by simp [dropPre, sSemiGot], hs⟩

/-- a rejected `str` value comes back exactly as `wrap_val` rendered it — for every path in the field
    group, every problem text, every string without `;` (value-first shape) resp. without
    `; Got ` (value-last shape); newlines, quotes, `: `, non-ASCII are all allowed -/
theorem str_value_roundtrip (W : Word) (hW : W.Sound) (f s p : Text) (hf : identOk W f = true) :
    (noSemi s = true →
      parseMsg W (f ++ ':' :: ' ' :: body .gotFirst (quoteStr s) p) = ⟨some f, some (quoteStr s), transform p⟩) ∧
    (noOcc sSemiGot s = true → p.head? ≠ some 'G' →
      parseMsg W (f ++ ':' :: ' ' :: body .gotLast (quoteStr s) p) = ⟨some f, some (quoteStr s), transform p⟩) :=
  ⟨fun h => render_parse_gotFirst W hW f _ p hf (by rw [noSemi_quoteStr]; exact h),
   fun h hG => render_parse_gotLast W hW f _ p hf hG (noOcc_quoteStr s h)⟩

def msgIntNewline : Msg :=
  ⟨some "Foo".toList, "i".toList, .gotLast, "'a\nb'".toList, "Expected <class 'int'>".toList⟩

/-- `Integer` given `'a\nb'`: field, value (with its newline) and readable problem all recovered
    (finding `field-lost:newline`, fixed by /repo 4d96101: the regexes are DOTALL) -/
theorem newline_value_keeps_field :
    parseMsg asciiWord msgIntNewline.render =
      ⟨some "Foo.i".toList, some "'a\nb'".toList, "Expected an integer number".toList⟩ := by
  unfold msgIntNewline
  repeat rw [String.toList_ofList]
  decide +kernel

/-- `String(pattern='^a\nb')`: a newline in the problem text is harmless too -/
theorem newline_problem_keeps_field :
    parseMsg asciiWord (Msg.render ⟨some "Foo".toList, "s".toList, .gotFirst, "'x'".toList,
      "Does not match regular expression: '^a\nb'".toList⟩) =
      ⟨some "Foo.s".toList, some "'x'".toList, "Does not match regular expression: '^a\nb'".toList⟩ := by
  repeat rw [String.toList_ofList]
  decide +kernel

/-- a `;` in a shape-1 value sends the message to regex 3: field kept, value lost, the
    problem is the whole rest -/
theorem semicolon_value_demoted :
    parseMsg asciiWord (Msg.render ⟨some "Foo".toList, "s".toList, .gotFirst, "'a;b'".toList,
      "Expected a maximum length of 2".toList⟩) =
      ⟨some "Foo.s".toList, none, "Got 'a;b'; Expected a maximum length of 2".toList⟩ := by
  repeat rw [String.toList_ofList]
  decide +kernel

theorem pyFieldWord_sound : Word.Sound pyFieldWord :=
  ⟨fun c h => by simp [pyFieldWord, h], by decide⟩

theorem asciiWord_sound : Word.Sound asciiWord := ⟨fun _ h => h, by decide⟩

/-- finding `field-lost:non-ascii-name`, fixed by /repo 4d96101 -/
theorem non_ascii_name_keeps_field :
    (parseMsg pyFieldWord
      (Msg.render ⟨some "Foo".toList, "é".toList, .gotLast, "'x'".toList,
        "Expected <class 'int'>".toList⟩)).field = some "Foo.é".toList := by
  repeat rw [String.toList_ofList]
  decide +kernel

/-- finding `field-lost:non-word-name`: a path containing any character outside the field group
    never comes back as the field, whatever the rest -/
theorem non_word_name_loses_field (W : Word) (f rest : Text) (h : identOk W f = false) :
    (parseMsg W (f ++ ':' :: ' ' :: rest)).field ≠ some f := by
  intro hf
  rw [field_chars_necessary W _ f hf] at h
  exact absurd h (by simp)

/-- the identifier part of that finding is fixed by /repo 18c6055: valid identifiers with combining
    marks / vowel signs — `x` + U+0301, Hindi `नाम` (U+093E is a vowel sign), Thai `ชื่อ` — keep their
    field under that commit's field group, and were lost under `[\w.]+` (where such characters are not
    alphanumeric: `asciiWord` answers as `str.isalnum` does for them) -/
theorem combining_mark_name_keeps_field :
    (parseMsg pyFieldWord (Msg.render ⟨some "Foo".toList, ['x', '́'], .gotLast, "'a'".toList,
      "Expected <class 'int'>".toList⟩)).field = some ("Foo.".toList ++ ['x', '́']) ∧
    (parseMsg pyFieldWord "Foo.नाम: Expected <class 'int'>; Got 'a'".toList).field = some "Foo.नाम".toList ∧
    (parseMsg pyFieldWord "Foo.ชื่อ: Got 'ab'; Expected a maximum length of 1".toList).field = some "Foo.ชื่อ".toList ∧
    (parseMsg asciiWord (Msg.render ⟨some "Foo".toList, ['x', '́'], .gotLast, "'a'".toList,
      "Expected <class 'int'>".toList⟩)).field = none := by
  repeat rw [String.toList_ofList]
  decide +kernel

/-- what is left of the finding: a class name that is not an identifier (`type('My Class', …)`,
    `a-b`, `Gen[int]`) loses the field -/
theorem non_identifier_class_name_loses_field :
    (parseMsg pyFieldWord "My Class.i: Expected <class 'int'>; Got 'x'".toList).field = none ∧
    (parseMsg pyFieldWord "a-b.i: Expected <class 'int'>; Got 'x'".toList).field = none ∧
    (parseMsg pyFieldWord "Gen[int].i: Expected <class 'int'>; Got 'x'".toList).field = none := by
  repeat rw [String.toList_ofList]
  decide +kernel

/-- former findings `no-path:unnamed-inner-field:deser-collection`, `no-path:unhashable:deser-set`
    (fixed by /repo 23519e1; a regression that re-opens them produces these texts again): texts
    that deserialization raised without any path — bare, and with the class prefix that
    `raise_errs_if_needed` adds — give no field (or, for an unnamed Enum item, the field `None`) -/
theorem deser_foreign_texts_no_field :
    (parseMsg asciiWord "Expected <class 'int'>; Got 'x'".toList).field = none ∧
    (parseMsg asciiWord "Foo.Expected <class 'int'>; Got 'x'".toList).field = none ∧
    (parseMsg asciiWord "unhashable type: 'list'".toList).field = none ∧
    (parseMsg asciiWord "Foo.unhashable type: 'list'".toList).field = none ∧
    (parseMsg asciiWord "None: Got 5; Expected one of 1, 2".toList).field = some "None".toList := by
  repeat rw [String.toList_ofList]
  decide +kernel

theorem transform_examples :
    transform "Expected <class 'int'>".toList = "Expected an integer number".toList ∧
    transform "Expected <class 'bool'>".toList = "Expected <class 'bool'>".toList ∧
    transform "Expected a string".toList = "Expected a string".toList := by
  repeat rw [String.toList_ofList]
  decide +kernel

/-- the only way `standard_readable_error_for_typedpy_exception` raises: collect-all mode and
    `str(e)` is valid JSON that is not an iterable of strings -/
theorem readable_raises_iff (ff : Bool) (J : Codec) (s : Text) :
    (∃ e, readable ff J s = .error e) ↔ ff = false ∧ J.loads s = .raises := by
  unfold readable
  cases ff with
  | true => simp
  | false => cases h : J.loads s <;> simp

theorem readable_total (ff : Bool) (J : Codec) (s : Text) (h : ff = true ∨ J.loads s ≠ .raises) :
    ∃ out, readable ff J s = .ok out := by
  cases hr : readable ff J s with
  | ok out => exact ⟨out, rfl⟩
  | error e =>
    have := (readable_raises_iff ff J s).1 ⟨e, hr⟩
    cases h with
    | inl h => simp [h] at this
    | inr h => exact absurd this.2 h

theorem readable_total_on_rejections (O : Oracles) (T : Texts) (J : Codec) (hJ : J.RoundTrip)
    (ff : Bool) (c : ClassOpts) (fields : List (String × FieldDecl)) (kw : List (String × PyVal))
    (t : Text) (h : (constructRaises O T ff c fields kw).text J = some t) :
    ∃ out, readable ff J t = .ok out := by
  cases ff with
  | true => exact readable_total true J t (Or.inl rfl)
  | false =>
    refine readable_total false J t (.inr ?_)
    cases hr : constructRaises O T false c fields kw with
    | single e t' => exact nomatch (constructRaises_inv O T false c fields kw hr).1
    | collected ts =>
      rw [hr] at h
      rw [← Option.some.inj h, hJ]
      exact Loaded.noConfusion
    | _ => rw [hr] at h; exact nomatch h

/-- observation (outside the statement's domain): in collect-all mode a message that is a bare
    JSON scalar makes the helper raise -/
theorem readable_raises_example (J : Codec) (h : J.loads ['5'] = .raises) :
    readable false J ['5'] = .error "TypeError" := by
  simp [readable, h]

/-- the message text begins with `<Class>.<top>[suffix]: ` -/
def BeginsWithPath (cls : Text) (t : Text) (n : String) : Prop :=
  ∃ (suf : SufPath) (rest : Text), t = withClass (some cls) (n.toList ++ suf.text) ++ ':' :: ' ' :: rest

/-- `ErrorInfo.field` names the top-level field `n` -/
def InfoNames (cls : Text) (i : Info) (n : String) : Prop :=
  ∃ p, i.field = some p ∧ namesField (some cls) n p

def siteGood (T : Texts) (s : Site) : Bool := goodTexts s.loc.shape (T s).1 (T s).2

theorem site_text (T : Texts) (cls : Text) (s : Site) :
    withClass (some cls) (s.text T) =
      withClass (some cls) (s.top.toList ++ s.loc.suffix.text) ++
        ':' :: ' ' :: body s.loc.shape (T s).1 (T s).2 := by
  simp [Site.text, withClass]

theorem site_begins (T : Texts) (cls : Text) (s : Site) :
    BeginsWithPath cls (withClass (some cls) (s.text T)) s.top :=
  ⟨s.loc.suffix, _, site_text T cls s⟩

/-- every site's message keeps its full path — no condition on the texts -/
theorem site_field (W : Word) (hW : W.Sound) (T : Texts) (cls : Text) (s : Site)
    (hc : identOk W cls = true) (ht : identOk W s.top.toList = true) :
    (parseMsg W (withClass (some cls) (s.text T))).field =
      some (withClass (some cls) (s.top.toList ++ s.loc.suffix.text)) := by
  rw [site_text T cls s]
  exact parse_field W hW _ _ (identOk_path W hW cls _ _ hc ht)

theorem site_problem (W : Word) (hW : W.Sound) (T : Texts) (cls : Text) (s : Site)
    (hc : identOk W cls = true) (ht : identOk W s.top.toList = true) (h : siteGood T s = true) :
    (parseMsg W (withClass (some cls) (s.text T))).problem ≠ [] := by
  have := render_parse W hW
    ⟨some cls, s.top.toList ++ s.loc.suffix.text, s.loc.shape, (T s).1, (T s).2⟩
    (identOk_path W hW cls _ _ hc ht) h
  rw [render_eq] at this
  rw [site_text T cls s]
  exact this.2

/-- what the property says about one run of `cls(**kw)` under the global switch `ff`, observed at
    `str(exception)` and at the helper's result -/
def Reported (O : Oracles) (T : Texts) (J : Codec) (ff : Bool) (c : ClassOpts)
    (fields : List (String × FieldDecl)) (kw : List (String × PyVal)) : Prop :=
  match constructRaises O T ff c fields kw with
  | .single _ t =>
    ∃ n, n ∈ invalidFields O c kw fields ∧ BeginsWithPath c.name.toList t n ∧
      ∃ i, readable ff J t = .ok (.single i) ∧ InfoNames c.name.toList i n ∧ i.problemNonEmpty = true
  | .collected ts =>
    Aligned (BeginsWithPath c.name.toList) ts (invalidFields O c kw fields) ∧
      ∃ infos, readable ff J (J.dumps ts) = .ok (.many infos) ∧
        Aligned (InfoNames c.name.toList) infos (invalidFields O c kw fields)
  | _ => True

/-- the texts are typedpy's: every problem text satisfies the (first-character / non-empty) side
    condition -/
def TextsWellFormed (T : Texts) : Prop := ∀ s, siteGood T s = true

/-- C18 at full strength, for flat classes: every class (ANY names), argument set, well-formed
    texts, codec whose word class `J.word` is sound, both modes -/
def Statement : Prop :=
  ∀ (O : Oracles) (T : Texts) (J : Codec) (ff : Bool) (c : ClassOpts)
    (fields : List (String × FieldDecl)) (kw : List (String × PyVal)),
    J.word.Sound → (ff = false → J.RoundTrip) → TextsWellFormed T →
    fields.all (fun nf => isFlatDecl nf.2) = true →
    Reported O T J ff c fields kw

/-- collect-all mode: the messages and the reported `ErrorInfo.field`s are, position by position,
    exactly the supplied fields that `validate` rejects (in signature order) — for ALL texts -/
theorem collect_all_exact (O : Oracles) (T : Texts) (J : Codec) (hJ : J.RoundTrip)
    (hW : J.word.Sound) (c : ClassOpts)
    (fields : List (String × FieldDecl)) (kw : List (String × PyVal)) (ts : List Text)
    (hc : identOk J.word c.name.toList = true)
    (hn : ∀ nf ∈ fields, identOk J.word nf.1.toList = true)
    (h : constructRaises O T false c fields kw = .collected ts) :
    Aligned (BeginsWithPath c.name.toList) ts (invalidFields O c kw fields) ∧
      ∃ infos, readable false J (J.dumps ts) = .ok (.many infos) ∧
        Aligned (InfoNames c.name.toList) infos (invalidFields O c kw fields) := by
  have hts := (constructRaises_inv O T false c fields kw h).2
  refine ⟨?_, ?_⟩
  · rw [hts, ← sites_tops]
    exact aligned_map _ _ _ _ fun s _ => site_begins T _ s
  · refine ⟨_, readable_collected J hJ ts, ?_⟩
    rw [hts, ← sites_tops, List.map_map]
    apply aligned_map
    intro s hs'
    obtain ⟨nf, hnf, _, _, _, _, hs⟩ := sites_mem O c kw fields s hs'
    refine ⟨_, ?_, s.loc.suffix, rfl⟩
    rw [Function.comp_apply, internal_field]
    exact site_field J.word hW T _ s hc (hs ▸ hn nf hnf)

/-- fail-fast mode: the single exception names (in its text and through the helper) one of the
    supplied fields that `validate` rejects, with a non-empty problem -/
theorem fail_fast_member (O : Oracles) (T : Texts) (J : Codec) (hW : J.word.Sound) (c : ClassOpts)
    (fields : List (String × FieldDecl)) (kw : List (String × PyVal)) (e : ErrCls) (t : Text)
    (hc : identOk J.word c.name.toList = true)
    (hn : ∀ nf ∈ fields, identOk J.word nf.1.toList = true)
    (hs : ∀ s ∈ sites O c kw fields, siteGood T s = true)
    (h : constructRaises O T true c fields kw = .single e t) :
    ∃ n, n ∈ invalidFields O c kw fields ∧ BeginsWithPath c.name.toList t n ∧
      ∃ i, readable true J t = .ok (.single i) ∧ InfoNames c.name.toList i n ∧
        i.problemNonEmpty = true := by
  obtain ⟨_, s, ss, hss, rfl, rfl⟩ := constructRaises_inv O T true c fields kw h
  have hmem : s ∈ sites O c kw fields := by rw [hss]; exact List.mem_cons_self
  obtain ⟨nf, hnf, _, _, _, _, hs'⟩ := sites_mem O c kw fields s hmem
  have htopOk : identOk J.word s.top.toList = true := hs' ▸ hn nf hnf
  refine ⟨s.top, ?_, site_begins T _ s, _, rfl, ⟨_, ?_, s.loc.suffix, rfl⟩, ?_⟩
  · rw [← sites_tops, hss]; exact List.mem_cons_self
  · rw [internal_field]
    exact site_field J.word hW T _ s hc htopOk
  · rw [internal_failFast]
    have := site_problem J.word hW T _ s hc htopOk (hs s hmem)
    simp only [Info.problemNonEmpty, Bool.not_eq_true', List.isEmpty_eq_false_iff]
    exact this

/-- C18 holds whenever the class and field names are in the field group: the only exclusion (no
    hypothesis on the declarations: the flat domain of `Statement` plays no part) -/
theorem statement_partial (O : Oracles) (T : Texts) (J : Codec) (ff : Bool) (c : ClassOpts)
    (fields : List (String × FieldDecl)) (kw : List (String × PyVal))
    (hW : J.word.Sound) (hJ : ff = false → J.RoundTrip) (hT : TextsWellFormed T)
    (hc : identOk J.word c.name.toList = true)
    (hn : ∀ nf ∈ fields, identOk J.word nf.1.toList = true) :
    Reported O T J ff c fields kw := by
  unfold Reported
  split
  · rename_i e t h
    obtain rfl := (constructRaises_inv O T ff c fields kw h).1
    exact fail_fast_member O T J hW c fields kw e t hc hn (fun s _ => hT s) h
  · rename_i ts h
    obtain rfl := (constructRaises_inv O T ff c fields kw h).1
    exact collect_all_exact O T J (hJ rfl) hW c fields kw ts hc hn h
  · trivial

def exClass : ClassOpts := { name := "Foo", required := [] }
def exFields : List (String × FieldDecl) := [("i", .integer {}), ("s", .string none (some 2) none)]
def exOracles : Oracles := { reMatch := fun _ _ => false }
def exCodec : Codec := ⟨fun _ => [], fun _ => .invalid, asciiWord⟩
def exTexts : Texts := fun s =>
  if s.loc.shape == .gotLast then ("'x'".toList, "Expected <class 'int'>".toList)
  else ("'abc'".toList, "Expected a maximum length of 2".toList)

/-- a class created as `type('My Class', (Structure,), {'i': Integer()})`: the space is outside
    the field group of errors.py -/
def exSpaceClass : ClassOpts := { name := "My Class", required := [] }
def exMarkFields : List (String × FieldDecl) := [("i", .integer {})]
def exMarkKw : List (String × PyVal) := [("i", .str "x")]
def exPyCodec : Codec := ⟨fun _ => [], fun _ => .invalid, pyFieldWord⟩

theorem exTexts_wellFormed : TextsWellFormed exTexts := by
  intro s
  unfold siteGood exTexts
  repeat rw [String.toList_ofList]
  cases s.loc.shape <;> decide +kernel

theorem ex_raises :
    constructRaises exOracles exTexts true exSpaceClass exMarkFields exMarkKw =
      .single .typeErr "My Class.i: Expected <class 'int'>; Got 'x'".toList := by
  unfold exTexts
  repeat rw [String.toList_ofList]
  decide +kernel

/-- the full statement is false: the class name of `exSpaceClass` is outside the field group -/
theorem statement_false : ¬ Statement := by
  intro h
  have := h exOracles exTexts exPyCodec true exSpaceClass exMarkFields exMarkKw pyFieldWord_sound (by simp)
    exTexts_wellFormed (by decide)
  unfold Reported at this
  rw [ex_raises] at this
  obtain ⟨n, _, _, i, hi, ⟨p, hp, _⟩, _⟩ := this
  simp only [readable, if_true, Except.ok.injEq, Out.single.injEq] at hi
  rw [← hi, internal_field] at hp
  exact nomatch non_identifier_class_name_loses_field.1.symm.trans hp

def ex2Kw : List (String × PyVal) := [("s", .str "abc"), ("i", .str "a\nb")]
def ex2Texts : Texts := fun s =>
  if s.top == "i" then ("'a\nb'".toList, "Expected <class 'int'>".toList)
  else ("'abc'".toList, "Expected a maximum length of 2".toList)

/-- non-vacuity: a two-field class with both arguments invalid (one value with a newline);
    fail-fast reports the first in signature order, collect-all both, and the helper's fields are
    the two full paths -/
theorem construct_example :
    invalidFields exOracles exClass ex2Kw exFields = ["i", "s"] ∧
    constructRaises exOracles ex2Texts true exClass exFields ex2Kw =
      .single .typeErr "Foo.i: Expected <class 'int'>; Got 'a\nb'".toList ∧
    constructRaises exOracles ex2Texts false exClass exFields ex2Kw =
      .collected ["Foo.i: Expected <class 'int'>; Got 'a\nb'".toList,
                  "Foo.s: Got 'abc'; Expected a maximum length of 2".toList] ∧
    (sites exOracles exClass ex2Kw exFields).all (siteGood ex2Texts) = true ∧
    parseMsg asciiWord "Foo.i: Expected <class 'int'>; Got 'a\nb'".toList =
      ⟨some "Foo.i".toList, some "'a\nb'".toList, "Expected an integer number".toList⟩ ∧
    parseMsg asciiWord "Foo.s: Got 'abc'; Expected a maximum length of 2".toList =
      ⟨some "Foo.s".toList, some "'abc'".toList, "Expected a maximum length of 2".toList⟩ := by
  unfold ex2Texts
  repeat rw [String.toList_ofList]
  decide +kernel

theorem goodTexts_of_head (sh : Shape) (v p : Text) (c : Char) (hp : p.head? = some c)
    (hG : c ≠ 'G') (hS : c ≠ ';') : goodTexts sh v p = true := by
  cases p with
  | nil => exact nomatch hp
  | cons x xs =>
    obtain rfl : x = c := by simpa using hp
    cases sh <;> simp [goodTexts, hG, hS]

/-- a text that begins `Expected ` or `Does not match regular expression: ` — as every problem text
    of a constructor rejection does (Sem/Errors.lean, `isTypedpyProblem`) — meets the side condition
    of `render_parse`, in every shape -/
theorem typedpy_problem_good (p : Text) (h : isTypedpyProblem p = true) (sh : Shape) (v : Text) :
    goodTexts sh v p = true := by
  simp only [isTypedpyProblem, Bool.or_eq_true] at h
  rcases h with h | h
  · obtain ⟨r, rfl⟩ := eq_append_of_dropPre_isSome sExpected p h
    exact goodTexts_of_head sh v _ 'E' rfl (by decide) (by decide)
  · obtain ⟨r, hr⟩ := eq_append_of_dropPre_isSome sDoesNotMatch p h
    -- `rewrite`, not `subst` or a `rfl` pattern: those normalise `sDoesNotMatch ++ r`, which runs the
    -- UTF-8 decoder on the literal in the elaborator
    rewrite [hr]
    unfold sDoesNotMatch
    rw [String.toList_ofList]
    exact goodTexts_of_head sh v _ 'D' rfl (by decide) (by decide)

/-- texts taken from typedpy's templates are well-formed: `TextsWellFormed` is not an assumption
    about the code but a consequence of the (corresponded) templates -/
theorem templates_wellFormed (T : Texts) (h : ∀ s, isTypedpyProblem (T s).2 = true) : TextsWellFormed T :=
  fun s => typedpy_problem_good _ (h s) _ _

/-- the parameter-free templates are typedpy problems (`templates_wellFormed` applies) and meet the
    problem half of `cleanTexts` in every shape; the classes `display` knows become readable -/
theorem fixed_templates_examples :
    (fixedProblems.all fun p => isTypedpyProblem p && noOcc sSemiGot p && (p.head? != some 'G')) = true ∧
    transform "Expected <class 'float'>".toList = "Expected a decimal number".toList ∧
    transform "Expected <class 'list'>".toList = "Expected an array".toList ∧
    transform "Expected <class 'str'>".toList = "Expected a text value".toList := by
  simp only [fixedProblems, List.map_cons, List.map_nil]
  repeat rw [String.toList_ofList]
  decide +kernel

theorem all_alnum_fieldChars (W : Word) (hW : W.Sound) (t : Text) (h : t.all Char.isAlphanum = true) :
    t.all (isFieldChar W) = true :=
  all_fieldChars_of_alnum W hW t h

theorem derive_pre_alnum (d : Derive) : d.pre.all Char.isAlphanum = true ∧ d.pre ≠ [] := by
  -- one evaluation of each prefix for both parts
  have h : (d.pre.all Char.isAlphanum && !d.pre.isEmpty) = true := by cases d <;> decide +kernel
  rw [Bool.and_eq_true] at h
  exact ⟨h.1, fun he => by rw [he] at h; exact nomatch h.2⟩

/-- the names typedpy gives the classes it derives (`Partial[Foo]` → `PartialFoo`, `AllFieldsRequired`,
    `Extend`, `Omit`, `Pick`) from a class whose name is in `[\w.]+` are in `[\w.]+`; with an explicit
    name, exactly when that name is -/
theorem derived_name_identOk (W : Word) (hW : W.Sound) (d : Derive) (explicit : Option Text) (base : Text)
    (hb : identOk W base = true) (he : ∀ n, explicit = some n → identOk W n = true) :
    identOk W (derivedName d explicit base) = true := by
  cases explicit with
  | some n => exact he n rfl
  | none =>
    obtain ⟨hpa, hpn⟩ := derive_pre_alnum d
    exact identOk_append W _ _ ((identOk_iff W _).2 ⟨hpn, all_alnum_fieldChars W hW _ hpa⟩)
      ((identOk_iff W base).1 hb).2

/-- … so every rejection by a class derived (without explicit name) from a word-named class with
    word-named fields keeps its field, in both modes (C18 for `Partial[Foo]`, `AllFieldsRequired[Foo]`,
    `Extend[Foo]`, `Omit[Foo, …]`, `Pick[Foo, …]`) -/
theorem derived_class_statement (O : Oracles) (T : Texts) (J : Codec) (ff : Bool) (c : ClassOpts)
    (d : Derive) (base : Text)
    (fields : List (String × FieldDecl)) (kw : List (String × PyVal))
    (hW : J.word.Sound) (hJ : ff = false → J.RoundTrip) (hT : TextsWellFormed T)
    (hname : c.name.toList = derivedName d none base) (hb : identOk J.word base = true)
    (hn : ∀ nf ∈ fields, identOk J.word nf.1.toList = true) :
    Reported O T J ff c fields kw :=
  statement_partial O T J ff c fields kw hW hJ hT
    (hname ▸ derived_name_identOk J.word hW d none base hb (fun _ h => nomatch h)) hn

/-- a derived class named after the EXPRESSION that creates it (`Partial[Person]`) loses every
    field: `[` is outside `[\w.]` -/
theorem bracket_class_name_loses_field :
    (parseMsg asciiWord "Partial[Person].age: Got -1; Expected a positive number".toList).field = none ∧
    (parseMsg asciiWord "PartialPerson.age: Got -1; Expected a positive number".toList).field
      = some "PartialPerson.age".toList ∧
    derivedName .partialOf none "Person".toList = "PartialPerson".toList ∧
    derivedName .allRequired none "Person".toList = "AllFieldsRequiredPerson".toList ∧
    derivedName .omit (some "Slim".toList) "Person".toList = "Slim".toList := by
  repeat rw [String.toList_ofList]
  decide +kernel

theorem numOk_strip (o : NumOpts) (q : Q) (h : numOk o q = true) :
    numOk { o with sign := .any } q = true :=
  noSign_numOk o q h

/-- dropping the sign mixin only weakens the check — for every declaration (only the three numeric
    ones differ from their stripped form) -/
theorem p1Scalar_sound (O : Oracles) (f : FieldDecl) (v : PyVal) (h : p1Scalar O f v = true) :
    isOk (validate O f v) = false := by
  rw [p1Scalar, Bool.not_eq_true'] at h
  -- a check that returns whatever the full validator returns rejects only what that one rejects
  have key : ∀ {a b : R PyVal}, (∀ y, a = .ok y → b = .ok y) → isOk b = false → isOk a = false := by
    intro a b hab hb
    cases a with
    | error e => rfl
    | ok y => exact (congrArg isOk (hab y rfl)).symm.trans hb
  cases f
  case number o => rw [stripSign, validate_number] at h; rw [validate_number]; exact key (fun _ => vNumber_noSign) h
  case integer o => rw [stripSign, validate_integer] at h; rw [validate_integer]; exact key (fun _ => vInteger_noSign) h
  case float o => rw [stripSign, validate_float] at h; rw [validate_float]; exact key (fun _ => vFloat_noSign) h
  all_goals exact h

/-- phase one never rejects a scalar the constructor would accept -/
theorem phase_one_scalar_sound (O : Oracles) (f : FieldDecl) (v : PyVal)
    (hs : isScalarDecl f = true) (h : p1Scalar O f v = true) : isOk (validate O f v) = false :=
  p1Scalar_sound O f v h

/-- `Float._validate` converts a non-bool int first: in phase one an int-spelled number is
    rejected exactly when the float it denotes is (all bounds, all ints) -/
theorem phase_one_float_spelling (O : Oracles) (o : NumOpts) (i : Int) :
    p1Scalar O (.float o) (.int i) = p1Scalar O (.float o) (.float (Q.ofInt i)) := by
  simp only [p1Scalar, stripSign, validate, vFloat]

/-- … at top level and as an element of every collection kind (`Float(maximum=10)` given `11`) -/
theorem phase_one_float_int_examples :
    let f : FieldDecl := .float { max := some (Q.ofInt 10) }
    let O : Oracles := exOracles
    p1Rejects O f (.int 11) = true ∧ p1Rejects O f (.int 10) = false ∧
    p1Rejects O (.seqOf .list f {}) (.list [.int 1, .int 11]) = true ∧
    p1Rejects O (.seqOf .deque f {}) (.list [.int 1, .int 11]) = true ∧
    p1Rejects O (.setOf false f {}) (.list [.int 11]) = true ∧
    p1Rejects O (.tupleOf f false) (.list [.int 11]) = true ∧
    p1Rejects O (.tuplePos [.string none none none, f] false) (.list [.str "a", .int 11]) = true ∧
    p1Rejects O (.mapOf (.string none none none) f {}) (.dict [(.str "k", .int 11)]) = true := by
  decide +kernel

theorem deser_collect_exact_iff (O : Oracles) (c : ClassOpts) (doc kw : List (String × PyVal))
    (fields : List (String × FieldDecl)) :
    deserCollected O c doc kw fields = invalidFields O c kw fields ↔
      phaseOneInvalid O doc fields = [] ∨
      phaseOneInvalid O doc fields = invalidFields O c kw fields := by
  unfold deserCollected
  cases h : phaseOneInvalid O doc fields with
  | nil => simp
  | cons a as => simp

/-- finding `collect-all:missing-field:deser-two-phase`: `i: PositiveInt`, `s: String` given
    `{'i': -1, 's': 5}` — both invalid, phase one sees only `s`, and that is all that is reported -/
theorem two_phase_example :
    let O : Oracles := exOracles
    let c : ClassOpts := { name := "Foo", required := [] }
    let fields : List (String × FieldDecl) :=
      [("i", .integer { sign := .pos }), ("s", .string none none none)]
    let doc : List (String × PyVal) := [("i", .int (-1)), ("s", .int 5)]
    invalidFields O c doc fields = ["i", "s"] ∧ phaseOneInvalid O doc fields = ["s"] ∧
    deserCollected O c doc doc fields = ["s"] := by
  decide +kernel

theorem p1First_isSome (O : Oracles) (f : FieldDecl) (xs : List PyVal) (i : Nat) :
    (p1First O f i xs).isSome = xs.any (p1Scalar O f) := by
  induction xs generalizing i with
  | nil => rfl
  | cons x xs ih =>
    simp only [p1First, List.any_cons]
    cases p1Scalar O f x <;> simp [ih]

theorem p1FirstZip_isSome (O : Oracles) (fs : List FieldDecl) (xs : List PyVal) (i : Nat) :
    (p1FirstZip O i fs xs).isSome = p1Zip O fs xs := by
  induction fs generalizing xs i with
  | nil => cases xs <;> rfl
  | cons f fs ih =>
    cases xs with
    | nil => rfl
    | cons x xs =>
      simp only [p1FirstZip, p1Zip]
      cases p1Scalar O f x <;> simp [ih]

theorem p1FirstEntry_isSome (O : Oracles) (scr : List (Option String)) (name : String)
    (kf vf : FieldDecl) (kvs : List (PyVal × PyVal)) :
    (p1FirstEntry O scr name kf vf kvs).isSome =
      kvs.any (fun kv => p1Scalar O kf kv.1 || p1Scalar O vf kv.2) := by
  induction kvs with
  | nil => rfl
  | cons kv kvs ih =>
    obtain ⟨k, x⟩ := kv
    simp only [p1FirstEntry, List.any_cons]
    cases p1Scalar O vf x <;> cases p1Scalar O kf k <;> simp [ih]

theorem isSome_ite_some {α} (b : Bool) (a : α) : (if b then some a else none).isSome = b := by
  cases b <;> rfl

/-- the site model and the accept/reject model of phase one agree: a site exists exactly for the
    values `deserialize_single_field` rejects (every flat field kind, every scratch state) -/
theorem p1Site_isSome (O : Oracles) (scr : List (Option String)) (name : String) (f : FieldDecl)
    (v : PyVal) : (p1Site O scr name f v).isSome = p1Rejects O f v := by
  have hpos : ∀ (fs : List FieldDecl) (xs : List PyVal),
      (p1Positional O name fs xs).isSome = (decide (xs.length < fs.length) || p1Zip O fs xs) := by
    intro fs xs
    unfold p1Positional
    by_cases h : xs.length < fs.length
    · simp [h]
    · simp [h, p1FirstZip_isSome]
  have hset : ∀ xs : List PyVal, (p1SetBuild name xs).isSome = xs.any unhashableElem :=
    fun xs => isSome_ite_some _ _
  have hhom : ∀ (item : FieldDecl) (xs : List PyVal),
      (p1Homog O scr name item xs).isSome = xs.any (p1Scalar O item) := by
    intro item xs
    simp [p1Homog, p1First_isSome]
  cases f <;> simp only [p1Site, p1Rejects, p1ListLike]
  case seqAny | seqOf | tupleOf | seqPos | tuplePos | setAny => cases listLike v <;> simp [hhom, hpos, hset]
  case setOf imm item sz =>
    cases listLike v with
    | none => rfl
    | some xs =>
      -- both sides are "the item field rejects an element, else `set(values)` fails"
      dsimp only
      rw [← hhom, ← hset]
      cases p1Homog O scr name item xs <;> rfl
  case mapAny => split <;> rfl
  case mapOf =>
    split
    · exact p1FirstEntry_isSome ..
    · rfl
  all_goals exact isSome_ite_some _ _

theorem dropPre_isSome_append (a b : Text) : (dropPre a (a ++ b)).isSome = true := by
  rw [dropPre_append]; rfl

theorem c18_startsWith_append (a b : Text) : startsWith a (a ++ b) = true := by
  unfold startsWith; exact dropPre_isSome_append a b

theorem c18_startsWith_self (a : Text) : startsWith a a = true := by
  have := c18_startsWith_append a []
  simpa using this

theorem c18_startsWith_trans (a b t : Text) (h : startsWith (a ++ b) t = true) : startsWith a t = true := by
  obtain ⟨r, hr⟩ := eq_append_of_dropPre_isSome _ _ h
  rw [hr, List.append_assoc]
  exact dropPre_isSome_append _ _

theorem nameIdx_prefix (name : String) (i : Nat) (t : Text)
    (h : (dropPre (nameIdx name i) t).isSome = true) : (dropPre name.toList t).isSome = true :=
  c18_startsWith_trans name.toList _ t h

theorem startsWith_append₂ (a b c : Text) : startsWith a (a ++ b ++ c) = true := by
  rw [List.append_assoc]; exact c18_startsWith_append _ _

def NamesOwn (name : String) (o : Option P1Site) : Prop :=
  ∀ s, o = some s → s.kind = .named ∧ s.top = name ∧ s.namesOwnField = true

theorem namesOwn_none (name : String) : NamesOwn name none := fun _ h => nomatch h

theorem namesOwn_some (name : String) (h : Text) (c : ErrCls) (hh : startsWith name.toList h = true) :
    NamesOwn name (some ⟨name, .named, some h, c⟩) := by
  rintro _ ⟨⟩; exact ⟨rfl, rfl, hh⟩

theorem namesOwn_map {α} (name : String) (o : Option α) (H : α → Text) (c : ErrCls)
    (hH : ∀ x, startsWith name.toList (H x) = true) :
    NamesOwn name (o.map fun x => ⟨name, .named, some (H x), c⟩) := by
  cases o with
  | none => exact namesOwn_none name
  | some x => exact namesOwn_some name _ c (hH x)

theorem NamesOwn.map_top {name : String} {o : Option P1Site} (H : NamesOwn name o) :
    o.map (·.top) = if o.isSome then some name else none := by
  cases o with
  | none => rfl
  | some s => simp [(H s rfl).2.1]

/-- a stale scratch name is kept only if it extends `<name>_<i>` -/
theorem p1ElemHead_starts (sc : Option String) (name : String) (i : Nat) (item : FieldDecl) (x : PyVal) :
    startsWith name.toList (p1ElemHead sc name i item x) = true := by
  unfold p1ElemHead
  split
  · exact c18_startsWith_append _ _
  · exact c18_startsWith_append _ _
  · split
    · rename_i hp; exact c18_startsWith_trans _ _ _ hp
    · exact c18_startsWith_append _ _
  · exact c18_startsWith_append _ _

theorem p1ListLike_namesOwn (name : String) (v : PyVal) (k : List PyVal → Option P1Site)
    (hk : ∀ xs, NamesOwn name (k xs)) : NamesOwn name (p1ListLike name v k) := by
  unfold p1ListLike
  split
  · exact namesOwn_some name _ _ (startsWith_append₂ _ _ _)
  · exact hk _

theorem p1Homog_namesOwn (O : Oracles) (scr : List (Option String)) (name : String) (item : FieldDecl)
    (xs : List PyVal) : NamesOwn name (p1Homog O scr name item xs) :=
  namesOwn_map name _ _ _ fun _ => p1ElemHead_starts _ _ _ _ _

theorem p1Positional_namesOwn (O : Oracles) (name : String) (fs : List FieldDecl) (xs : List PyVal) :
    NamesOwn name (p1Positional O name fs xs) := by
  unfold p1Positional
  split
  · exact namesOwn_some name _ _ (startsWith_append₂ _ _ _)
  · exact namesOwn_map name _ _ _ fun _ => startsWith_append₂ _ _ _

theorem p1SetBuild_namesOwn (name : String) (xs : List PyVal) : NamesOwn name (p1SetBuild name xs) := by
  unfold p1SetBuild
  split
  · exact namesOwn_some name _ _ (startsWith_append₂ _ _ _)
  · exact namesOwn_none name

theorem p1FirstEntry_namesOwn (O : Oracles) (scr : List (Option String)) (name : String) (kf vf : FieldDecl)
    (kvs : List (PyVal × PyVal)) : NamesOwn name (p1FirstEntry O scr name kf vf kvs) := by
  induction kvs with
  | nil => exact namesOwn_none name
  | cons kv kvs ih =>
    unfold p1FirstEntry
    split
    · exact namesOwn_some name _ _ (c18_startsWith_self _)
    · split
      · exact namesOwn_some name _ _ (c18_startsWith_self _)
      · exact ih

/-- the wrapper guarantee of `deserialize_list_like`, `deserialize_map` and of the fields' own
    `_name` (since /repo 23519e1 without exception): EVERY phase-one site is `named` and its text
    begins with ITS OWN field's name — for every flat field kind, every document value and EVERY
    scratch state (stale names of shared item Field instances included) -/
theorem p1_names_own_field (O : Oracles) (scr : List (Option String)) (name : String)
    (f : FieldDecl) (v : PyVal) (s : P1Site) (h : p1Site O scr name f v = some s) :
    s.kind = .named ∧ s.top = name ∧ s.namesOwnField = true := by
  revert s h
  show NamesOwn name _
  have hgot := namesOwn_some name _ .typeErr (startsWith_append₂ name.toList [':', ' '] sGot)
  unfold p1Site
  -- one goal per arm of `p1Site`, in the order of its `match` (`cases f` with `simp only [p1Site]`, as in
  -- `p1Site_isSome`, would name them and is three times as dear to check)
  split
  · exact p1ListLike_namesOwn name v _ fun _ => namesOwn_none name
  · exact p1ListLike_namesOwn name v _ (p1Homog_namesOwn O scr name _)
  · exact p1ListLike_namesOwn name v _ (p1Homog_namesOwn O scr name _)
  · exact p1ListLike_namesOwn name v _ (p1Positional_namesOwn O name _)
  · exact p1ListLike_namesOwn name v _ (p1Positional_namesOwn O name _)
  · exact p1ListLike_namesOwn name v _ (p1SetBuild_namesOwn name)
  · refine p1ListLike_namesOwn name v _ fun xs => ?_
    split
    · rename_i st hst; exact hst ▸ p1Homog_namesOwn O scr name _ xs
    · exact p1SetBuild_namesOwn name xs
  · split
    · exact namesOwn_none name
    · exact hgot
  · split
    · exact p1FirstEntry_namesOwn O scr name _ _ _
    · exact hgot
  · split
    · exact namesOwn_some name _ _ (c18_startsWith_append _ _)
    · exact namesOwn_none name

/-- every phase-one site of ANY document — in particular of a document read through a key-renaming
    mapper (`docOfMapped m raw fields`, whatever the document keys are) — is raised under the name
    of a declared FIELD, never under a document key -/
theorem p1Sites_name_fields (O : Oracles) (scr : List (String × List (Option String)))
    (doc : List (String × PyVal)) (fields : List (String × FieldDecl)) (s : P1Site)
    (h : s ∈ p1Sites O scr doc fields) :
    ∃ nf ∈ fields, s.top = nf.1 ∧ s.kind = .named ∧ s.namesOwnField = true := by
  obtain ⟨nf, hnf, v, _, _, hs⟩ := (mem_supplied _ doc fields s).1 h
  have := p1_names_own_field O _ nf.1 nf.2 v s hs
  exact ⟨nf, hnf, this.2.1, this.1, this.2.2⟩

theorem mapped_sites_name_fields (O : Oracles) (scr : List (String × List (Option String)))
    (m : List (String × String)) (raw : List (String × PyVal))
    (fields : List (String × FieldDecl)) (s : P1Site)
    (h : s ∈ p1Sites O scr (docOfMapped m raw fields) fields) :
    ∃ nf ∈ fields, s.top = nf.1 ∧ s.namesOwnField = true := by
  obtain ⟨nf, hnf, h1, _, h3⟩ := p1Sites_name_fields O scr _ fields s h
  exact ⟨nf, hnf, h1, h3⟩

/-- `first_tags` read under the document key `labels`: the bad element is reported as `first_tags_1` -/
theorem mapped_example :
    let fields : List (String × FieldDecl) := [("first_tags", .seqOf .list (.integer {}) {})]
    let raw : List (String × PyVal) := [("labels", .list [.int 1, .str "x"])]
    p1Sites exOracles [] (docOfMapped [("first_tags", "labels")] raw fields) fields =
      [⟨"first_tags", .named, some "first_tags_1".toList, .valueErr⟩] := by
  rw [String.toList_ofList]
  decide +kernel

/-- the former findings `no-path:unnamed-inner-field:deser-collection` and
    `wrong-field:stale-inner-name:deser-map` (fixed by /repo 23519e1): whatever scratch name the
    shared inner Field instance carries (`Pct = Integer(maximum=100)` in `m1: Map[String, Pct]` and
    `a2: Array[Pct]`, after `Bar(a2=[2], …)`), the rejection of `{'m1': {'a': 500}}` is raised
    under `m1` -/
theorem stale_shared_inner_name_example :
    let pct : FieldDecl := .integer { max := some (Q.ofInt 100) }
    let m1 : FieldDecl := .mapOf (.string none none none) pct {}
    let doc : PyVal := .dict [(.str "a", .int 500)]
    p1Site exOracles [none, none] "m1" m1 doc = some ⟨"m1", .named, some "m1".toList, .valueErr⟩ ∧
    p1Site exOracles [none, some "a2_0"] "m1" m1 doc =
      some ⟨"m1", .named, some "m1".toList, .valueErr⟩ := by
  rw [String.toList_ofList]
  decide +kernel

/-- the former finding `no-path:unhashable:deser-set` (fixed by /repo 23519e1): a Set without item
    field reaches `set(values)` with an unhashable element and reports it under its own name;
    with an item field the element is rejected first, under its indexed path -/
theorem set_build_site_examples :
    p1Site exOracles [] "s" (.setAny false {}) (.list [.list [.int 1]]) =
      some ⟨"s", .named, some "s: Got ".toList, .typeErr⟩ ∧
    p1Site exOracles [none] "t" (.setOf false (.integer {}) {}) (.list [.int 1, .list [.int 1]]) =
      some ⟨"t", .named, some "t_1".toList, .valueErr⟩ := by
  repeat rw [String.toList_ofList]
  decide +kernel

theorem dWrapIdx_starts (name : Text) (i : Nat) (inner : Text) :
    startsWith name (dWrapIdx name i inner) = true := by
  unfold dWrapIdx
  simp only []
  split
  · rename_i h; exact c18_startsWith_trans _ _ _ h
  · exact c18_startsWith_append _ _

theorem dWrapMap_starts (name inner : Text) : startsWith name (dWrapMap name inner) = true := by
  unfold dWrapMap
  split
  · rename_i h
    simp only [Bool.or_eq_true] at h
    cases h with
    | inl h => exact c18_startsWith_trans _ _ _ h
    | inr h => exact c18_startsWith_trans _ _ _ h
  · exact c18_startsWith_self _

theorem dHeadEntries_starts (okK okV : PyVal → Bool) (hK hV : Text → PyVal → Text) (name : Text)
    (kvs : List (PyVal × PyVal)) (h : Text) (hh : dHeadEntries okK okV hK hV name kvs = some h) :
    startsWith name h = true := by
  induction kvs with
  | nil => simp [dHeadEntries] at hh
  | cons kv rest ih =>
    obtain ⟨k, x⟩ := kv
    simp only [dHeadEntries] at hh
    split at hh
    · simp only [Option.some.injEq] at hh; subst hh; exact dWrapMap_starts _ _
    · split at hh
      · simp only [Option.some.injEq] at hh; subst hh; exact dWrapMap_starts _ _
      · exact ih hh

theorem dHeadZip_starts (O : Oracles) (opts : DeserOpts) (name : Text) (fs : List FieldDecl) :
    ∀ (i : Nat) (xs : List PyVal) (h : Text), dHeadZip O opts name i fs xs = some h → startsWith name h = true := by
  induction fs with
  | nil => intro i xs h hh; simp [dHeadZip] at hh
  | cons f fs ih =>
    intro i xs h hh
    cases xs with
    | nil => simp [dHeadZip] at hh
    | cons x xs =>
      simp only [dHeadZip] at hh
      split at hh
      · exact ih _ _ _ hh
      · simp only [Option.some.injEq] at hh; subst hh
        simp only [List.append_assoc]
        exact c18_startsWith_append _ _

theorem dHeadListLike_starts (name : Text) (v : PyVal) (k : List PyVal → Option Text)
    (hk : ∀ xs h, k xs = some h → startsWith name h = true) :
    startsWith name (dHeadListLike name v k) = true := by
  unfold dHeadListLike
  cases listLike v with
  | none => exact c18_startsWith_append _ _
  | some xs =>
    simp only []
    cases hh : k xs with
    | none => exact c18_startsWith_append _ _
    | some h => exact hk xs h hh

/-- the fields whose own scratch `_name` is the only source of the path (no wrapper of their own) -/
def isBareScalar : FieldDecl → Bool
  | .number _ | .integer _ | .float _ | .string _ _ _ | .boolean | .anything => true
  | _ => false

/-- the wrapper guarantee at ANY nesting depth: whatever `deserialize_single_field(f, v, name)`
    raises begins with `name` — for every declaration (collections of collections, positional
    items, maps of arrays, nested and inline structures, AnyOf / OneOf / AllOf / NotField, Enum, …),
    every document value and every scratch state — EXCEPT the bare scalars (their own `_name`);
    a class reference given a dict included (since /repo 8de2ad2). -/
theorem dHead_starts (O : Oracles) (opts : DeserOpts) (f : FieldDecl) (name : Text) (v : PyVal)
    (hs : isBareScalar f = false) :
    startsWith name (dHead O opts f name v) = true := by
  have hhom : ∀ (ok : PyVal → Bool) (g : Text → PyVal → Text) (xs : List PyVal) (h : Text),
      dHeadHomog ok g name xs = some h → startsWith name h = true := by
    intro ok g xs h hh
    simp only [dHeadHomog, Option.map_eq_some_iff] at hh
    obtain ⟨ix, _, hh⟩ := hh
    subst hh
    exact dWrapIdx_starts _ _ _
  have hpos : ∀ (fs : List FieldDecl) (xs : List PyVal) (h : Text),
      (if xs.length < fs.length then none else dHeadZip O opts name 0 fs xs) = some h →
        startsWith name h = true := by
    intro fs xs h hh
    split at hh
    · simp at hh
    · exact dHeadZip_starts O opts name fs 0 xs h hh
  cases f
  case number | integer | float | string | boolean | anything => exact nomatch hs
  case seqAny | setAny => exact dHeadListLike_starts _ _ _ (fun _ _ hn => nomatch hn)
  case seqOf | setOf | tupleOf => exact dHeadListLike_starts _ _ _ (hhom _ _)
  case seqPos | tuplePos => exact dHeadListLike_starts _ _ _ (hpos _)
  case mapAny => exact c18_startsWith_append _ _
  case mapOf =>
    simp only [dHead]
    split
    · cases hh : dHeadEntries _ _ _ _ name _ with
      | none => exact c18_startsWith_self _
      | some h => exact dHeadEntries_starts _ _ _ _ _ _ _ hh
    · exact c18_startsWith_append _ _
  case struct c fields defaults =>
    simp only [dHead]
    split
    · exact c18_startsWith_append _ _
    · split
      · exact c18_startsWith_self _
      · exact c18_startsWith_append _ _
  case enumLit | enumCls => exact c18_startsWith_self _
  all_goals exact c18_startsWith_append _ _

/-- the only bare scalar outside the flat domain is `Anything`, which `deser` never rejects -/
theorem bareScalar_flat_or_anything (f : FieldDecl) (h : isBareScalar f = true) :
    isFlatDecl f = true ∨ f = .anything := by
  cases f
  case anything => exact .inr rfl
  case number | integer | float | string | boolean => exact .inl rfl
  all_goals exact nomatch h

theorem isFlat_not_classRef (f : FieldDecl) (h : isFlatDecl f = true) : isClassRef f = false := by
  cases f
  case struct => exact nomatch h
  all_goals rfl

/-- DESERIALIZATION, every declaration, any depth: every phase-one rejection site is `named` and
    its text begins with ITS OWN top-level field's name — with NO exception since /repo 8de2ad2
    (before, a top-level class reference given a dict was the site of the finding
    `no-path:nested-structure:deser-classref`) -/
theorem p1SiteD_names_own_field (O : Oracles) (opts : DeserOpts) (ign : Bool)
    (scr : List (Option String)) (name : String) (f : FieldDecl) (v : PyVal) (s : P1Site)
    (h : p1SiteD O opts ign scr name f v = some s) :
    s.kind = .named ∧ s.top = name ∧ s.namesOwnField = true := by
  revert s h
  show NamesOwn name _
  unfold p1SiteD
  split
  · exact p1_names_own_field O scr name f v
  · rename_i hf
    split
    · exact namesOwn_none name
    · rename_i e hd
      refine namesOwn_some name _ e (dHead_starts O opts f name.toList v ?_)
      cases hb : isBareScalar f with
      | false => rfl
      | true =>
        rcases bareScalar_flat_or_anything f hb with hfl | rfl
        · exact absurd hfl hf
        · rw [deser_anything] at hd; exact nomatch hd

theorem p1SiteD_never_nested (O : Oracles) (opts : DeserOpts) (ign : Bool)
    (scr : List (Option String)) (name : String) (f : FieldDecl) (v : PyVal) (s : P1Site)
    (h : p1SiteD O opts ign scr name f v = some s) : s.kind ≠ .nested := by
  rw [(p1SiteD_names_own_field O opts ign scr name f v s h).1]; decide

theorem p1SiteD_top (O : Oracles) (opts : DeserOpts) (ign : Bool) (scr : List (Option String))
    (name : String) (f : FieldDecl) (v : PyVal) (s : P1Site) (h : p1SiteD O opts ign scr name f v = some s) :
    s.top = name :=
  (p1SiteD_names_own_field O opts ign scr name f v s h).2.1

theorem p1SiteD_isSome (O : Oracles) (opts : DeserOpts) (ign : Bool)
    (scr : List (Option String)) (name : String) (f : FieldDecl) (v : PyVal) :
    (p1SiteD O opts ign scr name f v).isSome =
      (if isFlatDecl f then p1Rejects O f v else !isOk (deser O opts ign f v)) := by
  unfold p1SiteD
  split
  · exact p1Site_isSome O scr name f v
  · cases deser O opts ign f v <;> rfl

/-- every phase-one site of a document, for a class of ANY declarations (collections at any depth,
    nested and inline structures, multi-field wrappers, …): it belongs to a declared field and its
    text begins with that field's own name -/
theorem p1SitesD_name_fields (O : Oracles) (opts : DeserOpts) (ign : Bool)
    (scr : List (String × List (Option String))) (doc : List (String × PyVal))
    (fields : List (String × FieldDecl)) (s : P1Site) (h : s ∈ p1SitesD O opts ign scr doc fields) :
    ∃ nf ∈ fields, s.top = nf.1 ∧ s.kind = .named ∧ s.namesOwnField = true := by
  obtain ⟨nf, hnf, v, _, _, hs⟩ := (mem_supplied _ doc fields s).1 h
  have := p1SiteD_names_own_field O opts ign _ nf.1 nf.2 v s hs
  exact ⟨nf, hnf, this.2.1, this.1, this.2.2⟩

/-- heads that every message of a rejection at depth must begin with: nested Arrays (`aa_1_1`), the
    positional wrapper (`t_0: t_0`), the Map wrapper (`ma_1`), a class reference inside an Array
    (`arr_1`); and the former site of the finding (fixed by /repo 8de2ad2): a top-level class
    reference given a dict is named `inner…` like every other site -/
theorem deep_deser_head_examples :
    let O : Oracles := exOracles
    let opts : DeserOpts := {}
    let arr (f : FieldDecl) : FieldDecl := .seqOf .list f {}
    let str : FieldDecl := .string none none none
    let inner : FieldDecl := .struct { name := "Inner", required := [], accepts := ["Inner"] } [("x", .integer {})] []
    let badInner : PyVal := .dict [(.str "x", .str "a")]
    dHead O opts (arr (arr (.integer {}))) "aa".toList (.list [.list [.int 1], .list [.int 2, .str "x"]])
      = "aa_1_1".toList ∧
    dHead O opts (.tuplePos [arr (.integer {}), str] false) "t".toList (.list [.list [.str "x"], .str "s"])
      = "t_0: t_0".toList ∧
    dHead O opts (.mapOf str (arr (.integer {})) {}) "ma".toList (.dict [(.str "a", .list [.int 1, .str "x"])])
      = "ma_1".toList ∧
    dHead O opts (arr inner) "arr".toList (.list [.dict [(.str "x", .int 1)], badInner]) = "arr_1".toList ∧
    p1SiteD O opts false [] "inner" inner badInner = some ⟨"inner", .named, some "inner".toList, .typeErr⟩ ∧
    p1SiteD O opts false [] "inner" inner (.int 5) =
      some ⟨"inner", .named, some "inner: Expected a dictionary; Got ".toList, .typeErr⟩ ∧
    p1SiteD O opts false [] "arr" (arr inner) (.list [badInner]) =
      some ⟨"arr", .named, some "arr_0".toList, .valueErr⟩ ∧
    deserInvalid O opts false [("inner", badInner), ("arr", .list [badInner])]
      [("inner", inner), ("arr", arr inner)] = ["inner", "arr"] := by
  repeat rw [String.toList_ofList]
  decide +kernel

theorem isOk_dValidated (r : R PyVal) (v : PyVal) : isOk (dValidated r v) = isOk r := by
  cases r <;> rfl

theorem isOk_toValueErr {α} (r : R α) : isOk (toValueErr r) = isOk r := by
  cases r with
  | ok y => rfl
  | error e => cases e <;> rfl

theorem isOk_mapE {α β} (g : α → R β) (xs : List α) : isOk (mapE g xs) = xs.all fun x => isOk (g x) := by
  induction xs with
  | nil => rfl
  | cons x xs ih =>
    rw [mapE, List.all_cons, ← ih]
    cases g x with
    | error e => rfl
    | ok y => cases mapE g xs <;> rfl

theorem p1Scalar_eq_deser (O : Oracles) (opts : DeserOpts) (f : FieldDecl) (v : PyVal)
    (hs : isScalarDecl f = true) :
    p1Scalar O f v = !isOk (deser O opts false f v) := by
  -- a scalar is deserialized by validating it without the sign mixin: `noSign` is `stripSign`
  cases f
  case number | integer | float | string | boolean | enumLit =>
    show _ = !isOk (if (v.isNone && false) = true then .ok v else dValidated _ v)
    rw [noneGuard_false, isOk_dValidated]; rfl
  case enumCls cls names =>
    rw [deser_enumCls, noneGuard_false]
    show (!isOk (vEnumCls cls names v)) = !isOk (dEnumCls cls names v)
    unfold dEnumCls vEnumCls
    split <;> simp only [isOk_dValidated]
  all_goals exact nomatch hs

theorem p1_elems_eq_deser (O : Oracles) (opts : DeserOpts) (item : FieldDecl) (xs : List PyVal)
    (hs : isScalarDecl item = true) :
    xs.any (p1Scalar O item) = !isOk (toValueErr (mapE (deser O opts false item) xs)) := by
  rw [isOk_toValueErr, isOk_mapE, List.not_all_eq_any_not]
  exact congrArg (xs.any ·) (funext fun x => p1Scalar_eq_deser O opts item x hs)

/-- the flat phase-one model agrees with `deser` (Sem/Deser.lean) on scalars and on homogeneous Array /
    Deque / Tuple fields; for Set / Map / positional items the agreement is left to the driver's
    cross-check -/
theorem p1Rejects_homog_eq_deser (O : Oracles) (opts : DeserOpts) (item : FieldDecl) (v : PyVal)
    (hs : isScalarDecl item = true) :
    (∀ k sz, p1Rejects O (.seqOf k item sz) v = !isOk (deser O opts false (.seqOf k item sz) v)) ∧
    (∀ u, p1Rejects O (.tupleOf item u) v = !isOk (deser O opts false (.tupleOf item u) v)) := by
  -- both kinds read the document with `dSeq` and differ only in the container they build
  have key : ∀ mk : List PyVal → PyVal,
      (match listLike v with | none => true | some xs => xs.any (p1Scalar O item)) =
        !isOk (dSeq (fun ys => .ok (mk ys)) (fun xs => toValueErr (mapE (deser O opts false item) xs)) v) := by
    intro mk
    rw [dSeq, show listLike v = docSeq v by cases v <;> rfl]
    cases docSeq v with
    | none => rfl
    | some xs =>
      simp only [p1_elems_eq_deser O opts item xs hs]
      cases toValueErr (mapE (deser O opts false item) xs) <;> rfl
  exact ⟨fun k sz => by rw [deser_seqOf, noneGuard_false]; exact key _,
    fun u => by rw [deser_tupleOf, noneGuard_false]; exact key _⟩

/-- the supplied fields only the constructor rejects (phase one accepts the document value, the
    constructor rejects what phase one made of it) -/
def ctorOnlyInvalid (O : Oracles) (opts : DeserOpts) (ign : Bool) (doc : List (String × PyVal))
    (fields : List (String × FieldDecl)) : List String :=
  fields.filterMap fun nf =>
    match lookup nf.1 doc with
    | none => none
    | some v => if v.isNone then none else
      match deser O opts ign nf.2 v with
      | .ok y => if isOk (validate O nf.2 y) then none else some nf.1
      | .error _ => none

/-- at any depth the invalid supplied fields are those `deser` rejects together with those only the
    constructor rejects: an invalid field that the first phase does not report is in `ctorOnlyInvalid`
    (the two-phase finding, for every declaration) -/
theorem deserInvalid_nil_ctorOnly (O : Oracles) (opts : DeserOpts) (ign : Bool)
    (doc : List (String × PyVal)) (fields : List (String × FieldDecl)) (n : String) :
    n ∈ deserInvalid O opts ign doc fields ↔
      (n ∈ fields.filterMap fun nf =>
        match lookup nf.1 doc with
        | none => none
        | some v => if v.isNone then none else
          match deser O opts ign nf.2 v with
          | .ok _ => none
          | .error _ => some nf.1) ∨ n ∈ ctorOnlyInvalid O opts ign doc fields :=
  -- field by field: `deser` either rejects the document value or hands its result to the constructor
  mem_supplied_or (fun nf v => by cases deser O opts ign nf.2 v <;> simp) doc fields

/-- at any depth every field collect-all deserialization reports from its first phase is an invalid
    supplied field — by the definition of `deserInvalid`, which counts every value `deser` rejects.
    Stated for the fields `deser` rejects: for a non-flat field that is what `p1SiteD` reports, for a
    flat field `p1SiteD` goes by `p1Rejects`, tied to `deser` by `p1Rejects_homog_eq_deser` and the
    driver's cross-check -/
theorem deep_phase_one_sound (O : Oracles) (opts : DeserOpts) (ign : Bool)
    (doc : List (String × PyVal)) (fields : List (String × FieldDecl)) (n : String)
    (hn : n ∈ fields.filterMap fun nf =>
      match lookup nf.1 doc with
      | none => none
      | some v => if v.isNone then none else
        match deser O opts ign nf.2 v with
        | .ok _ => none
        | .error _ => some nf.1) :
    n ∈ deserInvalid O opts ign doc fields :=
  (deserInvalid_nil_ctorOnly O opts ign doc fields n).2 (.inl hn)

/-- the two-phase finding at depth: `arr: Array[Array[PositiveInt]]` given `[[1, -1]]` (only the
    constructor's sign check rejects it) next to `s: String` given `5` -/
theorem two_phase_deep_example :
    let O : Oracles := exOracles
    let fields : List (String × FieldDecl) :=
      [("arr", .seqOf .list (.seqOf .list (.integer { sign := .pos }) {}) {}), ("s", .string none none none)]
    let doc : List (String × PyVal) := [("arr", .list [.list [.int 1, .int (-1)]]), ("s", .int 5)]
    deserInvalid O {} false doc fields = ["arr", "s"] ∧
    (p1SitesD O {} false [] doc fields).map (·.top) = ["s"] ∧
    ctorOnlyInvalid O {} false doc fields = ["arr"] ∧
    (locate O (.seqOf .list (.seqOf .list (.integer { sign := .pos }) {}) {})
      (.list [.list [.int 1, .int (-1)]])).suffix.text = "_0_1".toList := by
  rw [String.toList_ofList]
  decide +kernel

/-- `deserialize_single_field` rejects the document value (flat fields: the scratch-aware flat
    model; every other declaration: `deser`) -/
def p1RejectsD (O : Oracles) (opts : DeserOpts) (ign : Bool) (f : FieldDecl) (v : PyVal) : Bool :=
  if isFlatDecl f then p1Rejects O f v else !isOk (deser O opts ign f v)

/-- in collect-all mode the first phase reports, in field order, EXACTLY the supplied non-null
    fields whose document value `deserialize_single_field` rejects — every class, every declaration,
    any depth, every scratch state -/
theorem p1SitesD_tops (O : Oracles) (opts : DeserOpts) (ign : Bool)
    (scr : List (String × List (Option String))) (doc : List (String × PyVal))
    (fields : List (String × FieldDecl)) :
    (p1SitesD O opts ign scr doc fields).map (·.top) =
      fields.filterMap fun nf =>
        match lookup nf.1 doc with
        | none => none
        | some v => if !v.isNone && p1RejectsD O opts ign nf.2 v then some nf.1 else none := by
  unfold p1SitesD
  rw [List.map_filterMap]
  refine congrArg (List.filterMap · fields) (funext fun nf => ?_)
  cases lookup nf.1 doc with
  | none => rfl
  | some v =>
    cases hv : v.isNone with
    | true => simp [hv]
    | false =>
      simp only [hv, Bool.false_eq_true, if_false, Bool.not_false, Bool.true_and]
      -- a site exists iff the value is rejected, and then it is raised under the field's name
      rw [NamesOwn.map_top (p1SiteD_names_own_field O opts ign _ nf.1 nf.2 v), p1SiteD_isSome]
      rfl

theorem scalar_is_path (f : FieldDecl) (h : isScalarDecl f = true) : isPathDecl f = true := by
  cases f
  case number | integer | float | string | boolean | enumLit | enumCls => rfl
  all_goals exact nomatch h

theorem all_scalar_is_path (fs : List FieldDecl) (h : fs.all isScalarDecl = true) : allPathDecl fs = true := by
  induction fs with
  | nil => rfl
  | cons f fs ih =>
    simp only [List.all_cons, Bool.and_eq_true] at h
    simp [allPathDecl, scalar_is_path f h.1, ih h.2]

theorem flat_is_path (f : FieldDecl) (h : isFlatDecl f = true) : isPathDecl f = true := by
  cases f
  case seqOf _ item _ | setOf _ item _ | tupleOf item _ => exact scalar_is_path item h
  case seqPos _ fs _ _ | tuplePos fs _ => exact all_scalar_is_path fs h
  case mapOf kf vf _ =>
    have h : (isScalarDecl kf && isScalarDecl vf) = true := h
    rw [Bool.and_eq_true] at h
    show (isPathDecl kf && isPathDecl vf) = true
    rw [scalar_is_path kf h.1, scalar_is_path vf h.2]; rfl
  case seqAny | setAny | mapAny => rfl
  all_goals exact scalar_is_path _ h

/-- C18 for the constructor over the extended domain: `Statement` with `isPathDecl` (nested and inline
    structures, multi-field wrappers, collections of all these at any depth) for `isFlatDecl` -/
def StatementDeep : Prop :=
  ∀ (O : Oracles) (T : Texts) (J : Codec) (ff : Bool) (c : ClassOpts)
    (fields : List (String × FieldDecl)) (kw : List (String × PyVal)),
    J.word.Sound → (ff = false → J.RoundTrip) → TextsWellFormed T →
    fields.all (fun nf => isPathDecl nf.2) = true →
    Reported O T J ff c fields kw

/-- it implies the flat statement (so it is refuted by the same non-word name) … -/
theorem statementDeep_implies_statement (h : StatementDeep) : Statement := by
  intro O T J ff c fields kw hW hJ hT hflat
  refine h O T J ff c fields kw hW hJ hT ?_
  rw [List.all_eq_true] at hflat ⊢
  intro nf hnf
  exact flat_is_path nf.2 (hflat nf hnf)

theorem statementDeep_false : ¬ StatementDeep := fun h => statement_false (statementDeep_implies_statement h)

/-- … and holds under the same single exclusion (names in the field group), at ANY nesting depth: every
    rejection names its top-level field followed by one suffix per level, collect-all reports
    exactly the invalid supplied fields.  It is `statement_partial`, which asks nothing of the
    declarations: `_hp` is there to match `StatementDeep` -/
theorem statement_deep_partial (O : Oracles) (T : Texts) (J : Codec) (ff : Bool) (c : ClassOpts)
    (fields : List (String × FieldDecl)) (kw : List (String × PyVal))
    (hW : J.word.Sound) (hJ : ff = false → J.RoundTrip) (hT : TextsWellFormed T)
    (_hp : fields.all (fun nf => isPathDecl nf.2) = true)
    (hc : identOk J.word c.name.toList = true)
    (hn : ∀ nf ∈ fields, identOk J.word nf.1.toList = true) :
    Reported O T J ff c fields kw :=
  statement_partial O T J ff c fields kw hW hJ hT hc hn

/-- one suffix per nesting level: `aaa_1_1_1` (Array[Array[Array[Integer(max 5)]]]),
    `mm_value_key` (Map[String, Map[String, Integer]] with an int key inside), `tt_0_1`
    (Tuple[Array[Integer], Map] positional), `stt_1` (Set[Tuple[Integer]]: the Set adds nothing),
    `ai_1` (Array[Inner] given a dict: the class reference itself, `Expected …; Got …`) -/
theorem deep_path_examples :
    let O : Oracles := exOracles
    let int5 : FieldDecl := .integer { max := some (Q.ofInt 5) }
    let arr (f : FieldDecl) : FieldDecl := .seqOf .list f {}
    let str : FieldDecl := .string none none none
    let inner : FieldDecl := .struct { name := "Inner", required := [], accepts := ["Inner"] } [("x", .integer {})] []
    ((locate O (arr (arr (arr int5))) (.list [.list [.list [.int 1]], .list [.list [.int 2], .list [.int 3, .int 9]]])).suffix.text
        = "_1_1_1".toList) ∧
    ((locate O (.mapOf str (.mapOf str (.integer {}) {}) {})
        (.dict [(.str "a", .dict [(.int 1, .int 2)])])).suffix.text = "_value_key".toList) ∧
    ((locate O (.tuplePos [arr (.integer {}), .mapOf str (.integer {}) {}] false)
        (.tuple [.list [.int 1, .str "x"], .dict []])).suffix.text = "_0_1".toList) ∧
    ((locate O (.setOf false (.tupleOf (.integer {}) false) {})
        (.set false [.tuple [.int 1], .tuple [.int 2, .str "x"]])).suffix.text = "_1".toList) ∧
    (locate O (arr inner) (.list [.inst "Inner" [], .dict []]) = ⟨[.idx 1], .gotLast, none⟩) := by
  repeat rw [String.toList_ofList]
  decide +kernel

/-- `Reaches f v p g w`: following the suffix chain `p` from the value `v` of declaration `f`
    (element `i` for `_<i>`, some entry's key / value for `_key` / `_value`, some element of a Set
    for nothing) leads to the value `w` at declaration `g` -/
inductive Reaches : FieldDecl → PyVal → SufPath → FieldDecl → PyVal → Prop
  | here (f : FieldDecl) (v : PyVal) : Reaches f v [] f v
  | seqOf {k : SeqKind} {item : FieldDecl} {sz : SizeOpts} {v : PyVal} {xs : List PyVal} {i : Nat}
      {x : PyVal} {p : SufPath} {g : FieldDecl} {w : PyVal} :
      seqElems k v = some xs → xs[i]? = some x → Reaches item x p g w →
      Reaches (.seqOf k item sz) v (.idx i :: p) g w
  | seqPos {k : SeqKind} {fs : List FieldDecl} {addl : Bool} {sz : SizeOpts} {v : PyVal}
      {xs : List PyVal} {i : Nat} {f : FieldDecl} {x : PyVal} {p : SufPath} {g : FieldDecl} {w : PyVal} :
      seqElems k v = some xs → fs[i]? = some f → xs[i]? = some x → Reaches f x p g w →
      Reaches (.seqPos k fs addl sz) v (.idx i :: p) g w
  | tupleOf {item : FieldDecl} {uniq : Bool} {xs : List PyVal} {i : Nat}
      {x : PyVal} {p : SufPath} {g : FieldDecl} {w : PyVal} :
      xs[i]? = some x → Reaches item x p g w →
      Reaches (.tupleOf item uniq) (.tuple xs) (.idx i :: p) g w
  | tuplePos {fs : List FieldDecl} {uniq : Bool} {xs : List PyVal} {i : Nat} {f : FieldDecl}
      {x : PyVal} {p : SufPath} {g : FieldDecl} {w : PyVal} :
      fs[i]? = some f → xs[i]? = some x → Reaches f x p g w →
      Reaches (.tuplePos fs uniq) (.tuple xs) (.idx i :: p) g w
  | setOf {imm : Bool} {item : FieldDecl} {sz : SizeOpts} {fr : Bool} {xs : List PyVal}
      {x : PyVal} {p : SufPath} {g : FieldDecl} {w : PyVal} :
      x ∈ xs → Reaches item x p g w → Reaches (.setOf imm item sz) (.set fr xs) p g w
  | mapKey {kf vf : FieldDecl} {sz : SizeOpts} {kvs : List (PyVal × PyVal)} {k x : PyVal}
      {p : SufPath} {g : FieldDecl} {w : PyVal} :
      (k, x) ∈ kvs → Reaches kf k p g w → Reaches (.mapOf kf vf sz) (.dict kvs) (.key :: p) g w
  | mapVal {kf vf : FieldDecl} {sz : SizeOpts} {kvs : List (PyVal × PyVal)} {k x : PyVal}
      {p : SufPath} {g : FieldDecl} {w : PyVal} :
      (k, x) ∈ kvs → Reaches vf x p g w → Reaches (.mapOf kf vf sz) (.dict kvs) (.val :: p) g w
  | allOf {fs : List FieldDecl} {f : FieldDecl} {v : PyVal} {p : SufPath} {g : FieldDecl} {w : PyVal} :
      f ∈ fs → Reaches f v p g w → Reaches (.allOf fs) v p g w

theorem firstBad_first (O : Oracles) (f : FieldDecl) (xs : List PyVal) (n i : Nat) (x : PyVal)
    (h : firstBad O f n xs = some (i, x)) :
    ∃ j, i = n + j ∧ xs[j]? = some x ∧ isOk (validate O f x) = false ∧
      ∀ j' < j, ∃ y, xs[j']? = some y ∧ isOk (validate O f y) = true := by
  induction xs generalizing n with
  | nil => exact nomatch h
  | cons y ys ih =>
    rw [firstBad] at h
    split at h
    · rename_i hy
      obtain ⟨j, hj, hx, hb, hmin⟩ := ih (n + 1) h
      refine ⟨j + 1, by omega, hx, hb, fun j' hj' => ?_⟩
      cases j' with
      | zero => exact ⟨y, rfl, hy⟩
      | succ j' => exact hmin j' (by omega)
    · rename_i hy
      obtain ⟨rfl, rfl⟩ := Prod.mk.inj (Option.some.inj h)
      exact ⟨0, rfl, rfl, by simpa using hy, fun _ hj' => nomatch hj'⟩

theorem firstBad_spec (O : Oracles) (f : FieldDecl) : ∀ (xs : List PyVal) (n i : Nat) (x : PyVal),
    firstBad O f n xs = some (i, x) →
      ∃ j, i = n + j ∧ xs[j]? = some x ∧ isOk (validate O f x) = false := fun xs n i x h =>
  (firstBad_first O f xs n i x h).imp fun _ hj => ⟨hj.1, hj.2.1, hj.2.2.1⟩

theorem badOf_spec (O : Oracles) (f : FieldDecl) (loc : PyVal → Loc) (xs : List PyVal) (l : Loc)
    (h : badOf O f loc xs = some l) :
    ∃ i x, xs[i]? = some x ∧ isOk (validate O f x) = false ∧ l = withSuffix (.idx i) (loc x) := by
  simp only [badOf, Option.map_eq_some_iff] at h
  obtain ⟨⟨i, x⟩, hfb, hl⟩ := h
  obtain ⟨j, hj, hx, hb⟩ := firstBad_spec O f xs 0 i x hfb
  refine ⟨i, x, ?_, hb, hl.symm⟩
  have : i = j := by omega
  rw [this]; exact hx

theorem locSeqLike_cases (xs? : Option (List PyVal)) (uniq : Bool) (sz : SizeOpts)
    (pre : List PyVal → Bool) (bad : List PyVal → Option Loc) :
    (locSeqLike xs? uniq sz pre bad).suffix = [] ∨
      ∃ xs l, xs? = some xs ∧ bad xs = some l ∧ locSeqLike xs? uniq sz pre bad = l := by
  unfold locSeqLike
  cases xs? with
  | none => exact .inl rfl
  | some xs =>
    dsimp only
    cases uniqOk uniq xs <;> cases sizeOk sz xs.length <;> cases pre xs <;> try exact .inl rfl
    cases hb : bad xs with
    | none => exact .inl rfl
    | some l => exact .inr ⟨xs, l, rfl, hb, rfl⟩

theorem firstBadEntry_spec (O : Oracles) (kf vf : FieldDecl) (lk lv : PyVal → Loc) :
    ∀ (kvs : List (PyVal × PyVal)) (l : Loc), firstBadEntry O kf vf lk lv kvs = some l →
      ∃ k x, (k, x) ∈ kvs ∧
        ((isOk (validate O kf k) = false ∧ l = withSuffix .key (lk k)) ∨
         (isOk (validate O vf x) = false ∧ l = withSuffix .val (lv x))) := by
  intro kvs
  induction kvs with
  | nil => intro l h; simp [firstBadEntry] at h
  | cons kv rest ih =>
    intro l h
    obtain ⟨k, x⟩ := kv
    simp only [firstBadEntry] at h
    split at h
    · rename_i hk
      simp only [Option.some.injEq] at h
      exact ⟨k, x, List.mem_cons_self, Or.inl ⟨by simpa using hk, h.symm⟩⟩
    · split at h
      · rename_i hx
        simp only [Option.some.injEq] at h
        exact ⟨k, x, List.mem_cons_self, Or.inr ⟨by simpa using hx, h.symm⟩⟩
      · obtain ⟨k', x', hm, hh⟩ := ih l h
        exact ⟨k', x', List.mem_cons_of_mem _ hm, hh⟩

theorem locSet_cases (O : Oracles) (item : FieldDecl) (loc : PyVal → Loc) (sz : SizeOpts) (v : PyVal) :
    (locSet O (some (item, loc)) sz v).suffix = [] ∨
      ∃ fr xs x, v = .set fr xs ∧ x ∈ xs ∧ isOk (validate O item x) = false ∧
        locSet O (some (item, loc)) sz v = loc x := by
  unfold locSet
  split
  · rename_i fr xs
    cases sizeOk sz xs.length
    · exact .inl rfl
    · simp only [Option.bind_some]
      cases hfb : firstBad O item 0 xs with
      | none => exact .inl rfl
      | some ix =>
        obtain ⟨j, _, hx, hb⟩ := firstBad_spec O item xs 0 ix.1 ix.2 hfb
        exact .inr ⟨fr, xs, ix.2, rfl, List.mem_of_getElem? hx, hb, by simp⟩
  · exact .inl rfl

theorem locMap_cases (O : Oracles) (g : List (PyVal × PyVal) → Option Loc) (sz : SizeOpts) (v : PyVal) :
    (locMap O (some g) sz v).suffix = [] ∨
      ∃ kvs l, v = .dict kvs ∧ g kvs = some l ∧ locMap O (some g) sz v = l := by
  unfold locMap
  split
  · rename_i kvs
    cases sizeOk sz kvs.length
    · exact .inl rfl
    · cases hg : g kvs with
      | none => simp [hg]
      | some l => exact .inr ⟨kvs, l, rfl, hg, by simp [hg]⟩
  · exact .inl rfl

def PointsAtRejection (O : Oracles) (f : FieldDecl) (v : PyVal) (p : SufPath) : Prop :=
  ∃ g w, Reaches f v p g w ∧ isOk (validate O g w) = false

theorem points_here (O : Oracles) (f : FieldDecl) (v : PyVal) (p : SufPath)
    (h : isOk (validate O f v) = false) (hp : p = []) : PointsAtRejection O f v p :=
  ⟨f, v, hp ▸ Reaches.here f v, h⟩

/-- a location with an empty suffix points at the rejected value itself; otherwise it descends -/
theorem points_here_or {O : Oracles} {f : FieldDecl} {v : PyVal} {l : Loc} {P : Prop}
    (h : isOk (validate O f v) = false) (hc : l.suffix = [] ∨ P)
    (hP : P → PointsAtRejection O f v l.suffix) : PointsAtRejection O f v l.suffix :=
  hc.elim (points_here O f v _ h) hP

theorem locScalar_suffix (f : FieldDecl) (v : PyVal) : (locScalar f v).suffix = [] := by
  unfold locScalar
  split <;> first | rfl | (split <;> rfl)

theorem tupleElems_eq_some {v : PyVal} {xs : List PyVal} (h : tupleElems v = some xs) : v = .tuple xs := by
  unfold tupleElems at h
  split at h
  · exact congrArg PyVal.tuple (Option.some.inj h)
  · exact nomatch h

theorem locateZip_spec (O : Oracles) (fs : List FieldDecl) (xs : List PyVal) (n : Nat) (l : Loc)
    (h : locateZip O n fs xs = some l) :
    ∃ j f x, fs[j]? = some f ∧ xs[j]? = some x ∧ isOk (validate O f x) = false ∧
      l = withSuffix (.idx (n + j)) (locate O f x) := by
  induction fs generalizing xs n with
  | nil => exact nomatch h
  | cons f fs ih =>
    cases xs with
    | nil => exact nomatch h
    | cons x xs =>
      rw [locateZip] at h
      split at h
      · obtain ⟨j, f', x', hf, hx, hb, hl⟩ := ih xs (n + 1) h
        exact ⟨j + 1, f', x', hf, hx, hb, by rw [hl, Nat.add_right_comm]; rfl⟩
      · rename_i hbad
        exact ⟨0, f, x, rfl, rfl, by simpa using hbad, (Option.some.inj h).symm⟩

theorem locateAll_spec (O : Oracles) (fs : List FieldDecl) (v : PyVal)
    (h : isOk (validateEach O fs v) = false) :
    ∃ f ∈ fs, isOk (validate O f v) = false ∧ locateAll O fs v = locate O f v := by
  induction fs with
  | nil => exact nomatch h
  | cons f fs ih =>
    rw [locateAll]
    cases hv : validate O f v with
    | ok y =>
      rw [validateEach_cons, hv, bindE_ok] at h
      obtain ⟨f', hf', hb, hl⟩ := ih h
      exact ⟨f', List.mem_cons_of_mem _ hf', hb, hl⟩
    | error e => exact ⟨f, List.mem_cons_self, by rw [hv]; rfl, rfl⟩

/-- SOUNDNESS OF THE PATH, every declaration, any depth: when `validate` rejects `v`, the suffix
    chain computed by `locate` leads — element by element, key / value by key / value — to a
    position that exists in `v` and whose value is rejected by the declaration at that position -/
theorem locate_sound (O : Oracles) : ∀ (f : FieldDecl) (v : PyVal),
    isOk (validate O f v) = false → PointsAtRejection O f v (locate O f v).suffix := by
  intro f v h
  induction f using FieldDecl.induction generalizing v with
  | seqOf k item sz ih =>
    simp only [locate]
    refine points_here_or h (locSeqLike_cases ..) fun ⟨xs, l, hxs, hb, hl⟩ => ?_
    obtain ⟨i, x, hx, hbad, rfl⟩ := badOf_spec O item _ xs l hb
    obtain ⟨g, w, hr, hw⟩ := ih x hbad
    exact hl ▸ ⟨g, w, Reaches.seqOf hxs hx hr, hw⟩
  | seqPos k fs addl sz ih =>
    simp only [locate]
    refine points_here_or h (locSeqLike_cases ..) fun ⟨xs, l, hxs, hb, hl⟩ => ?_
    obtain ⟨j, f, x, hf, hx, hbad, rfl⟩ := locateZip_spec O fs xs 0 l hb
    obtain ⟨g, w, hr, hw⟩ := ih f (List.mem_of_getElem? hf) x hbad
    rw [hl, Nat.zero_add]
    exact ⟨g, w, Reaches.seqPos hxs hf hx hr, hw⟩
  | setOf imm item sz ih =>
    simp only [locate]
    refine points_here_or h (locSet_cases ..) fun ⟨fr, xs, x, hv, hx, hbad, hl⟩ => ?_
    obtain ⟨g, w, hr, hw⟩ := ih x hbad
    exact hl ▸ hv ▸ ⟨g, w, Reaches.setOf hx hr, hw⟩
  | tupleOf item uniq ih =>
    simp only [locate]
    refine points_here_or h (locSeqLike_cases ..) fun ⟨xs, l, hxs, hb, hl⟩ => ?_
    obtain ⟨i, x, hx, hbad, rfl⟩ := badOf_spec O item _ xs l hb
    obtain ⟨g, w, hr, hw⟩ := ih x hbad
    obtain rfl := tupleElems_eq_some hxs
    exact hl ▸ ⟨g, w, Reaches.tupleOf hx hr, hw⟩
  | tuplePos fs uniq ih =>
    simp only [locate]
    refine points_here_or h (locSeqLike_cases ..) fun ⟨xs, l, hxs, hb, hl⟩ => ?_
    obtain ⟨j, f, x, hf, hx, hbad, rfl⟩ := locateZip_spec O fs xs 0 l hb
    obtain ⟨g, w, hr, hw⟩ := ih f (List.mem_of_getElem? hf) x hbad
    obtain rfl := tupleElems_eq_some hxs
    rw [hl, Nat.zero_add]
    exact ⟨g, w, Reaches.tuplePos hf hx hr, hw⟩
  | mapOf kf vf sz ihk ihv =>
    simp only [locate]
    refine points_here_or h (locMap_cases ..) fun ⟨kvs, l, hv, hg, hl⟩ => ?_
    subst hv
    rw [hl]
    obtain ⟨k, x, hm, ⟨hk, rfl⟩ | ⟨hx, rfl⟩⟩ := firstBadEntry_spec O kf vf _ _ kvs l hg
    · obtain ⟨g, w, hr, hw⟩ := ihk k hk
      exact ⟨g, w, Reaches.mapKey hm hr, hw⟩
    · obtain ⟨g, w, hr, hw⟩ := ihv x hx
      exact ⟨g, w, Reaches.mapVal hm hr, hw⟩
  | allOf fs ih =>
    simp only [locate]
    have hall : isOk (validateEach O fs v) = false := by
      rw [validate_allOf] at h
      cases he : validateEach O fs v with
      | ok u => rw [he] at h; exact nomatch h
      | error e => rfl
    obtain ⟨f, hf, hbad, hl⟩ := locateAll_spec O fs v hall
    obtain ⟨g, w, hr, hw⟩ := ih f hf v hbad
    exact ⟨g, w, Reaches.allOf hf (hl ▸ hr), hw⟩
  | seqAny k sz =>
    simp only [locate]
    exact points_here_or h (locSeqLike_cases ..) fun ⟨_, _, _, hb, _⟩ => nomatch hb
  | setAny | mapAny =>
    refine points_here O _ v _ h ?_
    simp only [locate, locSet, locMap]
    split
    · split <;> rfl
    · rfl
  | struct c fields defaults _ => exact points_here O _ v _ h (by simp only [locate]; split <;> rfl)
  | number | integer | float | string | boolean | enumLit | enumCls =>
    exact points_here O _ v _ h (by simp only [locate]; exact locScalar_suffix _ v)
  | anyOf | oneOf | notF | noneF | anything => exact points_here O _ v _ h (by simp only [locate])

theorem locateAll_sound (O : Oracles) : ∀ (fs : List FieldDecl) (v : PyVal),
    isOk (validateEach O fs v) = false →
      ∃ f ∈ fs, ∃ g w, Reaches f v (locateAll O fs v).suffix g w ∧ isOk (validate O g w) = false := by
  intro fs v h
  obtain ⟨f, hf, hbad, hl⟩ := locateAll_spec O fs v h
  obtain ⟨g, w, hr, hw⟩ := locate_sound O f v hbad
  exact ⟨f, hf, g, w, hl ▸ hr, hw⟩

theorem locateZip_sound (O : Oracles) : ∀ (fs : List FieldDecl) (xs : List PyVal) (n : Nat) (l : Loc),
    locateZip O n fs xs = some l →
      ∃ (j : Nat) (f : FieldDecl) (x : PyVal) (p : SufPath) (g : FieldDecl) (w : PyVal),
        fs[j]? = some f ∧ xs[j]? = some x ∧ l.suffix = .idx (n + j) :: p ∧ Reaches f x p g w ∧
          isOk (validate O g w) = false := by
  intro fs xs n l h
  obtain ⟨j, f, x, hf, hx, hbad, rfl⟩ := locateZip_spec O fs xs n l h
  obtain ⟨g, w, hr, hw⟩ := locate_sound O f x hbad
  exact ⟨j, f, x, _, g, w, hf, hx, rfl, hr, hw⟩

/-- `locate_sound` for every message of `cls(**kw)`: the path `<top><suffix chain>` of every rejection site
    names a declared field that was supplied, and its suffix chain leads to a rejected position
    inside the supplied value (every class, every declaration at any depth, both modes) -/
theorem sites_point_at_rejections (O : Oracles) (c : ClassOpts) (kw : List (String × PyVal))
    (fields : List (String × FieldDecl)) (s : Site) (hs : s ∈ sites O c kw fields) :
    ∃ nf ∈ fields, ∃ v, s.top = nf.1 ∧ argFor c [] kw nf.1 = some v ∧
      PointsAtRejection O nf.2 v s.loc.suffix := by
  obtain ⟨nf, hnf, v, e, ha, hv, rfl⟩ := sites_mem O c kw fields s hs
  exact ⟨nf, hnf, v, rfl, ha, locate_sound O nf.2 v (by rw [hv]; rfl)⟩

/-- non-vacuity: `Array[Array[Array[Integer(maximum=5)]]]` given `[[[1]], [[2], [3, 9]]]`: the
    chain `_1_1_1` reaches the element `9` at the innermost `Integer`, which rejects it -/
theorem locate_sound_example :
    let int5 : FieldDecl := .integer { max := some (Q.ofInt 5) }
    let arr (f : FieldDecl) : FieldDecl := .seqOf .list f {}
    let v : PyVal := .list [.list [.list [.int 1]], .list [.list [.int 2], .list [.int 3, .int 9]]]
    (locate exOracles (arr (arr (arr int5))) v).suffix = [.idx 1, .idx 1, .idx 1] ∧
    Reaches (arr (arr (arr int5))) v [.idx 1, .idx 1, .idx 1] int5 (.int 9) ∧
    isOk (validate exOracles int5 (.int 9)) = false := by
  refine ⟨by decide +kernel, ?_, by decide +kernel⟩
  exact Reaches.seqOf (xs := [.list [.list [.int 1]], .list [.list [.int 2], .list [.int 3, .int 9]]]) rfl rfl
    (Reaches.seqOf (xs := [.list [.int 2], .list [.int 3, .int 9]]) rfl rfl
      (Reaches.seqOf (xs := [.int 3, .int 9]) rfl rfl (Reaches.here _ _)))

theorem firstBad_min (O : Oracles) (f : FieldDecl) : ∀ (xs : List PyVal) (n i : Nat) (x : PyVal),
    firstBad O f n xs = some (i, x) →
      ∀ j, n + j < i → ∃ y, xs[j]? = some y ∧ isOk (validate O f y) = true := fun xs n i x h j hj =>
  have ⟨_, hi, _, _, hmin⟩ := firstBad_first O f xs n i x h
  hmin j (by omega)

/-- Array / Deque of `item`: when the path starts with `_<i>`, every element before `i` is accepted
    by the item field — the message names the FIRST invalid element (the rest `p` of the path is the
    item field's own `locate` on that element: one level down the statement applies again) -/
theorem locate_seqOf_first (O : Oracles) (k : SeqKind) (item : FieldDecl) (sz : SizeOpts) (v : PyVal)
    (i : Nat) (p : SufPath) (h : (locate O (.seqOf k item sz) v).suffix = .idx i :: p) :
    ∃ xs, seqElems k v = some xs ∧ (∃ x, xs[i]? = some x ∧ isOk (validate O item x) = false ∧
        p = (locate O item x).suffix) ∧
      ∀ j, j < i → ∃ y, xs[j]? = some y ∧ isOk (validate O item y) = true := by
  change (locSeqLike ..).suffix = _ at h
  rcases locSeqLike_cases (seqElems k v) sz.uniq sz (fun _ => true) (badOf O item (locate O item)) with
    h0 | ⟨xs, l, hxs, hb, hl⟩
  · rw [h0] at h; exact nomatch h
  · rw [hl] at h
    simp only [badOf, Option.map_eq_some_iff] at hb
    obtain ⟨⟨i', x⟩, hfb, rfl⟩ := hb
    obtain ⟨hi, rfl⟩ := List.cons.inj h
    obtain rfl : i' = i := Suffix.idx.inj hi
    obtain ⟨j, hj, hx, hbad, hmin⟩ := firstBad_first O item xs 0 i' x hfb
    obtain rfl : i' = j := by omega
    exact ⟨xs, hxs, ⟨x, hx, hbad, rfl⟩, hmin⟩

/-- nested and inline structures name the field that holds them: the counterexamples from before
    /repo 8de2ad2, 3e97bbb.  `Outer(sr={'a': 'x'})`
    for an inline `sr: StructureReference(a=Integer)` is reported under `Outer.sr` (plain shape: the
    embedded class's own message is the problem text), also as an element of an Array (`arr_1`); the
    helper recovers `Outer.sr` from the real text; deserializing `{'inner': {'x': 'a'}}` for a class
    reference is reported under `inner` -/
theorem fixed_nested_structure_examples :
    let O : Oracles := exOracles
    let sr : FieldDecl := .struct { name := "StructureReference_0", required := [], inline := true } [("a", .integer {})] []
    let inner : FieldDecl := .struct { name := "Inner", required := [], accepts := ["Inner"] } [("x", .integer {})] []
    let c : ClassOpts := { name := "Outer", required := [] }
    let bad : PyVal := .dict [(.str "a", .str "x")]
    ((sites O c [("sr", bad)] [("sr", sr)]).map fun s => (s.path, s.loc.shape)) = [("sr".toList, Shape.plain)] ∧
    ((sites O c [("arr", .list [.dict [(.str "a", .int 1)], bad])] [("arr", .seqOf .list sr {})]).map
        fun s => (s.path, s.loc.shape)) = [("arr_1".toList, Shape.plain)] ∧
    (parseMsg asciiWord "Outer.sr: StructureReference_0.a: Expected <class 'int'>; Got 'x'".toList).field
      = some "Outer.sr".toList ∧
    (parseMsg asciiWord "Outer.sr: [\"StructureReference_0.a: Expected <class 'int'>; Got 'x'\"]".toList).field
      = some "Outer.sr".toList ∧
    p1SiteD O {} false [] "inner" inner (.dict [(.str "x", .str "a")]) =
      some ⟨"inner", .named, some "inner".toList, .typeErr⟩ ∧
    p1SiteD O {} false [] "sr" sr bad = some ⟨"sr", .named, some "sr: Got ".toList, .valueErr⟩ := by
  repeat rw [String.toList_ofList]
  decide +kernel

/-- `AllOf[Array[Integer], Array[Number(maximum=3)]]` given `[1, 7]`: the second option rejects
    element 1 and the message is ITS message under the AllOf's own name (`allf_1`); AnyOf / OneOf
    reject at the field itself with the plain shape, NotField value-first; inside an Array the
    wrapper's path is the element's (`aany_1`) -/
theorem wrapper_path_examples :
    let O : Oracles := exOracles
    let arr (f : FieldDecl) : FieldDecl := .seqOf .list f {}
    let num3 : FieldDecl := .number { max := some (Q.ofInt 3) }
    let str : FieldDecl := .string none none none
    locate O (.allOf [arr (.integer {}), arr num3]) (.list [.int 1, .int 7]) = ⟨[.idx 1], .gotFirst, none⟩ ∧
    locate O (.allOf [arr (.integer {}), arr num3]) (.int 5) = ⟨[], .gotFirst, none⟩ ∧
    locate O (.anyOf [.integer {}, str]) (.list []) = ⟨[], .plain, none⟩ ∧
    locate O (.oneOf [.integer {}, .number {}]) (.int 5) = ⟨[], .plain, none⟩ ∧
    locate O (.notF [.integer {}]) (.int 1) = ⟨[], .gotFirst, none⟩ ∧
    locate O (arr (.anyOf [.integer {}, str])) (.list [.int 1, .list [.int 2]]) = ⟨[.idx 1], .plain, none⟩ ∧
    isOk (validate O (.oneOf [.integer {}, .number {}]) (.int 5)) = false ∧
    (parseMsg asciiWord "Outer.one: : Got 5; Matched more than one field option".toList).field
      = some "Outer.one".toList ∧
    (parseMsg asciiWord "Outer.any: 's' of type str did not match any field option. Valid types are: int, list.".toList)
      = ⟨some "Outer.any".toList, none,
         "'s' of type str did not match any field option. Valid types are: int, list.".toList⟩ := by
  repeat rw [String.toList_ofList]
  decide +kernel

/-- observation (outside the statement): in collect-all mode a nested structure's errors arrive as a
    JSON list inside the outer message (`Outer.arr_1: ["Inner.x: …"]`).  The field is always
    recovered (`render_parse_exact`), but whether the helper can expand the list depends on the
    INNER message's shape: a value-first inner message leaves the JSON intact as the problem
    (regex 3), a value-last inner message (every
    `Expected <class …>; Got …` type error) makes regex 2 split the OUTER text at the inner `; Got `,
    so the problem is a truncated JSON text (not expanded) and the value is the tail `'a'"]` -/
theorem nested_expansion_depends_on_inner_shape :
    parseMsg asciiWord "Outer.arr_1: [\"Inner.s: Got 'abc'; Expected a maximum length of 2\"]".toList =
      ⟨some "Outer.arr_1".toList, none,
       "[\"Inner.s: Got 'abc'; Expected a maximum length of 2\"]".toList⟩ ∧
    parseMsg asciiWord "Outer.arr_1: [\"Inner.x: Expected <class 'int'>; Got 'a'\"]".toList =
      ⟨some "Outer.arr_1".toList, some "'a'\"]".toList, "[\"Inner.x: Expected <class 'int'>".toList⟩ := by
  repeat rw [String.toList_ofList]
  decide +kernel

end Typedpy.C18
