/-
  Lemmas for the heap model of Sem/Alias.lean (C19), used by the heap models built on it (C04, C11, C17).

  * One triple for heap transformers that only allocate: `Tr n0 P h c Q` — the outcome `c` of a step started in `h`
    leaves every pre-existing cell alone, whatever happens; and if the region `[n0, next)` was open (`Reg`) and `P` held,
    the region is open afterwards and the result satisfies `Q`.  Rules for sequencing, allocation and the two item loops
    carry it through every transformer; `transfer_walk` is the one induction over declarations, and the frame /
    freshness / keep theorems of `transfer` are its projections.
  * What such a call means for the caller, once: `Isolated h h' res` and its consequences (`script_protects`,
    `observe_agree` underneath).
  * `transfer_congr`: the table matters only at the declared sites (`transfer_sites` pointwise).
-/
import TypedpyModel.Sem.Alias
namespace Typedpy.Alias

def Frame (h h' : Heap) : Prop := h.next ≤ h'.next ∧ ∀ a, a < h.next → h'.cells a = h.cells a

theorem Frame.rfl' (h : Heap) : Frame h h := ⟨Nat.le_refl _, fun _ _ => rfl⟩

theorem Frame.trans {h1 h2 h3 : Heap} (a : Frame h1 h2) (b : Frame h2 h3) : Frame h1 h3 :=
  ⟨Nat.le_trans a.1 b.1, fun x hx => by rw [b.2 x (Nat.lt_of_lt_of_le hx a.1), a.2 x hx]⟩

theorem frame_alloc (h : Heap) (c : Cell) : Frame h (h.alloc c).1 := by
  refine ⟨Nat.le_succ _, fun a ha => ?_⟩
  simp only [Heap.alloc]
  rw [if_neg (Nat.ne_of_lt ha)]

def FrameSpec (f : Heap → Item → R Item) : Prop := ∀ h i h' r, f h i = (h', r) → Frame h h'

def ItemIn (n0 : Nat) (h : Heap) (i : Item) : Prop := ∀ a, i = .ref a → n0 ≤ a ∧ a < h.next

def NewClosed (n0 : Nat) (h : Heap) : Prop :=
  ∀ a, n0 ≤ a → a < h.next → ∀ k, k ∈ (h.cells a).kids → n0 ≤ k ∧ k < h.next

def ItemsIn (n0 : Nat) (h : Heap) (its : List (String × Item)) : Prop := ∀ p, p ∈ its → ItemIn n0 h p.2

theorem newClosed_init (h : Heap) : NewClosed h.next h :=
  fun _ ha hlt => absurd (Nat.lt_of_lt_of_le hlt ha) (Nat.lt_irrefl _)

theorem ItemIn.mono {n0 : Nat} {h h' : Heap} {i : Item} (x : ItemIn n0 h i) (le : h.next ≤ h'.next) : ItemIn n0 h' i :=
  fun a e => ⟨(x a e).1, Nat.lt_of_lt_of_le (x a e).2 le⟩

theorem itemIn_atom (n0 : Nat) (h : Heap) (v : Int) : ItemIn n0 h (.atom v) := fun _ e => nomatch e

theorem ItemsIn.mono {n0 : Nat} {h h' : Heap} {its : List (String × Item)} (x : ItemsIn n0 h its)
    (le : h.next ≤ h'.next) : ItemsIn n0 h' its := fun p hp => (x p hp).mono le

theorem ItemsIn.cons {n0 : Nat} {h : Heap} {k : String} {i : Item} {its : List (String × Item)} (x : ItemIn n0 h i)
    (xs : ItemsIn n0 h its) : ItemsIn n0 h ((k, i) :: its) := by
  intro p hp
  cases hp with
  | head => exact x
  | tail _ hp' => exact xs p hp'

theorem mem_kids {c : Cell} {k : Nat} (hk : k ∈ c.kids) : ∃ key, (key, Item.ref k) ∈ c.items := by
  obtain ⟨tag, items⟩ := c
  induction items with
  | nil => cases hk
  | cons p rest ih =>
    -- `kids` skips an atom and keeps the address of a reference, by computation
    obtain ⟨key, _ | a⟩ := p
    · exact (ih hk).imp fun _ => List.mem_cons_of_mem _
    · cases hk with
      | head => exact ⟨key, List.mem_cons_self⟩
      | tail _ h => exact (ih h).imp fun _ => List.mem_cons_of_mem _

theorem kids_of_mem {c : Cell} {p : String × Item} {k : Nat} (hp : p ∈ c.items) (e : p.2 = .ref k) : k ∈ c.kids := by
  simp only [Cell.kids, List.mem_filterMap]
  exact ⟨p, hp, by rw [e]; rfl⟩

theorem mem_setItem {name : String} {v : Item} : ∀ {its : List (String × Item)} {p : String × Item},
    p ∈ setItem name v its → p ∈ its ∨ p.2 = v
  | [], p, hp => by simp only [setItem, List.mem_singleton] at hp; exact Or.inr (by rw [hp])
  | (key, x) :: rest, p, hp => by
    simp only [setItem] at hp
    split at hp
    · cases hp with
      | head => exact Or.inr rfl
      | tail _ h => exact Or.inl (List.mem_cons_of_mem _ h)
    · cases hp with
      | head => exact Or.inl List.mem_cons_self
      | tail _ h => exact (mem_setItem h).imp_left (List.mem_cons_of_mem _)

theorem c19_kids_setItem (t : String) (name : String) (v : Item) :
    ∀ (its : List (String × Item)) (k : Nat), k ∈ (Cell.mk t (setItem name v its)).kids →
      k ∈ (Cell.mk t its).kids ∨ v = .ref k := by
  intro its k hk
  obtain ⟨key, hm⟩ := mem_kids hk
  cases mem_setItem hm with
  | inl h => exact Or.inl (kids_of_mem h rfl)
  | inr h => exact Or.inr h.symm

theorem alloc_fresh {n0 : Nat} {h : Heap} (le : n0 ≤ h.next) (nc : NewClosed n0 h) (tag : String)
    {its : List (String × Item)} (hi : ItemsIn n0 h its) :
    NewClosed n0 (h.alloc ⟨tag, its⟩).1 ∧ ItemIn n0 (h.alloc ⟨tag, its⟩).1 (.ref h.next) := by
  constructor
  · intro a ha hlt k hk
    simp only [Heap.alloc] at hlt hk ⊢
    by_cases e : a = h.next
    · rw [if_pos e] at hk
      obtain ⟨key, hm⟩ := mem_kids hk
      have := hi _ hm k rfl
      exact ⟨this.1, Nat.lt_succ_of_lt this.2⟩
    · rw [if_neg e] at hk
      have hlt' : a < h.next := Nat.lt_of_le_of_ne (Nat.le_of_lt_succ hlt) e
      have := nc a ha hlt' k hk
      exact ⟨this.1, Nat.lt_succ_of_lt this.2⟩
  · intro a e
    simp only [Item.ref.injEq] at e
    subst e
    exact ⟨le, Nat.lt_succ_self _⟩

def FreshSpec (n0 : Nat) (f : Heap → Item → R Item) : Prop :=
  ∀ h i h' i', n0 ≤ h.next → NewClosed n0 h → f h i = (h', some i') → NewClosed n0 h' ∧ ItemIn n0 h' i'
def FreshSpecL (n0 : Nat) (g : Heap → List (String × Item) → R (List (String × Item))) : Prop :=
  ∀ h its h' r, n0 ≤ h.next → NewClosed n0 h → g h its = (h', some r) → NewClosed n0 h' ∧ ItemsIn n0 h' r
def KeepSpec (n0 : Nat) (f : Heap → Item → R Item) : Prop :=
  ∀ h i h' i', n0 ≤ h.next → NewClosed n0 h → ItemIn n0 h i → f h i = (h', some i') → NewClosed n0 h' ∧ ItemIn n0 h' i'
def KeepSpecL (n0 : Nat) (g : Heap → List (String × Item) → R (List (String × Item))) : Prop :=
  ∀ h its h' r, n0 ≤ h.next → NewClosed n0 h → ItemsIn n0 h its → g h its = (h', some r) →
    NewClosed n0 h' ∧ ItemsIn n0 h' r

theorem c19_keep_of_fresh {n0 : Nat} {f : Heap → Item → R Item} (hs : FreshSpec n0 f) : KeepSpec n0 f :=
  fun h i h' i' le nc _ e => hs h i h' i' le nc e

theorem c19_cell_items_in {n0 : Nat} {h : Heap} (nc : NewClosed n0 h) {a : Nat} (ha : n0 ≤ a ∧ a < h.next) :
    ItemsIn n0 h (h.cells a).items := by
  intro p hp b e
  exact nc a ha.1 ha.2 b (kids_of_mem hp e)

theorem c19_lookupItem_mem {name : String} : ∀ {its : List (String × Item)} {it : Item},
    lookupItem name its = some it → ∃ k, (k, it) ∈ its
  | [], _, e => by simp [lookupItem] at e
  | (k, v) :: rest, it, e => by
    simp only [lookupItem] at e
    by_cases hk : k = name
    · rw [if_pos hk] at e
      simp only [Option.some.injEq] at e
      exact ⟨k, by rw [← e]; exact List.mem_cons_self⟩
    · rw [if_neg hk] at e
      obtain ⟨k', hm⟩ := c19_lookupItem_mem e
      exact ⟨k', List.mem_cons_of_mem _ hm⟩

theorem newClosed_write {n0 : Nat} {h : Heap} (nc : NewClosed n0 h) (a : Nat) {c : Cell}
    (hc : ItemsIn n0 h c.items) : NewClosed n0 (h.write a c) := by
  intro x hx hlt k hk
  simp only [Heap.write] at hlt hk ⊢
  by_cases e : x = a
  · rw [if_pos e] at hk
    obtain ⟨key, hm⟩ := mem_kids hk
    exact hc _ hm k rfl
  · rw [if_neg e] at hk
    exact nc x hx hlt k hk

/-- the region `[n0, next)` is open: allocated since `n0` and closed under references -/
def Reg (n0 : Nat) (h : Heap) : Prop := n0 ≤ h.next ∧ NewClosed n0 h

/-- `c` is the outcome of an allocating step started in `h`: pre-existing cells are left alone whatever happens (also
    under a table that aliases, also when the step raises), and if the region at `n0` was open and `P` held, the region is
    open afterwards and the result satisfies `Q` -/
def Tr {α : Type} (n0 : Nat) (P : Prop) (h : Heap) (c : R α) (Q : Heap → α → Prop) : Prop :=
  Frame h c.1 ∧ (Reg n0 h → P → ∀ a, c.2 = some a → Reg n0 c.1 ∧ Q c.1 a)

section rules
variable {α β : Type} {n0 : Nat} {P P' : Prop} {h : Heap}

theorem Tr.pure {a : α} {Q : Heap → α → Prop} (q : Reg n0 h → P → Q h a) : Tr n0 P h (h, some a) Q :=
  ⟨Frame.rfl' h, fun rg p _ e => Option.some.inj e ▸ ⟨rg, q rg p⟩⟩

theorem Tr.fail {Q : Heap → α → Prop} : Tr n0 P h ((h, none) : R α) Q := ⟨Frame.rfl' h, fun _ _ _ e => nomatch e⟩

theorem Tr.mono {c : R α} {Q : Heap → α → Prop} (t : Tr n0 P h c Q) (hp : Reg n0 h → P' → P) : Tr n0 P' h c Q :=
  ⟨t.1, fun rg p => t.2 rg (hp rg p)⟩

/-- sequencing, with the first step's outcome taken apart (`rcases e : f h i with ⟨h1, _ | a⟩`: the `match`es of the
    model reduce on a pair): the continuation starts from the first step's postcondition -/
theorem Tr.seq {h1 : Heap} {a : α} {c : R β} {Q : Heap → α → Prop} {Q' : Heap → β → Prop}
    (t : Tr n0 P h (h1, some a) Q) (s : Tr n0 (P ∧ Q h1 a) h1 c Q') : Tr n0 P h c Q' :=
  ⟨t.1.trans s.1, fun rg p b e => have q := t.2 rg p a rfl; s.2 q.1 ⟨p, q.2⟩ b e⟩

theorem Tr.seq_none {h1 : Heap} {Q : Heap → α → Prop} {Q' : Heap → β → Prop}
    (t : Tr n0 P h ((h1, none) : R α) Q) : Tr n0 P h ((h1, none) : R β) Q' := ⟨t.1, fun _ _ _ e => nomatch e⟩

/-- a step that is only taken when the precondition is false: only its frame matters -/
theorem Tr.of_frame {c : R α} {Q : Heap → α → Prop} (fr : Frame h c.1) (np : ¬ P) : Tr n0 P h c Q :=
  ⟨fr, fun _ p => absurd p np⟩

theorem Tr.frame {c : R α} {Q : Heap → α → Prop} (t : Tr n0 P h c Q) {h' : Heap} {r : Option α}
    (e : c = (h', r)) : Frame h h' := by subst e; exact t.1

theorem Tr.post {c : R α} {Q : Heap → α → Prop} (t : Tr n0 P h c Q) (le : n0 ≤ h.next) (nc : NewClosed n0 h) (p : P)
    {h' : Heap} {a : α} (e : c = (h', some a)) : NewClosed n0 h' ∧ Q h' a := by
  subst e
  have q := t.2 ⟨le, nc⟩ p a rfl
  exact ⟨q.1.2, q.2⟩

theorem Tr.alloc (tag : String) (its : List (String × Item)) :
    Tr n0 (ItemsIn n0 h its) h (allocLike h tag its) (ItemIn n0) :=
  ⟨frame_alloc _ _, fun rg hi _ e =>
    have af := alloc_fresh rg.1 rg.2 tag hi
    Option.some.inj e ▸ ⟨⟨Nat.le_succ_of_le rg.1, af.1⟩, af.2⟩⟩

/-- allocate first, fill afterwards: a write into a cell `a` the call allocated itself, of items of the region -/
theorem Tr.fill {h2 : Heap} {its : List (String × Item)} (t : Tr n0 P h (h2, some its) (ItemsIn n0)) {a : Nat}
    (ha : h.next ≤ a) (lt : a < h2.next) (tag : String) :
    Tr n0 P h (h2.write a ⟨tag, its⟩, some (.ref a)) (ItemIn n0) := by
  refine ⟨⟨t.1.1, fun x hx => ?_⟩, fun rg p _ e => ?_⟩
  · simp only [Heap.write]
    rw [if_neg (Nat.ne_of_lt (Nat.lt_of_lt_of_le hx ha))]; exact t.1.2 x hx
  · have q := t.2 rg p its rfl
    exact Option.some.inj e ▸ ⟨⟨q.1.1, newClosed_write q.1.2 a q.2⟩,
      fun _ ea => Item.ref.inj ea ▸ ⟨Nat.le_trans rg.1 ha, lt⟩⟩
end rules

/-- one item, then the rest of the list: the shape of `mapItems` on a non-empty list and of `fieldStep` on a key that is
    present, by computation -/
theorem Tr.cons {n0 : Nat} {P : Prop} {h : Heap} {k : String} {c : R Item} {g : Heap → R (List (String × Item))}
    (t1 : Tr n0 P h c (ItemIn n0)) (t2 : ∀ h1, Frame h h1 → Tr n0 P h1 (g h1) (ItemsIn n0)) :
    Tr n0 P h
      (match c with
       | (h1, none) => (h1, none)
       | (h1, some i') =>
         match g h1 with
         | (h2, none) => (h2, none)
         | (h2, some r) => (h2, some ((k, i') :: r))) (ItemsIn n0) := by
  rcases c with ⟨h1, _ | i'⟩
  · exact t1.seq_none
  refine t1.seq ?_
  have t := (t2 h1 t1.1).mono (P' := P ∧ ItemIn n0 h1 i') fun _ p => p.1
  dsimp only
  rcases e : g h1 with ⟨h2, _ | r⟩ <;> rw [e] at t
  · exact t.seq_none
  · exact t.seq (Tr.pure fun _ p => ItemsIn.cons (p.1.2.mono (t.frame rfl).1) p.2)

theorem Tr.mapItems {n0 : Nat} {f : Heap → Item → R Item} {P : Heap → Item → Prop}
    (mono : ∀ h h' i, h.next ≤ h'.next → P h i → P h' i) (hf : ∀ h i, Tr n0 (P h i) h (f h i) (ItemIn n0)) :
    ∀ (its : List (String × Item)) (h : Heap),
      Tr n0 (∀ p, p ∈ its → P h p.2) h (Alias.mapItems f h its) (ItemsIn n0)
  | [], _ => Tr.pure fun _ _ _ hp => nomatch hp
  | (_, i) :: rest, h =>
    Tr.cons ((hf h i).mono fun _ pre => pre _ List.mem_cons_self) fun h1 fr =>
      (Tr.mapItems mono hf rest h1).mono fun _ pre p hp => mono _ _ _ fr.1 (pre p (List.mem_cons_of_mem _ hp))

/-- as `Tr.mapItems`; `mono` is over `Frame`, not mere growth: the precondition of `ownedFields_tr` (`PlainItem`) reads
    the tag of a cell -/
theorem Tr.fieldStep {n0 : Nat} (name : String) {f : Heap → Item → R Item}
    {g : Heap → List (String × Item) → R (List (String × Item))} {P : Heap → Item → Prop}
    (mono : ∀ h h' i, Frame h h' → P h i → P h' i)
    (hf : ∀ h i, Tr n0 (P h i) h (f h i) (ItemIn n0))
    (hg : ∀ h its, Tr n0 (∀ p, p ∈ its → P h p.2) h (g h its) (ItemsIn n0)) (h : Heap) (its : List (String × Item)) :
    Tr n0 (∀ p, p ∈ its → P h p.2) h (Alias.fieldStep name f g h its) (ItemsIn n0) := by
  simp only [Alias.fieldStep]
  cases hl : lookupItem name its with
  | none => exact hg h its
  | some it =>
    obtain ⟨k0, hmem⟩ := c19_lookupItem_mem hl
    exact Tr.cons ((hf h it).mono fun _ pre => pre _ hmem) fun h1 fr =>
      (hg h1 its).mono fun _ pre p hp => mono _ _ _ fr (pre p hp)

/-- what the transformer of a declaration satisfies: it only allocates, and its result lies in the region allocated since
    `n0` provided `C` holds (every node below copies) or the argument lies in that region already -/
def Walk (n0 : Nat) (C : Prop) (f : Heap → Item → R Item) : Prop :=
  ∀ h i, Tr n0 (C ∨ ItemIn n0 h i) h (f h i) (ItemIn n0)

def WalkL (n0 : Nat) (C : Prop) (g : Heap → List (String × Item) → R (List (String × Item))) : Prop :=
  ∀ h its, Tr n0 (∀ p, p ∈ its → C ∨ ItemIn n0 h p.2) h (g h its) (ItemsIn n0)

section projections
variable {n0 : Nat} {C C' : Prop} {f : Heap → Item → R Item} {g : Heap → List (String × Item) → R (List (String × Item))}

theorem Walk.mono (w : Walk n0 C f) (hc : C' → C) : Walk n0 C' f := fun h i => (w h i).mono fun _ pre => pre.imp_left hc
theorem Walk.frame (w : Walk n0 C f) : FrameSpec f := fun h i _ _ e => (w h i).frame e
theorem Walk.fresh (w : Walk n0 C f) (c : C) : FreshSpec n0 f := fun h i _ _ le nc e => (w h i).post le nc (Or.inl c) e
theorem Walk.keep (w : Walk n0 C f) : KeepSpec n0 f := fun h i _ _ le nc hin e => (w h i).post le nc (Or.inr hin) e
theorem WalkL.mono (w : WalkL n0 C g) (hc : C' → C) : WalkL n0 C' g :=
  fun h its => (w h its).mono fun _ pre p hp => (pre p hp).imp_left hc
end projections

/-! ## how the node transformers are made of one another

  `nodeWrap` is `leafAny` except under `rebuild`, where it runs the inner transformer; `nodeRec` on a reference is
  `nodeWrap` around "transform the items, allocate a like cell" (`rebuildWith`); `nodeColl` is `nodeRec` over
  `mapItems`.  `Walk` is proved for `leafAny`, `rebuildWith`, `mapItems` and carried along these equations. -/

theorem nodeWrap_rebuild (fuel : Nat) (f : Heap → Item → R Item) : nodeWrap .rebuild fuel f = f := rfl

theorem nodeWrap_of_ne {m : Mode} (hm : m ≠ .rebuild) (fuel : Nat) (f : Heap → Item → R Item) :
    nodeWrap m fuel f = leafAny m fuel := by
  funext h i; cases m <;> first | rfl | exact absurd rfl hm

/-- what a keyed / collection node does under `rebuild` -/
def rebuildWith (tf : Heap → List (String × Item) → R (List (String × Item))) (h : Heap) : Item → R Item
  | .atom v => (h, some (.atom v))
  | .ref a =>
    match tf h (h.cells a).items with
    | (h1, none) => (h1, none)
    | (h1, some its) => allocLike h1 (h.cells a).tag its

theorem nodeRec_atom (m : Mode) (fuel : Nat) (tf : Heap → List (String × Item) → R (List (String × Item)))
    (h : Heap) (v : Int) : nodeRec m fuel tf h (.atom v) = (h, some (.atom v)) := rfl

theorem nodeRec_ref (m : Mode) (fuel : Nat) (tf : Heap → List (String × Item) → R (List (String × Item)))
    (h : Heap) (a : Nat) : nodeRec m fuel tf h (.ref a) = nodeWrap m fuel (rebuildWith tf) h (.ref a) := by
  cases m <;> rfl

theorem nodeColl_eq (m : Mode) (fuel : Nat) (f : Heap → Item → R Item) :
    nodeColl m fuel f = nodeRec m fuel (mapItems f) := by
  funext h i; cases i <;> cases m <;> rfl

theorem transfer_scalar (M : Kind → Cat → Mode) (fuel : Nat) (c : Cat) (h : Heap) (i : Item) :
    transfer M fuel (.scalar c) h i = leafScalar h i := rfl
theorem transfer_any (M : Kind → Cat → Mode) (fuel : Nat) (h : Heap) (i : Item) :
    transfer M fuel .any h i = leafAny (M .any .none) fuel h i := rfl
theorem transfer_untyped (M : Kind → Cat → Mode) (fuel : Nat) (h : Heap) (i : Item) :
    transfer M fuel .untyped h i = leafAny (M .any .none) fuel h i := rfl
theorem transfer_coll (M : Kind → Cat → Mode) (fuel : Nat) (k : Kind) (s : Shape) (h : Heap) (i : Item) :
    transfer M fuel (.coll k s) h i = nodeColl (M k s.cat) fuel (fun h' i' => transfer M fuel s h' i') h i := rfl
theorem transfer_keyed (M : Kind → Cat → Mode) (fuel : Nat) (k : Kind) (fs : List (String × Shape)) (h : Heap) (i : Item) :
    transfer M fuel (.keyed k fs) h i = nodeRec (M k .none) fuel (fun h' its => transferFields M fuel fs h' its) h i := rfl
theorem transfer_wrap (M : Kind → Cat → Mode) (fuel : Nat) (k : Kind) (s : Shape) (h : Heap) (i : Item) :
    transfer M fuel (.wrap k s) h i = nodeWrap (M k s.wcat) fuel (fun h' i' => transfer M fuel s h' i') h i := rfl
theorem transfer_wrapN (M : Kind → Cat → Mode) (fuel : Nat) (k : Kind) (p : Pick) (opts : List Shape) (h : Heap) (i : Item) :
    transfer M fuel (.wrapN k p opts) h i =
      transferOpts M fuel k (M (fallbackSite k p opts).1 (fallbackSite k p opts).2) opts (pickIdx p opts h i) h i := rfl
theorem transfer_owned (M : Kind → Cat → Mode) (fuel : Nat) (s : Shape) (h : Heap) (i : Item) :
    transfer M fuel (.owned s) h i = nodeOwned (M .owner .none) fuel (fun h' i' => transfer M fuel s h' i') h i := rfl
theorem transferOpts_nil (M : Kind → Cat → Mode) (fuel : Nat) (k : Kind) (fb : Mode) (n : Nat) (h : Heap) (i : Item) :
    transferOpts M fuel k fb [] n h i = leafAny fb fuel h i := rfl
theorem transferOpts_cons (M : Kind → Cat → Mode) (fuel : Nat) (k : Kind) (fb : Mode) (s : Shape) (rest : List Shape)
    (n : Nat) (h : Heap) (i : Item) :
    transferOpts M fuel k fb (s :: rest) n h i =
      optStep (nodeWrap (M k s.wcat) fuel (fun h' i' => transfer M fuel s h' i'))
        (fun n' h' i' => transferOpts M fuel k fb rest n' h' i') n h i := rfl
theorem transferFields_nil (M : Kind → Cat → Mode) (fuel : Nat) (h : Heap) (items : List (String × Item)) :
    transferFields M fuel [] h items = (h, some []) := rfl
theorem transferFields_cons (M : Kind → Cat → Mode) (fuel : Nat) (name : String) (s : Shape) (rest : List (String × Shape))
    (h : Heap) (items : List (String × Item)) :
    transferFields M fuel ((name, s) :: rest) h items =
      fieldStep name (fun h' i' => transfer M fuel s h' i') (fun h' its => transferFields M fuel rest h' its) h items := rfl

theorem nodeOwned_error (fuel : Nat) (f : Heap → Item → R Item) (h : Heap) (i : Item) :
    nodeOwned .error fuel f h i = (h, none) := rfl

theorem nodeOwned_alias (fuel : Nat) (f : Heap → Item → R Item) : nodeOwned .alias fuel f = f := rfl

theorem rebuildWith_tr {n0 : Nat} {P : Prop} {tf : Heap → List (String × Item) → R (List (String × Item))} {h : Heap}
    {a : Nat} (t : Tr n0 P h (tf h (h.cells a).items) (ItemsIn n0)) :
    Tr n0 P h (rebuildWith tf h (.ref a)) (ItemIn n0) := by
  simp only [rebuildWith]
  rcases e : tf h (h.cells a).items with ⟨h1, _ | its⟩ <;> rw [e] at t
  · exact t.seq_none
  · exact t.seq ((Tr.alloc _ its).mono fun _ p => p.2)

theorem deepCopy_tr (n0 : Nat) : ∀ n h i, Tr n0 True h (deepCopy n h i) (ItemIn n0)
  | 0, _, .atom _ | _ + 1, _, .atom _ => Tr.pure fun _ _ => itemIn_atom _ _ _
  | 0, _, .ref _ => Tr.fail
  | n + 1, h, .ref a =>
    -- `deepCopy (n + 1)` on a reference is `rebuildWith (mapItems (deepCopy n))`, by computation
    rebuildWith_tr (tf := mapItems (deepCopy n))
      ((Tr.mapItems (P := fun _ _ => True) (fun _ _ _ _ t => t) (deepCopy_tr n0 n) (h.cells a).items h).mono
        fun _ _ _ _ => trivial)

theorem leafScalar_walk (n0 : Nat) (C : Prop) : Walk n0 C leafScalar
  | _, .atom _ => Tr.pure fun _ _ => itemIn_atom _ _ _
  | _, .ref _ => Tr.fail

theorem shallowCopy_walk (n0 : Nat) : Walk n0 False shallowCopy
  | _, .atom _ => Tr.pure fun _ _ => itemIn_atom _ _ _
  | _, .ref a => (Tr.alloc _ _).mono fun rg pre => c19_cell_items_in rg.2 (pre.resolve_left id a rfl)

theorem leafAny_walk (n0 : Nat) (m : Mode) (fuel : Nat) : Walk n0 (m.copies = true) (leafAny m fuel) := by
  cases m
  case alias => exact fun h i => Tr.pure fun _ pre => pre.resolve_left (by decide)
  case shallow => exact (shallowCopy_walk n0).mono (by decide)
  case error => exact fun h i => Tr.fail
  all_goals exact fun h i => (deepCopy_tr n0 fuel h i).mono fun _ _ => trivial

theorem nodeWrap_walk (n0 : Nat) (m : Mode) (fuel : Nat) {C : Prop} {f : Heap → Item → R Item} (w : Walk n0 C f) :
    Walk n0 (m.copies = true ∧ C) (nodeWrap m fuel f) := by
  by_cases hm : m = .rebuild
  · rw [hm, nodeWrap_rebuild]; exact w.mono And.right
  · rw [nodeWrap_of_ne hm]; exact (leafAny_walk n0 m fuel).mono And.left

theorem rebuildWith_walk {n0 : Nat} {C : Prop} {tf : Heap → List (String × Item) → R (List (String × Item))}
    (w : WalkL n0 C tf) : Walk n0 C (rebuildWith tf)
  | _, .atom _ => Tr.pure fun _ _ => itemIn_atom _ _ _
  | h, .ref a => rebuildWith_tr ((w h (h.cells a).items).mono
      fun rg pre p hp => pre.imp_right fun hin => c19_cell_items_in rg.2 (hin a rfl) p hp)

theorem nodeRec_walk (n0 : Nat) (m : Mode) (fuel : Nat) {C : Prop}
    {tf : Heap → List (String × Item) → R (List (String × Item))} (w : WalkL n0 C tf) :
    Walk n0 (m.copies = true ∧ C) (nodeRec m fuel tf)
  | _, .atom _ => Tr.pure fun _ _ => itemIn_atom _ _ _
  | h, .ref a => by rw [nodeRec_ref]; exact nodeWrap_walk n0 m fuel (rebuildWith_walk w) h (.ref a)

theorem mapItems_walk {n0 : Nat} {C : Prop} {f : Heap → Item → R Item} (w : Walk n0 C f) : WalkL n0 C (mapItems f) :=
  fun h its => Tr.mapItems (P := fun h i => C ∨ ItemIn n0 h i) (fun _ _ _ m => Or.imp_right (·.mono m)) w its h

theorem nodeColl_walk (n0 : Nat) (m : Mode) (fuel : Nat) {C : Prop} {f : Heap → Item → R Item} (w : Walk n0 C f) :
    Walk n0 (m.copies = true ∧ C) (nodeColl m fuel f) :=
  nodeColl_eq m fuel f ▸ nodeRec_walk n0 m fuel (mapItems_walk w)

theorem fieldStep_walk (n0 : Nat) (name : String) {C C' : Prop} {f : Heap → Item → R Item}
    {g : Heap → List (String × Item) → R (List (String × Item))} (wf : Walk n0 C f) (wg : WalkL n0 C' g) :
    WalkL n0 (C ∧ C') (fieldStep name f g) :=
  Tr.fieldStep (P := fun h i => (C ∧ C') ∨ ItemIn n0 h i) name (fun _ _ _ fr => Or.imp_right (·.mono fr.1))
    (wf.mono And.left) (wg.mono And.right)

theorem optStep_walk {n0 : Nat} {C : Prop} {f : Heap → Item → R Item} {g : Nat → Heap → Item → R Item}
    (wf : Walk n0 C f) (wg : ∀ n, Walk n0 C (g n)) : ∀ n, Walk n0 C (optStep f g n)
  | 0 => wf
  | n + 1 => wg n

/-- does the owner row make the owner copy? (`alias` = the owner stores / hands out what it has).  The branches of
    `nodeOwned`, not `Mode.copies`: under `shallow` the owner deep-copies all the same -/
def Mode.ownerCopies : Mode → Bool
  | .alias => false
  | _ => true

/-- an owner's field: what the field does with the value — and where the owner copies (every row but `alias`) and the
    value is not exempt, the field only ever sees a deep copy, a value of the fresh region -/
theorem nodeOwned_tr (n0 : Nat) (m : Mode) (fuel : Nat) {C : Prop} {f : Heap → Item → R Item} (w : Walk n0 C f) (h : Heap)
    (i : Item) :
    Tr n0 ((C ∨ ItemIn n0 h i) ∨ m.ownerCopies = true ∧ ownerExempt h i = false) h (nodeOwned m fuel f h i) (ItemIn n0) := by
  cases m
  case error => exact Tr.fail
  case alias => exact (w h i).mono fun _ pre => pre.resolve_right fun c => absurd c.1 (by decide)
  all_goals
    simp only [nodeOwned]
    split
    · next hx => exact (w h i).mono fun _ pre => pre.resolve_right fun c => absurd c.2 (by rw [hx]; decide)
    have t := deepCopy_tr n0 fuel h i
    rcases e : deepCopy fuel h i with ⟨h1, _ | c⟩ <;> rw [e] at t
    · exact (t.mono fun _ _ => trivial).seq_none
    · exact (t.mono fun _ _ => trivial).seq ((w h1 c).mono fun _ p => Or.inr p.2)

theorem nodeOwned_walk (n0 : Nat) (m : Mode) (fuel : Nat) {C : Prop} {f : Heap → Item → R Item} (w : Walk n0 C f) :
    Walk n0 C (nodeOwned m fuel f) := fun h i => (nodeOwned_tr n0 m fuel w h i).mono fun _ => Or.inl

-- each case is the lemma of its node transformer: `transfer` and `safeShape` unfold to them by computation.  Under `wrapN`
-- the option index is `pickIdx p opts h i`, one per heap and value: hence `transferOpts_walk` for every `n`
mutual
theorem transfer_walk (n0 : Nat) (M : Kind → Cat → Mode) (fuel : Nat) :
    (s : Shape) → Walk n0 (safeShape M s = true) (transfer M fuel s)
  | .scalar _ => leafScalar_walk n0 _
  | .any => leafAny_walk n0 _ fuel
  | .untyped => leafAny_walk n0 _ fuel
  | .coll _ s => (nodeColl_walk n0 _ fuel (transfer_walk n0 M fuel s)).mono Bool.and_eq_true_iff.mp
  | .keyed _ fs => (nodeRec_walk n0 _ fuel (transferFields_walk n0 M fuel fs)).mono Bool.and_eq_true_iff.mp
  | .wrap _ s => (nodeWrap_walk n0 _ fuel (transfer_walk n0 M fuel s)).mono Bool.and_eq_true_iff.mp
  | .wrapN k _ opts => fun h i => (transferOpts_walk n0 M fuel k _ opts _).mono Bool.and_eq_true_iff.mp h i
  | .owned s => nodeOwned_walk n0 _ fuel (transfer_walk n0 M fuel s)
theorem transferOpts_walk (n0 : Nat) (M : Kind → Cat → Mode) (fuel : Nat) (k : Kind) (fb : Mode) :
    (opts : List Shape) → ∀ n, Walk n0 (fb.copies = true ∧ safeOpts M k opts = true) (transferOpts M fuel k fb opts n)
  | [] => fun _ => (leafAny_walk n0 fb fuel).mono And.left
  | s :: rest =>
    optStep_walk
      ((nodeWrap_walk n0 _ fuel (transfer_walk n0 M fuel s)).mono fun c =>
        Bool.and_eq_true_iff.mp (Bool.and_eq_true_iff.mp (c.2 : safeOpts M k (s :: rest) = true)).1)
      fun n => (transferOpts_walk n0 M fuel k fb rest n).mono fun c =>
        ⟨c.1, (Bool.and_eq_true_iff.mp (c.2 : safeOpts M k (s :: rest) = true)).2⟩
theorem transferFields_walk (n0 : Nat) (M : Kind → Cat → Mode) (fuel : Nat) :
    (fs : List (String × Shape)) → WalkL n0 (safeFields M fs = true) (transferFields M fuel fs)
  | [] => fun _ _ => Tr.pure fun _ _ _ hp => nomatch hp
  | (name, s) :: rest =>
    (fieldStep_walk n0 name (transfer_walk n0 M fuel s) (transferFields_walk n0 M fuel rest)).mono Bool.and_eq_true_iff.mp
end

theorem transfer_frame (M : Kind → Cat → Mode) (fuel : Nat) : (s : Shape) → FrameSpec (transfer M fuel s) :=
  fun s => (transfer_walk 0 M fuel s).frame
theorem transferOpts_frame (M : Kind → Cat → Mode) (fuel : Nat) (k : Kind) (fb : Mode) :
    (opts : List Shape) → ∀ n, FrameSpec (transferOpts M fuel k fb opts n) :=
  fun opts n => (transferOpts_walk 0 M fuel k fb opts n).frame

theorem transfer_fresh (n0 : Nat) (M : Kind → Cat → Mode) (fuel : Nat) :
    (s : Shape) → safeShape M s = true → FreshSpec n0 (transfer M fuel s) :=
  fun s hs => (transfer_walk n0 M fuel s).fresh hs
theorem transferOpts_fresh (n0 : Nat) (M : Kind → Cat → Mode) (fuel : Nat) (k : Kind) (fb : Mode) :
    (opts : List Shape) → fb.copies = true → safeOpts M k opts = true →
      ∀ n, FreshSpec n0 (transferOpts M fuel k fb opts n) :=
  fun opts hu hs n => (transferOpts_walk n0 M fuel k fb opts n).fresh ⟨hu, hs⟩
theorem transferFields_fresh (n0 : Nat) (M : Kind → Cat → Mode) (fuel : Nat) :
    (fs : List (String × Shape)) → safeFields M fs = true → FreshSpecL n0 (transferFields M fuel fs) :=
  fun fs hs h its _ _ le nc e => (transferFields_walk n0 M fuel fs h its).post le nc (fun _ _ => Or.inl hs) e

/-- under ANY table: what the walk returns for a value of the fresh region lies in the fresh region (what an immutable
    owner's defensive deep copy buys: the field only ever sees the copy) -/
theorem transfer_keep (n0 : Nat) (M : Kind → Cat → Mode) (fuel : Nat) : (s : Shape) → KeepSpec n0 (transfer M fuel s) :=
  fun s => (transfer_walk n0 M fuel s).keep
theorem transferOpts_keep (n0 : Nat) (M : Kind → Cat → Mode) (fuel : Nat) (k : Kind) (fb : Mode) :
    (opts : List Shape) → ∀ n, KeepSpec n0 (transferOpts M fuel k fb opts n) :=
  fun opts n => (transferOpts_walk n0 M fuel k fb opts n).keep
theorem transferFields_keep (n0 : Nat) (M : Kind → Cat → Mode) (fuel : Nat) :
    (fs : List (String × Shape)) → KeepSpecL n0 (transferFields M fuel fs) :=
  fun fs h its _ _ le nc hin e =>
    (transferFields_walk n0 M fuel fs h its).post le nc (fun p hp => Or.inr (hin p hp)) e

theorem owned_tr (n0 : Nat) (M : Kind → Cat → Mode) (fuel : Nat) (s : Shape) (hm : (M .owner .none).ownerCopies = true)
    (h : Heap) (i : Item) :
    Tr n0 (ItemIn n0 h i ∨ ownerExempt h i = false) h (transfer M fuel (.owned s) h i) (ItemIn n0) :=
  (nodeOwned_tr n0 _ fuel (transfer_walk n0 M fuel s) h i).mono fun _ => Or.imp Or.inr fun hx => ⟨hm, hx⟩

/-- **the immutable owner's defensive copy**: under ANY table (the field below may alias whatever it likes), when
    the owner copies and the value is not one of the exempt immutable kinds, what the field ends up with lies
    entirely in the freshly allocated region -/
theorem owned_fresh (n0 : Nat) (M : Kind → Cat → Mode) (fuel : Nat) (s : Shape)
    (hm : (M .owner .none).ownerCopies = true) (h : Heap) (i : Item) (hx : ownerExempt h i = false)
    (h' : Heap) (i' : Item) (le : n0 ≤ h.next) (nc : NewClosed n0 h)
    (e : transfer M fuel (.owned s) h i = (h', some i')) : NewClosed n0 h' ∧ ItemIn n0 h' i' :=
  (owned_tr n0 M fuel s hm h i).post le nc (Or.inr hx) e

theorem reach_new {n0 : Nat} {h : Heap} (nc : NewClosed n0 h) {a b : Nat} (ha : n0 ≤ a ∧ a < h.next)
    (r : Reach h a b) : n0 ≤ b ∧ b < h.next := by
  induction r with
  | refl => exact ha
  | step _ hk ih => exact nc _ ih.1 ih.2 _ hk

theorem Reach.head {h : Heap} {a c b : Nat} (r : Reach h c b) (hk : c ∈ (h.cells a).kids) : Reach h a b := by
  induction r with
  | refl => exact .step (.refl a) hk
  | step _ hk' ih => exact .step ih hk'

theorem reachList_reach (h : Heap) : ∀ (n a b : Nat), b ∈ reachList n h (.ref a) → Reach h a b
  | 0, _, _, hb => List.mem_singleton.mp hb ▸ Reach.refl _
  | n + 1, a, b, hb => by
    simp only [reachList, List.mem_cons, List.mem_flatten, List.mem_map] at hb
    obtain rfl | ⟨_, ⟨p, hp, rfl⟩, hbl⟩ := hb
    · exact Reach.refl _
    · cases hp2 : p.2 with
      | atom v => rw [hp2] at hbl; cases n <;> cases hbl
      | ref c => rw [hp2] at hbl; exact (reachList_reach h n c b hbl).head (kids_of_mem hp hp2)

/-- with `n = h.next`: the caller's heap has no dangling reference (the hypothesis `cb` of the property theorems) -/
def ClosedBelow (n : Nat) (h : Heap) : Prop := ∀ a, a < n → ∀ k, k ∈ (h.cells a).kids → k < n

theorem reach_below {n : Nat} {h : Heap} (cb : ClosedBelow n h) {a b : Nat} (ha : a < n) (r : Reach h a b) : b < n := by
  induction r with
  | refl => exact ha
  | step _ hk ih => exact cb _ ih _ hk

theorem c19_reach_transport {h h2 : Heap} {r : Nat} (same : ∀ b, Reach h r b → h2.cells b = h.cells b) :
    ∀ {a : Nat}, Reach h2 r a → Reach h r a := by
  intro a ra
  induction ra with
  | refl => exact Reach.refl _
  | step _ hk ih =>
    rw [same _ ih] at hk
    exact Reach.step ih hk

theorem closedBelow_frame {h h' : Heap} (cb : ClosedBelow h.next h) (fr : Frame h h') : ClosedBelow h.next h' := by
  intro a ha k hk
  rw [fr.2 a ha] at hk
  exact cb a ha k hk

theorem Held.mono {h : Heap} {K K' : List Nat} (sub : ∀ r, r ∈ K → r ∈ K') {b : Nat} : Held h K b → Held h K' b :=
  fun ⟨r, hr, rb⟩ => ⟨r, sub r hr, rb⟩

/-- the step of `script_protects`, write and allocation alike: by it the caller's reach grows by `a` at most -/
theorem held_update {h h' : Heap} {K : List Nat} {a : Nat} {c : Cell}
    (upd : ∀ x, h'.cells x = if x = a then c else h.cells x) (hc : ∀ k, k ∈ c.kids → Held h K k)
    {b : Nat} (hb : Held h' (a :: K) b) : Held h K b ∨ b = a := by
  obtain ⟨r, hr, rb⟩ := hb
  induction rb with
  | refl =>
    cases hr with
    | head => exact Or.inr rfl
    | tail _ hr' => exact Or.inl ⟨r, hr', Reach.refl _⟩
  | @step b' c' _ hk ih =>
    rw [upd] at hk
    by_cases e : b' = a
    · rw [if_pos e] at hk; exact Or.inl (hc _ hk)
    · rw [if_neg e] at hk
      exact ih.elim (fun ⟨r', hr', rb'⟩ => Or.inl ⟨r', hr', rb'.step hk⟩) fun e' => absurd e' e

/-- **separation is preserved by every admissible script**: if the caller holds nothing inside the
    protected region `P` (all of it allocated), no sequence of native mutations changes a cell of `P`,
    and the caller still holds nothing inside `P` afterwards. -/
theorem script_protects (P : Nat → Prop) (acts : List Act) :
    ∀ (h : Heap) (K : List Nat), (∀ a, Held h K a → ¬ P a) → (∀ a, P a → a < h.next) → AdmissibleAll h K acts →
      (∀ a, P a → (runScript h K acts).1.cells a = h.cells a) ∧
      (∀ a, Held (runScript h K acts).1 (runScript h K acts).2 a → ¬ P a) := by
  induction acts with
  | nil => intro h K sep _ _; exact ⟨fun _ _ => rfl, sep⟩
  | cons act rest ih =>
    intro h K sep alloc adm
    -- a write and an allocation alike put content the caller holds into ONE cell `a` outside `P` (a cell the caller
    -- holds, or the first free one), and `a` is the only root the caller can gain
    obtain ⟨a, c, na, hc, upd, hK, hn⟩ : ∃ a c, ¬ P a ∧ (∀ k, k ∈ c.kids → Held h K k) ∧
        (∀ x, (stepAct h K act).1.cells x = if x = a then c else h.cells x) ∧
        (∀ r, r ∈ (stepAct h K act).2 → r ∈ a :: K) ∧ h.next ≤ (stepAct h K act).1.next := by
      cases act with
      | write a c => exact ⟨a, c, sep a adm.1.1, adm.1.2, fun _ => rfl, fun _ => List.mem_cons_of_mem _, Nat.le_refl _⟩
      | alloc c =>
        exact ⟨h.next, c, fun hp => Nat.lt_irrefl _ (alloc _ hp), adm.1, fun _ => rfl, fun _ hr => hr, Nat.le_succ _⟩
    have := ih _ _
      (fun b hb hp => (held_update upd hc (hb.mono hK)).elim (sep b · hp) fun e => na (e ▸ hp))
      (fun x hx => Nat.lt_of_lt_of_le (alloc x hx) hn) adm.2
    exact ⟨fun x hx => by rw [runScript, this.1 x hx, upd, if_neg fun e : x = a => na (e ▸ hx)], this.2⟩

/-- observation depends only on the cells reachable from the item: `P`, any set closed under references that holds it -/
theorem observe_agree (P : Nat → Prop) {h h' : Heap} (agree : ∀ a, P a → h'.cells a = h.cells a)
    (closed : ∀ a, P a → ∀ k, k ∈ (h.cells a).kids → P k) :
    ∀ (n : Nat) (i : Item), (∀ a, i = .ref a → P a) → observeN n h' i = observeN n h i := by
  intro n
  induction n with
  | zero => intro i _; cases i <;> simp [observeN]
  | succ n ih =>
    intro i hi
    cases i with
    | atom v => simp [observeN]
    | ref a =>
      simp only [observeN]
      have pa := hi a rfl
      rw [agree a pa]
      congr 1
      apply List.map_congr_left
      intro p hp
      rw [ih p.2 fun b e => closed a pa b (kids_of_mem hp e)]

theorem Frame.old_held {h h' : Heap} (fr : Frame h h') (cb : ClosedBelow h.next h) {K : List Nat}
    (hK : ∀ r, r ∈ K → r < h.next) : ∀ b, Held h' K b → b < h.next :=
  fun _ ⟨r, hr, rb⟩ => reach_below (closedBelow_frame cb fr) (hK r hr) rb

/-- scripts working from old roots leave every cell the call allocated alone: of the call only `Frame` is asked, nothing
    about what it did with the references it was given -/
theorem Frame.new_cells {h h' : Heap} (fr : Frame h h') (cb : ClosedBelow h.next h) {K : List Nat}
    (hK : ∀ r, r ∈ K → r < h.next) (acts : List Act) (adm : AdmissibleAll h' K acts) :
    ∀ a, h.next ≤ a ∧ a < h'.next → (runScript h' K acts).1.cells a = h'.cells a :=
  (script_protects (fun a => h.next ≤ a ∧ a < h'.next) acts h' K
    (fun b hb hp => absurd (fr.old_held cb hK b hb) (Nat.not_lt.mpr hp.1)) (fun _ ha => ha.2) adm).1

/-- the call `h ⟶ h'` only allocated, and `res` lies in the region it allocated, which is closed under references:
    what every operation of C19, the copies of C11, the constructor of C04 and `convert_dict` of C17 establish, and
    all that their separation statements need -/
structure Isolated (h h' : Heap) (res : Item) : Prop where
  frame : Frame h h'
  closed : NewClosed h.next h'
  inside : ItemIn h.next h' res

/-- `R` holds nothing but the result (the `roots res` of the properties) -/
def RootsOf (res : Item) (R : List Nat) : Prop := ∀ r, r ∈ R → res = .ref r

namespace Isolated

theorem held {h h' : Heap} {res : Item} (iso : Isolated h h' res) {R : List Nat} (hR : RootsOf res R) :
    ∀ b, Held h' R b → h.next ≤ b ∧ b < h'.next :=
  fun _ ⟨r, hr, rb⟩ => reach_new iso.closed (iso.inside r (hR r hr)) rb

theorem old_cells {h h' : Heap} {res : Item} (iso : Isolated h h' res) {R : List Nat} (hR : RootsOf res R)
    (acts : List Act) (adm : AdmissibleAll h' R acts) :
    ∀ a, a < h.next → (runScript h' R acts).1.cells a = h.cells a := fun a ha => by
  rw [(script_protects (fun a => a < h.next) acts h' R
    (fun a ha hlt => absurd hlt (Nat.not_lt.mpr (iso.held hR a ha).1))
    (fun a ha => Nat.lt_of_lt_of_le ha iso.frame.1) adm).1 a ha, iso.frame.2 a ha]

theorem old_observe {h h' : Heap} {res : Item} (iso : Isolated h h' res) {R : List Nat} (hR : RootsOf res R)
    (acts : List Act) (adm : AdmissibleAll h' R acts) (cb : ClosedBelow h.next h) (x : Item) (hx : ItemIn 0 h x)
    (n : Nat) : observeN n (runScript h' R acts).1 x = observeN n h x :=
  observe_agree (fun a => a < h.next) (iso.old_cells hR acts adm) cb n x fun a ea => (hx a ea).2

theorem disjoint {h h' : Heap} {res : Item} (iso : Isolated h h' res) {R : List Nat} (hR : RootsOf res R)
    (cb : ClosedBelow h.next h) (K : List Nat) (hK : ∀ r, r ∈ K → r < h.next) :
    ∀ b, Held h' R b → (h.next ≤ b ∧ b < h'.next) ∧ ¬ Held h' K b :=
  fun b hb => ⟨iso.held hR b hb, fun hk =>
    absurd (iso.frame.old_held cb hK b hk) (Nat.not_lt.mpr (iso.held hR b hb).1)⟩

theorem new_observe {h h' : Heap} {res : Item} (iso : Isolated h h' res) (cb : ClosedBelow h.next h) (K : List Nat)
    (hK : ∀ r, r ∈ K → r < h.next) (acts : List Act) (adm : AdmissibleAll h' K acts) (n : Nat) :
    observeN n (runScript h' K acts).1 res = observeN n h' res :=
  observe_agree (fun a => h.next ≤ a ∧ a < h'.next) (iso.frame.new_cells cb hK acts adm)
    (fun a ha k hk => iso.closed a ha.1 ha.2 k hk) n res iso.inside

end Isolated

theorem Tr.isolated {P : Prop} {h : Heap} {c : R Item} (t : Tr h.next P h c (ItemIn h.next)) (p : P)
    {h' : Heap} {res : Item} (e : c = (h', some res)) : Isolated h h' res :=
  have q := t.post (Nat.le_refl _) (newClosed_init h) p e
  ⟨t.frame e, q.1, q.2⟩

theorem transfer_isolated {M : Kind → Cat → Mode} {fuel : Nat} {s : Shape} (hs : safeShape M s = true) {h : Heap}
    {src : Item} {h' : Heap} {res : Item} (e : transfer M fuel s h src = (h', some res)) : Isolated h h' res :=
  (transfer_walk h.next M fuel s h src).isolated (Or.inl hs) e

theorem lookupRow_mem {tbl : List AliasRow} {op : OpK} {k : Kind} {c : Cat} {r : AliasRow}
    (h : lookupRow tbl op k c = some r) : r ∈ tbl := by
  simp only [lookupRow] at h
  exact List.mem_of_find?_eq_some h

theorem lookupRow_key {tbl : List AliasRow} {op : OpK} {k : Kind} {c : Cat} {r : AliasRow}
    (h : lookupRow tbl op k c = some r) : r.op = op ∧ r.kind = k ∧ r.cat = c := by
  have := List.find?_some h
  simp only [Bool.and_eq_true, beq_iff_eq] at this
  exact ⟨this.1.1, this.1.2, this.2⟩

theorem lookupRow_filter (tbl : List AliasRow) (op : OpK) (k : Kind) (c : Cat) :
    lookupRow (tbl.filter fun r => r.op == op) op k c = lookupRow tbl op k c := by
  simp only [lookupRow, List.find?_filter]
  congr 1; funext r
  simp only [Bool.decide_and, Bool.decide_eq_true]
  cases r.op == op <;> rfl

def AgreeOn (M M' : Kind → Cat → Mode) (sites : List (Kind × Cat)) : Prop := ∀ kc, kc ∈ sites → M kc.1 kc.2 = M' kc.1 kc.2

theorem AgreeOn.head {M M' : Kind → Cat → Mode} {kc : Kind × Cat} {l : List (Kind × Cat)} (h : AgreeOn M M' (kc :: l)) :
    M kc.1 kc.2 = M' kc.1 kc.2 := h kc List.mem_cons_self
theorem AgreeOn.tail {M M' : Kind → Cat → Mode} {kc : Kind × Cat} {l : List (Kind × Cat)} (h : AgreeOn M M' (kc :: l)) :
    AgreeOn M M' l := fun x hx => h x (List.mem_cons_of_mem _ hx)
theorem AgreeOn.left {M M' : Kind → Cat → Mode} {l1 l2 : List (Kind × Cat)} (h : AgreeOn M M' (l1 ++ l2)) :
    AgreeOn M M' l1 := fun x hx => h x (List.mem_append_left _ hx)
theorem AgreeOn.right {M M' : Kind → Cat → Mode} {l1 l2 : List (Kind × Cat)} (h : AgreeOn M M' (l1 ++ l2)) :
    AgreeOn M M' l2 := fun x hx => h x (List.mem_append_right _ hx)

mutual
theorem transfer_congr (M M' : Kind → Cat → Mode) (fuel : Nat) :
    (s : Shape) → AgreeOn M M' (sitesOf s) → transfer M fuel s = transfer M' fuel s
  | .scalar _, _ => rfl
  | .any, ag => by funext h i; rw [transfer_any, transfer_any, ag.head]
  | .untyped, ag => by funext h i; rw [transfer_untyped, transfer_untyped, ag.head]
  | .coll _ s, ag => by funext h i; rw [transfer_coll, transfer_coll, ag.head, transfer_congr M M' fuel s ag.tail]
  | .keyed _ fs, ag => by
    funext h i; rw [transfer_keyed, transfer_keyed, ag.head, transferFields_congr M M' fuel fs ag.tail]
  | .wrap _ s, ag => by funext h i; rw [transfer_wrap, transfer_wrap, ag.head, transfer_congr M M' fuel s ag.tail]
  | .wrapN k _ opts, ag => by
    funext h i; rw [transfer_wrapN, transfer_wrapN, ag.head, transferOpts_congr M M' fuel k _ opts ag.tail]
  | .owned s, ag => by funext h i; rw [transfer_owned, transfer_owned, ag.head, transfer_congr M M' fuel s ag.tail]
theorem transferOpts_congr (M M' : Kind → Cat → Mode) (fuel : Nat) (k : Kind) (fb : Mode) :
    (opts : List Shape) → AgreeOn M M' (sitesOfOpts k opts) → transferOpts M fuel k fb opts = transferOpts M' fuel k fb opts
  | [], _ => rfl
  | s :: rest, ag => by
    funext n h i
    rw [transferOpts_cons, transferOpts_cons, ag.head, transfer_congr M M' fuel s ag.tail.left,
      transferOpts_congr M M' fuel k fb rest ag.tail.right]
theorem transferFields_congr (M M' : Kind → Cat → Mode) (fuel : Nat) :
    (fs : List (String × Shape)) → AgreeOn M M' (sitesOfFields fs) → transferFields M fuel fs = transferFields M' fuel fs
  | [], _ => rfl
  | (name, s) :: rest, ag => by
    funext h its
    rw [transferFields_cons, transferFields_cons, transfer_congr M M' fuel s ag.left,
      transferFields_congr M M' fuel rest ag.right]
end

/-- **the table matters only at the declared sites**: two tables that agree on `sitesOf s` drive the very same walk of
    `s` — on every heap, for every value (so `admitted`, which looks at exactly these sites, looks at everything the
    operation can do with the declaration) -/
theorem transfer_sites (M M' : Kind → Cat → Mode) (fuel : Nat) :
    (s : Shape) → AgreeOn M M' (sitesOf s) → ∀ h i, transfer M fuel s h i = transfer M' fuel s h i :=
  fun s ag h i => by rw [transfer_congr M M' fuel s ag]
theorem transferOpts_sites (M M' : Kind → Cat → Mode) (fuel : Nat) (k : Kind) (fb : Mode) :
    (opts : List Shape) → AgreeOn M M' (sitesOfOpts k opts) →
      ∀ n h i, transferOpts M fuel k fb opts n h i = transferOpts M' fuel k fb opts n h i :=
  fun opts ag n h i => by rw [transferOpts_congr M M' fuel k fb opts ag]
theorem transferFields_sites (M M' : Kind → Cat → Mode) (fuel : Nat) :
    (fs : List (String × Shape)) → AgreeOn M M' (sitesOfFields fs) →
      ∀ h its, transferFields M fuel fs h its = transferFields M' fuel fs h its :=
  fun fs ag h its => by rw [transferFields_congr M M' fuel fs ag]

def allOwned : List (String × Shape) → Bool
  | [] => true
  | (_, .owned _) :: rest => allOwned rest
  | _ => false

/-- plain caller data: a scalar or a non-exempt object that exists already -/
def PlainItem (h : Heap) (i : Item) : Prop :=
  (∃ v, i = .atom v) ∨ (∃ a, i = .ref a ∧ a < h.next ∧ ownerExempt h i = false)
/-- written out, but `∀ p ∈ its, PlainItem h p.2` by unfolding: `ownedFields_tr` passes `PlainItem` to `Tr.fieldStep` and
    states the result with `PlainItems` -/
def PlainItems (h : Heap) (its : List (String × Item)) : Prop :=
  ∀ p, p ∈ its → (∃ v, p.2 = .atom v) ∨ (∃ a, p.2 = .ref a ∧ a < h.next ∧ ownerExempt h p.2 = false)

theorem PlainItem.frame {h h' : Heap} {i : Item} (fr : Frame h h') : PlainItem h i → PlainItem h' i
  | .inl hv => .inl hv
  | .inr ⟨a, e, ha, hx⟩ => .inr ⟨a, e, Nat.lt_of_lt_of_le ha fr.1, by
      rw [e] at hx ⊢; simp only [ownerExempt] at hx ⊢; rw [fr.2 a ha]; exact hx⟩

theorem ownedFields_tr (n0 : Nat) (M : Kind → Cat → Mode) (fuel : Nat) (hm : (M .owner .none).ownerCopies = true) :
    (fs : List (String × Shape)) → allOwned fs = true →
      ∀ h its, Tr n0 (PlainItems h its) h (transferFields M fuel fs h its) (ItemsIn n0)
  | [], _ => fun _ _ => Tr.pure fun _ _ _ hp => nomatch hp
  | (name, .owned s) :: rest, ho =>
    Tr.fieldStep (P := PlainItem) name (fun _ _ _ => PlainItem.frame)
      (fun h i => (owned_tr n0 M fuel s hm h i).mono fun _ (pl : PlainItem h i) =>
        pl.imp (fun ⟨_, e⟩ => e ▸ itemIn_atom _ _ _) fun ⟨_, _, _, hx⟩ => hx)
      (ownedFields_tr n0 M fuel hm rest ho)

/-- **a whole immutable class**: the class's fields all sit behind the owner's copy, the owner row copies, the
    top-level container (kwargs / document) is rebuilt — then, for ANY rows of the fields below and plain caller data,
    the instance lies entirely in the freshly allocated region -/
theorem immutable_class_fresh (M : Kind → Cat → Mode) (fuel : Nat) (fs : List (String × Shape))
    (ho : allOwned fs = true) (hm : (M .owner .none).ownerCopies = true) (hroot : M .root .none = .rebuild)
    (h : Heap) (a : Nat) (pl : PlainItems h (h.cells a).items) (h' : Heap) (inst : Item)
    (e : transfer M fuel (.keyed .root fs) h (.ref a) = (h', some inst)) :
    NewClosed h.next h' ∧ ItemIn h.next h' inst := by
  rw [transfer_keyed, hroot, nodeRec_ref, nodeWrap_rebuild] at e
  exact (rebuildWith_tr (ownedFields_tr h.next M fuel hm fs ho h _)).post (Nat.le_refl _) (newClosed_init h) pl e

end Typedpy.Alias
