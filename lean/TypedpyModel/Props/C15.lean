/-
  Props/C15.lean — C15: a class behaves per its own definition, whatever else was defined or used.

  What class `c` does in world `w` is `view cfg w c` (`Sem/World.lean`).  "Defined and used alone" is `slice T h`: of
  the history `h` the definitions of a set `T` of classes closed under "is read by the definition of" (`closed T h`:
  parent and referenced classes), every toggle of a global default, and the explicit `create_serializer(cls, flags)`
  of classes of `T` — that is CONFIGURATION of `cls`, documented to change how it serializes, as is a plain one after it
  (`sliceK`); no other use of any class and no other definition.

  `frame` is the theorem for any configuration with identity-keyed caches and any history OUTSIDE the region in which
  that configuration's unsafe registries fire — which is what `Excluded cfg h` says, despite its name.  `C15_today` is
  C15 at full strength, no excluded region, for the configuration read from the table generated from the current tree;
  it rests on `tables_safe`, the one evaluation over that table.  The repaired defects stay in the model as switches
  of `Config`, each with a kernel-checked theorem about a configuration WITH the switch on (so the switches are not
  decorative) and the same history evaluated under today's table.  `C15_today_partial`, `excluded_today` and the
  `_today` forms of the per-operation theorems are proved from `current_config_le_mro` alone: they are what stands of a
  tree whose one switch is the MRO lookup of `_verify_is_fast_serializable` (/repo before 981c83d).

  The claim is PARTIAL: only state the extractor sees is in the model; the fresh-interpreter comparison of the
  `world` suite is the backstop.
-/
import TypedpyModel.Sem.WorldDecl
import TypedpyModel.Lemmas.WorldFootprint
import TypedpyModel.Generated.Registries
import TypedpyModel.Pinned.Registries
import TypedpyModel.Lemmas.World
namespace Typedpy.C15
open Typedpy.World

/-- C15 at full strength for a configuration: no excluded region -/
def C15_statement (cfg : Config) : Prop :=
  ∀ (T : ClassId → Bool) (h : List WorldOp) (c : ClassId), closed T h = true → T c = true →
    view cfg (runW cfg World.initial h) c = view cfg (runW cfg World.initial (slice T h)) c

/-- C15 outside the region `Excluded cfg` in which the configuration's unsafe registries — and the finding
    about MRO-resolved serializers — fire -/
def C15_partial (cfg : Config) : Prop :=
  ∀ (T : ClassId → Bool) (h : List WorldOp) (c : ClassId), Excluded cfg h → closed T h = true → T c = true →
    view cfg (runW cfg World.initial h) c = view cfg (runW cfg World.initial (slice T h)) c

/-- the frame theorem: outside the known-finding region the view of a class after ANY history equals
    its view after the sub-history it depends on -/
theorem frame (cfg : Config) (hc : cfg.cachesById = true) (T : ClassId → Bool) (h : List WorldOp)
    (hx : Excluded cfg h) (hcl : closed T h = true) (c : ClassId) (hT : T c = true) :
    view cfg (runW cfg World.initial h) c = view cfg (runW cfg World.initial (slice T h)) c := by
  have s := sim_run hc (W := wrapsOf h) hx.1 T h [] World.initial World.initial (fun _ hq => hq) hcl hx.2
    (sim_initial cfg T (wrapsOf h)) (fun _ _ _ _ hl => nomatch hl)
  exact view_eq_of_lookS hc s.good s.good' s.flags (s.stab c hT) (fun e hl => (s.cores c e hT hl).1)
    (fun e hl p hp => by
      obtain ⟨f, hf, hk⟩ := mem_refFields hp
      exact s.stab p.2 ((s.cores c e hT hl).2 f hf p.2 (mem_kindRefs hk)))

/-- the literal form for a class that reads no other class, in a history without default toggles:
    defined anywhere in any history, it behaves as when it is the only thing ever defined -/
theorem frame_alone (cfg : Config) (hc : cfg.cachesById = true) (h : List WorldOp) (hx : Excluded cfg h)
    (c : ClassId) (src : ClassSrc) (hcl : closed (fun d => d == c) h = true)
    (hs : slice (fun d => d == c) h = [.define c src]) :
    view cfg (runW cfg World.initial h) c = view cfg (runW cfg World.initial [.define c src]) c :=
  hs ▸ frame cfg hc (fun d => d == c) h hx hcl c (by simp)

/-- using a class (construct, serialize, deserialize, structure_to_schema, trusted deserialization — every
    operation but an explicit `create_serializer`, see `create_serializer_frame`) in a coherent world, outside the
    finding region, changes the view of NO class -/
theorem use_changes_no_view (cfg : Config) (hc : cfg.cachesById = true) (W : List (String × TypeId))
    (w : World) (g : Good cfg W w) (op : WorldOp) (huse : plainUse op = true)
    (hq : quietStep cfg w op = true) (d : ClassId)
    (hwf : ∀ e, alookup d w.classes = some e → e.core.src.fast = true → refsCreatable cfg e = true) :
    view cfg (stepW cfg w op).1 d = view cfg w d := by
  have r := use_writes_univ hc op huse hq
  exact (view_eq_of_lookS hc g (r.good hc g) r.flags.symm (r.look d).symm hwf fun _ _ q _ => (r.look q.2).symm).symm

/-- an explicit `create_serializer(c, fl)` (the one operation that CONFIGURES a class) changes the view of no
    class other than `c` and the classes that refer to `c` -/
theorem create_serializer_frame (cfg : Config) (hc : cfg.cachesById = true) (W : List (String × TypeId))
    (w : World) (g : Good cfg W w) (c : ClassId) (fl : SerFlags) (d : ClassId) (hd : c ≠ d)
    (hwf : ∀ e, alookup d w.classes = some e → e.core.src.fast = true → refsCreatable cfg e = true)
    (hnoref : ∀ e, alookup d w.classes = some e → ∀ p ∈ refFields e.core.fields, c ≠ p.2) :
    view cfg (stepW cfg w (.createSerializer c fl)).1 d = view cfg w d := by
  have cl := created_step hc g c fl
  exact (view_eq_of_lookS hc g cl.good cl.flags.symm (cl.other d hd).symm hwf
    fun e hl p hp => (cl.other p.2 (hnoref e hl p hp)).symm).symm

/-- coherence ("every cache entry equals the function it memoises, every installed serializer is the one
    a fresh create_serializer would build, every implicit wrapper checks the class it was made for") is
    preserved by every use operation -/
theorem use_preserves_coherence (cfg : Config) (hc : cfg.cachesById = true) (W : List (String × TypeId))
    (w : World) (g : Good cfg W w) (op : WorldOp) (huse : plainUse op = true)
    (hq : quietStep cfg w op = true) : Good cfg W (stepW cfg w op).1 :=
  (use_writes_univ hc op huse hq).good hc g

theorem create_serializer_preserves_coherence (cfg : Config) (hc : cfg.cachesById = true)
    (W : List (String × TypeId)) (w : World) (g : Good cfg W w) (c : ClassId) (fl : SerFlags) :
    Good cfg W (stepW cfg w (.createSerializer c fl)).1 :=
  (created_step hc g c fl).good

theorem define_preserves_coherence (cfg : Config) (W : List (String × TypeId))
    (hW : cfg.wrapperByName = true → NoClashW W) (w : World) (g : Good cfg W w) (c : ClassId) (src : ClassSrc)
    (hsub : ∀ q ∈ wrapsOfFields src.fields, q ∈ W) : Good cfg W (stepW cfg w (.define c src)).1 :=
  good_define hW g c src hsub

theorem define_changes_no_other_class (cfg : Config) (w : World) (c : ClassId) (src : ClassSrc) (d : ClassId)
    (h : c ≠ d) : lookS (stepW cfg w (.define c src)).1 d = lookS w d :=
  lookS_define_other cfg w c src h

theorem accept_decision_frame (cfg : Config) (hc : cfg.cachesById = true) (T : ClassId → Bool)
    (h : List WorldOp) (hx : Excluded cfg h) (hcl : closed T h = true) (c : ClassId) (hT : T c = true)
    (kw : List (String × Arg)) :
    (view cfg (runW cfg World.initial h) c).map (acceptsKw · kw)
      = (view cfg (runW cfg World.initial (slice T h)) c).map (acceptsKw · kw) := by
  rw [frame cfg hc T h hx hcl c hT]

def SafeTables (rows : List RegistryRec) : Prop := ∀ r ∈ rows, r.safe = true

theorem any_unsafe_false {rows : List RegistryRec} (hs : SafeTables rows) (q : RegistryRec → Bool) :
    hasRow rows (fun r => q r && !r.safe) = false := by
  unfold hasRow
  rw [List.any_eq_false]
  intro r hr
  simp [hs r hr]

theorem safe_config_of_safe_tables (rows : List RegistryRec) (hs : SafeTables rows) :
    (configOf rows).safe = true := by
  simp [Config.safe, configOf, any_unsafe_false hs]

/-- `quietStep` for the part of the excluded region that does not depend on the registry switches: the finding about
    serializers resolved through the MRO (always true when `cfg.serializerViaMro` is off, `fastRefsRun_of_no_mro`) -/
def fastRefsQuiet (cfg : Config) (w : World) : WorldOp → Bool
  | .define c src => quietStep cfg w (.define c src)
  | .createSerializer c fl => quietStep cfg w (.createSerializer c fl)
  | _ => true

def fastRefsRun (cfg : Config) : World → List WorldOp → Bool
  | _, [] => true
  | w, op :: h => fastRefsQuiet cfg w op && fastRefsRun cfg (stepW cfg w op).1 h

theorem quietStep_use {cfg : Config} (hs : cfg.schemaWritesRequired = false) (w : World) {op : WorldOp}
    (huse : plainUse op = true) : quietStep cfg w op = true := by
  cases op with
  | toSchema c => simp [quietStep, hs]
  | define _ _ | setDefault _ _ | createSerializer _ _ => cases huse
  | _ => rfl

theorem quietRun_of_fastRefsRun (cfg : Config) (hs : cfg.schemaWritesRequired = false) (h : List WorldOp) :
    ∀ (w : World), fastRefsRun cfg w h = true → quietRun cfg w h = true := by
  induction h with
  | nil => exact fun _ _ => rfl
  | cons op h ih =>
    intro w hr
    simp only [fastRefsRun, Bool.and_eq_true] at hr
    rw [quietRun_cons, Bool.and_eq_true]
    refine ⟨?_, ih _ hr.2⟩
    -- the two differ on `structure_to_schema` only
    cases op with
    | toSchema c => exact quietStep_use hs w rfl
    | _ => exact hr.1

theorem fastRefsRun_of_no_mro (cfg : Config) (hm : cfg.serializerViaMro = false) (h : List WorldOp) :
    ∀ (w : World), fastRefsRun cfg w h = true := by
  induction h with
  | nil => exact fun _ => rfl
  | cons op h ih =>
    intro w
    simp only [fastRefsRun, Bool.and_eq_true]
    refine ⟨?_, ih _⟩
    cases op with
    | define c _ | createSerializer c _ =>
      simp only [fastRefsQuiet, quietStep, refsCreatable, hm, Bool.not_false, Bool.true_or, Bool.or_true]
      split <;> rfl
    | _ => rfl

theorem eq_safeConfig_of_safe {cfg : Config} (hs : cfg.safe = true) : cfg = safeConfig := by
  cases cfg
  simpa [Config.safe, safeConfig, and_assoc] using hs

theorem excluded_safeConfig (h : List WorldOp) : Excluded safeConfig h :=
  ⟨nofun, quietRun_of_fastRefsRun _ rfl h _ (fastRefsRun_of_no_mro _ rfl h _)⟩

theorem C15_of_safe_config (cfg : Config) (hs : cfg.safe = true) : C15_statement cfg := by
  rw [eq_safeConfig_of_safe hs]
  exact fun T h c hcl hT => frame _ rfl T h (excluded_safeConfig h) hcl c hT

/-- a registry table with only safe rows: identity-keyed caches, no write onto another class, no in-place write to
    a class's definition attributes, no decision through the MRO -/
theorem frame_safe_tables (rows : List RegistryRec) (hs : SafeTables rows) : C15_statement (configOf rows) :=
  C15_of_safe_config _ (safe_config_of_safe_tables rows hs)

/-- the configuration of a tree whose only unsafe registry row is the MRO lookup in `_verify_is_fast_serializable`
    (the finding repaired in /repo 981c83d): every cache identity-keyed, nothing written in place, nothing frozen -/
def mroCfg : Config := { safeConfig with serializerViaMro := true }

/-- switch-wise implication: every finding switch that is on in `a` is on in `b` -/
def Config.le (a b : Config) : Bool :=
  (!a.wrapperByName || b.wrapperByName) && (!a.mapperByName || b.mapperByName) &&
  (!a.mapperDropsCamel || b.mapperDropsCamel) &&
  (!a.simplicityByName || b.simplicityByName) && (!a.schemaWritesRequired || b.schemaWritesRequired) &&
  (!a.serializerOnBase || b.serializerOnBase) && (!a.serializerViaMro || b.serializerViaMro)

theorem le_of_safe {a : Config} (hs : a.safe = true) (b : Config) : Config.le a b = true := by
  rw [eq_safeConfig_of_safe hs]
  rfl

theorem props_of_le_mro {cfg : Config} (h : Config.le cfg mroCfg = true) :
    cfg.cachesById = true ∧ cfg.schemaWritesRequired = false ∧ cfg.wrapperByName = false := by
  cases cfg
  simp only [Config.le, mroCfg, safeConfig, Bool.or_false, Bool.and_eq_true, Bool.not_eq_true'] at h
  simp [Config.cachesById, h]

/-- most rows are safe by their key and kind alone; the name of a row (the reviewed lists) matters only for unkeyed
    state and for keys the extractor cannot classify -/
def safeByShape (r : RegistryRec) : Bool :=
  (r.key != .className) && (r.key != .otherClass) && (r.key != .unknown) && (r.key != .partialArgs) &&
  (r.key != .useValue) && (r.key != .none) &&
  (r.kind != .inPlaceClassAttr) && (r.kind != .inPlaceCacheEntry) && (r.kind != .earlyBoundClassAttr) &&
  (r.kind != .sharedReturnMutated) && (r.kind != .configCapture) && (r.kind != .defaultArg) &&
  (r.kind != .inheritedMemo) && (r.kind != .mroRead)

theorem safe_of_shape {r : RegistryRec} (h : safeByShape r = true) : r.safe = true := by
  simp only [safeByShape, Bool.and_eq_true] at h
  simp [RegistryRec.safe, h]

/-- a table is evaluated row by row, shape first: `r.safe` compares names, `String` equality is what the kernel is
    slow at, and `||` spares it for the rows that are safe by shape -/
theorem safeTables_of_shape {rows : List RegistryRec} (h : ∀ r ∈ rows, (safeByShape r || r.safe) = true) :
    SafeTables rows :=
  fun r hr => (Bool.or_eq_true_iff.mp (h r hr)).elim safe_of_shape id

/-- the one evaluation over the table generated from the CURRENT tree: every piece of process-wide state the
    extractor finds is safe -/
theorem tables_safe : SafeTables Generated.registries := safeTables_of_shape (by decide +kernel)

/-- since /repo 981c83d (the repair of the MRO finding) every switch the model reads off the table is off for the
    CURRENT tree: identity-keyed registries and caches, complete memo keys, no in-place write to `_required`, serializer
    written onto `cls`, the referenced class's OWN `__dict__` consulted -/
theorem current_config_safe : (configOf Generated.registries).safe = true :=
  safe_config_of_safe_tables _ tables_safe

theorem config_today : configOf Generated.registries = safeConfig := eq_safeConfig_of_safe current_config_safe

theorem current_config_le_mro : Config.le (configOf Generated.registries) mroCfg = true :=
  le_of_safe current_config_safe _

/-- the rows of the current table that are NOT safe are of the kinds of the listed findings: an attribute of
    another class captured early by a generated closure, or read through the MRO to decide something.  Today there is
    no such row (`tables_safe`) and the statement holds vacuously -/
theorem unsafe_rows_are_outside_model :
    ∀ r ∈ Generated.registries, r.safe = false → r.kind = .earlyBoundClassAttr ∨ r.kind = .mroRead := by
  intro r hr hu
  rw [tables_safe r hr] at hu
  cases hu

/-- every piece of process-wide state the extractor finds in the CURRENT tree is safe or a listed finding
    — the obligation a new name-keyed / unkeyed cache, incomplete memo key, foreign-class write, in-place write,
    early-bound capture, use-dependent Field state, frozen configuration or MRO-read decision breaks -/
theorem tables_ok : ∀ r ∈ Generated.registries, r.safe = true ∨ r.findingKey ∈ Generated.knownFindingKeys :=
  fun r hr => .inl (tables_safe r hr)

/-- C15 for the current tree: for every history outside the region of the MRO finding, every
    dependency-closed class set and every class in it, the class's view after the history is its view when
    defined alone (with its own serializer configurations) -/
theorem C15_today_partial : C15_partial (configOf Generated.registries) :=
  fun T h c hx hcl hT => frame _ (props_of_le_mro current_config_le_mro).1 T h hx hcl c hT

theorem C15_today_if_safe (hs : (configOf Generated.registries).safe = true) :
    C15_statement (configOf Generated.registries) :=
  C15_of_safe_config _ hs

/-- C15 at FULL strength for the current tree: for every history, every dependency-closed class set and every class
    in it, the class's view after the history is its view when defined alone (with its own serializer
    configurations) — no excluded region -/
theorem C15_today : C15_statement (configOf Generated.registries) :=
  C15_today_if_safe current_config_safe

theorem excluded_today_empty (h : List WorldOp) : Excluded (configOf Generated.registries) h :=
  config_today ▸ excluded_safeConfig h

theorem excluded_today (h : List WorldOp)
    (hr : fastRefsRun (configOf Generated.registries) World.initial h = true) :
    Excluded (configOf Generated.registries) h := by
  have hp := props_of_le_mro current_config_le_mro
  exact ⟨by simp [hp.2.2], quietRun_of_fastRefsRun _ hp.2.1 h World.initial hr⟩

theorem use_changes_no_view_today (W : List (String × TypeId)) (w : World)
    (g : Good (configOf Generated.registries) W w) (op : WorldOp) (huse : plainUse op = true)
    (d : ClassId)
    (hwf : ∀ e, alookup d w.classes = some e → e.core.src.fast = true →
      refsCreatable (configOf Generated.registries) e = true) :
    view (configOf Generated.registries) (stepW (configOf Generated.registries) w op).1 d
      = view (configOf Generated.registries) w d := by
  have hp := props_of_le_mro current_config_le_mro
  exact use_changes_no_view _ hp.1 W w g op huse (quietStep_use hp.2.1 w huse) d hwf

/-- `Pinned/Registries.lean` is the committed copy of the table: that of the tree the model is aligned with -/
theorem pinned_tables_safe : SafeTables Pinned.registries := safeTables_of_shape (by decide +kernel)

theorem pinned_config : Config.le (configOf Pinned.registries) mroCfg = true :=
  le_of_safe (safe_config_of_safe_tables _ pinned_tables_safe) _

theorem config_no_worse : Config.le (configOf Generated.registries) (configOf Pinned.registries) = true :=
  le_of_safe current_config_safe _

/-! ### the repaired defects: what the model does with the old switches on, and with today's table -/

/-- the configuration the tree had before /repo 2a0935f and 6efdaf1: wrapper registry name-keyed,
    `_required` written in place -/
def findingsCfg : Config := ⟨true, false, false, false, true, false, false⟩

def fld (name : String) (kind : FieldKind) (dflt : Bool := false) (key : String := name) : FieldSpec :=
  { name := name, kind := kind, hasDefault := dflt, serKey := key, camelKey := key ++ "^", camelName := name ++ "^",
    fastOk := true, trustedOk := true,
    schemaOk := true, inlines := 0 }

def clsA : ClassSrc := ⟨"A", none, [fld "x" (.wrap "User" 1)], false, none⟩
def clsB : ClassSrc := ⟨"B", none, [fld "x" (.wrap "User" 2)], false, none⟩

/-- two user classes both called `User` (identities 1 and 2) -/
def hReg : List WorldOp := [.define 0 clsA, .define 1 clsB]

/-- with `FieldMeta._registry` keyed by bare class name (the tree before 2a0935f): B's field is validated
    against A's user class -/
theorem name_keyed_registry_breaks_frame :
    view findingsCfg (runW findingsCfg World.initial hReg) 1
      ≠ view findingsCfg (runW findingsCfg World.initial (slice (fun d => d == 1) hReg)) 1
    ∧ (stepW findingsCfg (runW findingsCfg World.initial hReg) (.construct 1 [("x", .inst 2)])).2.accepted = false
    ∧ (stepW findingsCfg (runW findingsCfg World.initial hReg) (.construct 1 [("x", .inst 1)])).2.accepted = true
    ∧ (stepW findingsCfg (runW findingsCfg World.initial [.define 1 clsB]) (.construct 1 [("x", .inst 2)])).2.accepted = true := by
  decide +kernel

def clsS : ClassSrc := ⟨"S", none, [fld "a" (.prim 0) false "aa", fld "b" (.prim 2) true], false, none⟩
def clsD : ClassSrc := ⟨"D", some (.omit 0 ["b"]), [], false, none⟩

def hReq : List WorldOp := [.define 0 clsS, .toSchema 0, .define 1 clsD]

/-- with `structure_to_schema` writing `cls._required` in place (the tree before 6efdaf1): S's own
    `_required` changes, and a class derived with Omit afterwards no longer requires `a` -/
theorem inplace_required_breaks_frame :
    view findingsCfg (runW findingsCfg World.initial hReq) 0
      ≠ view findingsCfg (runW findingsCfg World.initial (slice (fun d => d == 0) hReq)) 0
    ∧ (view findingsCfg (runW findingsCfg World.initial hReq) 0).map (·.required) = some ["aa", "b"]
    ∧ (view findingsCfg (runW findingsCfg World.initial [.define 0 clsS]) 0).map (·.required) = some ["a"]
    ∧ (stepW findingsCfg (runW findingsCfg World.initial hReq) (.construct 1 [])).2.accepted = true
    ∧ (stepW findingsCfg (runW findingsCfg World.initial [.define 0 clsS, .define 1 clsD]) (.construct 1 [])).2.accepted = false := by
  decide +kernel

/-- the same history under TODAY's table: B checks its own `User` (identity 2), exactly as when alone -/
theorem registry_fixed_example :
    view (configOf Generated.registries) (runW (configOf Generated.registries) World.initial hReg) 1
      = view (configOf Generated.registries) (runW (configOf Generated.registries) World.initial [.define 1 clsB]) 1
    ∧ (stepW (configOf Generated.registries) (runW (configOf Generated.registries) World.initial hReg)
         (.construct 1 [("x", .inst 2)])).2.accepted = true
    ∧ (stepW (configOf Generated.registries) (runW (configOf Generated.registries) World.initial hReg)
         (.construct 1 [("x", .inst 1)])).2.accepted = false := by
  rw [config_today]
  decide +kernel

/-- the same history under TODAY's table: `_required` of S is untouched by structure_to_schema (which
    still emits ["aa", "b"]), and the Omit-derived class still requires `a` -/
theorem required_fixed_example :
    (view (configOf Generated.registries) (runW (configOf Generated.registries) World.initial hReq) 0).map (·.required)
      = some ["a"]
    ∧ (stepW (configOf Generated.registries) (runW (configOf Generated.registries) World.initial [.define 0 clsS])
         (.toSchema 0)).2.keys = ["aa", "b"]
    ∧ view (configOf Generated.registries) (runW (configOf Generated.registries) World.initial hReq) 0
      = view (configOf Generated.registries) (runW (configOf Generated.registries) World.initial [.define 0 clsS]) 0
    ∧ (stepW (configOf Generated.registries) (runW (configOf Generated.registries) World.initial hReq)
         (.construct 1 [])).2.accepted = false := by
  rw [config_today]
  decide +kernel

theorem C15_statement_fails_with_findings : ¬ C15_statement findingsCfg := by
  intro h
  exact name_keyed_registry_breaks_frame.1 (h (fun d => d == 1) hReg 1 (by decide +kernel) rfl)

/-- both histories lie in the region `frame` excludes for that configuration -/
theorem counterexamples_are_excluded : ¬ Excluded findingsCfg hReg ∧ ¬ Excluded findingsCfg hReq := by
  decide +kernel

def clsP : ClassSrc := ⟨"Order", none, [fld "id" (.prim 0), fld "who" (.wrap "User" 1), fld "n" (.prim 1) true "N"], true, none⟩
def clsQ : ClassSrc := ⟨"Order", some (.inherit 0), [fld "extra" (.prim 2)], true, none⟩
def clsR : ClassSrc := ⟨"Box", none, [fld "o" (.ref 1), fld "u" (.wrap "User" 2)], false, some false⟩

/-- a history with same-named classes, two DIFFERENT user classes both named `User`, inheritance, a
    reference, uses of every kind (incl. structure_to_schema on classes with defaults, renamed keys and
    a reference) and a toggled-and-restored global default: under today's table the class `Box`
    (identity 2) behaves as when only it and the classes it depends on are defined, although the two
    worlds differ -/
def hEx : List WorldOp :=
  [.define 0 clsP, .construct 0 [("id", .prim 0 true), ("who", .inst 1)], .setDefault .addProps false,
   .define 1 clsQ, .serialize 0 [("id", .prim 0 true), ("who", .inst 1)] false, .createSerializer 1 .plain, .toSchema 0,
   .define 5 clsB, .toSchema 5, .trustedDeserialize 1 [], .setDefault .addProps true, .define 2 clsR,
   .deserialize 2 [("o", .struct 1), ("u", .inst 2)], .toSchema 1, .toSchema 2, .define 6 clsD]

theorem frame_example :
    closed (fun d => d ≤ 2) hEx = true
    ∧ (view (configOf Generated.registries) (runW (configOf Generated.registries) World.initial hEx) 2).isSome = true
    ∧ view (configOf Generated.registries) (runW (configOf Generated.registries) World.initial hEx) 2
        = view (configOf Generated.registries)
            (runW (configOf Generated.registries) World.initial (slice (fun d => d ≤ 2) hEx)) 2
    ∧ (stepW (configOf Generated.registries) (runW (configOf Generated.registries) World.initial hEx)
         (.construct 2 [("o", .struct 1), ("u", .inst 2)])).2.accepted = true
    ∧ runW (configOf Generated.registries) World.initial hEx
        ≠ runW (configOf Generated.registries) World.initial (slice (fun d => d ≤ 2) hEx) := by
  -- the equality of the views is an instance of `C15_today`; what is evaluated is that the instance is not trivial
  have hcl : closed (fun d => d ≤ 2) hEx = true := by decide +kernel
  refine ⟨hcl, and_left_comm.mp ⟨C15_today _ hEx 2 hcl rfl, ?_⟩⟩
  rw [config_today]
  decide +kernel

/-- a tree whose mapper cache key omits the `camel_case_convert` argument -/
def dropsCamelCfg : Config := ⟨false, false, true, false, false, false, false⟩

def hCamel : List WorldOp :=
  [.define 0 clsS, .serialize 0 [("a", .prim 0 true), ("b", .prim 2 true)] true,
   .serialize 0 [("a", .prim 0 true), ("b", .prim 2 true)] false]

/-- with the flag dropped from the key, a plain serialize after a camel-case one emits the camel-case keys
    and the class's view differs from its view alone; with today's table the second call emits the plain
    keys and the view is the view alone -/
theorem camel_key_dropped_breaks_frame :
    view dropsCamelCfg (runW dropsCamelCfg World.initial hCamel) 0
      ≠ view dropsCamelCfg (runW dropsCamelCfg World.initial [.define 0 clsS]) 0
    ∧ (obsW dropsCamelCfg World.initial hCamel).map (·.keys) = [[], ["aa^", "b^"], ["aa^", "b^"]]
    ∧ (obsW (configOf Generated.registries) World.initial hCamel).map (·.keys) = [[], ["aa^", "b^"], ["aa", "b"]]
    ∧ view (configOf Generated.registries) (runW (configOf Generated.registries) World.initial hCamel) 0
      = view (configOf Generated.registries) (runW (configOf Generated.registries) World.initial [.define 0 clsS]) 0 := by
  rw [config_today]
  decide +kernel

def clsLine : ClassSrc := ⟨"Line", none, [fld "parts" (.refs [0, 1]), fld "n" (.prim 0) true], false, none⟩

/-- a container with a positional array of two Structure item types: serializing / schema-mapping the
    container leaves the item class `S` as when defined alone (today's table) -/
theorem refs_example :
    closed (fun d => d == 0) [.define 0 clsS, .define 1 clsA, .define 2 clsLine] = true
    ∧ closed (fun d => d ≤ 2) [.define 0 clsS, .define 1 clsA, .define 2 clsLine] = true
    ∧ (stepW (configOf Generated.registries)
         (runW (configOf Generated.registries) World.initial [.define 0 clsS, .define 1 clsA, .define 2 clsLine])
         (.serialize 2 [("parts", .structs [0, 1])] true)).2.accepted = true
    ∧ view (configOf Generated.registries)
        (runW (configOf Generated.registries) World.initial
          [.define 0 clsS, .define 1 clsA, .define 2 clsLine, .serialize 2 [("parts", .structs [0, 1])] true, .toSchema 2]) 0
      = view (configOf Generated.registries) (runW (configOf Generated.registries) World.initial [.define 0 clsS]) 0 := by
  rw [config_today]
  decide +kernel

def ffld (name : String) (kind : FieldKind) (fast : Bool := true) (opt : Bool := false) (arr : Bool := false) : FieldSpec :=
  { name := name, kind := kind, hasDefault := false, serKey := name, camelKey := name, camelName := name,
    fastOk := fast, trustedOk := true, schemaOk := true, inlines := 0, arr := arr, optional := opt }

def clsAcct : ClassSrc := ⟨"Account", none, [ffld "id" (.prim 0)], true, none⟩
def clsPrem : ClassSrc := ⟨"Premium", some (.inherit 0), [ffld "level" (.prim 2)], true, none⟩
def clsOrder : ClassSrc := ⟨"Order", none, [ffld "ref_no" (.prim 2), ffld "account" (.ref 1) true true,
                                            ffld "items" (.ref 0) true false true], true, none⟩

/-- Account <- Premium, Order refers to Premium (optional) and to Array[Account]; the base class is used, the
    owner's serializer is generated (which generates Premium's, Account's exists), Premium is then CONFIGURED
    with `serialize_none`, Order is instantiated without the optional reference -/
def hNested : List WorldOp :=
  [.define 0 clsAcct, .define 1 clsPrem, .construct 0 [("id", .prim 0 true)], .define 2 clsOrder,
   .createSerializer 2 .plain, .createSerializer 1 ⟨true, false⟩,
   .construct 2 [("ref_no", .prim 2 true), ("items", .noItems)], .toSchema 2]

/-- the nested effects happen (the full run and the sliced run end in different worlds), the owner's view records
    that Premium instances are serialized with `serialize_none`, and Order and Account behave as in their own
    sub-histories — Order's keeps the configuration of Premium -/
theorem nested_frame_example :
    closed (fun d => d ≤ 2) hNested = true
    ∧ Excluded (configOf Generated.registries) hNested
    ∧ slice (fun d => d ≤ 2) hNested
        = [.define 0 clsAcct, .define 1 clsPrem, .define 2 clsOrder, .createSerializer 1 ⟨true, false⟩]
    ∧ (view (configOf Generated.registries) (runW (configOf Generated.registries) World.initial hNested) 2).map (·.refSers)
        = some [("account", some ⟨["id", "level"], ⟨true, false⟩⟩), ("items", some ⟨["id"], .plain⟩)]
    ∧ view (configOf Generated.registries) (runW (configOf Generated.registries) World.initial hNested) 2
        = view (configOf Generated.registries)
            (runW (configOf Generated.registries) World.initial (slice (fun d => d ≤ 2) hNested)) 2
    ∧ view (configOf Generated.registries) (runW (configOf Generated.registries) World.initial hNested) 0
        = view (configOf Generated.registries)
            (runW (configOf Generated.registries) World.initial (slice (fun d => d == 0) hNested)) 0
    ∧ runW (configOf Generated.registries) World.initial hNested
        ≠ runW (configOf Generated.registries) World.initial (slice (fun d => d ≤ 2) hNested) := by
  rw [config_today]
  decide +kernel

/-- the serializers `create_serializer(Order)` generates, latest first: Premium resolved to the placeholder (Account
    had not been used), so it is generated first; then Account, reached through `items`; then Order's own, with the
    flags of the call (the nested ones get the default flags) -/
theorem nested_create_example :
    ((runW (configOf Generated.registries) World.initial
        [.define 0 clsAcct, .define 1 clsPrem, .define 2 clsOrder, .createSerializer 2 ⟨false, true⟩]).classes.filterMap
      fun p => p.2.serializer.map fun s => (p.1, s.keys, s.flags))
      = [(2, ["ref_no", "account", "items"], ⟨false, true⟩), (0, ["id"], .plain), (1, ["id", "level"], .plain)] := by
  rw [config_today]
  decide +kernel

def clsBad : ClassSrc := ⟨"Gold", some (.inherit 0), [ffld "bad" (.prim 11) false], true, none⟩
def clsOwner : ClassSrc := ⟨"Order", none, [ffld "n" (.prim 0), ffld "b" (.ref 1) true true], true, none⟩

/-- `Gold(Account)` adds a field `create_serializer` cannot handle; `Order` refers to `Gold` (optional) -/
def hMro : List WorldOp := [.define 0 clsAcct, .define 1 clsBad, .construct 0 [("id", .prim 0 true)], .define 2 clsOwner]

/-- THE MRO FINDING (mro-read:cls.serialize:_verify_is_fast_serializable; repaired in /repo 981c83d), on the model
    configured as a tree that decides through the MRO: once the base class `Account` was instantiated,
    `Gold.serialize` resolves (through the MRO) to Account's generated serializer, `create_serializer(Order)` no longer
    looks at `Gold`, and `Order` can be instantiated; alone, generating Order's serializer tries to generate Gold's and
    raises -/
theorem mro_serializer_breaks_frame :
    closed (fun d => d ≤ 2) hMro = true
    ∧ (view mroCfg (runW mroCfg World.initial hMro) 2).map (·.instantiable) = some true
    ∧ (view mroCfg (runW mroCfg World.initial (slice (fun d => d ≤ 2) hMro)) 2).map (·.instantiable) = some false
    ∧ (stepW mroCfg (runW mroCfg World.initial hMro) (.construct 2 [("n", .prim 0 true)])).2.accepted = true
    ∧ (stepW mroCfg (runW mroCfg World.initial (slice (fun d => d ≤ 2) hMro))
         (.construct 2 [("n", .prim 0 true)])).2.accepted = false
    ∧ ¬ Excluded mroCfg hMro := by
  decide +kernel

theorem C15_statement_fails_with_mro_lookup : ¬ C15_statement mroCfg := by
  intro h
  have h1 := h (fun d => d ≤ 2) hMro 2 mro_serializer_breaks_frame.1 rfl
  have h2 := mro_serializer_breaks_frame.2.1
  have h3 := mro_serializer_breaks_frame.2.2.1
  rw [h1, h3] at h2
  cases h2

/-- the same history on a tree that consults the class's OWN `__dict__` (the repair,
    proposed_fixes/C15-mro-serializer-verification.diff, in /repo since 981c83d): `Order` cannot be instantiated,
    before and after the use of `Account`, and its view is the view alone; the history is not excluded -/
theorem mro_fixed_example :
    (view safeConfig (runW safeConfig World.initial hMro) 2).map (·.instantiable) = some false
    ∧ view safeConfig (runW safeConfig World.initial hMro) 2
        = view safeConfig (runW safeConfig World.initial (slice (fun d => d ≤ 2) hMro)) 2
    ∧ Excluded safeConfig hMro := by
  decide +kernel

/-! ### "behaves per its own definition" as a statement about Sem/Validate results -/

/-- for every interpretation of the field tags as `FieldDecl`s, every regex / hook oracle and every CONCRETE
    keyword arguments, the `Sem/Validate` result of constructing class `c` (stored instance or exception class)
    after any history outside the excluded region is the result after the sub-history the class depends on:
    definitions, uses and cache fills of OTHER classes do not change it -/
theorem construct_result_frame (cfg : Config) (hc : cfg.cachesById = true) (T : ClassId → Bool)
    (h : List WorldOp) (hx : Excluded cfg h) (hcl : closed T h = true) (c : ClassId) (hT : T c = true)
    (O : Oracles) (env : DeclEnv) (kw : List (String × PyVal)) :
    (view cfg (runW cfg World.initial h) c).map (fun b => constructVal O env b kw)
      = (view cfg (runW cfg World.initial (slice T h)) c).map (fun b => constructVal O env b kw) := by
  rw [frame cfg hc T h hx hcl c hT]

theorem construct_result_unchanged_by_use (cfg : Config) (hc : cfg.cachesById = true) (W : List (String × TypeId))
    (w : World) (g : Good cfg W w) (op : WorldOp) (huse : plainUse op = true)
    (hq : quietStep cfg w op = true) (d : ClassId)
    (hwf : ∀ e, alookup d w.classes = some e → e.core.src.fast = true → refsCreatable cfg e = true)
    (O : Oracles) (env : DeclEnv) (kw : List (String × PyVal)) :
    (view cfg (stepW cfg w op).1 d).map (fun b => constructVal O env b kw)
      = (view cfg w d).map (fun b => constructVal O env b kw) := by
  rw [use_changes_no_view cfg hc W w g op huse hq d hwf]

def exEnv : DeclEnv where
  prim := fun t => if t == 0 then some (.integer {}) else if t == 1 then some (.string none (some 3) none) else none
  dflt := fun t => if t == 1 then some (.str "d") else none

/-- non-vacuity: under today's table, after the history `hEx` (same-named classes, two user classes named `User`,
    uses of every kind) the class `Order`#0 — fields `id: Integer`, `who: Field[User#1]`, `n: String(maxLength=3) = "d"`
    mapped to "N" — accepts a valid argument set (storing the default), rejects an instance of the OTHER `User`
    with TypeError, a too long string with ValueError and a missing required argument with TypeError (that these
    are its results after its own definition alone is `construct_result_frame`) -/
theorem construct_result_example :
    ((view (configOf Generated.registries) (runW (configOf Generated.registries) World.initial hEx) 0).map fun b =>
      [ (constructVal {reMatch := fun _ _ => false} exEnv b [("id", .int 3), ("who", .inst "U#1" [])]).map
          (fun r => match r with | .ok (.inst _ attrs) => attrs.length | _ => 0),
        (constructVal {reMatch := fun _ _ => false} exEnv b [("id", .int 3), ("who", .inst "U#2" [])]).map
          (fun r => match r with | .error .typeErr => 1 | _ => 0),
        (constructVal {reMatch := fun _ _ => false} exEnv b [("id", .int 3), ("who", .inst "U#1" []), ("n", .str "abcd")]).map
          (fun r => match r with | .error .valueErr => 1 | _ => 0),
        (constructVal {reMatch := fun _ _ => false} exEnv b [("who", .inst "U#1" [])]).map
          (fun r => match r with | .error .typeErr => 1 | _ => 0) ])
      = some [some 3, some 1, some 1, some 1] := by
  rw [config_today]
  decide +kernel

/-- THE STATE FRAME: a use of class `c` (construct, serialize, deserialize, trusted deserialization,
    structure_to_schema, create_serializer) writes only state owned by `c` or by classes `c` refers to: outside any
    class set `S ∋ c` closed under "is referred to by a field of", every class entry, every mapper-cache entry and
    every simplicity-cache entry is exactly what it was, the wrapper registry, the inline-class counter and the
    global flags are untouched, and no class is added, removed or re-defined -/
theorem use_state_frame (cfg : Config) (hc : cfg.cachesById = true) (hns : cfg.schemaWritesRequired = false)
    (S : ClassId → Bool) (w : World) (op : WorldOp) (hcl : SClosed S w)
    (hop : match op with
      | .construct c _ | .serialize c _ _ | .deserialize c _ | .trustedDeserialize c _ | .toSchema c
      | .createSerializer c _ => S c = true
      | _ => False) :
    Untouched S w (stepW cfg w op).1 := by
  cases op with
  | createSerializer c fl =>
    refine withClass_fst (P := Untouched S w) (untouched_refl S w) fun _ _ => ?_
    -- an explicit `create_serializer` may bind other flags than the class has; the footprint is the same
    show Untouched S w (createW cfg (w.classes.length + 1) w c fl).1
    obtain ⟨pre, hw, h | ⟨e1, hl1, _, h⟩⟩ := createW_shape hc (w.classes.length + 1) w c fl hcl hop <;> rw [h]
    · exact hw.untouched hc
    · exact untouched_trans (hw.untouched hc) (setEntry_untouched hl1 rfl hop)
  | define _ _ | setDefault _ _ => exact hop.elim
  | _ => exact (use_writes hc hcl _ hop (quietStep_use hns w rfl)).untouched hc

/-- … for the current tree: its table has neither a name-keyed cache nor the in-place write to `_required` -/
theorem use_state_frame_today (S : ClassId → Bool) (w : World) (op : WorldOp) (hcl : SClosed S w)
    (hop : match op with
      | .construct c _ | .serialize c _ _ | .deserialize c _ | .trustedDeserialize c _ | .toSchema c
      | .createSerializer c _ => S c = true
      | _ => False) :
    Untouched S w (stepW (configOf Generated.registries) w op).1 := by
  have hp := props_of_le_mro current_config_le_mro
  exact use_state_frame _ hp.1 hp.2.1 S w op hcl hop

/-- non-vacuity: in the world after the three definitions of `hNested` plus an unrelated class 5,
    `create_serializer(Order)` changes the entries of Order (2), Premium (1) and Account (0) — the classes Order
    refers to — and nothing of class 5 -/
theorem state_frame_example :
    let cfg := configOf Generated.registries
    let w := runW cfg World.initial [.define 0 clsAcct, .define 1 clsPrem, .define 2 clsOrder, .define 5 clsS]
    let w2 := (stepW cfg w (.createSerializer 2 .plain)).1
    alookup 5 w2.classes = alookup 5 w.classes
    ∧ alookup (CKey.id 5 false) w2.mapperCache = none
    ∧ (alookup 2 w2.classes).map (·.serializer.isSome) = some true
    ∧ (alookup 1 w2.classes).map (·.serializer.isSome) = some true
    ∧ (alookup 0 w2.classes).map (·.serializer.isSome) = some true
    ∧ (alookup (CKey.id 1 false) w2.mapperCache).isSome = true
    ∧ (alookup (CKey.id 0 false) w2.mapperCache).isSome = true := by
  rw [config_today]
  decide +kernel

end Typedpy.C15