/-
  Lemmas/PyGram.lean — the recogniser (`Sem/PyGram.lean`) accepts what the printer
  (`Sem/SchemaEmit.lean`) prints: character-level (`lex_*`) and token-level (`parse_*`) lemmas,
  by symbolic execution of the two transition systems and structural induction over `PyExpr`.
  String literals are the exception: the tokenizer's scan for the end of a literal is shown to agree
  with the literal model on EVERY literal the model accepts (`scan_body`, `literal_token`), so the
  producers `pyReprL` / `docWrapL` enter only through their theorems in `Lemmas/PyLex.lean`.
-/
import TypedpyModel.Sem.SchemaEmit
import TypedpyModel.Lemmas.PyLex
namespace Typedpy.Emit
open Typedpy.PyGram Typedpy.PyLex

theorem prepend_nil (x : TokRes) : prepend [] x = x := by cases x <;> rfl
theorem prepend_prepend (a b : List Tok) (x : TokRes) : prepend a (prepend b x) = prepend (a ++ b) x := by
  cases x <;> simp [prepend]
theorem prepend_cons (a : Tok) (b : List Tok) (x : TokRes) : prepend (a :: b) x = prepend [a] (prepend b x) :=
  (prepend_prepend [a] b x).symm

theorem lex_go {X : Ora} {ctx ctx' : LCtx} {mode mode' : LMode} {c : Char} {r : List Char} {out : List Tok}
    (h : lstep X ctx mode c r = .go ctx' mode' out) :
    lex X ctx mode (c :: r) = prepend out (lex X ctx' mode' r) := by
  simp [lex, h]

theorem lex_skip {X : Ora} {ctx ctx' : LCtx} {mode mode' : LMode} {c : Char} {r : List Char}
    (h : lstep X ctx mode c r = .go ctx' mode' []) : lex X ctx mode (c :: r) = lex X ctx' mode' r := by
  rw [lex_go h, prepend_nil]

/-- after a token that ends at a non-token character: the character is lexed as between tokens -/
theorem lex_thenMid (X : Ora) (ctx : LCtx) (mode : LMode) (ts : List Tok) (d : Char) (r : List Char)
    (h : lstep X ctx mode d r = thenMid X ts ctx d r) :
    lex X ctx mode (d :: r) = prepend ts (lex X ctx .mid (d :: r)) := by
  have hm : lstep X ctx .mid d r = midStep X ctx d r := rfl
  simp only [lex, h, hm, thenMid]
  cases midStep X ctx d r with
  | go ctx' m out => simp [prepend_prepend]
  | stop v => simp [prepend]

/-- `text` (followed by `rest`) is read as the one token `tok` wherever a token may begin: its first
    character is no blank and, between tokens, leaves the context alone, emits nothing and moves to a
    mode `m` from which the rest of `text` yields `tok` -/
def OneToken (X : Ora) (text rest : List Char) (tok : Tok) : Prop :=
  ∃ c t m, text = c :: t ∧ (c ≠ ' ' ∧ c ≠ cLF ∧ c ≠ '#') ∧ (∀ ctx, midStep X ctx c (t ++ rest) = .go ctx m []) ∧
    ∀ ctx, lex X ctx m (t ++ rest) = prepend [tok] (lex X ctx .mid rest)

section
variable {X : Ora} {text rest : List Char} {tok : Tok} (h : OneToken X text rest tok)
include h

theorem OneToken.mid (ctx : LCtx) : lex X ctx .mid (text ++ rest) = prepend [tok] (lex X ctx .mid rest) := by
  obtain ⟨c, t, m, rfl, _, hm, hs⟩ := h
  rw [List.cons_append, lex_skip (mode := .mid) (hm ctx), hs]

theorem OneToken.bol {ind ind' : List Nat} {n : Nat} {ts : List Tok} (hd : dent ind n = some (ind', ts)) :
    lex X ⟨0, ind⟩ (.bol n) (text ++ rest) = prepend (ts ++ [tok]) (lex X ⟨0, ind'⟩ .mid rest) := by
  obtain ⟨c, t, m, rfl, ⟨h1, h2, h3⟩, hm, hs⟩ := h
  rw [List.cons_append, lex_go (show lstep X ⟨0, ind⟩ (.bol n) c (t ++ rest) = .go ⟨0, ind'⟩ m ts by
    simp [lstep, h1, h2, h3, hm, hd]), hs, prepend_prepend]

end

theorem idCont_ascii (X : Ora) (c : Char) (h : c.toNat < 128) : idCont X c = idContA c := by
  simp [idCont, h]
theorem idStart_ascii (X : Ora) (c : Char) (h : c.toNat < 128) : idStart X c = idStartA c := by
  simp [idStart, h]

/-- what ends a word; no quote, so that the string-prefix test of `lstep` does not arise -/
def IdEnd (rest : List Char) : Prop :=
  ∃ d r, rest = d :: r ∧ d.toNat < 128 ∧ idContA d = false ∧ d ≠ cSQ ∧ d ≠ cDQ

theorem idEnd_of (c : Char) (r : List Char) (h : c.toNat < 128 ∧ idContA c = false ∧ c ≠ cSQ ∧ c ≠ cDQ) :
    IdEnd (c :: r) := ⟨c, r, rfl, h.1, h.2.1, h.2.2.1, h.2.2.2⟩

theorem lex_ident_run (X : Ora) (ctx : LCtx) : ∀ (w acc rest : List Char),
    (∀ c ∈ w, idCont X c = true) →
    lex X ctx (.ident acc) (w ++ rest) = lex X ctx (.ident (w.reverse ++ acc)) rest
  | [], acc, rest, _ => by simp
  | c :: w, acc, rest, h => by
    have hc := h c (by simp)
    have : lstep X ctx (.ident acc) c (w ++ rest) = .go ctx (.ident (c :: acc)) [] := by
      simp [lstep, hc]
    rw [List.cons_append, lex_skip this,
      lex_ident_run X ctx w (c :: acc) rest (fun d hd => h d (by simp [hd]))]
    simp

theorem lex_ident_end (X : Ora) (ctx : LCtx) (acc rest : List Char) (h : IdEnd rest) :
    lex X ctx (.ident acc) rest = prepend [identTok acc.reverse] (lex X ctx .mid rest) := by
  obtain ⟨d, r, rfl, hd, hc, h1, h2⟩ := h
  apply lex_thenMid
  simp [lstep, idCont_ascii X d hd, hc, h1, h2]

def isWord (w : List Char) : Bool :=
  match w with
  | [] => false
  | c :: r => idStartA c && r.all idContA && (c :: r).all (fun x => x.toNat < 128)

def isWordX (X : Ora) (w : List Char) : Bool :=
  match w with
  | [] => false
  | c :: r => idStart X c && r.all (idCont X)

theorem isWordX_of_ascii (X : Ora) {w : List Char} (h : isWord w = true) : isWordX X w = true := by
  match w, h with
  | c :: r, h =>
    simp only [isWord, Bool.and_eq_true, List.all_eq_true, decide_eq_true_eq] at h
    obtain ⟨⟨hs, ht⟩, hall⟩ := h
    simp only [isWordX, Bool.and_eq_true, List.all_eq_true]
    refine ⟨by rw [idStart_ascii X c (hall c (by simp))]; exact hs, fun d hd => ?_⟩
    rw [idCont_ascii X d (hall d (by simp [hd]))]; exact ht d hd

theorem idStart_facts (X : Ora) {c : Char} (h : idStart X c = true) :
    c ≠ ' ' ∧ c ≠ cLF ∧ c ≠ '#' ∧ c ≠ cSQ ∧ c ≠ cDQ ∧ isDigit c = false ∧ c ≠ '=' := by
  have ne : ∀ d : Char, d.toNat < 128 → idStartA d = false → c ≠ d := by
    rintro d h1 h2 rfl
    rw [idStart_ascii X c h1, h2] at h
    cases h
  refine ⟨ne _ (by decide) rfl, ne _ (by decide) rfl, ne _ (by decide) rfl, ne _ (by decide) rfl,
    ne _ (by decide) rfl, ?_, ne _ (by decide) rfl⟩
  cases hd : isDigit c
  · rfl
  · simp only [isDigit, Bool.and_eq_true, decide_eq_true_eq] at hd
    have h_ : c ≠ '_' := by rintro rfl; exact absurd hd.2 (by decide)
    refine absurd rfl (ne c (by omega) ?_)
    simp [idStartA, isAsciiLetter, h_]; omega

theorem word_token (X : Ora) (w rest : List Char) (hw : isWordX X w = true) (hr : IdEnd rest) :
    OneToken X w rest (identTok w) := by
  match w, hw with
  | c :: t, hw =>
    simp only [isWordX, Bool.and_eq_true, List.all_eq_true] at hw
    obtain ⟨hs, ht⟩ := hw
    obtain ⟨f1, f2, f3, f4, f5, f6, _⟩ := idStart_facts X hs
    refine ⟨c, t, .ident [c], rfl, ⟨f1, f2, f3⟩, fun ctx => by simp [midStep, f1, f2, f3, f4, f5, f6, hs], fun ctx => ?_⟩
    rw [lex_ident_run X ctx t [c] rest ht, lex_ident_end X ctx _ rest hr]
    simp

/-- the character ends a number in every phase in which a number may end -/
def numEndC (d : Char) : Bool :=
  [NumPhase.int0, .int, .frac, .expD].all (fun p => numNext p d == .fin)

def NumEnd (rest : List Char) : Prop := ∃ d r, rest = d :: r ∧ numEndC d = true

theorem numEndC_fin {d : Char} {p : NumPhase} (hd : numEndC d = true) (hp : numFinal p = true) :
    numNext p d = .fin := by
  simp only [numEndC, List.all_cons, List.all_nil, Bool.and_true, Bool.and_eq_true, beq_iff_eq] at hd
  cases p
  case exp0 | expS => cases hp
  all_goals simp only [hd]

theorem lex_num_run (X : Ora) (ctx : LCtx) : ∀ (t : List Char) (p : NumPhase) (rest : List Char),
    numScan p t = true → NumEnd rest →
    lex X ctx (.num p) (t ++ rest) = prepend [.num] (lex X ctx .mid rest)
  | [], p, rest, h, hr => by
    obtain ⟨d, r, rfl, hd⟩ := hr
    simp only [List.nil_append]
    apply lex_thenMid
    simp [lstep, numEndC_fin hd h]
  | c :: t, p, rest, h, hr => by
    simp only [numScan] at h
    cases hn : numNext p c with
    | cont p' =>
      simp only [hn] at h
      have : lstep X ctx (.num p) c (t ++ rest) = .go ctx (.num p') [] := by simp [lstep, hn]
      rw [List.cons_append, lex_skip this, lex_num_run X ctx t p' rest h hr]
    | fin => simp [hn] at h
    | bad => simp [hn] at h

theorem isDigit_facts {c : Char} (h : isDigit c = true) :
    c ≠ ' ' ∧ c ≠ cLF ∧ c ≠ '#' ∧ c ≠ cSQ ∧ c ≠ cDQ := by
  refine ⟨?_, ?_, ?_, ?_, ?_⟩ <;> (rintro rfl; exact absurd h (by decide))

theorem lex_num (X : Ora) (ctx : LCtx) (t rest : List Char) (ht : isNumText t = true) (hr : NumEnd rest) :
    lex X ctx .mid (t ++ rest) = prepend [.num] (lex X ctx .mid rest) := by
  match t, ht with
  | c :: t', ht =>
    simp only [isNumText, Bool.and_eq_true] at ht
    obtain ⟨f1, f2, f3, f4, f5⟩ := isDigit_facts ht.1
    have h0 : lstep X ctx .mid c (t' ++ rest) = .go ctx (.num (numStart c)) [] := by
      simp [lstep, midStep, f1, f2, f3, f4, f5, ht.1]
    rw [List.cons_append, lex_skip h0, lex_num_run X ctx t' _ rest ht.2 hr]

def NoQuote (rest : List Char) : Prop := ∀ r, rest ≠ cSQ :: r ∧ rest ≠ cDQ :: r

/-- the tokenizer's `esc` flag in a state of the literal model -/
def escOf : St → Bool
  | .esc => true
  | _ => false

theorem take2_append (q : Char) (r rest : List Char) (hr : ∀ t, rest ≠ q :: t) :
    ((r ++ rest).take 2 == [q, q]) = (r.take 2 == [q, q]) := by
  have hd : ∀ y t, rest = y :: t → y ≠ q := fun y t e h => hr t (h ▸ e)
  match r, rest, hd with
  | _ :: _ :: _, _, _ | [_], [], _ | [], [], _ => rfl
  | [_], y :: t, hd | [], y :: t, hd => cases t <;> simp [hd y _ rfl]

theorem str_plain (X : Ora) (ctx : LCtx) (q : Char) (long : Bool) (c : Char) (acc r : List Char)
    (h1 : c ≠ cBS) (h2 : c ≠ q) (h3 : ¬ (c = cLF ∧ long = false)) :
    lex X ctx (.str q long false acc) (c :: r) = lex X ctx (.str q long false (c :: acc)) r :=
  lex_skip (by simp [lstep, h1, h2, h3])

theorem str_escaped (X : Ora) (ctx : LCtx) (q : Char) (long : Bool) (c : Char) (acc r : List Char) :
    lex X ctx (.str q long true acc) (c :: r) = lex X ctx (.str q long false (c :: acc)) r :=
  lex_skip (by simp [lstep])

/-- The tokenizer has read `acc` (reversed) of a literal; the literal model reads
    the remaining `body` (up to and including the closing quotes) from the state `st`, and accepts the
    whole text.  Then the tokenizer's scan consumes exactly `body` and emits one `str` token. -/
theorem scan_body (X : Ora) (ctx : LCtx) (q : Char) (hq : q = cSQ ∨ q = cDQ) (long : Bool) (rest : List Char)
    (hr : ∀ t, rest ≠ q :: t) :
    ∀ (body : List Char) (st : St) (w acc : List Char), (lexS long q st body).isSome = true →
      lexSrc (acc.reverse ++ body) = some w →
      lex X ctx (.str q long (escOf st) acc) (body ++ rest) = prepend [.str] (lex X ctx .mid rest)
  | [], st, w, acc, h, _ => by cases st <;> simp [lexS] at h
  | c :: r, st, w, acc, h, hlit => by
    have hb := q_ne_bs hq
    have ih : ∀ st', (lexS long q st' r).isSome = true →
        lex X ctx (.str q long (escOf st') (c :: acc)) (r ++ rest) = prepend [.str] (lex X ctx .mid rest) :=
      fun st' h' => scan_body X ctx q hq long rest hr r st' w (c :: acc) h' (by simpa using hlit)
    -- one character read in the normal state (also what ends an octal escape)
    have norm : (normCase long q c r (fun _ => lexS long q .norm r) (fun _ => lexS long q .esc r)).isSome = true →
        lex X ctx (.str q long false acc) (c :: r ++ rest) = prepend [.str] (lex X ctx .mid rest) := by
      intro h'
      unfold normCase at h'
      by_cases hc : isClose long q c r = true
      · rw [if_pos hc] at h'
        have he : atEnd long q r = true := Decidable.byContradiction fun he => by
          rw [if_neg he] at h'; cases h'
        simp only [isClose, Bool.and_eq_true, beq_iff_eq] at hc
        obtain ⟨rfl, _⟩ := hc
        cases long with
        | false =>
          have : r = [] := by simpa [atEnd] using he
          subst this
          refine lex_go ?_
          simp [lstep, finishStr, hb, hlit]
        | true =>
          have : r = [c, c] := by simpa [atEnd] using he
          subst this
          simp only [List.cons_append, List.nil_append]
          have s1 : lstep X ctx (.str c true false acc) c (c :: c :: rest) = .go ctx (.strClose 2 (c :: acc)) [] := by
            simp [lstep, hb]
          have s2 : lstep X ctx (.strClose 2 (c :: acc)) c (c :: rest) = .go ctx (.strClose 1 (c :: c :: acc)) [] := by
            simp [lstep]
          rw [lex_skip s1, lex_skip s2]
          refine lex_go ?_
          simp [lstep, finishStr, hlit]
      · rw [if_neg hc] at h'
        by_cases hbs : c = cBS
        · rw [if_pos hbs] at h'
          subst hbs
          have : lstep X ctx (.str q long false acc) cBS (r ++ rest) = .go ctx (.str q long true (cBS :: acc)) [] := by
            simp [lstep]
          rw [List.cons_append, lex_skip this]
          exact ih .esc h'
        · rw [if_neg hbs] at h'
          by_cases hlf : c = cLF ∧ long = false
          · rw [if_pos hlf] at h'; cases h'
          · rw [if_neg hlf, emit_isSome] at h'
            by_cases hcq : c = q
            · -- a quote inside a long literal that does not begin the closing delimiter
              subst hcq
              obtain ⟨rfl, ht⟩ : long = true ∧ (r.take 2 == [c, c]) = false := by simpa [isClose] using hc
              have : lstep X ctx (.str c true false acc) c (r ++ rest) = .go ctx (.str c true false (c :: acc)) [] := by
                simp only [lstep, Bool.false_eq_true, if_false, hb, if_true, take2_append c r rest hr, ht]
              rw [List.cons_append, lex_skip this]
              exact ih .norm h'
            · rw [List.cons_append, str_plain X ctx q long c acc _ hbs hcq hlf]
              exact ih .norm h'
    cases st with
    | norm => rw [lexS] at h; exact norm h
    | esc =>
      rw [lexS, escCase] at h
      show lex X ctx (.str q long true acc) (c :: (r ++ rest)) = _
      rw [str_escaped]
      cases hk : escKind c <;> rw [hk] at h <;> simp only [emit_isSome] at h
      case drop | char | keep => exact ih .norm h
      case hex n => exact ih (.hex (n - 1) 0) h
      case oct d => exact ih (.oct 2 d) h
      case bad => cases h
    | hex left a =>
      rw [lexS, hexCase] at h
      cases hv : hexVal c with
      | none => rw [hv] at h; cases h
      | some d =>
        obtain ⟨p1, p2, p3⟩ := hexVal_plain hq hv
        show lex X ctx (.str q long false acc) (c :: (r ++ rest)) = _
        rw [str_plain X ctx q long c acc _ p1 p2 (fun e => p3 e.1)]
        rw [hv] at h
        by_cases hl : left = 0
        · simp only [hl, if_true] at h
          cases ho : ofCode (a * 16 + d) with
          | none => rw [ho] at h; cases h
          | some ch => rw [ho, emit_isSome] at h; exact ih .norm h
        · simp only [hl, if_false] at h
          exact ih _ h
    | oct left a =>
      rw [lexS] at h
      cases ho : (if left = 0 then none else octVal c) with
      | some d =>
        rw [ho] at h
        have hv : hexVal c = some d := octVal_hexVal (by
          by_cases hl : left = 0
          · simp [hl] at ho
          · simpa [hl] using ho)
        obtain ⟨p1, p2, p3⟩ := hexVal_plain hq hv
        show lex X ctx (.str q long false acc) (c :: (r ++ rest)) = _
        rw [str_plain X ctx q long c acc _ p1 p2 (fun e => p3 e.1)]
        exact ih _ h
      | none =>
        rw [ho, emit_isSome] at h
        exact norm h

theorem short_token (X : Ora) (q : Char) (hq : q = cSQ ∨ q = cDQ) (r v rest : List Char)
    (hlit : lexSrc (q :: r) = some v) (hb : lexS false q .norm r = some v) (ht : (r.take 2 == [q, q]) = false)
    (hr : NoQuote rest) : OneToken X (q :: r) rest .str := by
  have hr' : ∀ t, rest ≠ q :: t := fun t => by
    rcases hq with rfl | rfl
    · exact (hr t).1
    · exact (hr t).2
  have h2 := take2_append q r rest hr'
  rw [ht] at h2
  refine ⟨q, r, .str q false false [q], rfl, ?_, fun ctx => ?_,
    fun ctx => scan_body X ctx q hq false rest hr' r .norm v [q] (Option.isSome_iff_exists.2 ⟨v, hb⟩) hlit⟩
  · rcases hq with rfl | rfl <;> decide
  · rcases hq with rfl | rfl <;> simp only [cSQ, cDQ] at h2 <;> simp [midStep, cSQ, cDQ, cLF, h2]

/-- whatever the literal model accepts (and holds no carriage return), the
    tokenizer reads as one `str` token, provided no quote follows it -/
theorem literal_token (X : Ora) (lit v rest : List Char) (h : lexSrc lit = some v) (hcr : ∀ c ∈ lit, c ≠ cCR)
    (hr : NoQuote rest) : OneToken X lit rest .str := by
  have hlit := h
  unfold lexSrc at h
  split at h
  · cases h
  rw [normNewlines, nnl_id lit hcr] at h
  match lit, h with
  | c :: r, h =>
    simp only at h
    by_cases h1 : c = cSQ
    · subst h1
      rw [if_pos rfl] at h
      refine short_token X cSQ (.inl rfl) r v rest hlit h (Bool.eq_false_iff.2 fun hcon => ?_) hr
      -- `''` followed by anything is the empty literal and a rest: the model does not accept it
      match r, hcon, h with
      | a :: b :: t, hcon, h =>
        obtain ⟨rfl, rfl⟩ : a = cSQ ∧ b = cSQ := by simpa using hcon
        simp [lexS, normCase, isClose, atEnd] at h
      | [_], hcon, _ | [], hcon, _ => simp at hcon
    · rw [if_neg h1] at h
      by_cases h2 : c = cDQ
      · subst h2
        rw [if_pos rfl] at h
        cases ht : (r.take 2 == [cDQ, cDQ])
        · rw [ht] at h
          exact short_token X cDQ (.inr rfl) r v rest hlit h ht hr
        · rw [ht] at h
          match r, ht, h with
          | a :: b :: t, ht, h =>
            obtain ⟨rfl, rfl⟩ : a = cDQ ∧ b = cDQ := by simpa using ht
            have hr' : ∀ t, rest ≠ cDQ :: t := fun t => (hr t).2
            refine ⟨cDQ, cDQ :: cDQ :: t, .strOpen 2 [cDQ], rfl, by decide, fun ctx => by simp [midStep, cSQ, cDQ, cLF],
              fun ctx => ?_⟩
            have s1 : ∀ r', lstep X ctx (.strOpen 2 [cDQ]) cDQ r' = .go ctx (.strOpen 1 [cDQ, cDQ]) [] :=
              fun r' => by simp [lstep]
            have s2 : ∀ r', lstep X ctx (.strOpen 1 [cDQ, cDQ]) cDQ r'
                = .go ctx (.str cDQ true false [cDQ, cDQ, cDQ]) [] := fun r' => by simp [lstep]
            rw [List.cons_append, List.cons_append, lex_skip (s1 _), lex_skip (s2 _)]
            exact scan_body X ctx cDQ (.inr rfl) true rest hr' t .norm v [cDQ, cDQ, cDQ] (Option.isSome_iff_exists.2 ⟨v, h⟩) hlit
      · rw [if_neg h2] at h; cases h

theorem repr_token (X : Ora) (pr : Char → Bool) (cs rest : List Char) (hr : NoQuote rest) :
    OneToken X (pyReprL pr cs) rest .str :=
  literal_token X _ _ rest (lexSrc_pyReprL pr cs) (fun c hc => (pyReprL_clean pr cs c hc).2) hr

theorem doc_token (X : Ora) (d rest : List Char) (hr : NoQuote rest) : OneToken X (docWrapL d) rest .str :=
  literal_token X _ _ rest (lexSrc_docWrapL d) (fun c hc => (docWrapL_clean d c hc).2) hr

def isDelim (c : Char) : Bool := c == ',' || c == ')' || c == ']' || c == '}' || c == cLF || c == ':'
def DelimHead (rest : List Char) : Prop := ∃ d r, rest = d :: r ∧ isDelim d = true

theorem delim_facts {d : Char} (h : isDelim d = true) :
    (d.toNat < 128 ∧ idContA d = false ∧ d ≠ cSQ ∧ d ≠ cDQ) ∧ numEndC d = true := by
  simp only [isDelim, Bool.or_eq_true, beq_iff_eq] at h
  rcases h with ((((rfl | rfl) | rfl) | rfl) | rfl) | rfl <;> decide

theorem DelimHead.idEnd {rest : List Char} (h : DelimHead rest) : IdEnd rest := by
  obtain ⟨d, r, rfl, hd⟩ := h
  exact ⟨d, r, rfl, (delim_facts hd).1⟩

theorem DelimHead.numEnd {rest : List Char} (h : DelimHead rest) : NumEnd rest := by
  obtain ⟨d, r, rfl, hd⟩ := h
  exact ⟨d, r, rfl, (delim_facts hd).2⟩

theorem DelimHead.noQuote {rest : List Char} (h : DelimHead rest) : NoQuote rest := by
  obtain ⟨d, r, rfl, hd⟩ := h
  obtain ⟨_, _, h1, h2⟩ := (delim_facts hd).1
  exact fun r' => ⟨fun e => h1 (List.cons.inj e).1, fun e => h2 (List.cons.inj e).1⟩

theorem delimHead_cons (d : Char) (r : List Char) (h : isDelim d = true) : DelimHead (d :: r) := ⟨d, r, rfl, h⟩

theorem lex_open (X : Ora) (d : Nat) (ind : List Nat) (c : Char) (hc : c = '(' ∨ c = '[' ∨ c = '{')
    (r : List Char) :
    lex X ⟨d, ind⟩ .mid (c :: r) = prepend [.op c] (lex X ⟨d + 1, ind⟩ .mid r) := by
  apply lex_go
  rcases hc with rfl | rfl | rfl <;> simp [lstep, midStep, cLF, cSQ, cDQ, isDigit, idStart, idStartA, isAsciiLetter]

theorem lex_close (X : Ora) (d : Nat) (ind : List Nat) (c : Char) (hc : c = ')' ∨ c = ']' ∨ c = '}')
    (r : List Char) :
    lex X ⟨d + 1, ind⟩ .mid (c :: r) = prepend [.op c] (lex X ⟨d, ind⟩ .mid r) := by
  apply lex_go
  rcases hc with rfl | rfl | rfl <;> simp [lstep, midStep, cLF, cSQ, cDQ, isDigit, idStart, idStartA, isAsciiLetter]

theorem lex_space (X : Ora) (ctx : LCtx) (r : List Char) :
    lex X ctx .mid (' ' :: r) = lex X ctx .mid r :=
  lex_skip (by simp [lstep, midStep])

theorem lex_op (X : Ora) (ctx : LCtx) (c d : Char) (r : List Char) (hc : c ∈ opChars)
    (hd : ¬ (d = '=' ∨ (c = '-' ∧ d = '>') ∨ (c = '*' ∧ d = '*'))) :
    lex X ctx .mid (c :: d :: r) = prepend [.op c] (lex X ctx .mid (d :: r)) := by
  apply lex_go
  simp only [opChars, List.mem_cons, List.not_mem_nil, or_false] at hc
  -- on each of the five characters the earlier tests of `midStep` fail and the last one is `hd`
  rcases hc with rfl | rfl | rfl | rfl | rfl <;>
    simpa [lstep, midStep, cLF, cSQ, cDQ, isDigit, idStart, idStartA, isAsciiLetter, opChars] using hd

theorem lex_sep (X : Ora) (ctx : LCtx) (c : Char) (hc : c = ',' ∨ c = ':') (r : List Char) :
    lex X ctx .mid (c :: ' ' :: r) = prepend [.op c] (lex X ctx .mid r) := by
  rcases hc with rfl | rfl <;> rw [lex_op X ctx _ ' ' r (by decide) (by decide), lex_space]

theorem lex_sepFirst (X : Ora) (ctx : LCtx) (first : Bool) (r : List Char) :
    lex X ctx .mid ((if first then [] else sep) ++ r)
      = prepend (if first then [] else [.op ',']) (lex X ctx .mid r) := by
  cases first
  · exact lex_sep X ctx ',' (Or.inl rfl) r
  · exact (prepend_nil _).symm

theorem lex_eq (X : Ora) (ctx : LCtx) (r : List Char) (h : ∃ c t, r = c :: t ∧ c ≠ '=') :
    lex X ctx .mid ('=' :: r) = prepend [.op '='] (lex X ctx .mid r) := by
  obtain ⟨c, t, rfl, hc⟩ := h
  exact lex_op X ctx '=' c t (by decide) (by simp [hc])

theorem identOk_word (X : Ora) {n : List Char} (h : identOk X n = true) :
    isWordX X n = true ∧ identTok n = .name n := by
  match n, h with
  | c :: r, h =>
    simp only [identOk, Bool.and_eq_true, Bool.not_eq_true'] at h
    refine ⟨by simp [isWordX, h.1.1, h.1.2], by simp only [identTok, h.2, Bool.false_eq_true, if_false]⟩

theorem targetName_word (X : Ora) {n : List Char} (h : targetName X n = true) :
    isWordX X n = true ∧ identTok n = .name n := by
  simp only [targetName, Bool.and_eq_true] at h
  exact identOk_word X h.1

theorem constKw_word {w : List Char} (h : constKw w = true) (hk : keywords.contains w = true) :
    isWord w = true ∧ identTok w = .kw w := by
  refine ⟨?_, by simp only [identTok, hk, if_true]⟩
  simp only [constKw, Bool.or_eq_true, beq_iff_eq] at h
  rcases h with (h | h) | h <;> subst h <;> decide

theorem render_head (X : Ora) (pr : Char → Bool) (e : PyExpr) (h : wf X e = true) (x : List Char) :
    ∃ c t, render pr e ++ x = c :: t ∧ c ≠ '=' := by
  have word : ∀ w y : List Char, isWordX X w = true → ∃ c t, w ++ y = c :: t ∧ c ≠ '=' := by
    intro w y hw
    match w, hw with
    | c :: r, hw =>
      simp only [isWordX, Bool.and_eq_true] at hw
      exact ⟨c, r ++ y, rfl, (idStart_facts X hw.1).2.2.2.2.2.2⟩
  cases e with
  | name n => exact word n x (identOk_word X (by simpa [wf] using h)).1
  | const w =>
    simp only [wf, Bool.and_eq_true] at h
    exact word w x (isWordX_of_ascii X (constKw_word h.1 h.2).1)
  | num t =>
    simp only [wf] at h
    match t, h with
    | c :: r, h =>
      simp only [isNumText, Bool.and_eq_true] at h
      refine ⟨c, r ++ x, rfl, ?_⟩
      rintro rfl
      exact absurd h.1 (by decide)
  | negNum t => exact ⟨'-', t ++ x, rfl, by decide⟩
  | strLit cs =>
    refine ⟨reprQuote cs, _, rfl, ?_⟩
    rcases reprQuote_cases cs with h | h <;> rw [h] <;> decide
  | call f kws =>
    simp only [wf, Bool.and_eq_true] at h
    rw [render, List.append_assoc]
    exact word f _ (identOk_word X h.1.1).1
  | list xs => exact ⟨'[', _, rfl, by decide⟩
  | dict kvs => exact ⟨'{', _, rfl, by decide⟩
  | lam b => exact ⟨'l', _, rfl, by decide⟩
  | bad => simp [wf] at h

theorem delimHead_renderL (pr : Char → Bool) (xs : List PyExpr) (rest : List Char) :
    DelimHead (renderL pr false xs ++ ']' :: rest) := by
  cases xs <;> exact ⟨_, _, rfl, by decide⟩
theorem delimHead_renderKws (pr : Char → Bool) (kws : List (List Char × PyExpr)) (rest : List Char) :
    DelimHead (renderKws pr false kws ++ ')' :: rest) := by
  rcases kws with _ | ⟨⟨k, v⟩, r⟩ <;> exact ⟨_, _, rfl, by decide⟩
theorem delimHead_renderKVs (pr : Char → Bool) (kvs : List (PyExpr × PyExpr)) (rest : List Char) :
    DelimHead (renderKVs pr false kvs ++ '}' :: rest) := by
  rcases kvs with _ | ⟨⟨k, v⟩, r⟩ <;> exact ⟨_, _, rfl, by decide⟩

mutual
theorem lex_expr (X : Ora) (pr : Char → Bool) : ∀ (e : PyExpr), wf X e = true →
    ∀ (d : Nat) (ind : List Nat) (rest : List Char), DelimHead rest →
    lex X ⟨d, ind⟩ .mid (render pr e ++ rest) = prepend (toks e) (lex X ⟨d, ind⟩ .mid rest)
  | .name n, h, d, ind, rest, hr => by
    obtain ⟨hw, ht⟩ := identOk_word X (by simpa [wf] using h)
    simp only [render, toks]
    rw [(word_token X n rest hw hr.idEnd).mid, ht]
  | .const w, h, d, ind, rest, hr => by
    simp only [wf, Bool.and_eq_true] at h
    obtain ⟨hw, ht⟩ := constKw_word h.1 h.2
    simp only [render, toks]
    rw [(word_token X w rest (isWordX_of_ascii X hw) hr.idEnd).mid, ht]
  | .num t, h, d, ind, rest, hr => by
    simp only [wf] at h
    simp only [render, toks]
    rw [lex_num X _ t rest h hr.numEnd]
  | .negNum t, h, d, ind, rest, hr => by
    simp only [wf] at h
    simp only [render, toks, List.cons_append]
    match t, h with
    | c :: t', h =>
      have hc : isDigit c = true := by
        simp only [isNumText, Bool.and_eq_true] at h; exact h.1
      have h1 : c ≠ '=' := by rintro rfl; exact absurd hc (by decide)
      have h2 : c ≠ '>' := by rintro rfl; exact absurd hc (by decide)
      rw [List.cons_append, lex_op X _ '-' c _ (by decide) (by simp [h1, h2]), ← List.cons_append,
        lex_num X _ (c :: t') rest h hr.numEnd]
      simp [prepend_prepend]
  | .strLit cs, _, d, ind, rest, hr => by
    simp only [render, toks]
    rw [(repr_token X pr cs rest hr.noQuote).mid]
  | .call f kws, h, d, ind, rest, hr => by
    simp only [wf, Bool.and_eq_true] at h
    obtain ⟨hw, ht⟩ := identOk_word X h.1.1
    simp only [render, toks, List.append_assoc, List.cons_append, List.nil_append]
    rw [(word_token X f _ hw ⟨'(', _, rfl, by decide⟩).mid, ht, lex_open X d ind '(' (Or.inl rfl),
      lex_kws X pr kws h.2 true d ind rest]
    simp [prepend_prepend]
  | .list xs, h, d, ind, rest, hr => by
    simp only [wf] at h
    simp only [render, toks, List.append_assoc, List.cons_append, List.nil_append]
    rw [lex_open X d ind '[' (Or.inr (Or.inl rfl)),
      lex_list X pr xs h true d ind rest]
    simp [prepend_prepend]
  | .dict kvs, h, d, ind, rest, hr => by
    simp only [wf] at h
    simp only [render, toks, List.append_assoc, List.cons_append, List.nil_append]
    rw [lex_open X d ind '{' (Or.inr (Or.inr rfl)),
      lex_kvs X pr kvs h true d ind rest]
    simp [prepend_prepend]
  | .lam b, h, d, ind, rest, hr => by
    simp only [wf] at h
    simp only [render, toks, List.append_assoc, List.cons_append]
    rw [(word_token X kwLambda _ (isWordX_of_ascii X (by decide)) ⟨':', _, rfl, by decide⟩).mid, lex_sep X _ ':' (Or.inr rfl),
      lex_expr X pr b h d ind rest hr]
    have : identTok kwLambda = .kw kwLambda := by decide
    simp [this, prepend_prepend]
  | .bad, h, _, _, _, _ => by simp [wf] at h
theorem lex_list (X : Ora) (pr : Char → Bool) : ∀ (xs : List PyExpr), wfL X xs = true →
    ∀ (first : Bool) (d : Nat) (ind : List Nat) (rest : List Char),
    lex X ⟨d + 1, ind⟩ .mid (renderL pr first xs ++ ']' :: rest)
      = prepend (toksL first xs ++ [.op ']']) (lex X ⟨d, ind⟩ .mid rest)
  | [], _, first, d, ind, rest => by
    simp only [renderL, toksL, List.nil_append]
    rw [lex_close X d ind ']' (Or.inr (Or.inl rfl))]
  | x :: xs, h, first, d, ind, rest => by
    simp only [wfL, Bool.and_eq_true] at h
    simp only [renderL, toksL, List.append_assoc]
    rw [lex_sepFirst, lex_expr X pr x h.1 (d + 1) ind _ (delimHead_renderL pr xs rest),
      lex_list X pr xs h.2 false d ind rest]
    simp only [prepend_prepend]
theorem lex_kws (X : Ora) (pr : Char → Bool) : ∀ (kws : List (List Char × PyExpr)), wfKws X kws = true →
    ∀ (first : Bool) (d : Nat) (ind : List Nat) (rest : List Char),
    lex X ⟨d + 1, ind⟩ .mid (renderKws pr first kws ++ ')' :: rest)
      = prepend (toksKws first kws ++ [.op ')']) (lex X ⟨d, ind⟩ .mid rest)
  | [], _, first, d, ind, rest => by
    simp only [renderKws, toksKws, List.nil_append]
    rw [lex_close X d ind ')' (Or.inl rfl)]
  | (k, v) :: r, h, first, d, ind, rest => by
    simp only [wfKws, Bool.and_eq_true] at h
    obtain ⟨hw, ht⟩ := targetName_word X h.1.1
    simp only [renderKws, toksKws, List.append_assoc, List.cons_append]
    rw [lex_sepFirst, (word_token X k _ hw ⟨'=', _, rfl, by decide⟩).mid, ht, lex_eq X _ _ (render_head X pr v h.1.2 _),
      lex_expr X pr v h.1.2 (d + 1) ind _ (delimHead_renderKws pr r rest), lex_kws X pr r h.2 false d ind rest]
    simp [prepend_prepend]
theorem lex_kvs (X : Ora) (pr : Char → Bool) : ∀ (kvs : List (PyExpr × PyExpr)), wfKVs X kvs = true →
    ∀ (first : Bool) (d : Nat) (ind : List Nat) (rest : List Char),
    lex X ⟨d + 1, ind⟩ .mid (renderKVs pr first kvs ++ '}' :: rest)
      = prepend (toksKVs first kvs ++ [.op '}']) (lex X ⟨d, ind⟩ .mid rest)
  | [], _, first, d, ind, rest => by
    simp only [renderKVs, toksKVs, List.nil_append]
    rw [lex_close X d ind '}' (Or.inr (Or.inr rfl))]
  | (k, v) :: r, h, first, d, ind, rest => by
    simp only [wfKVs, Bool.and_eq_true] at h
    simp only [renderKVs, toksKVs, List.append_assoc, List.cons_append]
    rw [lex_sepFirst, lex_expr X pr k h.1.1 (d + 1) ind _ ⟨':', _, rfl, by decide⟩, lex_sep X _ ':' (Or.inr rfl),
      lex_expr X pr v h.1.2 (d + 1) ind _ (delimHead_renderKVs pr r rest), lex_kvs X pr r h.2 false d ind rest]
    simp [prepend_prepend]
end

theorem bol_space (X : Ora) (ctx : LCtx) (n : Nat) (r : List Char) :
    lex X ctx (.bol n) (' ' :: r) = lex X ctx (.bol (n + 1)) r :=
  lex_skip (by simp [lstep])

theorem bol_indent4 (X : Ora) (ctx : LCtx) (r : List Char) :
    lex X ctx (.bol 0) (indent4 ++ r) = lex X ctx (.bol 4) r := by
  simp only [indent4, List.cons_append, List.nil_append]
  rw [bol_space, bol_space, bol_space, bol_space]

theorem bol_blank (X : Ora) (ctx : LCtx) (n : Nat) (r : List Char) :
    lex X ctx (.bol n) (cLF :: r) = lex X ctx (.bol 0) r :=
  lex_skip (by simp [lstep, cLF])

theorem mid_newline (X : Ora) (ind : List Nat) (r : List Char) :
    lex X ⟨0, ind⟩ .mid (cLF :: r) = prepend [.newline] (lex X ⟨0, ind⟩ (.bol 0) r) := by
  apply lex_go
  simp [lstep, midStep, cLF]

theorem comment_run (X : Ora) (ctx : LCtx) : ∀ (w r : List Char), cLF ∉ w →
    lex X ctx .bolComment (w ++ cLF :: r) = lex X ctx (.bol 0) r
  | [], r, _ => by
    have : lstep X ctx .bolComment cLF r = .go ctx (.bol 0) [] := by simp [lstep]
    rw [List.nil_append, lex_skip this]
  | c :: w, r, h => by
    have hc : c ≠ cLF := fun e => h (by simp [e])
    have : lstep X ctx .bolComment c (w ++ cLF :: r) = .go ctx .bolComment [] := by simp [lstep, hc]
    rw [List.cons_append, lex_skip this, comment_run X ctx w r (fun hm => h (by simp [hm]))]

theorem bol_comment (X : Ora) (ctx : LCtx) (n : Nat) (w r : List Char) (h : cLF ∉ w) :
    lex X ctx (.bol n) ('#' :: w ++ cLF :: r) = lex X ctx (.bol 0) r := by
  have : lstep X ctx (.bol n) '#' (w ++ cLF :: r) = .go ctx .bolComment [] := by simp [lstep, cLF]
  rw [List.cons_append, lex_skip this, comment_run X ctx w r h]

def nonBlank : Item → Bool
  | .blank => false
  | _ => true

def wfItem (X : Ora) : Item → Bool
  | .doc _ => true
  | .ann n e => targetName X n && wf X e
  | .assign n e => targetName X n && wf X e
  | .blank => true
  | .pass => true

/-- tokens of the body lines; `opened`: the block's INDENT has been emitted -/
def itemsToks : Bool → List Item → List Tok
  | _, [] => []
  | opened, it :: r =>
    if nonBlank it then (if opened then [] else [.indent]) ++ (itemToks it ++ itemsToks true r)
    else itemsToks opened r

/-- the body as lines, each terminated by a line break -/
def renderLines (pr : Char → Bool) : List Item → List Char → List Char
  | [], rest => rest
  | it :: r, rest => renderItem pr it ++ cLF :: renderLines pr r rest

theorem renderItems_lines (pr : Char → Bool) : ∀ (items : List Item) (rest : List Char),
    renderItems pr items ++ cLF :: rest = cLF :: renderLines pr items rest
  | [], rest => by simp [renderItems, renderLines]
  | it :: r, rest => by
    simp only [renderItems, renderLines, List.cons_append, List.append_assoc]
    rw [renderItems_lines pr r rest]

def indOf (opened : Bool) : List Nat := if opened then [4] else []
def dentToks (opened : Bool) : List Tok := if opened then [] else [.indent]

theorem lex_item (X : Ora) (pr : Char → Bool) (it : Item) (h : wfItem X it = true) (opened : Bool)
    (r : List Char) :
    lex X ⟨0, indOf opened⟩ (.bol 0) (renderItem pr it ++ cLF :: r)
      = prepend (if nonBlank it then dentToks opened ++ itemToks it else [])
          (lex X ⟨0, indOf (opened || nonBlank it)⟩ (.bol 0) r) := by
  have hd : dent (indOf opened) 4 = some ([4], dentToks opened) := by cases opened <;> decide
  cases it with
  | blank =>
    simp only [renderItem, nonBlank, List.nil_append, Bool.or_false, Bool.false_eq_true, if_false]
    rw [bol_blank, prepend_nil]
  | pass =>
    simp only [renderItem, nonBlank, itemToks, List.append_assoc, Bool.or_true, if_true]
    rw [bol_indent4, (word_token X kwPass _ (isWordX_of_ascii X (by decide)) (idEnd_of _ _ (by decide))).bol hd, mid_newline,
      prepend_prepend]
    have : identTok kwPass = .kw kwPass := by decide
    simp [this, indOf]
  | doc d =>
    simp only [renderItem, nonBlank, itemToks, List.append_assoc, Bool.or_true, if_true, List.cons_append,
      List.nil_append]
    rw [bol_indent4, (doc_token X d _ (delimHead_cons cLF _ (by decide)).noQuote).bol hd, mid_newline, bol_blank,
      prepend_prepend]
    simp [indOf]
  | ann n e =>
    simp only [wfItem, Bool.and_eq_true] at h
    obtain ⟨hw, ht⟩ := targetName_word X h.1
    simp only [renderItem, nonBlank, itemToks, List.append_assoc, Bool.or_true, if_true, List.cons_append]
    rw [bol_indent4, (word_token X n _ hw (idEnd_of _ _ (by decide))).bol hd, ht,
      lex_sep X _ ':' (Or.inr rfl), lex_expr X pr e h.2 0 _ _ ⟨cLF, r, rfl, by decide⟩, mid_newline]
    simp [prepend_prepend, indOf]
  | assign n e =>
    simp only [wfItem, Bool.and_eq_true] at h
    obtain ⟨hw, ht⟩ := targetName_word X h.1
    simp only [renderItem, nonBlank, itemToks, List.append_assoc, Bool.or_true, if_true, List.cons_append]
    rw [bol_indent4, (word_token X n _ hw (idEnd_of _ _ (by decide))).bol hd, ht, lex_space,
      lex_eq X _ _ ⟨' ', _, rfl, by decide⟩, lex_space, lex_expr X pr e h.2 0 _ _ ⟨cLF, r, rfl, by decide⟩, mid_newline]
    simp [prepend_prepend, indOf]

theorem lex_lines (X : Ora) (pr : Char → Bool) : ∀ (items : List Item), (items.all (wfItem X) = true) →
    ∀ (opened : Bool) (rest : List Char),
    lex X ⟨0, indOf opened⟩ (.bol 0) (renderLines pr items rest)
      = prepend (itemsToks opened items) (lex X ⟨0, indOf (opened || items.any nonBlank)⟩ (.bol 0) rest)
  | [], _, opened, rest => by simp [renderLines, itemsToks, prepend_nil]
  | it :: r, h, opened, rest => by
    simp only [List.all_cons, Bool.and_eq_true] at h
    simp only [renderLines, itemsToks, List.any_cons]
    rw [lex_item X pr it h.1, lex_lines X pr r h.2]
    cases hb : nonBlank it <;> simp [prepend_prepend, dentToks]

def headerToks (name : List Char) : List Tok :=
  [.kw kwClass, .name name, .op '(', .name nStructure, .op ')', .op ':', .newline]

def dedentToks (opened : Bool) : List Tok := if opened then [.dedent] else []

theorem lex_header (X : Ora) (name : List Char) (hn : identOk X name = true) (opened : Bool) (r : List Char) :
    lex X ⟨0, indOf opened⟩ (.bol 0) (headerText name ++ cLF :: r)
      = prepend (dedentToks opened ++ headerToks name) (lex X ⟨0, []⟩ (.bol 0) r) := by
  obtain ⟨hw, ht⟩ := identOk_word X hn
  have hd : dent (indOf opened) 0 = some ([], dedentToks opened) := by cases opened <;> decide
  have k1 : identTok kwClass = .kw kwClass := by decide
  have k2 : identTok nStructure = .name nStructure := by decide
  simp only [headerText, List.append_assoc, List.cons_append, List.nil_append]
  rw [(word_token X kwClass _ (isWordX_of_ascii X (by decide)) (idEnd_of _ _ (by decide))).bol hd, k1, lex_space,
    (word_token X name _ hw (idEnd_of _ _ (by decide))).mid, ht, lex_open X 0 [] '(' (Or.inl rfl),
    (word_token X nStructure _ (isWordX_of_ascii X (by decide)) (idEnd_of _ _ (by decide))).mid, k2,
    lex_close X 0 [] ')' (Or.inl rfl), lex_op X _ ':' cLF _ (by decide) (by decide), mid_newline]
  simp [prepend_prepend, headerToks]

def classToks (opened : Bool) (name : List Char) (items : List Item) : List Tok :=
  dedentToks opened ++ (headerToks name ++ itemsToks false items)

theorem lex_class (X : Ora) (pr : Char → Bool) (name : List Char) (items : List Item)
    (hn : identOk X name = true) (hi : items.all (wfItem X) = true) (hb : items.any nonBlank = true)
    (opened : Bool) (rest : List Char) :
    lex X ⟨0, indOf opened⟩ (.bol 0) (classRender pr name items ++ cLF :: rest)
      = prepend (classToks opened name items) (lex X ⟨0, indOf true⟩ (.bol 0) rest) := by
  simp only [classRender, List.append_assoc]
  rw [renderItems_lines, lex_header X name hn opened]
  have := lex_lines X pr items hi false rest
  simp only [indOf, Bool.false_eq_true, if_false, Bool.false_or, hb, if_true] at this
  rw [this]
  simp [prepend_prepend, classToks, indOf]

def importToks : List Tok := [.kw kwFrom, .name nTypedpy, .kw kwImport, .op '*', .newline]

theorem lex_import (X : Ora) (r : List Char) :
    lex X ⟨0, []⟩ (.bol 0) (importLine ++ cLF :: r) = prepend importToks (lex X ⟨0, []⟩ (.bol 0) r) := by
  have k1 : identTok kwFrom = .kw kwFrom := by decide
  have k2 : identTok nTypedpy = .name nTypedpy := by decide
  have k3 : identTok kwImport = .kw kwImport := by decide
  have hd : dent [] 0 = some ([], []) := by decide
  simp only [importLine, List.append_assoc, List.cons_append, List.nil_append]
  rw [(word_token X kwFrom _ (isWordX_of_ascii X (by decide)) (idEnd_of _ _ (by decide))).bol hd, k1, lex_space,
    (word_token X nTypedpy _ (isWordX_of_ascii X (by decide)) (idEnd_of _ _ (by decide))).mid, k2, lex_space,
    (word_token X kwImport _ (isWordX_of_ascii X (by decide)) (idEnd_of _ _ (by decide))).mid, k3, lex_space,
    lex_op X _ '*' cLF _ (by decide) (by decide), mid_newline]
  simp [prepend_prepend, importToks]

/-- the `str` flag of `Expect.afterOp` once the expression is read: a string literal may follow a string
    literal -/
def endsStr : PyExpr → Bool
  | .strLit _ => true
  | .lam b => endsStr b
  | _ => false

theorem parse_go {s s' : PState} {t : Tok} (ts : List Tok) (h : pstep s t = .go s') :
    parse s (t :: ts) = parse s' ts := by
  simp [parse, h]

mutual
/-- `φ ≠ .expr`: in an expression statement that may still become a target a `-` at the top level changes
    the phase (`minusPhase`) -/
theorem parse_expr (X : Ora) : ∀ (e : PyExpr), wf X e = true → ∀ (σ : List Frame) (c : Bool) (φ : Phase) (rest : List Tok), φ ≠ .expr →
    parse ⟨σ, .operand c false, φ, false⟩ (toks e ++ rest)
      = parse ⟨σ, .afterOp (endsStr e), φ, false⟩ rest
  | .name _, _, σ, c, φ, rest, hφ | .num _, _, σ, c, φ, rest, hφ | .strLit _, _, σ, c, φ, rest, hφ => by
    simp [toks, parse, pstep, operandStep, startsPositional, endsStr]
  | .const w, h, σ, c, φ, rest, hφ => by
    simp only [wf, Bool.and_eq_true] at h
    simp [toks, parse, pstep, operandStep, startsPositional, endsStr, h.1]
  | .negNum t, _, σ, c, φ, rest, hφ => by
    have hm : ∀ st : PState, st.phase = φ → minusPhase st = φ := by
      intro st e
      unfold minusPhase
      cases st.stack <;> cases hp : st.phase <;> simp_all
    simp [toks, parse, pstep, operandStep, startsPositional, endsStr, hm]
  | .call f kws, h, σ, c, φ, rest, hφ => by
    simp only [wf, Bool.and_eq_true] at h
    have ih := parse_kws X kws h.2 true σ false [] false φ rest hφ h.1.2 (by simp)
    simp [toks, parse, pstep, operandStep, afterStep, startsPositional, endsStr] at ih ⊢
    exact ih
  | .list xs, h, σ, c, φ, rest, hφ => by
    simp only [wf] at h
    have ih := parse_list X xs h true σ false φ rest hφ
    simp [toks, parse, pstep, operandStep, startsPositional, endsStr] at ih ⊢
    exact ih
  | .dict kvs, h, σ, c, φ, rest, hφ => by
    simp only [wf] at h
    have ih := parse_kvs X kvs h true σ false φ rest hφ
    simp [toks, parse, pstep, operandStep, startsPositional, endsStr] at ih ⊢
    exact ih
  | .lam b, h, σ, c, φ, rest, hφ => by
    simp only [wf] at h
    have ih := parse_expr X b h σ false φ rest hφ
    simp [toks, parse, pstep, operandStep, startsPositional, endsStr, isOp, kwLambda, constKw] at ih ⊢
    exact ih
  | .bad, h, _, _, _, _, _ => by simp [wf] at h
theorem parse_list (X : Ora) : ∀ (xs : List PyExpr), wfL X xs = true → ∀ (first : Bool) (σ : List Frame) (b : Bool)
    (φ : Phase) (rest : List Tok), φ ≠ .expr →
    parse ⟨.lst :: σ, (if first then .operand true false else .afterOp b), φ, false⟩
        (toksL first xs ++ .op ']' :: rest)
      = parse ⟨σ, .afterOp false, φ, false⟩ rest
  | [], _, first, σ, b, φ, rest, hφ => by
    cases first <;> simp [toksL, parse, pstep, operandStep, afterStep, closeStep, closes, startsPositional]
  | x :: xs, h, first, σ, b, φ, rest, hφ => by
    simp only [wfL, Bool.and_eq_true] at h
    have ih1 := parse_expr X x h.1 (.lst :: σ) true φ (toksL false xs ++ .op ']' :: rest) hφ
    have ih2 := parse_list X xs h.2 false σ (endsStr x) φ rest hφ
    cases first <;> simp [toksL, parse, pstep, afterStep] at ih1 ih2 ⊢ <;> rw [ih1, ih2]
theorem parse_kws (X : Ora) : ∀ (kws : List (List Char × PyExpr)), wfKws X kws = true →
    ∀ (first : Bool) (σ : List Frame) (k0 : Bool) (ns : List (List Char)) (b : Bool) (φ : Phase)
      (rest : List Tok), φ ≠ .expr →
    nodupL (kws.map (·.1)) = true → (∀ k ∈ kws.map (·.1), ns.contains k = false) →
    parse ⟨.call false k0 ns :: σ, (if first then .operand true true else .afterOp b), φ, false⟩
        (toksKws first kws ++ .op ')' :: rest)
      = parse ⟨σ, .afterOp false, φ, false⟩ rest
  | [], _, first, σ, k0, ns, b, φ, rest, hφ, _, _ => by
    cases first <;> simp [toksKws, parse, pstep, operandStep, afterStep, closeStep, closes, startsPositional]
  | (k, v) :: r, h, first, σ, k0, ns, b, φ, rest, hφ, hnd, hns => by
    simp only [wfKws, Bool.and_eq_true] at h
    have hk : targetName X k = true := h.1.1
    simp only [targetName, Bool.and_eq_true, Bool.not_eq_true'] at hk
    have hkns : k ∉ ns := by simpa using hns k (by simp)
    obtain ⟨hkr, hnd'⟩ : k ∉ r.map (·.1) ∧ nodupL (r.map (·.1)) = true := by simpa [nodupL] using hnd
    have ih1 := parse_expr X v h.1.2 (.call false true (k :: ns) :: σ) false φ (toksKws false r ++ .op ')' :: rest) hφ
    have ih2 := parse_kws X r h.2 false σ true (k :: ns) (endsStr v) φ rest hφ hnd' (fun k' hk' => by
      have h1 : k' ∉ ns := by simpa using hns k' (List.mem_cons_of_mem _ hk')
      have h2 : k' ≠ k := fun e => hkr (e ▸ hk')
      simp [h1, h2])
    cases first <;>
      simp [toksKws, parse, pstep, afterStep, operandStep, startsPositional, isOp, hk.2, hkns] at ih1 ih2 ⊢ <;>
      rw [ih1, ih2]
theorem parse_kvs (X : Ora) : ∀ (kvs : List (PyExpr × PyExpr)), wfKVs X kvs = true → ∀ (first : Bool) (σ : List Frame)
    (b : Bool) (φ : Phase) (rest : List Tok), φ ≠ .expr →
    parse ⟨.dict (if first then .start else .colon) :: σ,
          (if first then .operand true false else .afterOp b), φ, false⟩
        (toksKVs first kvs ++ .op '}' :: rest)
      = parse ⟨σ, .afterOp false, φ, false⟩ rest
  | [], _, first, σ, b, φ, rest, hφ => by
    cases first <;> simp [toksKVs, parse, pstep, operandStep, afterStep, closeStep, closes, startsPositional]
  | (k, v) :: r, h, first, σ, b, φ, rest, hφ => by
    simp only [wfKVs, Bool.and_eq_true] at h
    have ih2 := parse_expr X v h.1.2 (.dict .colon :: σ) false φ (toksKVs false r ++ .op '}' :: rest) hφ
    have ih3 := parse_kvs X r h.2 false σ (endsStr v) φ rest hφ
    have ih1 := parse_expr X k h.1.1 (.dict (if first then .start else .commaD) :: σ) true φ
      (.op ':' :: (toks v ++ (toksKVs false r ++ .op '}' :: rest))) hφ
    cases first <;> simp [toksKVs, parse, pstep, afterStep] at ih1 ih2 ih3 ⊢ <;> rw [ih1, ih2, ih3]
end

def st0 (needIndent : Bool) : PState := ⟨[], .stmtStart, .expr, needIndent⟩

theorem parse_item (X : Ora) (it : Item) (h : wfItem X it = true) (hb : nonBlank it = true) (rest : List Tok) :
    parse (st0 false) (itemToks it ++ rest) = parse (st0 false) rest := by
  cases it with
  | blank => simp [nonBlank] at hb
  | pass => simp [itemToks, parse, pstep, st0, kwPass, lineEndStep]
  | doc d => simp [itemToks, parse, pstep, st0, operandStep, afterStep, startsPositional]
  | ann n e =>
    simp only [wfItem, Bool.and_eq_true, targetName, Bool.not_eq_true'] at h
    have ih := parse_expr X e h.2 [] false .ann (.newline :: rest) (by decide)
    simp [itemToks, parse, pstep, st0, isOp, h.1.2, afterStep] at ih ⊢
    rw [ih]
  | assign n e =>
    simp only [wfItem, Bool.and_eq_true, targetName, Bool.not_eq_true'] at h
    have ih := parse_expr X e h.2 [] false .rhs (.newline :: rest) (by decide)
    simp [itemToks, parse, pstep, st0, isOp, h.1.2, afterStep] at ih ⊢
    rw [ih]

theorem parse_items (X : Ora) : ∀ (items : List Item), items.all (wfItem X) = true → ∀ (opened : Bool) (rest : List Tok),
    parse (st0 (!opened)) (itemsToks opened items ++ rest)
      = parse (st0 (!(opened || items.any nonBlank))) rest
  | [], _, opened, rest => by simp [itemsToks]
  | it :: r, h, opened, rest => by
    simp only [List.all_cons, Bool.and_eq_true] at h
    have ih := parse_items X r h.2
    cases hb : nonBlank it
    · simp [itemsToks, hb, ih]
    · have e1 := parse_item X it h.1 hb (itemsToks true r ++ rest)
      have e2 := ih true rest
      cases opened
      · simp [itemsToks, hb, parse, pstep, st0] at e1 e2 ⊢
        rw [e1, e2]
      · simp [itemsToks, hb] at e1 e2 ⊢
        rw [e1, e2]

theorem parse_header (name : List Char) (rest : List Tok) :
    parse (st0 false) (headerToks name ++ rest) = parse (st0 true) rest := by
  simp [headerToks, parse, pstep, st0, kwClass, isOp, operandStep, startsPositional, seenKw, afterStep,
    closeStep, closes]

theorem parse_dedent (rest : List Tok) : parse (st0 false) (.dedent :: rest) = parse (st0 false) rest := by
  simp [parse, pstep, st0]

theorem parse_class (X : Ora) (opened : Bool) (name : List Char) (items : List Item) (hi : items.all (wfItem X) = true)
    (hb : items.any nonBlank = true) (rest : List Tok) :
    parse (st0 false) (classToks opened name items ++ rest) = parse (st0 false) rest := by
  have e := parse_items X items hi false rest
  simp only [Bool.not_false, Bool.false_or, hb, Bool.not_true] at e
  cases opened
  · simp only [classToks, dedentToks, Bool.false_eq_true, if_false, List.nil_append, List.append_assoc]
    rw [parse_header, e]
  · simp only [classToks, dedentToks, if_true, List.cons_append, List.nil_append, List.append_assoc]
    rw [parse_dedent, parse_header, e]

theorem parse_import (rest : List Tok) : parse (st0 false) (importToks ++ rest) = parse (st0 false) rest := by
  simp [importToks, parse, pstep, st0, kwFrom, kwImport, from1Step, from2Step, from3Step, lineEndStep]

/-- what `recognise_of_depth` asks of one class, on its printed items; `classSrcOk` (`Sem/SchemaEmit`) is
    the condition on the schema that gives it (`classOk_of_src`) -/
def classOk (X : Ora) (O : EOra) (c : ClassSrc) : Bool :=
  identOk X c.name.toList && (classItems O c.desc c.schema).all (wfItem X)
    && (classItems O c.desc c.schema).any nonBlank

def classesToks (O : EOra) : Bool → List ClassSrc → List Tok
  | _, [] => []
  | opened, c :: r => classToks opened c.name.toList (classItems O c.desc c.schema) ++ classesToks O true r

def modToks (O : EOra) (defs : List ClassSrc) (main : ClassSrc) : List Tok :=
  importToks ++ (classesToks O false (defs ++ [main]) ++ [.dedent])

theorem lex_classText (X : Ora) (O : EOra) (c : ClassSrc) (h : classOk X O c = true) (opened : Bool)
    (rest : List Char) :
    lex X ⟨0, indOf opened⟩ (.bol 0) (classText O c.name c.desc c.schema ++ cLF :: rest)
      = prepend (classToks opened c.name.toList (classItems O c.desc c.schema))
          (lex X ⟨0, indOf true⟩ (.bol 0) rest) := by
  simp only [classOk, Bool.and_eq_true] at h
  exact lex_class X O.pr _ _ h.1.1 h.1.2 h.2 opened rest

/-- the classes of a module: the definitions joined by three line breaks, a separator `cLF :: sepr` whose
    `sepr` is made of blank and comment lines, the main class; by induction along `joinClasses` -/
theorem lex_classes (X : Ora) (O : EOra) (main : ClassSrc) (hm : classOk X O main = true) (sepr : List Char)
    (hs : ∀ r, lex X ⟨0, [4]⟩ (.bol 0) (sepr ++ r) = lex X ⟨0, [4]⟩ (.bol 0) r) :
    ∀ (defs : List ClassSrc), (∀ c ∈ defs, classOk X O c = true) → ∀ (opened : Bool),
    lex X ⟨0, indOf opened⟩ (.bol 0)
        ((if defs.isEmpty then [] else joinClasses O defs ++ cLF :: sepr)
          ++ (classText O main.name main.desc main.schema ++ [cLF]))
      = .ok (classesToks O opened (defs ++ [main]) ++ [.dedent])
  | [], _, opened => by
    rw [List.isEmpty_nil, if_pos rfl, List.nil_append, lex_classText X O main hm opened []]
    simp [lex, lfinish, indOf, prepend, classesToks]
  | [c], hc, opened => by
    have ih := lex_classes X O main hm sepr hs [] (by simp) true
    simp only [List.isEmpty_nil, if_true, List.nil_append, indOf] at ih
    simp only [List.isEmpty_cons, Bool.false_eq_true, if_false, joinClasses, List.append_assoc, List.cons_append]
    rw [lex_classText X O c (hc c (by simp)) opened, indOf, if_pos rfl, hs, ih]
    simp [prepend, classesToks]
  | c :: c' :: r, hc, opened => by
    have ih := lex_classes X O main hm sepr hs (c' :: r) (fun x hx => hc x (by simp [hx])) true
    simp only [List.isEmpty_cons, Bool.false_eq_true, if_false, indOf, if_true, List.append_assoc, List.cons_append] at ih
    simp only [List.isEmpty_cons, Bool.false_eq_true, if_false, joinClasses, nl3, List.append_assoc, List.cons_append,
      List.nil_append]
    rw [lex_classText X O c (hc c (by simp)) opened, bol_blank, bol_blank, indOf, if_pos rfl, ih]
    simp [prepend, classesToks]

theorem lex_module (X : Ora) (O : EOra) (write : Bool) (defs : List ClassSrc) (main : ClassSrc)
    (hd : ∀ c ∈ defs, classOk X O c = true) (hm : classOk X O main = true) :
    lex X lctx0 (.bol 0) (moduleText O write defs main) = .ok (modToks O defs main) := by
  simp only [moduleText, nl3, lctx0, List.cons_append, List.nil_append]
  rw [lex_import, bol_blank, bol_blank]
  cases write
  · have := lex_classes X O main hm [cLF, cLF] (fun r => by rw [List.cons_append, List.cons_append, bol_blank, bol_blank]; rfl) defs hd false
    simp only [Bool.false_eq_true, if_false, indOf] at this ⊢
    rw [this]
    simp [prepend, modToks]
  · have := lex_classes X O main hm (cLF :: (starLine ++ [cLF, cLF, cLF]))
      (fun r => by
        rw [show starLine = '#' :: chars!" ********************" by decide]
        have hc := bol_comment X ⟨0, [4]⟩ 0 chars!" ********************" (cLF :: cLF :: r) (by decide)
        simp only [List.cons_append, List.nil_append] at hc ⊢
        rw [bol_blank, hc, bol_blank, bol_blank]) defs hd false
    simp only [if_true, indOf, Bool.false_eq_true, if_false] at this ⊢
    rw [this]
    simp [prepend, modToks]

theorem parse_classes (X : Ora) (O : EOra) : ∀ (cs : List ClassSrc), (∀ c ∈ cs, classOk X O c = true) →
    ∀ (opened : Bool) (rest : List Tok),
    parse (st0 false) (classesToks O opened cs ++ rest) = parse (st0 false) rest
  | [], _, _, rest => by simp [classesToks]
  | c :: r, h, opened, rest => by
    have hc := h c (by simp)
    simp only [classOk, Bool.and_eq_true] at hc
    simp only [classesToks, List.append_assoc]
    rw [parse_class X opened _ _ hc.1.2 hc.2, parse_classes X O r (fun x hx => h x (by simp [hx]))]

theorem parse_module (X : Ora) (O : EOra) (defs : List ClassSrc) (main : ClassSrc)
    (hd : ∀ c ∈ defs, classOk X O c = true) (hm : classOk X O main = true) :
    parse pstate0 (modToks O defs main) = .accept := by
  have : pstate0 = st0 false := rfl
  rw [this, modToks, parse_import, parse_classes X O (defs ++ [main]) (by
    intro c hc
    rcases List.mem_append.1 hc with h | h
    · exact hd c h
    · simp at h; subst h; exact hm) false, parse_dedent]
  simp [parse, pfinish, st0]

theorem tokens_module (X : Ora) (O : EOra) (write : Bool) (defs : List ClassSrc) (main : ClassSrc)
    (hd : ∀ c ∈ defs, classOk X O c = true) (hm : classOk X O main = true)
    (hclean : textClean (moduleText O write defs main) = true) :
    tokens X (moduleText O write defs main) = .ok (modToks O defs main) := by
  simp only [textClean, Bool.and_eq_true, Bool.not_eq_true'] at hclean
  have hcr : ∀ c ∈ moduleText O write defs main, c ≠ cCR := by
    rintro c hc rfl
    have := hclean.2
    simp at this
    exact this hc
  rw [tokens, nnl_id _ hcr, lex_module X O write defs main hd hm]

end Typedpy.Emit
