/-
  Lemmas/StubDefine.lean — the stub generator over Define's class objects (Sem/StubDefine.lean): one-step facts that
  hold for EVERY world and EVERY class source (any hierarchy shape).
-/
import TypedpyModel.Sem.StubDefine
import TypedpyModel.Lemmas.Stub
import TypedpyModel.Lemmas.DefineWorld
namespace Typedpy.StubD
open Typedpy.Stub (Param mem_orderedArgs param_eq)

theorem c16_covered_iff (w : World) (src : ClassSrc) (n : String) :
    covered w src n = true ↔ (n ∈ (ownMembers src.entries).map (·.1) ∨ n ∈ (basesParams w src).map (·.1)) := by
  simp [covered]

theorem c16_mem_stubArgsD (c : ClassDef) (p : Param) :
    p ∈ stubArgsD c ↔
      (p.name ∈ c.allFields.map (·.1) ∧ (lookup p.name c.constants).isNone = true ∧
        p.hasDefault = !c.required.contains p.name) := by
  unfold stubArgsD typeInfoD
  rw [mem_orderedArgs]
  simp only [List.mem_map, List.mem_filter]
  constructor
  · rintro ⟨q, ⟨hq, hc⟩, rfl⟩
    exact ⟨⟨q, hq, rfl⟩, hc, rfl⟩
  · rintro ⟨⟨q, hq, hn⟩, hc, hd⟩
    refine ⟨q, ⟨hq, by rw [hn]; exact hc⟩, ?_⟩
    exact param_eq hn (by rw [hd, hn])

theorem c16_const_isNone (w : World) (src : ClassSrc) (n : String) :
    (lookup n (build w src).constants).isNone = true ↔ n ∉ constNamesD w src := by
  unfold constNamesD
  dsimp only [build]
  generalize constantsOf (resolvedFields w src) = cs
  rw [← lookup_isSome_iff]
  cases lookup n cs <;> simp

theorem c16_names_stubArgsD (c : ClassDef) (n : String) :
    n ∈ (stubArgsD c).map (·.name) ↔ (n ∈ c.allFields.map (·.1) ∧ (lookup n c.constants).isNone = true) := by
  constructor
  · intro h
    obtain ⟨p, hp, rfl⟩ := List.mem_map.mp h
    have := (c16_mem_stubArgsD c p).mp hp
    exact ⟨this.1, this.2.1⟩
  · rintro ⟨h1, h2⟩
    exact List.mem_map.mpr ⟨⟨n, !c.required.contains n⟩, (c16_mem_stubArgsD c _).mpr ⟨h1, h2, rfl⟩, rfl⟩

theorem c16_names_stubArgsD_build (w : World) (src : ClassSrc) (n : String) :
    n ∈ (stubArgsD (build w src)).map (·.name) ↔
      (n ∈ (allFieldsOf w src).map (·.1) ∧ n ∉ constNamesD w src) := by
  rw [c16_names_stubArgsD, c16_const_isNone]
  rfl

theorem c16_mem_sigParamsD (s : Typedpy.Sig) (n : String) :
    n ∈ (sigParamsD s).map (·.name) ↔ (n ∈ s.req ∨ n ∈ s.opt) := by
  simp [sigParamsD, List.map_append, List.map_map, Function.comp_def]

theorem c16_sigD_names (w : World) (src : ClassSrc) (n : String) :
    n ∈ (sigParamsD (sigOf w src)).map (·.name) ↔ (covered w src n = true ∧ n ∉ constNamesD w src) := by
  rw [c16_mem_sigParamsD, mem_sigOf, c16_covered_iff]
  rfl

theorem c16_const_sub_keys (w : World) (src : ClassSrc) (n : String) (h : n ∈ constNamesD w src) :
    n ∈ (allFieldsOf w src).map (·.1) := by
  unfold constNamesD resolvedFields constantsOf at h
  generalize allFieldsOf w src = fs at h ⊢
  simp only [List.mem_map, List.mem_filterMap] at h
  obtain ⟨_, ⟨⟨k, m⟩, hm, hsome⟩, rfl⟩ := h
  cases m with
  | field d df => cases hsome
  | const v =>
    cases hsome
    exact List.mem_map_of_mem (f := (·.1)) hm

end Typedpy.StubD
