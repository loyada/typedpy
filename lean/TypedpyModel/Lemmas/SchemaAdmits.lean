/-
  Lemmas/SchemaAdmits.lean — the admits half of C08: every conforming value in the region serializes to a document
  of its declaration (`admits_doc`: `docOk`, what the exported schema admits), by induction over the declaration
  (unbounded nesting).  The definitions table and the fuel enter through the bridge `jsV_emit` only
  (`admits_field`, `admits_class`).
-/
import TypedpyModel.Lemmas.SchemaBridge
import TypedpyModel.Lemmas.SerdeBasic
import TypedpyModel.Lemmas.Sound
import TypedpyModel.Lemmas.Shapes
namespace Typedpy.Sch
open Typedpy

theorem Q_le_of_not_lt (a b : Q) (h : Q.lt a b = false) : Q.le b a = true := by
  simp [Q.lt, Q.le] at h ⊢
  omega

/-- the effective bounds of a numeric declaration hold for a conforming value, once the bound that
    stands in for a strict sign class (`1` or `tiny` for positive, `-1` or `negTiny` for negative)
    is known to hold: on integers it follows from the sign, on floats it is the sign gap -/
theorem effBounds_of_numOk (isInt : Bool) (o : NumOpts) (q : Q) (hok : numOk o q = true)
    (hpos : o.min = none → o.sign = .pos → Q.le (if isInt then Q.ofInt 1 else tiny) q = true)
    (hneg : o.max = none → o.sign = .neg → Q.le q (if isInt then Q.ofInt (-1) else negTiny) = true) :
    geMin (effMin isInt o) q = true ∧ leMax (effMax isInt o) (exclEff o) q = true := by
  simp only [numOk, Bool.and_eq_true_iff] at hok
  obtain ⟨⟨⟨_, hmin⟩, hmax⟩, hsign⟩ := hok
  constructor
  · unfold effMin
    cases hm : o.min with
    | some m => simpa [hm] using hmin
    | none =>
      cases hs : o.sign <;> simp only [geMin]
      · exact hpos hm hs
      · simpa [hs, signOk] using hsign
  · unfold effMax
    cases hm : o.max with
    | some m => simpa [hm, leMax, exclEff] using hmax
    | none =>
      cases hs : o.sign <;> simp only [leMax, exclEff, hm, Option.isSome_none, Bool.and_false, Bool.false_eq_true, if_false]
      · exact hneg hm hs
      · simpa [hs, signOk] using hsign

theorem multOk_of_numOk (o : NumOpts) (q : Q) (h : numOk o q = true) : multOk o.mult q = true := by
  simp only [numOk, Bool.and_eq_true_iff] at h; exact h.1.1.1

theorem mapE_mem {α β} (g : α → R β) :
    ∀ (xs : List α) (ys : List β), mapE g xs = .ok ys → ∀ y ∈ ys, ∃ x ∈ xs, g x = .ok y :=
  fun _ _ h => (mapE_eq_ok_iff.mp h).mem_right

theorem serAnyList_length : ∀ (xs ys : List PyVal), serAnyList xs = .ok ys → ys.length = xs.length
  | [], ys, h => by simp [serAnyList] at h; subst h; rfl
  | x :: xs, ys, h => by
    simp only [serAnyList] at h
    rcases bindE_eq_ok h with ⟨y, _, h2⟩
    rcases bindE_eq_ok h2 with ⟨ys', hys, h3⟩
    cases h3
    simp [serAnyList_length xs ys' hys]

theorem jsonNodup_short (ys : List PyVal) (h : ys.length ≤ 1) : jsonNodup ys = true := by
  match ys, h with
  | [], _ => rfl
  | [y], _ => simp [jsonNodup, jsonMem]

theorem jsonMem_str_map (n : String) (names : List String) (h : names.contains n = true) :
    jsonMem (.str n) (names.map PyVal.str) = true := by
  rw [jsonMem, List.any_map, List.any_eq_true]
  exact ⟨n, List.contains_iff_mem.mp h, beq_self_eq_true n⟩

theorem jsonMem_str_inv (v : PyVal) (names : List String) (h : jsonMem v (names.map PyVal.str) = true) :
    ∃ n, v = .str n ∧ names.contains n = true := by
  rw [jsonMem, List.any_map, List.any_eq_true] at h
  obtain ⟨m, hm, he⟩ := h
  cases v <;> first | exact Bool.noConfusion he | skip
  exact ⟨m, congrArg PyVal.str (eq_of_beq he), List.contains_iff_mem.mpr hm⟩

theorem nodupS_iff : ∀ l : List String, nodupS l = true ↔ l.Nodup
  | [] => ⟨fun _ => .nil, fun _ => rfl⟩
  | _ :: xs => nodupBool_cons (nodupS_iff xs)

theorem lookup_of_mem_nodupS {α} (n : String) (v : α) (xs : List (String × α))
    (hnd : nodupS (xs.map (·.1)) = true) (h : (n, v) ∈ xs) : lookup n xs = some v :=
  Typedpy.lookup_of_mem ((nodupS_iff _).mp hnd) h

theorem regFields_mem (O : Oracles) (attrs : List (String × PyVal)) (n : String) (f : FieldDecl)
    (v : PyVal) : ∀ fields : List (String × FieldDecl), regFields O attrs fields = true →
      (n, f) ∈ fields → lookup n attrs = some v → v.isNone = false → regF O f v = true
  | [], _, hm, _, _ => by simp at hm
  | (k, g) :: rest, hc, hm, hl, hv => by
    simp only [regFields, Bool.and_eq_true_iff] at hc
    rcases List.mem_cons.mp hm with heq | hm'
    · cases heq; simpa [hl, hv] using hc.1
    · exact regFields_mem O attrs n f v rest hc.2 hm' hl hv

def AdmDoc (O : Oracles) (S : String → String → Bool) (f : FieldDecl) (v : PyVal) : Prop :=
  ∀ j, ser O f v = .ok j → docOk S f j = true

theorem boundsOk_real (o : NumOpts) (v : PyVal) (q : Q) (hq : v.asNum = some q) (hok : numOk o q = true)
    (hg : signGap o v = false) : boundsOk false o q = true := by
  simp only [signGap, hq, Bool.or_eq_false_iff] at hg
  have hb := effBounds_of_numOk false o q hok
    (fun hm hs => Q_le_of_not_lt _ _ (by simpa [hm, hs] using hg.1))
    (fun hm hs => Q_le_of_not_lt _ _ (by simpa [hm, hs] using hg.2))
  exact (boundsOk_iff false o q).mpr ⟨multOk_of_numOk o q hok, hb.1, hb.2⟩

theorem adm_number (O S) (o : NumOpts) (v : PyVal)
    (hc : aNumber o v = true) (hnb : jsNumVal v = true) (hg : signGap o v = false) :
    AdmDoc O S (.number o) v := by
  intro j hj
  rw [docOk]
  cases v with
  | int i =>
    simp only [aNumber, PyVal.asNum] at hc
    simp only [ser, sScalar] at hj
    cases hj
    rw [numDoc_int]; exact boundsOk_real o (.int i) (Q.ofInt i) rfl hc hg
  | float q =>
    simp only [aNumber, PyVal.asNum] at hc
    simp only [ser, sScalar] at hj
    cases hj
    rw [numDoc_float]; exact boundsOk_real o (.float q) q rfl hc hg
  | _ => simp [jsNumVal] at hnb

theorem adm_integer (O S) (o : NumOpts) (v : PyVal)
    (hc : aInteger o v = true) (hnb : notBool v = true) : AdmDoc O S (.integer o) v := by
  intro j hj
  rw [docOk]
  cases v with
  | int i =>
    simp only [aInteger] at hc
    simp only [ser, sScalar] at hj
    cases hj
    have hsign : signOk o.sign (Q.ofInt i) = true := (Bool.and_eq_true_iff.mp hc).2
    -- a positive integer is at least 1, a negative one at most -1
    have hb := effBounds_of_numOk true o (Q.ofInt i) hc
      (fun _ hs => by simp [hs, signOk, Q.lt, Q.ofInt] at hsign; simp [Q.le, Q.ofInt]; omega)
      (fun _ hs => by simp [hs, signOk, Q.lt, Q.ofInt] at hsign; simp [Q.le, Q.ofInt]; omega)
    rw [numDoc_int]; exact (boundsOk_iff true o _).mpr ⟨multOk_of_numOk o _ hc, hb.1, hb.2⟩
  | bool b => simp [notBool] at hnb
  | _ => simp [aInteger] at hc

theorem adm_float (O S) (o : NumOpts) (v : PyVal)
    (hc : cFloat o v = true) (hg : signGap o v = false) : AdmDoc O S (.float o) v := by
  intro j hj
  rw [docOk]
  cases v with
  | float q =>
    simp only [cFloat] at hc
    simp only [ser, sScalar] at hj
    cases hj
    rw [numDoc_float]; exact boundsOk_real o (.float q) q rfl hc hg
  | _ => simp [cFloat] at hc

theorem adm_string (O S) (hS : ∀ p s, O.reMatch p s = true → S p s = true)
    (lo hi : Option Nat) (pat : Option String) (v : PyVal)
    (hc : aString O lo hi pat v = true) : AdmDoc O S (.string lo hi pat) v := by
  intro j hj
  rw [docOk, strDoc_iff]
  cases v with
  | str s =>
    simp only [aString, Bool.and_eq_true_iff] at hc
    simp only [ser, sScalar] at hj
    cases hj
    refine ⟨s, rfl, hc.1.1, hc.1.2, ?_⟩
    cases pat with
    | none => rfl
    | some p => exact hS p s (by simpa [patOk] using hc.2)
  | _ => simp [aString] at hc

theorem adm_boolean (O S) (v : PyVal) (hc : cBoolean v = true) : AdmDoc O S .boolean v := by
  intro j hj
  rw [docOk]
  cases v with
  | bool b =>
    simp only [ser, sScalar] at hj
    cases hj
    rfl
  | _ => simp [cBoolean] at hc

theorem adm_enumLit (O S) (vs : List PyVal) (v : PyVal) (hr : jsonMem v vs = true) :
    AdmDoc O S (.enumLit vs) v := by
  intro j hj
  simp only [ser] at hj
  cases hj
  rw [docOk]; exact hr

theorem adm_enumCls (O S) (cls : String) (names : List String) (v : PyVal)
    (hc : cEnumCls cls names v = true) : AdmDoc O S (.enumCls cls names) v := by
  intro j hj
  rw [docOk]
  cases v with
  | enumv c n =>
    simp only [cEnumCls, Bool.and_eq_true_iff] at hc
    simp only [ser, sEnumCls] at hj
    cases hj
    exact jsonMem_str_map n names hc.2
  | _ => simp [cEnumCls] at hc

/-- the array shape: what `sSeq` writes is an array document, once the images are distinct where the schema says
    `uniqueItems` (part of the region) and the size and the items are right on the serialized elements -/
theorem adm_sSeq {g : List PyVal → R (List PyVal)} {v : PyVal} (xs : List PyVal) {j : PyVal}
    (hv : seqLike v = some xs) (hj : sSeq g v = .ok j) {uniq : Bool} {sz : SizeOpts} {items : List PyVal → Bool}
    (hu : (!uniq || distinctImages (g xs)) = true)
    (h : ∀ ys, g xs = .ok ys → sizeOk sz ys.length = true ∧ items ys = true) :
    arrDoc uniq sz items j = true := by
  rcases sSeq_eq_ok_iff.mp hj with ⟨rfl, _⟩ | ⟨_, ys, hs, hg, rfl⟩
  · cases hv
  · cases hv.symm.trans hs
    rw [hg] at hu
    exact (arrDoc_iff uniq sz items _).mpr ⟨ys, rfl, hu, h ys hg⟩

theorem adm_elems (O : Oracles) (S) (f : FieldDecl) (xs ys : List PyVal)
    (h : ∀ x ∈ xs, AdmDoc O S f x)
    (hys : mapE (ser O f) xs = .ok ys) : itemsDoc (some (elemDoc f (docOk S f))) ys = true :=
  mapE_all (ser O f) _ xs ys (fun x hx y hy => elemDoc_of f _ y (h x hx y hy)) hys

/-- positional items: element `i` through field `i`, the rest as it is; nothing is dropped when there are at least as
    many elements as fields -/
theorem adm_zip (O : Oracles) (S) : ∀ (fs : List FieldDecl) (xs ys : List PyVal),
    (∀ f ∈ fs, ∀ x, conforms O f x = true → regF O f x = true → AdmDoc O S f x) →
    conformsZip O fs xs = true → regZip O fs xs = true → serZip O fs xs = .ok ys →
    zipDoc (docOkLW S fs) ys = true ∧ (fs.length ≤ xs.length → ys.length = xs.length)
  | [], xs, ys, _, _, _, hys => ⟨rfl, fun _ => serAnyList_length xs ys (by simpa only [serZip] using hys)⟩
  | f :: fs, [], ys, _, _, _, hys => by
    simp only [serZip] at hys
    cases hys
    exact ⟨rfl, fun h => (nomatch h)⟩
  | f :: fs, x :: xs, ys, h, hc, hr, hys => by
    simp only [conformsZip, Bool.and_eq_true_iff] at hc
    simp only [regZip, Bool.and_eq_true_iff] at hr
    simp only [serZip] at hys
    rcases bindE_eq_ok hys with ⟨y, hy, h2⟩
    rcases bindE_eq_ok h2 with ⟨ys', hys', h3⟩
    cases h3
    obtain ⟨hz, hl⟩ := adm_zip O S fs xs ys' (fun g hg => h g (List.mem_cons_of_mem f hg)) hc.2 hr.2 hys'
    rw [docOkLW, zipDoc_cons_cons, Bool.and_eq_true_iff]
    exact ⟨⟨elemDoc_of f _ y (h f List.mem_cons_self x hc.1 hr.1 y hy), hz⟩,
      fun hle => congrArg (· + 1) (hl (Nat.le_of_succ_le_succ hle))⟩

/-- the object shape of a Map: the size bounds hold of the serialized object when they are absent or it has as many
    members as the map (part of the region) -/
theorem adm_sMap {g : List (PyVal × PyVal) → R (List (PyVal × PyVal))} {kvs : List (PyVal × PyVal)} {j : PyVal}
    (hj : sMap g (.dict kvs) = .ok j) {sz : SizeOpts} {member : PyVal × PyVal → Bool}
    (hsz : sizeOk sz kvs.length = true) (hs : sameCount sz kvs.length (sMap g (.dict kvs)) = true)
    (h : ∀ r, g kvs = .ok r → ∀ kv ∈ dictOfPairs r, member kv = true) : mapDoc sz member j = true := by
  rw [hj] at hs
  simp only [sMap] at hj
  rcases bindE_eq_ok hj with ⟨r, hr, h2⟩
  split at h2
  · cases h2
  · cases h2
    refine (mapDoc_iff sz member _).mpr ⟨_, rfl, ?_, h r hr⟩
    simp only [sameCount, Bool.or_eq_true, Bool.and_eq_true_iff, Option.isNone_iff_eq_none, beq_iff_eq] at hs
    rcases hs with ⟨h1, h2⟩ | h
    · rw [sizeOk, h1, h2]; rfl
    · rw [h]; exact hsz

theorem adm_struct (O : Oracles) (S) (c : ClassOpts) (fields : List (String × FieldDecl))
    (defaults : List (String × PyVal)) (v : PyVal)
    (hnd : nodupS (fields.map (·.1)) = true)
    (hfields : ∀ nf ∈ fields, ∀ x, conforms O nf.2 x = true → regF O nf.2 x = true → AdmDoc O S nf.2 x)
    (hr : regF O (.struct c fields defaults) v = true) : AdmDoc O S (.struct c fields defaults) v := by
  intro j hj
  cases v with
  | inst cn attrs =>
    simp only [regF, Bool.and_eq_true_iff] at hr
    obtain ⟨⟨⟨⟨hcn, hand⟩, hwf⟩, hreq⟩, hrf⟩ := hr
    simp only [wfAttrs, Bool.and_eq_true_iff] at hwf
    obtain ⟨⟨_, hfc⟩, haddl⟩ := hwf
    simp only [ser, sInst] at hj
    have hcn' : (cn == c.name || c.accepts.contains cn) = true := by simp [hcn]
    simp only [hcn', Bool.not_true, Bool.false_eq_true, if_false] at hj
    rcases bindE_eq_ok hj with ⟨r, hrr, h2⟩
    cases h2
    -- the document is the pointwise image of the attributes that are not None
    have p := mapE_eq_ok_iff.mp hrr
    have hent : ∀ y ∈ r, ∃ n w j, (n, w) ∈ attrs ∧ w.isNone = false ∧ serField O fields n w = .ok j
        ∧ y = (PyVal.str n, j) := by
      intro y hy
      obtain ⟨a, ha, hs⟩ := p.mem_right y hy
      obtain ⟨j, hj, he⟩ := bindE_eq_ok hs
      have ha := List.mem_filter.mp ha
      exact ⟨a.1, a.2, j, ha.1, by simpa using ha.2, hj, (Except.ok.inj he).symm⟩
    rw [docOk, objDoc_iff]
    refine ⟨r, rfl, (docOkP_iff S r fields).mpr ?_, ?_, ?_⟩
    · intro n f hmf x hx
      obtain ⟨n', w, j, hm, hnn, hs, he⟩ := hent _ (getKw_mem n x r hx)
      cases he
      have hw := lookup_of_mem_nodupS n w attrs hand hm
      rw [Typedpy.serField_eq_lookup, lookup_of_mem_nodupS n f fields hnd hmf] at hs
      exact hfields (n, f) hmf w ((fieldsConform_iff O attrs fields).mp hfc n f hmf w hw)
        (regFields_mem O attrs n f w fields hrf hmf hw hnn) x hs
    · intro n hn
      have hp : attrPresent attrs n = true := List.all_eq_true.mp hreq n hn
      unfold attrPresent at hp
      cases hl : lookup n attrs with
      | none => simp [hl] at hp
      | some w =>
        simp only [hl] at hp
        obtain ⟨y, hy, hs⟩ := p.mem_left (n, w) (List.mem_filter.mpr ⟨lookup_mem hl, hp⟩)
        obtain ⟨j, _, he⟩ := bindE_eq_ok hs
        cases he
        exact getKw_isSome_of_mem n j r hy
    · cases ha : c.addl with
      | true => left; rfl
      | false =>
        right
        intro kv hkv
        obtain ⟨n, w, j, hm, _, _, rfl⟩ := hent kv hkv
        simp only [ha, Bool.false_or] at haddl
        exact ⟨n, rfl, List.all_eq_true.mp haddl (n, w) hm⟩
  | _ => simp [regF] at hr

theorem sScalar_ok (v j : PyVal) (h : sScalar v = .ok j) : j = v := by
  unfold sScalar at h
  split at h
  · cases h
  · cases h; rfl

theorem ser_plain (O : Oracles) (f : FieldDecl) (v j : PyVal) (hp : plainScalar f = true)
    (h : ser O f v = .ok j) : j = v := by
  cases f with
  | number _ | integer _ | float _ | string _ _ _ | boolean => exact sScalar_ok v j h
  | enumLit _ => cases h; rfl
  | _ => exact Bool.noConfusion hp

theorem serFirst_mem (O : Oracles) : ∀ (fs : List FieldDecl) (v j : PyVal), serFirst O fs v = .ok j →
    ∃ f ∈ fs, shallowOk O f v = true ∧ ser O f v = .ok j
  | [], v, j, h => by simp [serFirst] at h
  | f :: fs, v, j, h => by
    have ih : serFirst O fs v = .ok j → ∃ g ∈ f :: fs, shallowOk O g v = true ∧ ser O g v = .ok j :=
      fun h' => (serFirst_mem O fs v j h').imp fun g hg => ⟨List.mem_cons_of_mem f hg.1, hg.2⟩
    simp only [serFirst] at h
    split at h
    · rename_i hs
      split at h
      · rename_i j' hj'
        cases h
        exact ⟨f, List.mem_cons_self, hs, hj'⟩
      · split at h
        · cases h
        · exact ih h
      · exact ih h
    · exact ih h

theorem ser_plain_ok (O : Oracles) (f : FieldDecl) (v : PyVal) (hp : plainScalar f = true)
    (hnd : ∀ q, v ≠ .dec q) : ser O f v = .ok v := by
  cases f with
  | number _ | integer _ | float _ | string _ _ _ | boolean =>
    show sScalar v = .ok v
    cases v <;> first | rfl | exact absurd rfl (hnd _)
  | enumLit _ => rfl
  | _ => exact Bool.noConfusion hp

theorem ser_plain_conf (O : Oracles) (f : FieldDecl) (v : PyVal) (hp : plainScalar f = true)
    (hc : conforms O f v = true) (hr : regF O f v = true) : ser O f v = .ok v := by
  cases f with
  | number o =>
    have h1 : jsNumVal v = true := (Bool.and_eq_true_iff.mp hr).1
    cases v <;> first | exact Bool.noConfusion h1 | rfl
  | integer o => cases v <;> first | exact Bool.noConfusion hc | exact Bool.noConfusion hr | rfl
  | float o | string _ _ _ | boolean => cases v <;> first | exact Bool.noConfusion hc | rfl
  | enumLit _ => rfl
  | _ => exact Bool.noConfusion hp

theorem conformsAny_mem (O : Oracles) (v : PyVal) : ∀ fs : List FieldDecl, conformsAny O fs v = true →
    ∃ f ∈ fs, conforms O f v = true
  | [], h => by simp [conformsAny] at h
  | f :: fs, h => by
    simp only [conformsAny, Bool.or_eq_true] at h
    rcases h with h | h
    · exact ⟨f, by simp, h⟩
    · obtain ⟨g, hg, hc⟩ := conformsAny_mem O v fs h
      exact ⟨g, by simp [hg], hc⟩

theorem regAll_mem (O : Oracles) (v : PyVal) (fs : List FieldDecl) (f : FieldDecl) (hr : regAll O fs v = true)
    (h : f ∈ fs) (hc : conforms O f v = true) : regF O f v = true := by
  have := (allB_iff (F := fun fs => regAll O fs v) (p := fun f => !conforms O f v || regF O f v)
    (by simp only [regAll]) (fun _ _ => by simp only [regAll]) fs).mp hr f h
  simpa only [hc, Bool.not_true, Bool.false_or] using this

theorem fragL_mem (fs : List FieldDecl) (h : fragL fs = true) : ∀ f ∈ fs, fragF f = true :=
  (allB_iff (by rw [fragL]) (fun _ _ => by rw [fragL]) fs).mp h

theorem fragP_mem (ps : List (String × FieldDecl)) (h : fragP ps = true) : ∀ nf ∈ ps, fragF nf.2 = true :=
  (allB_iff (p := fun nf : String × FieldDecl => fragF nf.2) (by rw [fragP]) (fun (_, _) _ => by rw [fragP]) ps).mp h

/-- options that are plain scalars serialize a value to itself: the value is the document, and a document of every
    option it conforms to -/
theorem adm_plain (O : Oracles) (S) (fs : List FieldDecl) (v j : PyVal)
    (hplain : fs.all plainScalar = true) (hfl : fragL fs = true) (hr : regAll O fs v = true)
    (ih : ∀ f ∈ fs, fragF f = true → ∀ v, conforms O f v = true → regF O f v = true → AdmDoc O S f v)
    (hj : serFirst O fs v = .ok j) : j = v ∧ ∀ f ∈ fs, conforms O f v = true → docOk S f v = true := by
  obtain ⟨g, hg, _, hjg⟩ := serFirst_mem O fs v j hj
  refine ⟨ser_plain O g v j (List.all_eq_true.mp hplain g hg) hjg, fun f hfm hcf => ?_⟩
  have hrf := regAll_mem O v fs f hr hfm hcf
  exact ih f hfm (fragL_mem fs hfl f hfm) v hcf hrf v
    (ser_plain_conf O f v (List.all_eq_true.mp hplain f hfm) hcf hrf)

theorem rawScalar_plain (f : FieldDecl) (h : rawScalar f = true) : plainScalar f = true := by
  cases f <;> first | exact Bool.noConfusion h | rfl

theorem admits_eq_conforms_raw (O : Oracles) (f : FieldDecl) (v : PyVal) (h : rawScalar f = true) :
    admits O f v = conforms O f v := by
  cases f <;> first | exact Bool.noConfusion h | rfl

theorem admitsAll_mem (O : Oracles) (v : PyVal) (fs : List FieldDecl) (h : admitsAll O fs v = true) :
    ∀ f ∈ fs, admits O f v = true :=
  (allB_iff (F := fun fs => admitsAll O fs v) (admitsAll_nil O v) (fun f fs => admitsAll_cons O f fs v) fs).mp h

theorem c08_jkind_raw (f : FieldDecl) (h : (jkind f).isSome = true) : rawScalar f = true := by
  cases f <;> first | exact Bool.noConfusion h | rfl

theorem docOk_vkind (S) (f : FieldDecl) (v : PyVal) (h : docOk S f v = true) (hk : (jkind f).isSome = true) :
    vkind v = jkind f := by
  cases f with
  | number o | integer o | string lo hi pat => cases v <;> first | rfl | exact Bool.noConfusion h
  | _ => exact Bool.noConfusion hk

theorem c08_nodupK_inj : ∀ (fs : List FieldDecl), nodupK (fs.map jkind) = true →
    ∀ f g, f ∈ fs → g ∈ fs → jkind f = jkind g → f = g
  | [], _, _, _, h, _, _ => by simp at h
  | h :: t, hnd, f, g, hf, hg, hk => by
    simp only [List.map_cons, nodupK, Bool.and_eq_true_iff] at hnd
    rcases List.mem_cons.mp hf with rfl | hf' <;> rcases List.mem_cons.mp hg with rfl | hg'
    · rfl
    · have : (t.map jkind).contains (jkind g) = true := List.elem_eq_true_of_mem (List.mem_map_of_mem hg')
      rw [← hk] at this
      rw [this] at hnd
      simp at hnd
    · have : (t.map jkind).contains (jkind f) = true := List.elem_eq_true_of_mem (List.mem_map_of_mem hf')
      rw [hk] at this
      rw [this] at hnd
      simp at hnd
    · exact c08_nodupK_inj t hnd.2 f g hf' hg' hk

/-- with pairwise different JSON types, every option judges a document that one option `g` admits exactly as
    `conforms` does: two options that admit it both have its JSON type, so they are one option -/
theorem c08_oneOf_pointwise (O : Oracles) (S) (v : PyVal) (fs : List FieldDecl)
    (hk : fs.all (fun f => (jkind f).isSome) = true) (hnd : nodupK (fs.map jkind) = true)
    (g : FieldDecl) (hg : g ∈ fs) (hgc : conforms O g v = true)
    (hadm : ∀ f ∈ fs, conforms O f v = true → docOk S f v = true) :
    ∀ f ∈ fs, docOk S f v = conforms O f v := by
  intro f hf
  cases hc : conforms O f v with
  | true => exact hadm f hf hc
  | false =>
    cases hd : docOk S f v with
    | false => rfl
    | true =>
      have hfg : f = g := c08_nodupK_inj fs hnd f g hf hg
        ((docOk_vkind S f v hd (List.all_eq_true.mp hk f hf)).symm.trans
          (docOk_vkind S g v (hadm g hg hgc) (List.all_eq_true.mp hk g hg)))
      rw [hfg, hgc] at hc
      cases hc

theorem c08_count_eq (O : Oracles) (S) (v : PyVal) : ∀ fs : List FieldDecl,
    fs.all (fun f => (jkind f).isSome) = true →
    (∀ f ∈ fs, docOk S f v = conforms O f v) →
    (docOkL S fs v).countP id = countAdmits O fs v
  | [], _, _ => rfl
  | f :: fs, hk, h => by
    simp only [List.all_cons, Bool.and_eq_true_iff] at hk
    rw [docOkL, List.countP_cons, countAdmits, h f List.mem_cons_self,
      admits_eq_conforms_raw O f v (c08_jkind_raw f hk.1),
      c08_count_eq O S v fs hk.2 (fun g hg => h g (List.mem_cons_of_mem f hg)), Nat.add_comm]
    rfl

theorem c08_countAdmits_pos (O : Oracles) (v : PyVal) : ∀ fs : List FieldDecl, 0 < countAdmits O fs v →
    ∃ g ∈ fs, admits O g v = true
  | [], h => by simp [countAdmits] at h
  | f :: fs, h => by
    simp only [countAdmits] at h
    cases ha : admits O f v with
    | true => exact ⟨f, by simp, ha⟩
    | false =>
      simp only [ha, Bool.false_eq_true, if_false, Nat.zero_add] at h
      obtain ⟨g, hg, hga⟩ := c08_countAdmits_pos O v fs h
      exact ⟨g, by simp [hg], hga⟩

/-- the admits half on documents: no definitions table, no fuel -/
theorem admits_doc (O : Oracles) (S : String → String → Bool)
    (hS : ∀ p s, O.reMatch p s = true → S p s = true) :
    ∀ f : FieldDecl, fragF f = true → ∀ v, conforms O f v = true → regF O f v = true → AdmDoc O S f v := by
  intro f
  induction f using FieldDecl.induction with
  | number o =>
    intro _ v hc hr
    simp only [regF, Bool.and_eq_true_iff] at hr
    exact adm_number O S o v hc hr.1 (by simpa using hr.2)
  | integer o => exact fun _ v hc hr => adm_integer O S o v hc hr
  | float o => exact fun _ v hc hr => adm_float O S o v hc (by simpa [regF] using hr)
  | string lo hi pat => exact fun _ v hc _ => adm_string O S hS lo hi pat v hc
  | boolean => exact fun _ v hc _ => adm_boolean O S v hc
  | enumLit vs => exact fun _ v _ hr => adm_enumLit O S vs v hr
  | enumCls cls names => exact fun _ v hc _ => adm_enumCls O S cls names v hc
  | seqAny k sz =>
    intro hf v hc hr j hj
    obtain rfl : k = .list := by simpa [fragF] using hf
    obtain ⟨xs, rfl, _, hsz, _⟩ := cSeq_iff.mp hc
    rw [docOk]
    exact adm_sSeq xs rfl hj hr fun ys hys => ⟨serAnyList_length xs ys hys ▸ hsz, rfl⟩
  | seqOf k f sz ih =>
    intro hf v hc hr j hj
    simp only [fragF, Bool.and_eq_true_iff] at hf
    obtain rfl : k = .list := by simpa using hf.1
    obtain ⟨xs, rfl, _, hsz, hcx⟩ := conforms_seqOf_iff.mp hc
    simp only [mkSeq, regF, seqLike, Bool.and_eq_true_iff] at hr
    rw [docOk]
    exact adm_sSeq xs rfl hj hr.2 fun ys hys => ⟨mapE_length _ xs ys hys ▸ hsz,
      adm_elems O S f xs ys (fun x hx => ih hf.2 x (hcx x hx) (List.all_eq_true.mp hr.1 x hx)) hys⟩
  | seqPos k fs addl sz ih =>
    intro hf v hc hr j hj
    simp only [fragF, Bool.and_eq_true_iff] at hf
    obtain rfl : k = .list := by simpa using hf.1.1
    obtain ⟨xs, rfl, _, hsz, ⟨hlen1, hlen2⟩, hcz⟩ := conforms_seqPos_iff.mp hc
    simp only [mkSeq, regF, seqLike, Bool.and_eq_true_iff] at hr
    rw [docOk]
    refine adm_sSeq xs rfl hj hr.2 fun ys hys => ?_
    obtain ⟨hz, hlen⟩ := adm_zip O S fs xs ys (fun f hfm => ih f hfm (fragL_mem fs hf.2 f hfm)) hcz hr.1 hys
    have hlen := hlen hlen1
    refine ⟨hlen ▸ hsz, Bool.and_eq_true_iff.mpr ⟨hz, ?_⟩⟩
    rcases hlen2 with rfl | h
    · rfl
    · simp only [Bool.or_eq_true, decide_eq_true_eq]; exact Or.inr (hlen ▸ h)
  | setAny imm sz =>
    intro _ v hc hr j hj
    obtain ⟨fr, xs, rfl, _, hsz, _⟩ := cSet_iff.mp hc
    rw [docOk]
    exact adm_sSeq xs rfl hj hr fun ys hys => ⟨serAnyList_length xs ys hys ▸ hsz, rfl⟩
  | setOf imm f sz ih =>
    intro hf v hc hr j hj
    simp only [fragF] at hf
    obtain ⟨fr, xs, rfl, _, hsz, hcx⟩ := conforms_setOf_iff.mp hc
    simp only [regF, Bool.and_eq_true_iff] at hr
    rw [docOk]
    exact adm_sSeq xs rfl hj hr.2 fun ys hys => ⟨mapE_length _ xs ys hys ▸ hsz,
      adm_elems O S f xs ys (fun x hx => ih hf x (hcx x hx) (List.all_eq_true.mp hr.1 x hx)) hys⟩
  | tupleOf f u ih =>
    intro hf v hc hr j hj
    simp only [fragF] at hf
    obtain ⟨xs, rfl, _, hcx⟩ := conforms_tupleOf_iff.mp hc
    simp only [regF, Bool.and_eq_true_iff] at hr
    rw [docOk]
    exact adm_sSeq xs rfl hj hr.2 fun ys hys => ⟨rfl,
      adm_elems O S f xs ys (fun x hx => ih hf x (hcx x hx) (List.all_eq_true.mp hr.1 x hx)) hys⟩
  | tuplePos fs u ih =>
    intro hf v hc hr j hj
    simp only [fragF, Bool.and_eq_true_iff] at hf
    obtain ⟨xs, rfl, _, hlen0, hcz⟩ := conforms_tuplePos_iff.mp hc
    simp only [regF, Bool.and_eq_true_iff] at hr
    rw [docOk]
    refine adm_sSeq xs rfl hj hr.2 fun ys hys => ?_
    obtain ⟨hz, hlen⟩ := adm_zip O S fs xs ys (fun f hfm => ih f hfm (fragL_mem fs hf.2 f hfm)) hcz hr.1 hys
    exact ⟨rfl, Bool.and_eq_true_iff.mpr ⟨hz, decide_eq_true (hlen0 ▸ Nat.le_of_eq (hlen (Nat.le_of_eq hlen0)))⟩⟩
  | mapAny sz =>
    intro _ v hc hr j hj
    obtain ⟨kvs, rfl, hsz, _⟩ := cMap_iff.mp hc
    rw [docOk]
    exact adm_sMap hj hsz hr fun _ _ _ _ => rfl
  | mapOf k vf sz _ ih =>
    intro hf v hc hr j hj
    simp only [fragF, Bool.and_eq_true_iff] at hf
    obtain ⟨kvs, rfl, hsz, hckv⟩ := conforms_mapOf_iff.mp hc
    simp only [regF, Bool.and_eq_true_iff] at hr
    rw [docOk]
    refine adm_sMap hj hsz hr.2 fun r hr' kv hkv => mapMember_of S k _ kv ?_
    refine List.all_eq_true.mp (dictOfPairs_all (fun kv => elemDoc vf (docOk S vf) kv.2) (fun _ => true) _
      (fun _ => (Bool.true_and _).symm) r (mapE_all _ _ kvs r ?_ hr')) kv hkv
    intro kv hkv y hy
    rcases bindE_eq_ok hy with ⟨k', _, h2⟩
    rcases bindE_eq_ok h2 with ⟨v', hv', h3⟩
    cases h3
    exact elemDoc_of vf _ v' (ih hf.2 kv.2 (hckv kv hkv).2 (List.all_eq_true.mp hr.1 kv hkv) v' hv')
  | struct c fields defaults ih =>
    intro hf v _ hr
    simp only [fragF, Bool.and_eq_true_iff] at hf
    exact adm_struct O S c fields defaults v hf.1 (fun nf hm => ih nf hm (fragP_mem fields hf.2 nf hm)) hr
  | anyOf fs ih =>
    intro hf v hc hr j hj
    simp only [conforms] at hc
    simp only [ser] at hj
    cases hos : optShape fs with
    | true =>
      obtain ⟨f, rfl, hnf⟩ := optShape_inv fs hos
      simp only [fragF, hos, if_true, fragOpt, hnf, Bool.false_or, Bool.and_eq_true_iff] at hf
      simp only [regF, hos, if_true, regOpt, hnf, Bool.false_or, Bool.and_eq_true_iff] at hr
      have hnn : v.isNone = false := by simpa using hr.1
      rw [docOk_optional]
      have hcf : conforms O f v = true := by
        simp only [conformsAny, conforms, hnn, Bool.or_false] at hc
        simpa using hc
      -- the `NoneField` option refuses a value that is not None, so `f` serialized it
      obtain ⟨g, hg, hsh, hjg⟩ := serFirst_mem O _ v j hj
      rcases List.mem_cons.mp hg with rfl | hg'
      · exact ih g List.mem_cons_self hf.1 v hcf hr.2.1 _ hjg
      · obtain rfl : g = .noneF := by simpa using hg'
        simp [shallowOk, hnn] at hsh
    | false =>
      simp only [fragF, hos, Bool.false_eq_true, if_false, Bool.and_eq_true_iff] at hf
      simp only [regF, hos, Bool.false_eq_true, if_false] at hr
      obtain ⟨rfl, hdoc⟩ := adm_plain O S fs v j hf.1.2 hf.2 hr ih hj
      obtain ⟨f, hfm, hcf⟩ := conformsAny_mem O j fs hc
      rw [docOk, anyOfDoc_plain fs _ hf.1.2, docOkL_eq_map, List.any_map, List.any_eq_true]
      exact ⟨f, hfm, hdoc f hfm hcf⟩
  | oneOf fs ih =>
    intro hf v hc hr j hj
    simp only [fragF, typeDisjoint, Bool.and_eq_true_iff] at hf
    obtain ⟨⟨_, hkAll, hnd⟩, hfl⟩ := hf
    simp only [conforms] at hc
    simp only [regF] at hr
    simp only [ser] at hj
    have hplain : fs.all plainScalar = true := by
      rw [List.all_eq_true] at hkAll ⊢
      intro f hfm
      exact rawScalar_plain f (c08_jkind_raw f (hkAll f hfm))
    obtain ⟨rfl, hdoc⟩ := adm_plain O S fs v j hplain hfl hr ih hj
    have hcnt : countAdmits O fs j = 1 := by simpa using hc
    obtain ⟨g, hg, hga⟩ := c08_countAdmits_pos O j fs (by omega)
    have hgc : conforms O g j = true := by
      rw [← admits_eq_conforms_raw O g j (c08_jkind_raw g (List.all_eq_true.mp hkAll g hg))]; exact hga
    rw [docOk, c08_count_eq O S j fs hkAll (c08_oneOf_pointwise O S j fs hkAll hnd g hg hgc hdoc), hcnt]
    rfl
  | allOf fs ih =>
    intro hf v hc hr j hj
    simp only [fragF, Bool.and_eq_true_iff] at hf
    simp only [conforms] at hc
    simp only [regF] at hr
    simp only [ser] at hj
    have hraw := List.all_eq_true.mp hf.1.2
    have hplain : fs.all plainScalar = true :=
      List.all_eq_true.mpr fun f hfm => rawScalar_plain f (hraw f hfm)
    obtain ⟨rfl, hdoc⟩ := adm_plain O S fs v j hplain hf.2 hr ih hj
    rw [docOk, docOkL_eq_map, List.all_map, List.all_eq_true]
    intro f hfm
    refine hdoc f hfm ?_
    rw [← admits_eq_conforms_raw O f j (hraw f hfm)]
    exact admitsAll_mem O j fs hc f hfm
  | notF fs _ => intro hf; exact Bool.noConfusion hf
  | noneF => intro hf; exact Bool.noConfusion hf
  | anything => intro hf; exact Bool.noConfusion hf

def Adm (O : Oracles) (R : String → PyVal → Bool) (S : String → String → Bool) (f : FieldDecl)
    (v : PyVal) : Prop :=
  ∀ j, ser O f v = .ok j → jsV R S (emit true f) j = true

/-- the field level with the definitions table: through the bridge -/
theorem admits_field (O : Oracles) (S : String → String → Bool)
    (hS : ∀ p s, O.reMatch p s = true → S p s = true) (D : Defs) (f : FieldDecl) (n : Nat) (v : PyVal)
    (hf : fragF f = true) (hrf : RefsFaithful D f) (hd : refDepth f ≤ n)
    (hc : conforms O f v = true) (hr : regF O f v = true) : Adm O (resolver D S n) S f v :=
  fun j hj => (jsV_emit S D f n j hrf hd).trans (admits_doc O S hS f hf v hc hr j hj)

theorem admits_zip (O : Oracles) (S : String → String → Bool)
    (hS : ∀ p s, O.reMatch p s = true → S p s = true) (D : Defs) :
    ∀ (fs : List FieldDecl) (n : Nat) (xs : List PyVal), fragL fs = true → RefsFaithfulL D fs →
      refDepthL fs ≤ n → conformsZip O fs xs = true → regZip O fs xs = true →
      ∀ ys, serZip O fs xs = .ok ys → jsZip (resolver D S n) S (emitL true fs) ys = true
  | [], _, _, _, _, _, _, _, _, _ => by simp [emitL, jsZip]
  | f :: fs, n, [], _, _, _, _, _, ys, hys => by
    simp only [serZip] at hys
    cases hys
    simp [emitL, jsZip]
  | f :: fs, n, x :: xs, hf, hrf, hd, hc, hr, ys, hys => by
    simp only [fragL, Bool.and_eq_true_iff] at hf
    simp only [RefsFaithfulL] at hrf
    simp only [refDepthL] at hd
    simp only [conformsZip, Bool.and_eq_true_iff] at hc
    simp only [regZip, Bool.and_eq_true_iff] at hr
    simp only [serZip] at hys
    rcases bindE_eq_ok hys with ⟨y, hy, h2⟩
    rcases bindE_eq_ok h2 with ⟨ys', hys', h3⟩
    cases h3
    simp only [emitL, jsZip, Bool.and_eq_true_iff]
    exact ⟨admits_field O S hS D f n x hf.1 hrf.1 (by omega) hc.1 hr.1 y hy,
      admits_zip O S hS D fs n xs hf.2 hrf.2 (by omega) hc.2 hr.2 ys' hys'⟩

theorem refs_mem (D : Defs) (n : Nat) : ∀ fs : List FieldDecl, RefsFaithfulL D fs → refDepthL fs ≤ n →
    ∀ f ∈ fs, RefsFaithful D f ∧ refDepth f ≤ n
  | [], _, _, _, hm => nomatch hm
  | g :: fs, hrf, hd, f, hm => by
    simp only [RefsFaithfulL] at hrf
    simp only [refDepthL, Nat.max_le] at hd
    rcases List.mem_cons.mp hm with rfl | hm'
    · exact ⟨hrf.1, hd.1⟩
    · exact refs_mem D n fs hrf.2 hd.2 f hm'

theorem admits_mem (O : Oracles) (S : String → String → Bool)
    (hS : ∀ p s, O.reMatch p s = true → S p s = true) (D : Defs) :
    ∀ (fs : List FieldDecl) (n : Nat), fragL fs = true → RefsFaithfulL D fs → refDepthL fs ≤ n →
      ∀ f ∈ fs, ∀ v, conforms O f v = true → regF O f v = true → Adm O (resolver D S n) S f v :=
  fun fs n hf hrf hd f hm v =>
    have h := refs_mem D n fs hrf hd f hm
    admits_field O S hS D f n v (fragL_mem fs hf f hm) h.1 h.2

theorem admits_opt (O : Oracles) (S : String → String → Bool)
    (hS : ∀ p s, O.reMatch p s = true → S p s = true) (D : Defs) :
    ∀ (fs : List FieldDecl) (n : Nat), fragOpt fs = true → RefsFaithfulL D fs → refDepthL fs ≤ n →
      ∀ f ∈ fs, isNoneF f = false → ∀ v, conforms O f v = true → regF O f v = true →
        Adm O (resolver D S n) S f v := by
  intro fs n hf hrf hd f hm hnf v
  have h := refs_mem D n fs hrf hd f hm
  have hff := (allB_iff (p := fun f => isNoneF f || fragF f) (by rw [fragOpt]) (fun _ _ => by rw [fragOpt]) fs).mp hf f hm
  rw [hnf] at hff
  exact admits_field O S hS D f n v hff h.1 h.2

theorem admits_class (O : Oracles) (S : String → String → Bool)
    (hS : ∀ p s, O.reMatch p s = true → S p s = true) (D : Defs) (cls : FieldDecl) (x j : PyVal) (n : Nat)
    (hfrag : inSchemaFragment cls = true) (hrefs : ClassRefsFaithful D cls) (hd : refDepth cls ≤ n)
    (hreg : inAdmitRegion O cls x = true) (hser : serialize O cls x = .ok j) :
    jsV (resolver D S n) S (classSchema true cls) j = true := by
  cases cls with
  | struct c fields defaults =>
    simp only [inSchemaFragment, fragF, Bool.and_eq_true_iff] at hfrag
    obtain ⟨⟨hni, hncol⟩, ⟨hnd, hfp⟩⟩ := hfrag
    have hin : c.inline = false := by simpa using hni
    simp only [refDepth, hin, Bool.false_eq_true, if_false] at hd
    rw [jsV_classSchema S D c fields defaults n j (by simpa using hncol) hrefs (by omega)]
    exact adm_struct O S c fields defaults x hnd
      (fun nf hm => admits_doc O S hS nf.2 (fragP_mem fields hfp nf hm)) hreg j hser
  | _ => simp [inSchemaFragment] at hfrag

end Typedpy.Sch
