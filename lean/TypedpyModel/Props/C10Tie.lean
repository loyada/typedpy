/-
  (T) tie of the C10 model to the current typedpy working tree: the isinstance
  answers `extract/trusted.py` reads off the code before every build (`Generated.Trusted.rows`: the
  whitelist `_valid_classes_for_trusted_deserialization`, SerializableField / Array / Set / ClassReference / AnyOf membership, and the two
  tests of fast serialization) agree, for a sample field of every kind, with the predicates
  Sem/Trusted.lean and Sem/Fast.lean are written with.  Adding a class to a whitelist or changing
  the field class hierarchy makes `whitelist_rows_ok` fail.  Own module because `Generated/` is not
  committed (`Pinned/Trusted.lean` is the committed copy the model was aligned with).
-/
import TypedpyModel.Generated.Trusted
import TypedpyModel.Pinned.Trusted
import TypedpyModel.Sem.Fast
namespace Typedpy.C10
open Typedpy

def sampleClass : FieldDecl := .struct { name := "Foo", required := [], accepts := ["Foo"] } [("a", .integer {})] []

/-- the model declaration of the sample field `extract/trusted.py` builds for a kind tag -/
def sampleDecl : String → Option FieldDecl
  | "integer" => some (.integer {})
  | "number" => some (.number {})
  | "float" => some (.float {})
  | "string" => some (.string none none none)
  | "boolean" => some .boolean
  | "noneF" => some .noneF
  | "enumLit" => some (.enumLit [.str "a", .int 1])
  | "enumCls" => some (.enumCls "Color" ["RED", "BLUE"])
  | "seqAny" => some (.seqAny .list {})
  | "seqOf" => some (.seqOf .list (.integer {}) {})
  | "seqPos" => some (.seqPos .list [.integer {}, .string none none none] true {})
  | "dequeAny" => some (.seqAny .deque {})
  | "dequeOf" => some (.seqOf .deque (.integer {}) {})
  | "setAny" => some (.setAny false {})
  | "setOf" => some (.setOf false (.integer {}) {})
  | "immSetOf" => some (.setOf true (.integer {}) {})
  | "tupleOf" => some (.tupleOf (.integer {}) false)
  | "tuplePos" => some (.tuplePos [.integer {}, .string none none none] false)
  | "mapAny" => some (.mapAny {})
  | "mapOf" => some (.mapOf (.string none none none) (.integer {}) {})
  | "classRef" => some sampleClass
  | "inline" => some (.struct { name := "Inl", required := [], inline := true } [("a", .integer {})] [])
  | "anyOf" => some (.anyOf [.integer {}, .string none none none])
  | "oneOf" => some (.oneOf [.integer {}, .string none none none])
  | "allOf" => some (.allOf [.integer {}, .number {}])
  | "notF" => some (.notF [.string none none none])
  | "anything" => some .anything
  | "immArrayOf" => some (.seqOf .list (.integer {}) {})
  | "posInt" => some (.integer { sign := .pos })
  | "posFloat" => some (.float { sign := .pos })
  | "positive" => some (.number { sign := .pos })
  | _ => none

/-- `isinstance(f, Array)` as `effOf` / `tVal` dispatch on it (an Array with or without typed items; not a Deque) -/
def isArrayD : FieldDecl → Bool
  | .seqAny .list _ | .seqOf .list _ _ | .seqPos .list _ _ _ => true
  | _ => false
def isSetD : FieldDecl → Bool
  | .setAny _ _ | .setOf _ _ _ => true
  | _ => false
def isAnyOfK : FieldDecl → Bool
  | .anyOf _ => true
  | _ => false

def arrOf (f : FieldDecl) : FieldDecl := .seqOf .list f {}

def rowAgrees (r : Generated.Trusted.Row) : Bool :=
  match sampleDecl r.kind with
  | none => false
  | some f =>
    r.valid == isValidCls f && r.serializable == isEnumDecl f
    && r.array == isArrayD f && r.set == isSetD f && r.classRef == isClassRef f && r.anyOf == isAnyOfK f
    && r.nsb == isNSB f && r.numOrStr == isNumOrStr f
    -- and the classifier's loop body acts on the membership answers as the code does:
    -- valid & serializable → nested, valid → keep, Array/Set of a valid item → keep / nested
    && (if r.valid then effOf noMappers true f == (if r.serializable then .nested else .keep) else true)
    && (if r.valid then effOf noMappers true (arrOf f) == (if r.serializable then .nested else .keep) else true)
    && (if r.valid then effOf noMappers true (.setOf false f {}) == .nested else true)
    -- an optional field is classified through its non-None option, in either order
    && (if r.valid then effOf noMappers true (.anyOf [f, .noneF]) == .nested
                        && effOf noMappers true (.anyOf [.noneF, f]) == .nested
        else effOf noMappers true (.anyOf [f, .noneF]) == optEff (effOf noMappers false f)
             && effOf noMappers true (.anyOf [.noneF, f]) == optEff (effOf noMappers false f))

/-- every row the translator produced from today's source agrees with the model's predicates -/
theorem whitelist_rows_ok : Generated.Trusted.rows.all rowAgrees = true := by decide +kernel

/-- the translator saw every kind of the model's vocabulary -/
theorem whitelist_rows_complete :
    (["integer", "number", "float", "string", "boolean", "noneF", "enumLit", "enumCls", "seqAny", "seqOf",
      "seqPos", "dequeAny", "dequeOf", "setAny", "setOf", "immSetOf", "tupleOf", "tuplePos", "mapAny", "mapOf",
      "classRef", "inline", "anyOf", "oneOf", "allOf", "notF", "anything"].all
        fun k => Generated.Trusted.rows.any fun r => r.kind == k) = true := by decide +kernel

/-- the whitelists themselves are the ones the model was written against -/
theorem whitelist_pinned :
    Generated.Trusted.whitelist = Pinned.Trusted.whitelist
    ∧ Generated.Trusted.setWhitelist = Pinned.Trusted.setWhitelist
    ∧ Generated.Trusted.setWhitelist = [] := ⟨rfl, rfl, rfl⟩

def vStr : Verdict → String
  | .raises => "raises" | .no => "no" | .lvl .flat => "flat" | .lvl .nested => "nested"

/-- the one-field class `extract/trusted.py` declares around a sample field -/
def oneField (f : FieldDecl) : FieldDecl := .struct { name := "S", required := [], accepts := ["S"] } [("f", f)] []

/-- "undef" = typedpy refuses the class declaration (e.g. a Set of unhashable items): no claim -/
def verdictAgrees (real : String) (f : FieldDecl) : Bool :=
  real == "undef" || vStr (verdictOf noMappers (oneField f)) == real

/-- the sample class `Foo` of a ClassReference row is not FastSerializable -/
def createdAgrees (real : String) (f : FieldDecl) : Bool :=
  real == "undef" || (if createOk noMappers ["Foo"] (oneField f) then "yes" else "no") == real

def rowBehaves (r : Generated.Trusted.Row) : Bool :=
  match sampleDecl r.kind with
  | none => false
  | some f =>
    verdictAgrees r.verdict f && verdictAgrees r.verdictArr (arrOf f)
    && verdictAgrees r.verdictSet (.setOf false f {})
    && verdictAgrees r.verdictOpt (.anyOf [f, .noneF]) && verdictAgrees r.verdictOptRev (.anyOf [.noneF, f])
    && createdAgrees r.created f

/-- the model's classifier `verdictOf` and `createOk` return, for every sample field bare, inside
    Array / Set / Optional (both orders), what `_structure_simplicity_level` / `create_serializer`
    of TODAY's source return: a branch added to, removed from or changed in the classifier changes
    a row and breaks this obligation -/
theorem classifier_rows_ok : Generated.Trusted.rows.all rowBehaves = true := by decide +kernel

/-- the rows are not all "undef": every sample has a real bare verdict and a creation verdict -/
theorem classifier_rows_defined :
    (Generated.Trusted.rows.all fun r => r.verdict != "undef" && r.created != "undef" && r.verdictOpt != "undef") = true := by
  decide +kernel

/-- the classes the `isinstance` tests of the seven functions of the shortcut paths mention are the
    ones the model was written against (a branch on a new class breaks this obligation) -/
theorem classifier_branches_pinned :
    Generated.Trusted.isinstanceClasses = Pinned.Trusted.isinstanceClasses := rfl

end Typedpy.C10
