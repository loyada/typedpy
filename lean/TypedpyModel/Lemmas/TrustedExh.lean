/-
  C10: the partition of the trusted-deserialization claim is exhaustive.  A field shape is inside the
  proved region `tsafeD` or carries a named defect / "unproved" / "ineligible-shape" tag of `defectsD`
  (so no class can be outside the region without a name); likewise a document is inside `plainV` or
  `issuesV` names what it misses.
-/
import TypedpyModel.Lemmas.Trusted
namespace Typedpy

/-- The region predicates are conjunctions and the defect lists concatenations over the same parts:
    if every part is inside its region or names a defect, so is the whole. -/
theorem and_or_append_ne_nil {α} {b c : Bool} {l m : List α} (h₁ : b = true ∨ l ≠ []) (h₂ : c = true ∨ m ≠ []) :
    (b && c) = true ∨ l ++ m ≠ [] := by
  rcases h₁ with h₁ | h₁
  · rcases h₂ with h₂ | h₂
    · exact Or.inl (by rw [h₁, h₂]; rfl)
    · exact Or.inr (List.append_ne_nil_of_right_ne_nil _ h₂)
  · exact Or.inr (List.append_ne_nil_of_left_ne_nil h₁ _)

theorem true_or_ite_ne_nil {α} (b : Bool) (a : α) : b = true ∨ (if b then [] else [a]) ≠ [] := by
  cases b
  · exact Or.inr (List.cons_ne_nil _ _)
  · exact Or.inl rfl

theorem not_or_ite_ne_nil {α} (b : Bool) (a : α) : (!b) = true ∨ (if b then [a] else []) ≠ [] := by
  cases b
  · exact Or.inl rfl
  · exact Or.inr (List.cons_ne_nil _ _)

/-- the defect names one class field contributes (`defectsFields`, per field) -/
def topDefects : FieldDecl → List String
  | .anyOf fs => optDefect fs ++ (if isOptAnyOf fs then defectsHead fs else [])
  | g => defectsD g

theorem c10_defectsFields_cons (n : String) (f : FieldDecl) (rest : List (String × FieldDecl)) :
    defectsFields ((n, f) :: rest) = topDefects f ++ defectsFields rest := by
  cases f <;> rfl

theorem c10_exh_notOpt (fs : List FieldDecl) (ho : isOptAnyOf fs = false) :
    tsafeTop (.anyOf fs) = true ∨ topDefects (.anyOf fs) ≠ [] := by
  simp only [tsafeTop, topDefects, optDefect, ho, Bool.false_eq_true, if_false, List.append_nil]
  by_cases h1 : fs.all rawOrNone = true
  · left; exact h1
  · right
    have h1' : (fs.all fun g => isRawScalar g || isNoneF g) = false := by simpa [rawOrNone] using h1
    simp only [h1', Bool.false_eq_true, if_false]
    split <;> simp

/-- an Optional: the region and the defect names are those of the option that is not `NoneField`
    (an ImmutableSet option, in `tsafeD`, is outside the region and named) -/
theorem c10_exh_opt (fs : List FieldDecl) (ho : isOptAnyOf fs = true)
    (hD : ∀ z ∈ fs, tsafeD z = true ∨ defectsD z ≠ []) :
    tsafeTop (.anyOf fs) = true ∨ topDefects (.anyOf fs) ≠ [] := by
  rcases optOf_of_isOpt fs ho with ⟨x, h⟩
  simp only [tsafeTop, topDefects, optDefect, ho, if_true, h.tsafeOpt, h.defectsHead, h.pick]
  rcases hD x h.mem with hx | hx
  · by_cases hs : isSetDecl x = true
    · right
      cases x <;> simp [isSetDecl] at hs <;> subst hs <;> first | cases hx | simp
    · left; simp [hx, hs]
  · right; exact List.append_ne_nil_of_right_ne_nil _ hx

mutual
theorem c10_exh_D : ∀ f : FieldDecl, tsafeD f = true ∨ defectsD f ≠ []
  | .integer _ | .number _ | .float _ | .string _ _ _ | .boolean | .noneF | .enumLit _ => Or.inl rfl
  | .enumCls _ names => by
    cases h : names.contains "" with
    | false => left; unfold tsafeD; simp only [h, Bool.not_false]
    | true => right; unfold defectsD; simp only [h, if_true]; exact List.cons_ne_nil _ _
  | .seqOf .list item _ => by
    unfold tsafeD defectsD
    by_cases h1 : isArrScalar item = true
    · simp [h1]
    · by_cases h2 : isEnumDecl item = true
      · rcases c10_exh_D item with h | h
        · simp [h1, h2, h]
        · right; simp only [h1, h2, if_true, Bool.false_eq_true, if_false]; exact h
      · by_cases h3 : isClassRef item = true
        · rcases c10_exh_D item with h | h
          · simp [h1, h2, h3, h]
          · right; simp only [h1, h2, h3, if_true, Bool.false_eq_true, if_false]; exact h
        · right; simp [h1, h2, h3]
  | .seqOf .deque _ _ => Or.inr (List.cons_ne_nil _ _)
  | .setOf _ item _ => by
    unfold tsafeD defectsD
    by_cases h1 : isSetScalarOk item = true
    · simp [h1]
    · by_cases h2 : isEnumDecl item = true
      · rcases c10_exh_D item with h | h
        · simp [h1, h2, h]
        · right; simp only [h1, h2, if_true, Bool.false_eq_true, if_false]; exact h
      · right
        simp only [h1, h2, Bool.false_eq_true, if_false]
        split
        · simp
        · split <;> simp
  | .struct c fields _ => by
    unfold tsafeD defectsD
    cases c.inline with
    | true => exact Or.inr (List.cons_ne_nil _ _)
    | false => exact and_or_append_ne_nil (true_or_ite_ne_nil _ _) (c10_exh_fields fields)
  | .anyOf _ | .seqAny _ _ | .seqPos _ _ _ _ | .setAny _ _ | .tupleOf _ _ | .tuplePos _ _ | .mapAny _
  | .mapOf _ _ _ | .oneOf _ | .allOf _ | .notF _ | .anything => Or.inr (List.cons_ne_nil _ _)

theorem c10_exh_fields : ∀ fields : List (String × FieldDecl), tsafeFields fields = true ∨ defectsFields fields ≠ []
  | [] => Or.inl rfl
  | (n, f) :: rest => by
    rw [tsafeFields_cons, c10_defectsFields_cons]
    have hf : tsafeTop f = true ∨ topDefects f ≠ [] := by
      cases f
      case anyOf fs => exact c10_exh_any fs
      all_goals exact c10_exh_D _
    exact and_or_append_ne_nil hf (c10_exh_fields rest)

theorem c10_exh_any : ∀ fs : List FieldDecl, tsafeTop (.anyOf fs) = true ∨ topDefects (.anyOf fs) ≠ []
  | [] => by
    simp [tsafeTop, isOptAnyOf]
  | [x, y] => by
    by_cases ho : isOptAnyOf [x, y] = true
    · exact c10_exh_opt [x, y] ho
        (List.forall_mem_cons.mpr ⟨c10_exh_D x, List.forall_mem_cons.mpr ⟨c10_exh_D y, fun _ h => nomatch h⟩⟩)
    · exact c10_exh_notOpt [x, y] (by simpa using ho)
  | [x] => c10_exh_notOpt [x] rfl
  | x :: y :: z :: rest => c10_exh_notOpt (x :: y :: z :: rest) rfl
end

theorem c10_exh_top : ∀ f : FieldDecl, tsafeTop f = true ∨ topDefects f ≠ [] := by
  intro f
  cases f
  case anyOf fs => exact c10_exh_any fs
  all_goals exact c10_exh_D _

theorem c10_eraseDups_ne_nil {α} [BEq α] : ∀ l : List α, l ≠ [] → l.eraseDups ≠ []
  | [], h => absurd rfl h
  | a :: as, _ => by
    rw [List.eraseDups_cons]
    exact List.cons_ne_nil _ _

theorem all_or_flatten_ne_nil {α β} (p : α → Bool) (g : α → List β) (h : ∀ x, p x = true ∨ g x ≠ []) :
    ∀ xs : List α, xs.all p = true ∨ (xs.map g).flatten ≠ []
  | [] => Or.inl rfl
  | a :: as => and_or_append_ne_nil (h a) (all_or_flatten_ne_nil p g h as)

mutual
theorem c10_exhdoc_V (opts : DeserOpts) : ∀ (f : FieldDecl) (v : PyVal),
    plainV opts f v = true ∨ issuesV opts f v ≠ []
  | .boolean, v => by
    unfold plainV issuesV
    cases h : isStrV v <;> simp
  | .float _, v => by
    unfold plainV issuesV
    cases h : isIntV v <;> simp
  | .enumCls _ _, v => by
    unfold plainV issuesV
    cases h : isStrV v <;> simp
  | .seqOf _ item _, v | .setOf _ item _, v => by
    cases v <;> try (right; exact List.cons_ne_nil _ _)
    rename_i xs
    exact all_or_flatten_ne_nil _ _ (c10_exhdoc_V opts item) xs
  | .struct c fields defaults, v => by
    cases v <;> try (right; exact List.cons_ne_nil _ _)
    rename_i kvs
    simp only [plainV, issuesV]
    cases hk : kwOfDict kvs with
    | none => right; simp
    | some doc =>
      simp only
      exact and_or_append_ne_nil (true_or_ite_ne_nil _ _) (c10_exhdoc_fields opts defaults doc fields)
  | .anyOf fs, v => by
    unfold plainV issuesV
    exact c10_exhdoc_all opts fs v
  | .integer _, _ | .number _, _ | .string _ _ _, _ | .enumLit _, _ | .noneF, _ | .seqAny _ _, _
  | .seqPos _ _ _ _, _ | .setAny _ _, _ | .tupleOf _ _, _ | .tuplePos _ _, _ | .mapAny _, _ | .mapOf _ _ _, _
  | .oneOf _, _ | .allOf _, _ | .notF _, _ | .anything, _ => Or.inl rfl

theorem c10_exhdoc_all (opts : DeserOpts) : ∀ (fs : List FieldDecl) (v : PyVal),
    plainAll opts fs v = true ∨ issuesAll opts fs v ≠ []
  | [], _ => Or.inl rfl
  | f :: fs, v => and_or_append_ne_nil (c10_exhdoc_V opts f v) (c10_exhdoc_all opts fs v)

theorem c10_exhdoc_fields (opts : DeserOpts) (defaults doc : List (String × PyVal)) :
    ∀ fields : List (String × FieldDecl),
      plainFields opts defaults doc fields = true ∨ issuesFields opts defaults doc fields ≠ []
  | [] => Or.inl rfl
  | (n, f) :: rest => by
    simp only [plainFields, issuesFields]
    refine and_or_append_ne_nil ?_ (c10_exhdoc_fields opts defaults doc rest)
    cases lookup n doc with
    | none => exact true_or_ite_ne_nil _ _
    | some v =>
      simp only
      cases v.isNone with
      | true => exact true_or_ite_ne_nil _ _
      | false => exact c10_exhdoc_V opts f v
end

theorem c10_doc_exhaustive (opts : DeserOpts) (cls : FieldDecl) (d : PyVal) :
    plainDoc opts cls d = true ∨ docIssues opts cls d ≠ [] := by
  rcases c10_exhdoc_V opts cls d with h | h
  · exact Or.inl h
  · exact Or.inr (c10_eraseDups_ne_nil _ h)

end Typedpy
