/-
  Lemmas/SchemaDefs.lean — the definitions table as a whole: (1) the names defined only grow while a
  class is converted, hence EVERY class reference of EVERY declaration resolves in the table its
  conversion leaves behind (`c08_resolves_defsAccP`, no fragment and no name hypothesis); (2) with
  `wf_class` of Lemmas/SchemaWf.lean (the schema and every definition written into the table are
  well-formed once the references resolve): `wfDocument` of the schema and the table of a class
  (`c08_wf_document`).
-/
import TypedpyModel.Lemmas.SchemaWf
namespace Typedpy.Sch
open Typedpy

/-- every name defined in `D` is defined in `D'` -/
def KeysLe (D D' : Defs) : Prop := ∀ n, (lookup n D).isSome = true → (lookup n D').isSome = true

theorem c08_keysLe_refl (D : Defs) : KeysLe D D := fun _ h => h
theorem c08_keysLe_trans {A B C : Defs} (h1 : KeysLe A B) (h2 : KeysLe B C) : KeysLe A C :=
  fun n h => h2 n (h1 n h)

theorem c08_lookup_assocSet_self (n : String) (s : PyVal) (D : Defs) : (lookup n (assocSet n s D)).isSome = true := by
  rw [lookup_assocSet, if_pos (beq_self_eq_true n)]; rfl

theorem c08_keysLe_assocSet (n : String) (s : PyVal) (D : Defs) : KeysLe D (assocSet n s D) := by
  intro m h
  rw [lookup_assocSet]
  split
  · rfl
  · exact h

mutual
theorem c08_keysLe_defsAcc (fx : Bool) : ∀ (f : FieldDecl) (D : Defs), KeysLe D (defsAcc fx f D) := by
  intro f D
  cases f with
  | seqOf _ f _ | setOf _ f _ | tupleOf f _ | mapOf _ f _ =>
    simp only [defsAcc]; exact c08_keysLe_defsAcc fx f D
  | seqPos _ fs _ _ | tuplePos fs _ | anyOf fs | oneOf fs | allOf fs | notF fs =>
    simp only [defsAcc]; exact c08_keysLe_defsAccL fx fs D
  | struct c fields defaults =>
    simp only [defsAcc]
    split
    · exact c08_keysLe_defsAccP fx fields D
    · exact c08_keysLe_trans (c08_keysLe_defsAccP fx fields D) (c08_keysLe_assocSet _ _ _)
  | _ => exact c08_keysLe_refl D

theorem c08_keysLe_defsAccL (fx : Bool) : ∀ (fs : List FieldDecl) (D : Defs), KeysLe D (defsAccL fx fs D)
  | [], D => by simp only [defsAccL]; exact c08_keysLe_refl D
  | f :: fs, D => by
    simp only [defsAccL]
    exact c08_keysLe_trans (c08_keysLe_defsAcc fx f D) (c08_keysLe_defsAccL fx fs _)
theorem c08_keysLe_defsAccP (fx : Bool) : ∀ (ps : List (String × FieldDecl)) (D : Defs), KeysLe D (defsAccP fx ps D)
  | [], D => by simp only [defsAccP]; exact c08_keysLe_refl D
  | (_, f) :: ps, D => by
    simp only [defsAccP]
    exact c08_keysLe_trans (c08_keysLe_defsAcc fx f D) (c08_keysLe_defsAccP fx ps _)
end

theorem ptrDefs_keys : ∀ D : Defs, (ptrDefs D).map (·.1) = (D.map (·.1)).map ("#/definitions/" ++ ·)
  | [] => rfl
  | (_, _) :: rest => by rw [ptrDefs, List.map_cons, ptrDefs_keys rest]; rfl

theorem c08_lookup_ptrDefs (n : String) (D : Defs) (h : (lookup n D).isSome = true) :
    (lookup ("#/definitions/" ++ n) (ptrDefs D)).isSome = true := by
  rw [lookup_isSome_iff] at h ⊢
  rw [ptrDefs_keys]
  exact List.mem_map_of_mem h

theorem c08_lookup_ptrDefs_inv (p : String) (D : Defs) (h : (lookup p (ptrDefs D)).isSome = true) :
    ∃ k, p = "#/definitions/" ++ k ∧ (lookup k D).isSome = true := by
  rw [lookup_isSome_iff, ptrDefs_keys, List.mem_map] at h
  obtain ⟨k, hk, rfl⟩ := h
  exact ⟨k, rfl, (lookup_isSome_iff k D).mpr hk⟩

/-- what resolves in the pointer table `P` resolves in `P'` -/
def PtrLe (P P' : Defs) : Prop := ∀ p, (lookup p P).isSome = true → (lookup p P').isSome = true

theorem c08_ptrLe_of_keysLe {D D' : Defs} (h : KeysLe D D') : PtrLe (ptrDefs D) (ptrDefs D') := by
  intro p hp
  obtain ⟨k, rfl, hk⟩ := c08_lookup_ptrDefs_inv p D hp
  exact c08_lookup_ptrDefs k D' (h k hk)

mutual
theorem c08_resolve_mono {P P' : Defs} (h : PtrLe P P') : ∀ f : FieldDecl, RefsResolve P f → RefsResolve P' f := by
  intro f hr
  cases f with
  | seqOf _ f _ | setOf _ f _ | tupleOf f _ | mapOf _ f _ =>
    simp only [RefsResolve] at hr ⊢; exact c08_resolve_mono h f hr
  | seqPos _ fs _ _ | tuplePos fs _ | anyOf fs | oneOf fs | allOf fs | notF fs =>
    simp only [RefsResolve] at hr ⊢; exact c08_resolve_monoL h fs hr
  | struct c fields _ =>
    simp only [RefsResolve] at hr ⊢
    refine ⟨?_, c08_resolve_monoP h fields hr.2⟩
    rcases hr.1 with h1 | h1
    · exact Or.inl h1
    · exact Or.inr (h _ h1)
  | _ => trivial
theorem c08_resolve_monoL {P P' : Defs} (h : PtrLe P P') : ∀ fs : List FieldDecl, RefsResolveL P fs → RefsResolveL P' fs
  | [], _ => by simp only [RefsResolveL]
  | f :: fs, hr => by
    simp only [RefsResolveL] at hr ⊢
    exact ⟨c08_resolve_mono h f hr.1, c08_resolve_monoL h fs hr.2⟩
theorem c08_resolve_monoP {P P' : Defs} (h : PtrLe P P') : ∀ ps : List (String × FieldDecl),
    RefsResolveP P ps → RefsResolveP P' ps
  | [], _ => by simp only [RefsResolveP]
  | (_, f) :: ps, hr => by
    simp only [RefsResolveP] at hr ⊢
    exact ⟨c08_resolve_mono h f hr.1, c08_resolve_monoP h ps hr.2⟩
end

mutual
theorem c08_resolves_defsAcc (fx : Bool) : ∀ (f : FieldDecl) (D : Defs), RefsResolve (ptrDefs (defsAcc fx f D)) f := by
  intro f D
  cases f with
  | seqOf _ f _ | setOf _ f _ | tupleOf f _ | mapOf _ f _ =>
    simp only [RefsResolve, defsAcc]; exact c08_resolves_defsAcc fx f D
  | seqPos _ fs _ _ | tuplePos fs _ | anyOf fs | oneOf fs | allOf fs | notF fs =>
    simp only [RefsResolve, defsAcc]; exact c08_resolves_defsAccL fx fs D
  | struct c fields defaults =>
    simp only [RefsResolve, defsAcc]
    split
    · rename_i hin
      exact ⟨Or.inl hin, c08_resolves_defsAccP fx fields D⟩
    · refine ⟨Or.inr (c08_lookup_ptrDefs _ _ (c08_lookup_assocSet_self _ _ _)), ?_⟩
      exact c08_resolve_monoP (c08_ptrLe_of_keysLe (c08_keysLe_assocSet _ _ _)) fields
        (c08_resolves_defsAccP fx fields D)
  | _ => trivial
theorem c08_resolves_defsAccL (fx : Bool) : ∀ (fs : List FieldDecl) (D : Defs),
    RefsResolveL (ptrDefs (defsAccL fx fs D)) fs
  | [], _ => by simp only [RefsResolveL]
  | f :: fs, D => by
    simp only [RefsResolveL, defsAccL]
    exact ⟨c08_resolve_mono (c08_ptrLe_of_keysLe (c08_keysLe_defsAccL fx fs _)) f (c08_resolves_defsAcc fx f D),
      c08_resolves_defsAccL fx fs _⟩
theorem c08_resolves_defsAccP (fx : Bool) : ∀ (ps : List (String × FieldDecl)) (D : Defs),
    RefsResolveP (ptrDefs (defsAccP fx ps D)) ps
  | [], _ => by simp only [RefsResolveP]
  | (_, f) :: ps, D => by
    simp only [RefsResolveP, defsAccP]
    exact ⟨c08_resolve_mono (c08_ptrLe_of_keysLe (c08_keysLe_defsAccP fx ps _)) f (c08_resolves_defsAcc fx f D),
      c08_resolves_defsAccP fx ps _⟩
end

theorem c08_wfDefs_defsAccL (Dp : Defs) : ∀ (fs : List FieldDecl) (D : Defs), wfFragL fs = true →
    RefsResolveL Dp fs → wfDefs Dp D = true → wfDefs Dp (defsAccL true fs D) = true :=
  fun fs D hf hr => (wf_convertL Dp fs hf hr).2.2 D

theorem c08_wfDefs_defsAccOpt (Dp : Defs) : ∀ (fs : List FieldDecl) (D : Defs), wfFragOpt fs = true →
    RefsResolveL Dp fs → wfDefs Dp D = true → wfDefs Dp (defsAccL true fs D) = true
  | [], _, _, _, hD => hD
  | f :: fs, D, hf, hr, hD => by
    rw [wfFragOpt, Bool.and_eq_true_iff] at hf
    refine c08_wfDefs_defsAccOpt Dp fs _ hf.2 hr.2 ?_
    cases hn : isNoneF f with
    | true =>
      cases f <;> first | exact Bool.noConfusion hn | exact hD
    | false => exact (wf_convert Dp f (by simpa [hn] using hf.1) hr.1).table D hD

theorem c08_classRefsResolve (fx : Bool) (cls : FieldDecl) :
    ClassRefsResolve (ptrDefs (classDefs fx cls)) cls := by
  cases cls with
  | struct _ fields _ => exact c08_resolves_defsAccP fx fields []
  | _ => trivial

theorem c08_wf_document (cls : FieldDecl) (hfrag : inWfFragment cls = true) :
    wfDocument (classSchema true cls) (classDefs true cls) = true :=
  Bool.and_eq_true_iff.mpr (wf_class _ cls hfrag (c08_classRefsResolve true cls))

end Typedpy.Sch
