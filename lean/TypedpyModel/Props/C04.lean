/-
  Props/C04.lean — C04 on the mutation machine of Sem/Mutate.lean: an ImmutableStructure is never
  changed and every attempt raises; a field declared immutable inside a mutable structure keeps its
  value.  The two "never changes" are read off `C03.Effect`, "every attempt raises" goes through the
  dispatch lemmas of C03 directly; the table hypotheses (`GuardedTbl`, `AllGuardedTbl`) are discharged
  for the working tree by `tables_guarded` / `tables_all_guarded`.

  A mutator of a typed wrapper obtained by indexing a field value (`callNested`) changes nothing under
  either binding: scratch-bound it acts on a defensive copy and does not raise
  (`nested_immutable_example`), bound to its parent (/repo since cbf3b48) it raises like every other
  attempt (`immutable_stepR_raises`).

  Objects handed out by the reading accessors and retained constructor arguments are the subject of
  Props/C04Alias.lean and of the alias probe on the real code; here only `accessors_ok`: every
  element-returning accessor of list / dict / deque is overridden by the wrapper.
-/
import TypedpyModel.Props.C03
namespace Typedpy.C04
open Typedpy Typedpy.C03

/-- every mutator is refused on immutable targets: it either checks `_raise_if_immutable()` or goes
    through the (immutability-checking) validated assignment -/
def GuardedTbl (tbl : List MethodRec) : Bool := tbl.all (fun r => r.guarded || r.validated)

/-- every mutator row checks `_raise_if_immutable()` itself (needed for wrappers that do not reach
    the owning field's own check: scratch-bound nested wrappers) -/
def AllGuardedTbl (tbl : List MethodRec) : Bool := tbl.all (fun r => r.guarded)

theorem guardedTbl_row {tbl : List MethodRec} (htbl : GuardedTbl tbl = true) (r : MethodRec)
    (hr : r ∈ tbl) : rowOk false true r = true := by
  show (r.validated || r.guarded) = true
  rw [Bool.or_comm]; exact List.all_eq_true.mp htbl r hr

theorem allGuarded_guarded {tbl : List MethodRec} (htbl : AllGuardedTbl tbl = true) :
    GuardedTbl tbl = true :=
  List.all_eq_true.mpr fun r hr => by
    rw [show r.guarded = true from List.all_eq_true.mp htbl r hr]; rfl

section
variable {O : Oracles} {c : ClassOpts} {fields : List (String × FieldDecl)} {s : Attrs}

theorem setattr_immutable (f : String) (v : PyVal) (hi : c.immutable = true) :
    setattrStep O c fields s f v = (s, .err .valueErr) := by
  simp only [setattrStep, hi, if_true]

theorem delitemH_immutable (dh : Bool) (f : String) (hi : c.immutable = true) :
    delitemStepH dh O c s f = (s, .err .valueErr) := by
  have : delitemStep c s f = (s, .err .valueErr) := by simp only [delitemStep, hi, if_true]
  unfold delitemStepH
  rw [this]
  cases dh <;> rfl

theorem mut_immutable (f : String) {r : MethodRec} (res : Except NErr PyVal) (hi : c.immutable = true)
    (hr : (r.guarded || r.validated) = true) : ∃ e, mutStep O c fields s f r res = (s, .err e) := by
  cases hg : r.guarded
  · rw [hg, Bool.false_or] at hr
    rcases mutStep_cases f res hr with ⟨e, _, h⟩ | ⟨new, h⟩
    · exact ⟨e, h⟩
    · exact ⟨_, h.trans (setattr_immutable f new hi)⟩
  · simp only [mutStep, hg, hi, Bool.true_or, Bool.and_self, if_true]; exact ⟨_, rfl⟩

theorem immutable_stepB_raises (bound dh : Bool) {tbl : List MethodRec} (op : Op)
    (hi : c.immutable = true) (htbl : GuardedTbl tbl = true) (hop : bound = true ∨ TopOp op = true) :
    ∃ e, stepB bound dh tbl O c fields s op = (s, .err e) :=
  stepB_dispatch bound dh tbl op (fun x => ∃ e, x = (s, .err e)) (fun e _ => ⟨e, rfl⟩)
    (fun f v _ => ⟨_, setattr_immutable f v hi⟩) (fun f _ => ⟨_, delitemH_immutable dh f hi⟩)
    (fun f r res hr _ => mut_immutable f res hi (List.all_eq_true.mp htbl r hr))
    (fun _ _ _ r _ _ _ _ hb hr => by
      rcases hop with h | h
      · rw [hb] at h; cases h
      · rw [nestedRow_top h] at hr; cases hr)
end

theorem immutable_step_frozen (tbl : List MethodRec) (O : Oracles) (c : ClassOpts)
    (fields : List (String × FieldDecl)) (s : Attrs) (op : Op)
    (hi : c.immutable = true) (htbl : GuardedTbl tbl = true) (htop : TopOp op = true) :
    ∃ e, step tbl O c fields s op = (s, .err e) :=
  step_eq_stepB tbl op ▸ immutable_stepB_raises false false op hi htbl (Or.inr htop)

def Attempt : ROp → Bool
  | .take _ => false
  | _ => true

/-- **C04 (every direct attempt raises)**: on an ImmutableStructure, with nested wrappers bound to
    their parent (the tree since cbf3b48), EVERY mutation attempt — assignment, deletion, a mutator
    of a field value, of a nested wrapper at any depth, of a kept reference, handing a kept reference
    back — raises (and, by `immutable_stepR_state`, changes nothing) -/
theorem immutable_stepR_raises (dh : Bool) (tbl : List MethodRec) (O : Oracles) (c : ClassOpts)
    (fields : List (String × FieldDecl)) (st : MState) (op : ROp)
    (hi : c.immutable = true) (htbl : tbl.all (fun r => r.guarded) = true) (ha : Attempt op = true) :
    ∃ e, (stepR true dh tbl O c fields st op).2 = .err e :=
  -- as for `stepB`: the attributes stay and the outcome is an error
  (stepR_dispatch true dh tbl st op (fun x => ∃ e, x = (st.attrs, .err e))
    (fun o _ => immutable_stepB_raises true dh o hi (allGuarded_guarded htbl) (Or.inl rfl))
    (fun e _ => ⟨e, rfl⟩) (fun f hc => by subst hc; cases ha)
    (fun f v => ⟨_, setattr_immutable f v hi⟩)
    (fun f kind r m p hr => by
      have hg : r.guarded = true := List.all_eq_true.mp htbl r hr
      unfold refCallStep
      split
      · simp only [hg, hi, Bool.true_or, Bool.and_self, if_true]; exact ⟨_, rfl⟩
      · exact callStep_eq .. ▸ mut_immutable f _ hi (by rw [hg]; rfl))).imp fun _ h => congrArg Prod.snd h

theorem immutable_run_all_raise (tbl : List MethodRec) (O : Oracles) (c : ClassOpts)
    (fields : List (String × FieldDecl)) (hi : c.immutable = true) (htbl : GuardedTbl tbl = true) :
    ∀ (ops : List Op) (s : Attrs), ops.all TopOp = true →
      (run tbl O c fields s ops).2.all (fun o => o != .ok) = true
  | [], s, _ => rfl
  | op :: rest, s, hops => by
    simp only [List.all_cons, Bool.and_eq_true_iff] at hops
    simp only [run]
    rcases immutable_step_frozen tbl O c fields s op hi htbl hops.1 with ⟨e, he⟩
    rw [he]
    simp only [List.all_cons, Bool.and_eq_true_iff]
    exact ⟨by simp, immutable_run_all_raise tbl O c fields hi htbl rest s hops.2⟩

/-! "Nothing changes an immutable structure" and "nothing changes an immutable field of a mutable
    one" are both read off the effect of a step (`Effect.immutable`, `Effect.immField`); what differs
    is what the table has to guarantee for the rows an operation can meet. -/

theorem immutable_stepR_state (bound dh : Bool) (tbl : List MethodRec) (O : Oracles) (c : ClassOpts)
    (fields : List (String × FieldDecl)) (st : MState) (op : ROp)
    (hi : c.immutable = true) (htbl : GuardedTbl tbl = true) :
    (stepR bound dh tbl O c fields st op).1.attrs = st.attrs :=
  (stepR_effect (val := false) (grd := true) bound dh st op (guardedTbl_row htbl) fun _ _ _ r _ _ => by
    rw [nestOk, hi, Bool.or_true, Bool.true_or]).immutable hi

theorem immutable_stepB_state (bound dh : Bool) (tbl : List MethodRec) (O : Oracles) (c : ClassOpts)
    (fields : List (String × FieldDecl)) (s : Attrs) (op : Op)
    (hi : c.immutable = true) (htbl : GuardedTbl tbl = true) :
    (stepB bound dh tbl O c fields s op).1 = s :=
  immutable_stepR_state bound dh tbl O c fields { attrs := s } (.plain op) hi htbl

theorem immutable_step_state (tbl : List MethodRec) (O : Oracles) (c : ClassOpts)
    (fields : List (String × FieldDecl)) (s : Attrs) (op : Op)
    (hi : c.immutable = true) (htbl : GuardedTbl tbl = true) :
    (step tbl O c fields s op).1 = s :=
  step_eq_stepB tbl op ▸ immutable_stepB_state false false tbl O c fields s op hi htbl

/-- **C04 (structures)**: no finite history of operations changes an ImmutableStructure -/
theorem immutable_run_frozen (tbl : List MethodRec) (O : Oracles) (c : ClassOpts)
    (fields : List (String × FieldDecl)) (hi : c.immutable = true) (htbl : GuardedTbl tbl = true) :
    ∀ (ops : List Op) (s : Attrs), (run tbl O c fields s ops).1 = s := fun ops s =>
  run_invariant (step tbl O c fields) (run tbl O c fields) (fun _ => rfl) (fun _ _ _ => rfl) (· = s)
    (fun _ => true) (fun x op _ hx => by rw [immutable_step_state tbl O c fields x op hi htbl, hx])
    ops s (List.all_eq_true.mpr fun _ _ => rfl) rfl

/-- **C04 (structures), every history**: assignment, deletion, every mutator of a field value, of a
    nested wrapper (either binding) and of a kept — possibly stale — wrapper reference: nothing
    changes an ImmutableStructure -/
theorem immutable_runR_frozen (bound dh : Bool) (tbl : List MethodRec) (O : Oracles) (c : ClassOpts)
    (fields : List (String × FieldDecl)) (hi : c.immutable = true) (htbl : GuardedTbl tbl = true) :
    ∀ (ops : List ROp) (st : MState), (runR bound dh tbl O c fields st ops).1.attrs = st.attrs :=
  fun ops st =>
  run_invariant (stepR bound dh tbl O c fields) (runR bound dh tbl O c fields) (fun _ => rfl)
    (fun _ _ _ => rfl) (·.attrs = st.attrs) (fun _ => true)
    (fun x op _ hx => by rw [immutable_stepR_state bound dh tbl O c fields x op hi htbl, hx])
    ops st (List.all_eq_true.mpr fun _ _ => rfl) rfl

theorem immField_step_frozen (tbl : List MethodRec) (O : Oracles) (c : ClassOpts)
    (fields : List (String × FieldDecl)) (s : Attrs) (f : String) (w : PyVal) (op : Op)
    (hf : c.immFields.contains f = true) (hfield : (lookup f fields).isSome = true)
    (hset : lookup f s = some w) (htbl : GuardedTbl tbl = true) (htop : TopOp op = true) :
    lookup f (step tbl O c fields s op).1 = some w :=
  step_eq_stepB tbl op ▸ (stepB_effect (val := false) (grd := true) (hk := false) false false op (guardedTbl_row htbl)
    (fun _ r _ hr => by rw [nestedRow_top htop] at hr; cases hr) nofun).immField hf hfield hset

/-- **C04 (fields)**: a field declared immutable inside a mutable structure keeps its value under
    every finite history of top-level operations -/
theorem immField_run_frozen (tbl : List MethodRec) (O : Oracles) (c : ClassOpts)
    (fields : List (String × FieldDecl)) (f : String) (w : PyVal)
    (hf : c.immFields.contains f = true) (hfield : (lookup f fields).isSome = true)
    (htbl : GuardedTbl tbl = true) :
    ∀ (ops : List Op) (s : Attrs), ops.all TopOp = true → lookup f s = some w →
      lookup f (run tbl O c fields s ops).1 = some w :=
  run_invariant (step tbl O c fields) (run tbl O c fields) (fun _ => rfl) (fun _ _ _ => rfl)
    (fun s => lookup f s = some w) TopOp
    (fun s op htop hs => immField_step_frozen tbl O c fields s f w op hf hfield hs htbl htop)

theorem immField_stepR_frozen (bound dh : Bool) (tbl : List MethodRec) (O : Oracles) (c : ClassOpts)
    (fields : List (String × FieldDecl)) (st : MState) (f : String) (w : PyVal) (op : ROp)
    (hf : c.immFields.contains f = true) (hfield : (lookup f fields).isSome = true)
    (hset : lookup f st.attrs = some w) (htbl : AllGuardedTbl tbl = true) :
    lookup f (stepR bound dh tbl O c fields st op).1.attrs = some w :=
  (stepR_effect (val := false) (grd := true) bound dh st op (guardedTbl_row (allGuarded_guarded htbl))
    fun _ _ _ r hr _ => by
      rw [nestOk, show r.guarded = true from List.all_eq_true.mp htbl r hr]
      exact Bool.or_true _).immField hf hfield hset

/-- **C04 (fields), every history**: as `immField_run_frozen`, with nested wrappers under either
    binding and kept references; a scratch-bound nested wrapper does not reach the field's own check,
    hence `AllGuardedTbl` -/
theorem immField_runR_frozen (bound dh : Bool) (tbl : List MethodRec) (O : Oracles) (c : ClassOpts)
    (fields : List (String × FieldDecl)) (f : String) (w : PyVal)
    (hf : c.immFields.contains f = true) (hfield : (lookup f fields).isSome = true)
    (htbl : AllGuardedTbl tbl = true) :
    ∀ (ops : List ROp) (st : MState), lookup f st.attrs = some w →
      lookup f (runR bound dh tbl O c fields st ops).1.attrs = some w := fun ops st =>
  run_invariant (stepR bound dh tbl O c fields) (runR bound dh tbl O c fields) (fun _ => rfl)
    (fun _ _ _ => rfl) (fun st => lookup f st.attrs = some w) (fun _ => true)
    (fun st op _ hs => immField_stepR_frozen bound dh tbl O c fields st f w op hf hfield hs htbl)
    ops st (List.all_eq_true.mpr fun _ _ => rfl)

theorem tables_all_guarded : AllGuardedTbl Generated.wrappers = true := by decide

theorem tables_guarded : GuardedTbl Generated.wrappers = true := by decide

/-- members of list / dict / deque that return no reference to an element; a Map's keys are not
    counted as elements here (`keys`, and `__iter__` / `__reversed__` of dict, do hand them out: rows
    of the accessor table of Props/C04Alias.lean) -/
def refFree : List String :=
  ["__contains__", "__len__", "count", "index", "keys", "__reversed__:dict", "__iter__:dict"]

/-- every accessor that can hand out element references is overridden by the wrapper (so that it
    can apply the defensive copy) -/
def AccessorsOk (tbl : List AccessorRec) : Bool :=
  tbl.all (fun a => a.overridden || refFree.contains a.method
                      || refFree.contains (a.method ++ ":" ++ a.wrapper))

theorem accessors_ok : AccessorsOk Generated.accessors = true := by decide +kernel

def imC : ClassOpts := { name := "I", required := ["a"], addl := false, immutable := true, accepts := ["I"] }
def imFields : List (String × FieldDecl) :=
  [("a", .seqOf .list (.integer {}) {}), ("n", .seqOf .list (.seqOf .list (.integer {}) {}) {})]
def imStart : Attrs := [("a", .list [.int 1, .int 2]), ("n", .list [.list [.int 1]])]

theorem immutable_example :
    (run Generated.wrappers C03.exO imC imFields imStart
      [.call "a" (.append (.int 3)), .setattr "a" (.list []), .delitem "n", .call "a" .sort,
       .call "a" (.iadd [.int 9]), .call "a" (.delitem (.int 0))]).2
      = [.err .valueErr, .err .valueErr, .err .valueErr, .err .valueErr, .err .valueErr, .err .valueErr] := by
  decide +kernel

/-- scratch-bound, a mutator called on the typed wrapper obtained by `x.n[0]` acts on a defensive copy -/
theorem nested_immutable_example :
    (match (step Generated.wrappers C03.exO imC imFields imStart
        (.callNested "n" (.int 0) (.append (.int 5)))) with
      | ([_, ("n", .list [.list [.int 1]])], .ok) => true
      | _ => false) = true := by
  decide +kernel

end Typedpy.C04
