/-
  C10 with key-renaming mappers: the trusted branch with per-class simple
  mappers is the mapper-free trusted branch on the document whose keys are translated back to field
  names (`untrV`); the classifier does not depend on simple mappers.

  The classifier lemmas recurse over the declaration together with its lists of options and fields.
  The factorisation of `tVal` is `c10_tval_factor`, by `FieldDecl.induction`; the Optional head and
  the field loop (`c10_thead_of`, `c10_tfields_of`) take it for the parts as a hypothesis, and
  `c10_tInst_untr` is the one place where a class's mapper meets its document (`c10_class_factor`: for a
  field and for the class at the top).
-/
import TypedpyModel.Lemmas.Trusted
namespace Typedpy
open PyVal (pyEq)

/-- every class's mapper is one `_is_mapper_simple` accepts -/
def simpleEnv (Mp : MapEnv) : Prop := ∀ n, (Mp n).isComplex = false

mutual
theorem c10_effOf_simple (Mp : MapEnv) (h : simpleEnv Mp) : ∀ (f : FieldDecl) (b : Bool),
    effOf Mp b f = effOf noMappers b f
  | .integer _, _ | .string _ _ _, _ | .float _, _ | .boolean, _ | .noneF, _ | .number _, _ | .enumLit _, _
  | .enumCls _ _, _ => rfl
  | .anyOf fs, b => by
    unfold effOf
    rw [c10_effOpt_simple Mp h fs]
  | .seqOf .list item _, _ | .setOf _ item _, _ => by
    unfold effOf
    rw [c10_effOf_simple Mp h item false]
  | .seqOf .deque _ _, _ => rfl
  | .struct c fields _, _ => by
    unfold effOf
    have h0 : (noMappers c.name).isComplex = false := rfl
    simp only [h c.name, h0, Bool.false_eq_true, if_false]
    rw [c10_fieldsV_simple Mp h fields .flat]
  | .seqAny _ _, _ | .seqPos _ _ _ _, _ | .setAny _ _, _ | .tupleOf _ _, _ | .tuplePos _ _, _ | .mapAny _, _
  | .mapOf _ _ _, _ | .oneOf _, _ | .allOf _, _ | .notF _, _ | .anything, _ => rfl

theorem c10_effOpt_simple (Mp : MapEnv) (h : simpleEnv Mp) : ∀ (fs : List FieldDecl),
    effOpt Mp fs = effOpt noMappers fs
  | [] => rfl
  | [_] => rfl
  | [x, y] => by
    simp only [effOpt]
    rw [c10_effOf_simple Mp h x false, c10_effOf_simple Mp h y false]
  | _ :: _ :: _ :: _ => rfl

theorem c10_fieldsV_simple (Mp : MapEnv) (h : simpleEnv Mp) : ∀ (fs : List (String × FieldDecl)) (l : Lvl),
    fieldsV Mp fs l = fieldsV noMappers fs l
  | [], _ => rfl
  | (_, f) :: rest, l => by
    simp only [fieldsV]
    rw [c10_effOf_simple Mp h f true]
    cases effOf noMappers true f <;> simp only
    · exact c10_fieldsV_simple Mp h rest .nested
    · exact c10_fieldsV_simple Mp h rest l
end

theorem c10_verdict_simple (Mp : MapEnv) (h : simpleEnv Mp) (cls : FieldDecl) :
    verdictOf Mp cls = verdictOf noMappers cls := by
  cases cls <;> try rfl
  rename_i c fields defaults
  have h0 : (noMappers c.name).isComplex = false := rfl
  simp only [verdictOf, h c.name, h0, Bool.false_eq_true, if_false]
  exact c10_fieldsV_simple Mp h fields .flat

theorem c10_eligible_simple (Mp : MapEnv) (h : simpleEnv Mp) (cls : FieldDecl) :
    eligible Mp cls = eligible noMappers cls := by
  simp only [eligible, c10_verdict_simple Mp h cls]

theorem c10_lookup_untrKw_none (Mp : MapEnv) (doc : List (String × PyVal)) (n : String) :
    ∀ rest : List (String × FieldDecl), (rest.map (·.1)).contains n = false →
      lookup n (untrKw Mp doc rest) = none
  | [], _ => rfl
  | (k, f) :: rest, h => by
    simp only [List.map_cons, List.contains_cons, Bool.or_eq_false_iff] at h
    simp only [untrKw]
    rw [lookup_append]
    have hr := c10_lookup_untrKw_none Mp doc n rest h.2
    cases lookup k doc with
    | none => simp only [lookup, Option.none_or]; exact hr
    | some v => simp only [lookup, h.1, Bool.false_eq_true, if_false, Option.none_or]; exact hr

theorem c10_lookup_untrKw (Mp : MapEnv) (doc : List (String × PyVal)) :
    ∀ fields : List (String × FieldDecl), strNodup (fields.map (·.1)) = true →
      ∀ p ∈ fields, lookup p.1 (untrKw Mp doc fields) = (lookup p.1 doc).map (untrV Mp p.2)
  | [], _, p, hp => by simp at hp
  | (k, f) :: rest, h, p, hp => by
    simp only [List.map_cons, strNodup, Bool.and_eq_true_iff, Bool.not_eq_true'] at h
    simp only [List.mem_cons] at hp
    simp only [untrKw]
    rw [lookup_append]
    rcases hp with hp | hp
    · subst hp
      cases hl : lookup k doc with
      | none => simp only [lookup, Option.map_none, Option.none_or]; exact c10_lookup_untrKw_none Mp doc k rest h.1
      | some v => simp [lookup]
    · have hne := key_ne_of_mem h.1 hp
      have hr := c10_lookup_untrKw Mp doc rest h.2 p hp
      cases lookup k doc with
      | none => simp only [lookup, Option.none_or]; exact hr
      | some v => simp only [lookup, hne, Bool.false_eq_true, if_false, Option.none_or]; exact hr

theorem c10_lookup_untr_doc (Mp : MapEnv) (doc : List (String × PyVal)) (fields : List (String × FieldDecl))
    (h : strNodup (fields.map (·.1)) = true) (p : String × FieldDecl) (hp : p ∈ fields) :
    lookup p.1 (untrKw Mp doc fields ++ doc.filter fun a => !(fields.map (·.1)).contains a.1)
      = (lookup p.1 doc).map (untrV Mp p.2) := by
  rw [lookup_append, c10_lookup_untrKw Mp doc fields h p hp]
  have hc : (fields.map (·.1)).contains p.1 = true := by
    simp only [List.contains_eq_mem, List.mem_map, decide_eq_true_eq]
    exact ⟨p, hp, rfl⟩
  cases lookup p.1 doc with
  | some v => rfl
  | none =>
    simp only [Option.map_none, Option.none_or]
    rw [lookup_filter_key (fun k => !(fields.map (·.1)).contains k), hc]; rfl

theorem c10_untr_scalar (Mp : MapEnv) (f : FieldDecl) (h : isArrScalar f = true ∨ isEnumDecl f = true) (v : PyVal) :
    untrV Mp f v = v := by
  cases f <;> first | rfl | (rcases h with h | h <;> cases h)

theorem c10_untr_seqOf_id (Mp : MapEnv) (k : SeqKind) (item : FieldDecl) (sz : SizeOpts)
    (h : ∀ x, untrV Mp item x = x) (v : PyVal) : untrV Mp (.seqOf k item sz) v = v := by
  cases v <;> try rfl
  exact congrArg PyVal.list (List.map_id'' h _)

theorem c10_untr_setOf_id (Mp : MapEnv) (imm : Bool) (item : FieldDecl) (sz : SizeOpts)
    (h : ∀ x, untrV Mp item x = x) (v : PyVal) : untrV Mp (.setOf imm item sz) v = v := by
  cases v <;> try rfl
  exact congrArg PyVal.list (List.map_id'' h _)

theorem c10_untrFirst_id (Mp : MapEnv) (v : PyVal) : ∀ fs : List FieldDecl,
    (∀ f ∈ fs, isContainerD f = false) → untrFirst Mp fs v = v
  | [], _ => rfl
  | f :: fs, h => by
    simp only [untrFirst, h f List.mem_cons_self, Bool.false_eq_true, if_false]
    exact c10_untrFirst_id Mp v fs fun g hg => h g (List.mem_cons_of_mem _ hg)

mutual
theorem c10_untr_isNone (Mp : MapEnv) : ∀ (f : FieldDecl) (v : PyVal), (untrV Mp f v).isNone = v.isNone
  | .struct c fields _, v => by
    unfold untrV
    split
    · rfl
    · cases v <;> try rfl
      rename_i kvs
      simp only
      cases kwOfDict kvs <;> rfl
  | .seqOf _ _ _, v | .setOf _ _ _, v => by cases v <;> rfl
  | .anyOf fs, v => c10_untrFirst_isNone Mp fs v
  | .integer _, _ | .number _, _ | .float _, _ | .string _ _ _, _ | .boolean, _ | .enumLit _, _ | .enumCls _ _, _
  | .noneF, _ | .seqAny _ _, _ | .seqPos _ _ _ _, _ | .setAny _ _, _ | .tupleOf _ _, _ | .tuplePos _ _, _ | .mapAny _, _
  | .mapOf _ _ _, _ | .oneOf _, _ | .allOf _, _ | .notF _, _ | .anything, _ => rfl
theorem c10_untrFirst_isNone (Mp : MapEnv) : ∀ (fs : List FieldDecl) (v : PyVal),
    (untrFirst Mp fs v).isNone = v.isNone
  | [], _ => rfl
  | f :: fs, v => by
    simp only [untrFirst]
    split
    · exact c10_untr_isNone Mp f v
    · exact c10_untrFirst_isNone Mp fs v
end

/-- the enum-mapping step looks at a value the translation leaves alone, or does nothing -/
theorem c10_enumPre_cases (Mp : MapEnv) (f : FieldDecl) :
    (∀ v, untrV Mp f v = v) ∨ (∀ v, enumPre f v = .ok v) := by
  cases f <;> try (exact Or.inr fun _ => rfl)
  case enumCls => exact Or.inl fun _ => rfl
  case anyOf fs =>
    by_cases hopt : isOptAnyOf fs = true
    · -- an Optional: its non-None option is an Enum class and neither option is a container, or the
      -- step does nothing
      rcases optOf_of_isOpt fs hopt with ⟨x, h⟩
      cases x
      case enumCls => exact Or.inl fun v => by cases h <;> rfl
      all_goals exact Or.inr fun v => h.enumPre v
    · have hopt' : isOptAnyOf fs = false := by simpa using hopt
      exact Or.inr fun v => by simp [enumPre, hopt']

theorem c10_isList_of_simple (m : TMapper) (h : m.isComplex = false) : m.isList = false := by
  cases m <;> simp [TMapper.isComplex] at h <;> rfl

theorem c10_remapDoc_none (names : List String) (doc : List (String × PyVal)) :
    remapDoc .none names doc = doc := by
  simp [remapDoc, TMapper.isNone]

/-- a class-level object read through the class's simple mapper: the entries the continuation
    sees are those of the translated document -/
theorem c10_tInst_untr (Mp : MapEnv) (c : ClassOpts) (fields : List (String × FieldDecl))
    (defaults : List (String × PyVal)) (hinl : c.inline = false) (hM : (Mp c.name).isComplex = false)
    (v : PyVal) (k k' : List (String × PyVal) → R (List (String × PyVal)))
    (hk : ∀ doc, k doc = k' (untrKw Mp doc fields ++ doc.filter fun a => !(fields.map (·.1)).contains a.1)) :
    tInst (Mp c.name) c.name (fields.map (·.1)) v k
      = tInst (noMappers c.name) c.name (fields.map (·.1)) (untrV Mp (.struct c fields defaults) v) k' := by
  unfold untrV
  simp only [hinl, Bool.false_eq_true, if_false, noMappers_apply]
  cases v <;> try rfl
  rename_i kvs
  cases hd : kwOfDict kvs with
  | none => simp only [tInst, hd]
  | some doc =>
    have hl0 : TMapper.isList .none = false := rfl
    simp only [dictOfKw, tInst, hd, kwOfDict_pairs, c10_isList_of_simple (Mp c.name) hM, hl0,
      Bool.false_eq_true, if_false, c10_remapDoc_none, hk]

theorem c10_entry_factor (Mp : MapEnv) (f : FieldDecl) (v : PyVal)
    (hf : ∀ v, tVal Mp true f v = tVal noMappers true f (untrV Mp f v)) :
    bindE (enumPre f v) (tVal Mp true f) = bindE (enumPre f (untrV Mp f v)) (tVal noMappers true f) := by
  rcases c10_enumPre_cases Mp f with h1 | h2
  · rw [h1 v]
    congr 1
    funext v'
    rw [hf v', h1 v']
  · rw [h2 v, h2 (untrV Mp f v)]
    exact hf v

/-- the translation of an Optional is its option's: `NoneField` is passed over, and an option of the
    region that is no container is left alone like the `AnyOf` -/
theorem OptOf.untrFirst {fs : List FieldDecl} {x : FieldDecl} (h : OptOf fs x) (Mp : MapEnv)
    (hx : tsafeD x = true) (v : PyVal) : untrFirst Mp fs v = untrV Mp x v := by
  have hx' : (if isContainerD x then untrV Mp x v else v) = untrV Mp x v := by
    cases x <;> first | rfl | cases hx
  cases h <;> exact hx'

theorem c10_thead_of (Mp : MapEnv) (fs : List FieldDecl) (v : PyVal)
    (IH : ∀ f ∈ fs, ∀ v, tsafeTop f = true → tVal Mp true f v = tVal noMappers true f (untrV Mp f v))
    (hs : tsafeOpt fs = true) : tHead Mp fs v = tHead noMappers fs (untrFirst Mp fs v) := by
  rcases tsafeOpt_optOf fs hs with ⟨x, ho, hx, _⟩
  rw [ho.tHead, ho.tHead, ho.untrFirst Mp hx, tVal_false_of_D _ hx, tVal_false_of_D _ hx]
  exact IH x ho.mem v (tsafeTop_of_D x hx)

theorem c10_tfields_of (Mp : MapEnv) : ∀ (rest : List (String × FieldDecl))
    (ign : Bool) (doc doc2 : List (String × PyVal)),
    (∀ nf ∈ rest, ∀ v, tsafeTop nf.2 = true → tVal Mp true nf.2 v = tVal noMappers true nf.2 (untrV Mp nf.2 v)) →
    tsafeFields rest = true →
    (∀ p ∈ rest, lookup p.1 doc2 = (lookup p.1 doc).map (untrV Mp p.2)) →
    tFields Mp false ign doc rest = tFields noMappers false ign doc2 rest
  | [], _, _, _, _, _, _ => by simp [tFields]
  | (n, f) :: rest, ign, doc, doc2, IH, hs, hl => by
    rw [tsafeFields_cons] at hs
    simp only [Bool.and_eq_true_iff] at hs
    have ih := c10_tfields_of Mp rest ign doc doc2 (fun p hp => IH p (List.mem_cons_of_mem _ hp)) hs.2
      (fun p hp => hl p (by simp [hp]))
    have hl0 := hl (n, f) (by simp)
    simp only at hl0
    simp only [tFields, hl0]
    cases lookup n doc with
    | none => simp only [Option.map_none]; exact ih
    | some v =>
      simp only [Option.map_some, c10_untr_isNone, Bool.false_eq_true, if_false]
      rw [ih, c10_entry_factor Mp f v (fun v' => IH (n, f) List.mem_cons_self v' hs.1)]

theorem c10_class_factor (Mp : MapEnv) (c : ClassOpts) (fields : List (String × FieldDecl))
    (defaults : List (String × PyVal)) (ign : Bool) (v : PyVal)
    (IH : ∀ nf ∈ fields, ∀ v, tsafeTop nf.2 = true → tVal Mp true nf.2 v = tVal noMappers true nf.2 (untrV Mp nf.2 v))
    (hM : (Mp c.name).isComplex = false) (hinl : c.inline = false) (hnd : strNodup (fields.map (·.1)) = true)
    (hsf : tsafeFields fields = true) :
    tInst (Mp c.name) c.name (fields.map (·.1)) v (fun doc => tFields Mp false ign doc fields)
      = tInst (noMappers c.name) c.name (fields.map (·.1)) (untrV Mp (.struct c fields defaults) v)
          (fun doc => tFields noMappers false ign doc fields) :=
  c10_tInst_untr Mp c fields defaults hinl hM v _ _ fun doc =>
    c10_tfields_of Mp fields ign doc _ IH hsf (c10_lookup_untr_doc Mp doc fields hnd)

theorem c10_tval_factor (Mp : MapEnv) (hM : simpleEnv Mp) : ∀ (f : FieldDecl) (v : PyVal),
    tsafeTop f = true → tVal Mp true f v = tVal noMappers true f (untrV Mp f v) := by
  intro f
  induction f using FieldDecl.induction with
  | seqOf k item sz ih =>
    intro v hs
    cases k
    case deque => cases hs
    unfold tsafeTop tsafeD at hs
    simp only [Bool.or_eq_true, Bool.and_eq_true_iff] at hs
    rcases hs with hs | ⟨hc, hi⟩
    · -- scalar or Enum items: nothing to translate, and no element meets a mapper
      have hs := hs.imp_right And.left
      rw [c10_untr_seqOf_id Mp .list item sz (c10_untr_scalar Mp item hs)]
      unfold tVal
      simp only [item_not_ref item hs, Bool.false_eq_true, if_false]
    · unfold tVal
      simp only [hc, if_true, tVal_false_of_D _ hi]
      cases v <;> (unfold untrV; simp only [pyList])
      rename_i xs
      rw [mapE_map, mapE_congr xs (fun x _ => ih x (tsafeTop_of_D item hi))]
  | setOf imm item sz ih =>
    intro v hs
    unfold tsafeTop tsafeD at hs
    simp only [Bool.or_eq_true, Bool.and_eq_true_iff] at hs
    have hs := hs.imp (isSetScalarOk_arrScalar item) And.left
    rw [c10_untr_setOf_id Mp imm item sz (c10_untr_scalar Mp item hs)]
    unfold tVal
    simp only [item_not_ref item hs, Bool.false_eq_true, if_false]
  | struct c fields defaults ih =>
    intro v hs
    unfold tsafeTop tsafeD at hs
    simp only [Bool.and_eq_true_iff, Bool.not_eq_true'] at hs
    unfold tVal
    simp only [hs.1.1, Bool.false_eq_true, if_false]
    exact c10_class_factor Mp c fields defaults c.ignoreNone v ih (hM c.name) hs.1.1 hs.1.2 hs.2
  | anyOf fs ih =>
    intro v hs
    simp only [tsafeTop] at hs
    by_cases hopt : isOptAnyOf fs = true
    · simp only [hopt, if_true] at hs
      unfold tVal untrV
      simp only [hopt, Bool.and_self, if_true]
      exact c10_thead_of Mp fs v ih hs
    · have hopt' : isOptAnyOf fs = false := by simpa using hopt
      simp only [hopt', Bool.false_eq_true, if_false] at hs
      have hnc : ∀ g ∈ fs, isContainerD g = false := fun g hg => by
        have := List.all_eq_true.mp hs g hg
        cases g <;> simp [rawOrNone, isRawScalar, isNoneF] at this <;> rfl
      unfold tVal untrV
      simp only [hopt', Bool.and_false, Bool.false_eq_true, if_false, c10_untrFirst_id Mp v fs hnc]
  | number | integer | float | string | boolean | noneF | enumLit | enumCls => exact fun _ _ => rfl
  | _ => exact fun _ hs => nomatch hs

theorem c10_thead_factor (Mp : MapEnv) (hM : simpleEnv Mp) : ∀ (fs : List FieldDecl) (v : PyVal),
    tsafeOpt fs = true → tHead Mp fs v = tHead noMappers fs (untrFirst Mp fs v) :=
  fun fs v => c10_thead_of Mp fs v fun f _ => c10_tval_factor Mp hM f

end Typedpy
