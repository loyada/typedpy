/-
  Sem/StubText.lean — the TEXT of a generated `.pyi`: a typed AST of annotations, the token sequences the stub
  generator writes for the `__init__`, the three helper methods, attribute lines, class headers and for the
  methods / functions it re-renders from `inspect.signature`, and a recogniser of the Python subset they live in
  (a `def` header: parameter list with the ordering rules of Python signatures, annotation / default expressions).

  Generator side (typedpy/stubs):
    * `type_info_getter.get_all_type_info` (the `Optional[…] = None` wrapping)      → `fieldItem`
    * `methods_info_getter.get_init`                                                → `initToks`
    * `methods_info_getter.get_additional_structure_methods`                        → `helperToks`
    * `type_helpers.get_stubs_of_structures` (`class X(bases):`, `    name: type`)  → `classToks`, `attrToks`
    * `methods_info_getter._get_list_of_params_with_type` / `_get_method_code`      → `sigItems`, `methodToks`
  Python side (the language reference, "Function definitions", "Primaries", "Subscriptions", "List displays"):
    * `lexPy`      characters → tokens (names, literals, the punctuation that occurs in headers)
    * `splitParams` the parameter list cut at its top-level commas (bracket depth)
    * `classify`    one item: `/`, `*`, `*name[: e]`, `**name[: e]`, `name[: e][= e]`, `exprOk` for `e`
    * `orderItems`  the ordering rules: no parameter without default after one with default (before `*`), `/` once,
                    after a parameter and before `*`; one `*`/`*args`; a bare `*` needs a named parameter after it;
                    `**kw` last and without default
    * `parseDef`    `def NAME ( … ) [-> e] : ...` → name and `[name, kind, has default]` of every parameter
                    (the view `inspect.signature` / `ast.arguments` give)
  Expressions are the subset the generator can write: dotted names, `None`/`True`/`False`, `...`, literals,
  subscriptions `x[a, b]` (non-empty), list displays `[a, b]` (for `Callable[[a, b], r]`); no operators, calls,
  slices, starred items or parentheses (the harness corresponds the recogniser with CPython only inside this subset).
-/
import TypedpyModel.Sem.Stub
namespace Typedpy.StubText
open Typedpy.Stub

/-! ### tokens -/

inductive Tok where
  | name (s : String)
  /-- number or string literal -/
  | lit
  | lpar | rpar | lsq | rsq | comma | colon | eq | star | dstar | slash | dot | arrow | ellipsis
deriving Repr, DecidableEq, Inhabited

/-- Python's (hard) keywords -/
def keywords : List String :=
  ["False", "None", "True", "and", "as", "assert", "async", "await", "break", "class", "continue", "def", "del",
   "elif", "else", "except", "finally", "for", "from", "global", "if", "import", "in", "is", "lambda", "nonlocal",
   "not", "or", "pass", "raise", "return", "try", "while", "with", "yield"]

def isIdStart (c : Char) : Bool := c.isAlpha || c == '_' || c.toNat ≥ 128
def isIdChar (c : Char) : Bool := c.isAlphanum || c == '_' || c.toNat ≥ 128

def identChars : List Char → Bool
  | [] => false
  | c :: cs => isIdStart c && cs.all isIdChar

/-- a name that can be bound (parameter, attribute, class name): identifier, not a keyword -/
def identOk (s : String) : Bool := identChars s.toList && !keywords.contains s

/-- a name in operand position: identifier or one of the three constant keywords -/
def atomOk (s : String) : Bool := identOk s || s == "None" || s == "True" || s == "False"

/-! ### annotation AST and its tokens -/

inductive Ann where
  /-- dotted name `a.b.c` (also `None`, `Any`) -/
  | name (parts : List String)
  /-- `head[args]` -/
  | sub (head : List String) (args : List Ann)
  /-- list display `[a, b]` -/
  | lst (items : List Ann)
  | ellipsis
  | lit
deriving Repr, Inhabited

def dottedTail : List String → List Tok
  | [] => []
  | a :: rest => .dot :: .name a :: dottedTail rest

def dottedToks : List String → List Tok
  | [] => []
  | a :: rest => .name a :: dottedTail rest

mutual
def annToks : Ann → List Tok
  | .name ps => dottedToks ps
  | .sub h args => dottedToks h ++ (.lsq :: (annsToks args ++ [.rsq]))
  | .lst items => .lsq :: (annsToks items ++ [.rsq])
  | .ellipsis => [.ellipsis]
  | .lit => [.lit]
termination_by structural a => a
def annsToks : List Ann → List Tok
  | [] => []
  | a :: rest => annToks a ++ annsTail rest
termination_by structural as => as
def annsTail : List Ann → List Tok
  | [] => []
  | a :: rest => .comma :: (annToks a ++ annsTail rest)
termination_by structural as => as
end

def dottedOk : List String → Bool
  | [] => false
  | a :: rest => atomOk a && rest.all identOk

mutual
/-- well-formed: names are names, subscriptions have at least one argument -/
def Ann.wf : Ann → Bool
  | .name ps => dottedOk ps
  | .sub h args => dottedOk h && !args.isEmpty && Ann.wfL args
  | .lst items => Ann.wfL items
  | .ellipsis => true
  | .lit => true
termination_by structural a => a
def Ann.wfL : List Ann → Bool
  | [] => true
  | a :: rest => Ann.wf a && Ann.wfL rest
termination_by structural as => as
end

/-- `type_info_str.startswith("Optional[")` -/
def isOptHead : Ann → Bool
  | .sub ["Optional"] _ => true
  | _ => false

/-! ### expression recogniser (a bracket-stack machine over tokens) -/

inductive EPos where
  /-- an operand is expected; `canClose`: a `]` is legal here (empty list display / trailing comma) -/
  | operand (canClose : Bool)
  | afterOp
  | afterDot
deriving Repr, DecidableEq, Inhabited

/-- stack entry `true` = list display, `false` = subscription -/
abbrev ESt := List Bool × EPos

def stepE (st : ESt) (t : Tok) : Option ESt :=
  match st.2 with
  | .operand c =>
    match t with
    | .name s => if atomOk s then some (st.1, .afterOp) else none
    | .lit => some (st.1, .afterOp)
    | .ellipsis => some (st.1, .afterOp)
    | .lsq => some (true :: st.1, .operand true)
    | .rsq => if c then (match st.1 with | [] => none | _ :: rest => some (rest, .afterOp)) else none
    | _ => none
  | .afterOp =>
    match t with
    | .dot => some (st.1, .afterDot)
    | .lsq => some (false :: st.1, .operand false)
    | .comma => (match st.1 with | [] => none | _ :: _ => some (st.1, .operand true))
    | .rsq => (match st.1 with | [] => none | _ :: rest => some (rest, .afterOp))
    | _ => none
  | .afterDot =>
    match t with
    | .name s => if identOk s then some (st.1, .afterOp) else none
    | _ => none

def runE : ESt → List Tok → Option ESt
  | st, [] => some st
  | st, t :: ts => match stepE st t with
    | some st' => runE st' ts
    | none => none

/-- `ts` is one expression of the subset -/
def exprOk (ts : List Tok) : Bool :=
  match runE ([], .operand false) ts with
  | some ([], .afterOp) => true
  | _ => false

/-! ### the parameter list -/

inductive PKind where | po | pk | va | ko | vk
deriving Repr, DecidableEq, Inhabited

/-- what `inspect.signature` / `ast.arguments` say about a parameter -/
structure PInfo where
  name : String
  kind : PKind
  hasDefault : Bool
deriving Repr, DecidableEq, Inhabited

def isOpenTok (t : Tok) : Bool := t == .lsq || t == .lpar

/-- cut at the top-level commas up to the closing `)`: (items, what follows the `)`) -/
def splitGo : List Tok → Nat → List Tok → List (List Tok) → Option (List (List Tok) × List Tok)
  | [], _, _, _ => none
  | t :: ts, d, cur, acc =>
    if t = .comma then (if d = 0 then splitGo ts 0 [] (acc ++ [cur]) else splitGo ts d (cur ++ [t]) acc)
    else if isOpenTok t then splitGo ts (d + 1) (cur ++ [t]) acc
    else if t = .rsq then (if d = 0 then none else splitGo ts (d - 1) (cur ++ [t]) acc)
    else if t = .rpar then (if d = 0 then some (acc ++ [cur], ts) else splitGo ts (d - 1) (cur ++ [t]) acc)
    else splitGo ts d (cur ++ [t]) acc

def splitParams (ts : List Tok) : Option (List (List Tok) × List Tok) := splitGo ts 0 [] []

inductive Item where
  | slash | star
  | va (n : String) | vk (n : String)
  | param (n : String) (hasDefault : Bool)
deriving Repr, DecidableEq, Inhabited

/-- `[]` or `: e` -/
def annPartOk : List Tok → Bool
  | [] => true
  | .colon :: e => exprOk e
  | _ => false

/-- the tokens before the first `=` and, if there is one, those after it -/
def splitEq : List Tok → List Tok × Option (List Tok)
  | [] => ([], none)
  | t :: ts => if t = .eq then ([], some ts) else (t :: (splitEq ts).1, (splitEq ts).2)

def classify : List Tok → Option Item
  | [.slash] => some .slash
  | [.star] => some .star
  | .star :: .name n :: rest => if identOk n && annPartOk rest then some (.va n) else none
  | .dstar :: .name n :: rest => if identOk n && annPartOk rest then some (.vk n) else none
  | .name n :: rest =>
    if identOk n && annPartOk (splitEq rest).1 then
      (match (splitEq rest).2 with
       | none => some (.param n false)
       | some d => if exprOk d then some (.param n true) else none)
    else none
  | _ => none

def classifyAll : List (List Tok) → Option (List Item)
  | [] => some []
  | x :: xs => match classify x, classifyAll xs with
    | some i, some is => some (i :: is)
    | _, _ => none

/-- section of the parameter list -/
inductive Sect where
  /-- positional parameters, `/` not seen -/
  | p0
  /-- positional parameters after `/` -/
  | p1
  /-- after `*` / `*args`; `need`: a bare `*` still waits for its first named parameter -/
  | kw (need : Bool)
  /-- after `**kw` -/
  | done
deriving Repr, DecidableEq, Inhabited

def setPo (p : PInfo) : PInfo := { p with kind := .po }

/-- the ordering rules of Python signatures; `acc` is reversed -/
def orderGo : Sect → Bool → List PInfo → List Item → Option (List PInfo)
  | s, _, acc, [] => if s = .kw true then none else some acc.reverse
  | s, seenD, acc, it :: rest =>
    match it with
    | .param n d =>
      if s = .p0 ∨ s = .p1 then
        (if !d && seenD then none else orderGo s (seenD || d) (⟨n, .pk, d⟩ :: acc) rest)
      else if s = .done then none
      else orderGo (.kw false) seenD (⟨n, .ko, d⟩ :: acc) rest
    | .slash => if s = .p0 && !acc.isEmpty then orderGo .p1 seenD (acc.map setPo) rest else none
    | .star => if s = .p0 ∨ s = .p1 then orderGo (.kw true) seenD acc rest else none
    | .va n => if s = .p0 ∨ s = .p1 then orderGo (.kw false) seenD (⟨n, .va, false⟩ :: acc) rest else none
    | .vk n => if s = .done ∨ s = .kw true then none else orderGo .done seenD (⟨n, .vk, false⟩ :: acc) rest

def orderItems (items : List Item) : Option (List PInfo) := orderGo .p0 false [] items

/-- drop the empty item a trailing comma leaves -/
def dropTrailing : List (List Tok) → List (List Tok)
  | [] => []
  | [x] => [x]
  | x :: y :: rest => if (y :: rest).getLast? = some [] then x :: (y :: rest).dropLast else x :: y :: rest

/-- the parameter list between `(` and `)`, already cut into items -/
def parseItems (items : List (List Tok)) : Option (List PInfo) :=
  if items = [[]] then some []
  else match classifyAll (dropTrailing items) with
    | some is => orderItems is
    | none => none

structure DefInfo where
  name : String
  params : List PInfo
deriving Repr, DecidableEq, Inhabited

/-- what may follow the `)`: `: ...` or `-> e : ...` -/
def tailOk (ts : List Tok) : Bool :=
  match ts with
  | [.colon, .ellipsis] => true
  | .arrow :: rest =>
    (match rest.reverse with
     | .ellipsis :: .colon :: erev => exprOk erev.reverse
     | _ => false)
  | _ => false

/-- `def NAME ( parameters ) [-> e] : ...` -/
def parseDef : List Tok → Option DefInfo
  | .name "def" :: .name f :: .lpar :: rest =>
    if identOk f then
      match splitParams rest with
      | some (items, tail) =>
        if tailOk tail then (match parseItems items with
          | some ps => some ⟨f, ps⟩
          | none => none)
        else none
      | none => none
    else none
  | _ => none

/-- no two parameters share a name (checked by CPython's symbol table pass, i.e. by `compile`, not by `ast.parse`) -/
def dupFree : List String → Bool
  | [] => true
  | x :: xs => !xs.contains x && dupFree xs

/-- `class NAME :` / `class NAME ( e, … ) :` -/
def parseClass : List Tok → Option (String × Nat)
  | [.name "class", .name c, .colon] => if identOk c then some (c, 0) else none
  | .name "class" :: .name c :: .lpar :: rest =>
    if identOk c then
      match splitParams rest with
      | some (items, [.colon]) =>
        if items = [[]] then some (c, 0)
        else if (dropTrailing items).all exprOk then some (c, (dropTrailing items).length) else none
      | _ => none
    else none
  | _ => none

/-- `name: e` / `name: e = e` (an annotated assignment of the class body; same shape as a parameter) -/
def parseAttr (ts : List Tok) : Option (String × Bool) :=
  match ts with
  | .name n :: .colon :: _ => (match classify ts with
    | some (.param _ d) => some (n, d)
    | _ => none)
  | _ => none

/-! ### lexer (characters → tokens) -/

inductive LSt where
  | idle
  | ident (rev : List Char)
  | num
  | str (q : Char) (esc : Bool)
  | dots (n : Nat)
  | minus
  | star
deriving Repr, Inhabited

def isSpace (c : Char) : Bool := c == ' ' || c == '\n' || c == '\t' || c == '\r'

def punct (c : Char) : Option Tok :=
  if c == '(' then some .lpar else if c == ')' then some .rpar else if c == '[' then some .lsq
  else if c == ']' then some .rsq else if c == ',' then some .comma else if c == ':' then some .colon
  else if c == '=' then some .eq else if c == '/' then some .slash else none

/-- close the pending token of state `st` (tokens accumulate reversed) -/
def flush (st : LSt) (acc : List Tok) : Option (List Tok) :=
  match st with
  | .idle => some acc
  | .ident rev => some (.name (String.ofList rev.reverse) :: acc)
  | .num => some (.lit :: acc)
  | .str _ _ => none
  | .dots 1 => some (.dot :: acc)
  | .dots 3 => some (.ellipsis :: acc)
  | .dots _ => none
  | .minus => none
  | .star => some (.star :: acc)

/-- start a token with `c` from the idle state -/
def startTok (c : Char) (acc : List Tok) : Option (LSt × List Tok) :=
  if isSpace c then some (.idle, acc)
  else if isIdStart c then some (.ident [c], acc)
  else if c.isDigit then some (.num, acc)
  else if c == '\'' || c == '"' then some (.str c false, acc)
  else if c == '.' then some (.dots 1, acc)
  else if c == '-' then some (.minus, acc)
  else if c == '*' then some (.star, acc)
  else match punct c with
    | some t => some (.idle, t :: acc)
    | none => none

def lexGo : List Char → LSt → List Tok → Option (List Tok)
  | [], st, acc => (flush st acc).map List.reverse
  | c :: cs, st, acc =>
    match st with
    | .idle => (match startTok c acc with | some (st', acc') => lexGo cs st' acc' | none => none)
    | .ident rev =>
      if isIdChar c then lexGo cs (.ident (c :: rev)) acc
      else (match startTok c (.name (String.ofList rev.reverse) :: acc) with
            | some (st', acc') => lexGo cs st' acc' | none => none)
    | .num =>
      if c.isAlphanum || c == '.' || c == '_' then lexGo cs .num acc
      else (match startTok c (.lit :: acc) with | some (st', acc') => lexGo cs st' acc' | none => none)
    | .str q esc =>
      if esc then lexGo cs (.str q false) acc
      else if c == '\\' then lexGo cs (.str q true) acc
      else if c == q then lexGo cs .idle (.lit :: acc)
      else if c == '\n' then none
      else lexGo cs (.str q false) acc
    | .dots n =>
      if c == '.' then lexGo cs (.dots (n + 1)) acc
      else (match flush (.dots n) acc with
            | some acc1 => (match startTok c acc1 with | some (st', acc') => lexGo cs st' acc' | none => none)
            | none => none)
    | .minus => if c == '>' then lexGo cs .idle (.arrow :: acc) else none
    | .star =>
      if c == '*' then lexGo cs .idle (.dstar :: acc)
      else (match startTok c (.star :: acc) with | some (st', acc') => lexGo cs st' acc' | none => none)

def lexPy (s : String) : Option (List Tok) := lexGo s.toList .idle []

/-! ### printing tokens (canonical spacing) -/

def tokText : Tok → String
  | .name s => s
  | .lit => "0"
  | .lpar => "(" | .rpar => ")" | .lsq => "[" | .rsq => "]" | .comma => "," | .colon => ":" | .eq => "="
  | .star => "*" | .dstar => "**" | .slash => "/" | .dot => "." | .arrow => "->" | .ellipsis => "..."

/-- tokens separated by one blank each, for display and for the closed examples.  Lexing it need not give the tokens
    back (a name token with a blank in it comes back as two); the round trip through `lexPy` is stated for
    `renderText` (Lemmas/StubLex.lean), under the hypothesis that every name is identifier-shaped. -/
def toksText (ts : List Tok) : String := " ".intercalate (ts.map tokText)

/-! ### what the generator writes -/

def joinTail : List (List Tok) → List Tok
  | [] => []
  | y :: rest => .comma :: (y ++ joinTail rest)

/-- `", ".join(items)` -/
def joinComma : List (List Tok) → List Tok
  | [] => []
  | x :: rest => x ++ joinTail rest

def noneDefault : List Tok := [.eq, .name "None"]

/-- `get_all_type_info` + `f"{k}: {v}"`: the parameter of one field in `__init__`; `a` is what `get_type_info`
    rendered for the field, `hasDefault` = the name is not in `_required` -/
def fieldItem (a : Ann) (p : Param) : List Tok :=
  .name p.name :: .colon ::
    (if p.hasDefault then
      (if isOptHead a then annToks a ++ noneDefault else annToks (.sub ["Optional"] [a]) ++ noneDefault)
     else annToks a)

/-- the same parameter in a helper method: `v if v.endswith("= None") else f"{v} = None"` -/
def helperItem (a : Ann) (p : Param) : List Tok :=
  if p.hasDefault then fieldItem a p else .name p.name :: .colon :: (annToks a ++ noneDefault)

/-- `_var_keyword_name`: the var-keyword of the generated methods is called `kwargs` when a field is called `kw`
    (since the repair of "uncompilable-stub:parameter-name-clash") -/
def kwName (ps : List Param) : String := if ps.any (fun p => p.name == "kw") then "kwargs" else "kw"

def kwItem (n : String) : List Tok := [.dstar, .name n]


def defToks (f : String) (items : List (List Tok)) : List Tok :=
  .name "def" :: .name f :: .lpar :: (joinComma items ++ [.rpar, .colon, .ellipsis])

/-- `get_init` -/
def initToks (anns : String → Ann) (s : Sig) : List Tok :=
  defToks "__init__" ([[.name "self"]] ++ s.params.map (fun p => fieldItem (anns p.name) p)
    ++ (if s.kw then [kwItem (kwName s.params)] else []))

def anyAnn : Ann := .name ["Any"]
def iterStrAnn : Ann := .sub ["Iterable"] [.name ["str"]]

def helperName : Helper → String
  | .shallowClone => "shallow_clone_with_overrides"
  | .fromOtherClass => "from_other_class"
  | .fromTrustedData => "from_trusted_data"

/-- the fixed leading items of the three helper methods -/
def helperLead : Helper → List (List Tok)
  | .shallowClone => [[.name "self"]]
  | .fromOtherClass =>
    [[.name "cls"], .name "source_object" :: .colon :: annToks anyAnn, [.star],
     .name "ignore_props" :: .colon :: (annToks iterStrAnn ++ noneDefault)]
  | .fromTrustedData =>
    [[.name "cls"], .name "source_object" :: .colon :: (annToks anyAnn ++ noneDefault), [.star],
     .name "ignore_props" :: .colon :: (annToks iterStrAnn ++ noneDefault)]

/-- the field keywords of a helper method: a field called like one of the fixed parameters of the two classmethods
    cannot be passed as an override at run time (the name binds to the fixed parameter) and is left out -/
def helperFields : Helper → List Param → List Param := helperKeep

/-- `get_additional_structure_methods`; `s` is the `__init__` signature (`stubInit`) -/
def helperToks (anns : String → Ann) (h : Helper) (s : Sig) : List Tok :=
  defToks (helperName h) (helperLead h ++ (helperFields h s.params).map (fun p => helperItem (anns p.name) p)
    ++ (if s.kw then [kwItem (kwName s.params)] else []))

/-- `    {field_name}: {type_name}` -/
def attrToks (a : Ann) (p : Param) : List Tok := fieldItem a p

/-- `class X(bases):` with the bases as rendered names (`_get_bases_for_structure` appends `Structure`) -/
def classToks (c : String) (bases : List (List String)) : List Tok :=
  if bases.isEmpty then [.name "class", .name c, .colon]
  else .name "class" :: .name c :: .lpar :: (joinComma (bases.map dottedToks) ++ [.rpar, .colon])

/-- the names are bindable identifiers and the annotations are well-formed -/
def textDomain (anns : String → Ann) (ps : List Param) : Bool :=
  ps.all (fun p => identOk p.name && (anns p.name).wf)

/-! ### methods and functions re-rendered from `inspect.signature` (`_get_list_of_params_with_type`) -/

/-- one parameter as `inspect.signature` reports it, with the annotation / default the generator will print -/
structure RParam where
  name : String
  kind : PKind
  ann : Option Ann := none
  /-- `""`, `" = None"` or `" = <class name>"` -/
  dflt : Option Ann := none
deriving Repr, Inhabited

def RParam.info (p : RParam) : PInfo := ⟨p.name, p.kind, p.dflt.isSome⟩

/-- `: annotation` or nothing -/
def annPart : Option Ann → List Tok
  | some a => .colon :: annToks a
  | none => []

/-- ` = default` or nothing -/
def dfltPart : Option Ann → List Tok
  | some d => .eq :: annToks d
  | none => []

/-- `get_optional_globe`: `*` / `**` -/
def kindPrefix : PKind → List Tok
  | .va => [.star]
  | .vk => [.dstar]
  | _ => []

/-- `f"{get_optional_globe(v)}{p}{type_annotation}{default}"` -/
def rparamToks (p : RParam) : List Tok :=
  kindPrefix p.kind ++ (.name p.name :: (annPart p.ann ++ dfltPart p.dflt))

/-- the loop of `_get_list_of_params_with_type`: `pending` = `pending_positional_only`,
    `found` = `found_last_positional` -/
def sigItemsGo : Bool → Bool → List RParam → List (List Tok)
  | pending, _, [] => if pending then [[.slash]] else []
  | pending, found, p :: rest =>
    let slashNow := pending && p.kind != .po
    let pending' := p.kind == .po
    let found1 := found || p.kind == .va
    let starNow := p.kind == .ko && !found1
    (if slashNow then [[.slash]] else []) ++ (if starNow then [[.star]] else []) ++
      (rparamToks p :: sigItemsGo pending' (found1 || starNow) rest)

def sigItems (ps : List RParam) : List (List Tok) := sigItemsGo false false ps

/-- ` -> annotation` or nothing -/
def retPart : Option Ann → List Tok
  | some r => .arrow :: annToks r
  | none => []

/-- `def {name}({params}){return_annotations}: ...` -/
def methodToks (f : String) (ps : List RParam) (ret : Option Ann) : List Tok :=
  .name "def" :: .name f :: .lpar :: (joinComma (sigItems ps) ++ (.rpar :: (retPart ret ++ [.colon, .ellipsis])))

/-! ### `get_type_info` for the field kinds whose rendering nests other renderings -/

/-- the shape of a field as `get_type_info` dispatches on it: `AnyOf/OneOf/AllOf` with exactly two options the second
    of which is a `NoneField` (`opt`), any other `AnyOf/OneOf/AllOf` (`union`), `Map` with item fields (`map`), and
    everything else as the annotation it renders to (`leaf`: a module attribute's name, an enum class, the python type
    of a scalar field, a typing generic, `dict` for a Map without items …) -/
inductive FTy where
  | leaf (a : Ann)
  | opt (x : FTy)
  | union (xs : List FTy)
  | map (xs : List FTy)
deriving Repr, Inhabited

mutual
/-- `get_type_info` / `_get_anyof_typing`: never a default inside an annotation (fix 08ea09e) -/
def typeInfo : FTy → Ann
  | .leaf a => a
  | .opt x => .sub ["Optional"] [typeInfo x]
  | .union xs => .sub ["Union"] (typeInfoL xs)
  | .map xs => .sub ["dict"] (typeInfoL xs)
termination_by structural t => t
def typeInfoL : List FTy → List Ann
  | [] => []
  | x :: rest => typeInfo x :: typeInfoL rest
termination_by structural ts => ts
end

mutual
def FTy.wf : FTy → Bool
  | .leaf a => a.wf
  | .opt x => FTy.wf x
  | .union xs => !xs.isEmpty && FTy.wfL xs
  | .map xs => !xs.isEmpty && FTy.wfL xs
termination_by structural t => t
def FTy.wfL : List FTy → Bool
  | [] => true
  | x :: rest => FTy.wf x && FTy.wfL rest
termination_by structural ts => ts
end

/-! ### legal `inspect.Signature` parameter lists -/

def optWf : Option Ann → Bool
  | some a => a.wf
  | none => true

/-- phases of a legal `inspect.Signature` parameter list -/
inductive VPhase where
  /-- nothing yet -/
  | po0
  /-- only positional-only parameters so far (at least one) -/
  | po1
  | pk
  /-- after `*args` or a keyword-only parameter -/
  | ko
  | done
deriving Repr, DecidableEq

/-- what `inspect.Signature.__init__` enforces: kinds in order, no parameter without default after one with
    default among the positional ones, no default on `*args` / `**kw` -/
def validGo : VPhase → Bool → List RParam → Bool
  | _, _, [] => true
  | ph, seenD, p :: rest =>
    match p.kind with
    | .po => (ph = .po0 || ph = .po1) && !(!p.dflt.isSome && seenD) && validGo .po1 (seenD || p.dflt.isSome) rest
    | .pk => (ph = .po0 || ph = .po1 || ph = .pk) && !(!p.dflt.isSome && seenD) &&
               validGo .pk (seenD || p.dflt.isSome) rest
    | .va => (ph = .po0 || ph = .po1 || ph = .pk) && p.dflt.isNone && validGo .ko seenD rest
    | .ko => (ph != .done) && validGo .ko seenD rest
    | .vk => (ph != .done) && p.dflt.isNone && validGo .done seenD rest

def validSig (ps : List RParam) : Bool := validGo .po0 false ps

/-- names are bindable, annotations / defaults are expressions of the subset -/
def rparamOk (p : RParam) : Bool := identOk p.name && optWf p.ann && optWf p.dflt

/-- `*args` / `**kw` never carry a default in a signature -/
def noVarDefault (p : RParam) : Bool :=
  match p.kind with
  | .va => p.dflt.isNone
  | .vk => p.dflt.isNone
  | _ => true

end Typedpy.StubText
