/-
  Inside the supported region the model of typedpy's elaboration (`Sem/Elaborate` at the committed table) sends every
  spelling to its documented meaning (`Spec/Meaning.denote`) in every position a sub-expression can be consumed in
  (`get_typing_lib_info`, `FieldMeta.__getitem__`, `_map_to_field`, `_or_fields`, typing's union flattening): induction
  over spellings, `ev_good`, with the invariant `Good`.
  The lemmas about objects (`gtli_*`, `gtliArgs_*`, `treeObj`, `pipeObj_tree`) and the field level (`annField_of_gtli`,
  `evTop_meaning`, `elabField_of_obj`) do not mention spellings: they take an object and the field it stands for, which
  `ev_good` supplies here and `ElabFlat.ev_flatten` for whole trees of unions.
-/
import TypedpyModel.Spec.Meaning
import TypedpyModel.Pinned.TypeMap
import TypedpyModel.Lemmas.Basic
namespace Typedpy.Elab
open Typedpy

/-- the committed table; `C13.typeMap_pinned` (`Props/C13Tie`) ties it to the one regenerated from the working tree -/
abbrev ptm : TypeMap := Pinned.typeMap

theorem cbt_scalar (k : Scalar) : ptm.cbt k.atom = some k.head := by cases k <;> rfl
theorem generic_scalar (k : Scalar) : ptm.generic k.atom = false := by cases k <;> rfl
theorem cbt_coll (c : Coll) : ptm.cbt c.atom = some c.head := by cases c <;> rfl
theorem generic_coll (c : Coll) : ptm.generic c.atom = false := by cases c <;> rfl
theorem generic_tcoll (c : Coll) : ptm.generic c.tAtom = true := by cases c <;> rfl
theorem origin_tcoll (c : Coll) : ptm.origin c.tAtom = some c.atom := by cases c <;> rfl
theorem cbt_dict : ptm.cbt .dict = some .map := rfl
theorem generic_dict : ptm.generic .dict = false := rfl
theorem generic_tdict : ptm.generic .tDict = true := rfl
theorem origin_tdict : ptm.origin .tDict = some .dict := rfl
theorem cbt_tunion : ptm.cbt .tUnion = some .anyOf := rfl
theorem cbt_tuple : ptm.cbt .tuple = some .tuple := rfl

theorem default_scalar (k : Scalar) : defaultDecl k.head = .ok k.decl := by cases k <;> rfl
theorem default_coll (c : Coll) (h : (c != Coll.tuple) = true) : defaultDecl c.head = .ok c.anyDecl := by
  cases c <;> first | rfl | cases h
theorem mkItems_coll (c : Coll) (d : FieldDecl) : mkItems c.head [d] = .ok (c.ofDecl d) := by cases c <;> rfl
theorem mkFromArgs_coll (c : Coll) (d : FieldDecl) : mkFromArgs c.head [d] = .ok (c.ofDecl d) := by cases c <;> rfl
theorem mkFromArgs_anyOf {ds : List FieldDecl} (h : ds ≠ []) : mkFromArgs .anyOf ds = .ok (.anyOf ds) := by
  cases ds with
  | nil => exact absurd rfl h
  | cons d ds => rfl

theorem someDecl_ok {r : R FieldDecl} {m : FieldDecl} (h : someDecl r = .ok (some m)) : r = .ok m := by
  obtain ⟨d, hr, hd⟩ := bindE_eq_ok h
  cases hd
  exact hr

theorem gtli_fcls {h : Head} {d : FieldDecl} (hd : defaultDecl h = .ok d) : gtli ptm (.fcls h) = .ok (some d) := by
  simp only [gtli, hd, someDecl, bindE_ok]

theorem gtli_ty_class {a : Atom} {h : Head} {d : FieldDecl} (hg : ptm.generic a = false) (hc : ptm.cbt a = some h)
    (hd : defaultDecl h = .ok d) : gtli ptm (.ty a) = .ok (some d) := by
  simp only [gtli, hg, hc, hd, someDecl, bindE_ok, Bool.false_eq_true, if_false]

theorem gtli_ty_generic {a og : Atom} {h : Head} {d : FieldDecl} (hg : ptm.generic a = true) (ho : ptm.origin a = some og)
    (hc : ptm.cbt og = some h) (hd : defaultDecl h = .ok d) : gtli ptm (.ty a) = .ok (some d) := by
  simp only [gtli, hg, ho, ofOrigin, Option.bind_some, hc, hd, bindE_ok, if_true]

theorem getItem_of_gtli {o : Obj} {m : FieldDecl} (h : gtli ptm o = .ok (some m)) : getItem ptm o = .ok m := by
  cases o with
  | finst d => cases h; rfl
  | fcls hd => exact someDecl_ok h
  | noneV => cases h
  | scls d => cases h; rfl
  | _ => simp only [getItem, getItemFallback, h]

theorem mapToField_ok {o : Obj} {m : FieldDecl} (h : gtli ptm o = .ok (some m))
    (hf : (isFieldObj o || isSclsObj o) = true) : mapToField o = .ok (some m) := by
  cases o <;> first | exact h | cases hf

theorem tupleItem_ok {o : Obj} {m : FieldDecl} (h : gtli ptm o = .ok (some m))
    (hf : (isFieldObj o || isSclsObj o) = true) : tupleItem o = .ok m := by
  cases o <;> first | exact getItem_of_gtli h | cases hf

theorem mapToField_of_gtli {o : Obj} {m : FieldDecl} (h : gtli ptm o = .ok (some m)) (hf : isFieldObj o = true) :
    mapToField o = .ok (some m) :=
  mapToField_ok h (by rw [hf]; rfl)

theorem tupleItem_of_gtli {o : Obj} {m : FieldDecl} (h : gtli ptm o = .ok (some m)) (hf : isFieldObj o = true) :
    tupleItem o = .ok m :=
  tupleItem_ok h (by rw [hf]; rfl)

theorem fieldObj_not_scls {o : Obj} (h : isFieldObj o = true) : isSclsObj o = false := by
  cases o <;> first | rfl | cases h

theorem typingArg_of_gtli {o : Obj} {m : FieldDecl} (h : gtli ptm o = .ok (some m)) : typingArg o = o := by
  cases o <;> first | rfl | cases h

theorem gtliArgs_cons {o : Obj} {m : FieldDecl} {os : List Obj} {ms : List FieldDecl} (b : Bool)
    (h : gtli ptm o = .ok (some m)) (hs : gtliArgs ptm b os = .ok ms) :
    gtliArgs ptm b (o :: os) = .ok (m :: ms) := by
  simp only [gtliArgs, h, hs, argOf, bindE_ok]

theorem gtliArgs_one {o : Obj} {m : FieldDecl} (b : Bool) (h : gtli ptm o = .ok (some m)) :
    gtliArgs ptm b [o] = .ok [m] :=
  gtliArgs_cons b h rfl

theorem gtliArgs_append (b : Bool) {l₁ l₂ : List Obj} {d₁ d₂ : List FieldDecl}
    (h₁ : gtliArgs ptm b l₁ = .ok d₁) (h₂ : gtliArgs ptm b l₂ = .ok d₂) : gtliArgs ptm b (l₁ ++ l₂) = .ok (d₁ ++ d₂) := by
  induction l₁ generalizing d₁ with
  | nil => cases h₁; exact h₂
  | cons a l₁ ih =>
    simp only [gtliArgs] at h₁
    obtain ⟨r, hr, h₁⟩ := bindE_eq_ok h₁
    obtain ⟨d, hd, h₁⟩ := bindE_eq_ok h₁
    obtain ⟨ds, hds, h₁⟩ := bindE_eq_ok h₁
    cases h₁
    simp only [List.cons_append, gtliArgs, hr, hd, ih hds, bindE_ok]

theorem gtli_alias (t : Bool) {og : Atom} {h : Head} {os : List Obj} {ds : List FieldDecl} {d : FieldDecl}
    (hc : ptm.cbt og = some h) (ha : gtliArgs ptm (h == .anyOf) os = .ok ds) (hm : mkFromArgs h ds = .ok d) :
    gtli ptm (.alias t og os) = .ok (some d) := by
  simp only [gtli, hc, ha, hm, bindE_ok, someDecl]

theorem dedupObj_of_distinct (l : List Obj) (h : allDistinct l = true) : dedupObj l = l := by
  induction l with
  | nil => rfl
  | cons x xs ih =>
    simp only [allDistinct, Bool.and_eq_true] at h
    simp only [dedupObj, ih h.2]
    congr 1
    rw [List.filter_eq_self]
    exact fun y hy => List.all_eq_true.mp h.1 y hy

theorem allDistinct_pair {a b : Obj} (h : objEq a b = false) : allDistinct [a, b] = true := by
  simp [allDistinct, h]

theorem allDistinct_append (a b : List Obj) (h : allDistinct (a ++ b) = true) :
    allDistinct a = true ∧ allDistinct b = true := by
  induction a with
  | nil => exact ⟨rfl, h⟩
  | cons x xs ih =>
    simp only [List.cons_append, allDistinct, Bool.and_eq_true, List.all_append] at h ⊢
    exact ⟨⟨h.1.1, (ih h.2).1⟩, (ih h.2).2⟩

/-- the object a union evaluates to when `typing` / Python have nothing to merge: a `typing.Union` (`k = .typing`) or
    a `types.UnionType` of the members -/
def treeObj (k : UKind) (l : List Obj) : Obj := if k = .typing then .tUnion l else .uType l

theorem mkUnion_of_distinct {l : List Obj} (h : allDistinct l = true) (hl : 2 ≤ l.length) :
    mkUnion l = treeObj .typing l := by
  unfold mkUnion
  rw [dedupObj_of_distinct l h]
  match l, hl with
  | _ :: _ :: _, _ => rfl

theorem mkUType_of_distinct {l : List Obj} (h : allDistinct l = true) (hl : 2 ≤ l.length) :
    mkUType l = treeObj .plain l := by
  unfold mkUType
  rw [dedupObj_of_distinct l h]
  match l, hl with
  | _ :: _ :: _, _ => rfl

theorem isFieldObj_treeObj (k : UKind) (l : List Obj) : isFieldObj (treeObj k l) = false := by
  unfold treeObj; split <;> rfl
theorem isSclsObj_treeObj (k : UKind) (l : List Obj) : isSclsObj (treeObj k l) = false := by
  unfold treeObj; split <;> rfl
theorem unionMembers_treeObj (k : UKind) (l : List Obj) : unionMembers (treeObj k l) = l := by
  unfold treeObj; split <;> rfl

theorem gtliArgs_ne_nil {b : Bool} {os : List Obj} {ds : List FieldDecl} (h : gtliArgs ptm b os = .ok ds)
    (hn : 1 ≤ os.length) : ds ≠ [] := by
  match os, hn with
  | o :: os, _ =>
    simp only [gtliArgs] at h
    obtain ⟨_, -, h⟩ := bindE_eq_ok h
    obtain ⟨_, -, h⟩ := bindE_eq_ok h
    obtain ⟨_, -, h⟩ := bindE_eq_ok h
    cases h
    exact List.cons_ne_nil _ _

theorem gtli_treeObj (k : UKind) {os : List Obj} {ds : List FieldDecl} (ha : gtliArgs ptm true os = .ok ds)
    (hn : 1 ≤ os.length) : gtli ptm (treeObj k os) = .ok (some (.anyOf ds)) := by
  have hb : (Head.anyOf == Head.anyOf) = true := rfl
  unfold treeObj
  split <;> simp only [gtli, cbt_tunion, hb, ha, mkFromArgs_anyOf (gtliArgs_ne_nil ha hn), bindE_ok, someDecl]

theorem unionMembers_noneV : unionMembers .noneV = [.noneTy] := rfl
theorem isFieldObj_noneV : isFieldObj .noneV = false := rfl
theorem typingObj_noneV : typingObj ptm .noneV = false := rfl
theorem plainType_noneV : plainType ptm .noneV = false := rfl
theorem plainRight_noneV : plainRight ptm .noneV = true := rfl
theorem getItem_noneV : getItem ptm .noneV = .ok .noneF := rfl
theorem isSclsObj_noneV : isSclsObj .noneV = false := rfl

/-- what `pipeObj` asks of an operand, by the kind `Spec/Meaning` assigns to its spelling -/
def KindOk (k : UKind) (o : Obj) : Prop :=
  match k with
  | .typing => isFieldObj o = false ∧ typingObj ptm o = true
  | .plain => isFieldObj o = false ∧ typingObj ptm o = false ∧ plainType ptm o = true
  | .fcls => typingObj ptm o = false ∧ plainType ptm o = false ∧ isFclsObj o = true
  | .none => o = .noneV
  | .bad => True

theorem kindOk_treeObj {k : UKind} (hk : k = .typing ∨ k = .plain) (l : List Obj) : KindOk k (treeObj k l) := by
  rcases hk with h | h <;> subst h
  · exact ⟨rfl, rfl⟩
  · exact ⟨rfl, rfl, rfl⟩

theorem plainRight_of_plain {o : Obj} (h : plainType ptm o = true) : plainRight ptm o = true := by
  cases o <;> first | rfl | exact h

theorem plainRight_of_fcls {o : Obj} (h : isFclsObj o = true) : plainRight ptm o = true := by
  cases o <;> first | rfl | cases h

theorem pipeObj_tree {kx ky : UKind} {l r : Obj} (hk : pipeKind kx ky ≠ .bad) (hl : KindOk kx l) (hr : KindOk ky r)
    (hd : allDistinct (unionMembers l ++ unionMembers r) = true) (hn : 2 ≤ (unionMembers l ++ unionMembers r).length) :
    pipeObj ptm l r = .ok (treeObj (pipeKind kx ky) (unionMembers l ++ unionMembers r)) := by
  have hU := mkUnion_of_distinct hd hn
  have hT := mkUType_of_distinct hd hn
  -- a pair of kinds that is not `.bad` fixes the branch of `pipeObj`, and `KindOk` holds the tests of that branch
  cases kx <;> cases ky <;> first
    | exact absurd rfl hk
    | (simp only [KindOk] at hl hr
       simp only [pipeKind, ← hU, ← hT]
       simp [pipeObj, hl, hr, plainRight_of_plain, plainRight_of_fcls, isFieldObj_noneV, typingObj_noneV, plainType_noneV,
         plainRight_noneV])

theorem orFields_of_getItem {l r : Obj} {dl dr : FieldDecl} (hl : getItem ptm l = .ok dl) (hr : getItem ptm r = .ok dr) :
    orFields ptm l r = .ok (.finst (.anyOf [dl, dr])) := by
  cases r with
  | finst d => simp only [orFields, hl, hr, isFieldObj, isSclsObj, bindE_ok, Bool.true_or, if_true]
  | fcls h => simp only [orFields, hl, hr, isFieldObj, isSclsObj, bindE_ok, Bool.true_or, if_true]
  | scls d => simp only [orFields, hl, hr, isFieldObj, isSclsObj, bindE_ok, Bool.or_true, if_true]
  | noneV => cases hr; simp only [orFields, hl, isFieldObj, isSclsObj, bindE_ok, Bool.or_false, Bool.false_eq_true, if_false]
  | _ =>
    simp only [getItem, getItemFallback] at hr
    split at hr
    · rename_i d hg
      cases hr
      simp only [orFields, hl, isFieldObj, isSclsObj, bindE_ok, Bool.or_false, Bool.false_eq_true, if_false, hg, orConverted]
    · split at hr <;> cases hr

theorem isNoneLit_eq {y : Sp} (h : isNoneLit y = true) : y = .noneLit := by
  cases y <;> first | (cases h; done) | rfl

theorem fieldExpr_shape {s : Sp} (h : isFieldExpr s = true) : isStructSp s = false ∧ unionLike s = false := by
  cases s with
  | pipe x y =>
    have hx : isFieldExpr x = true := h
    exact ⟨rfl, by rw [unionLike, hx]; rfl⟩
  | _ => first | (cases h; done) | exact ⟨rfl, rfl⟩

theorem unionLike_not_struct {s : Sp} (h : unionLike s = true) : isStructSp s = false := by
  cases s <;> first | rfl | cases h

theorem kwAllowed_fieldExpr {s : Sp} (h : kwAllowed s = true) : isFieldExpr s = true := by
  cases s <;> first | (cases h; done) | rfl

theorem plainSp_shape {s : Sp} (h : plainSp s = true) :
    isFieldExpr s = false ∧ unionLike s = false ∧ leafKind s = .plain := by
  cases s with
  | builtin k => cases k <;> first | exact ⟨rfl, rfl, rfl⟩ | cases h
  -- refuting `h` is tried first: it is immediate, while a failing `⟨rfl, rfl, rfl⟩` unfolds `leafKind` before it gives up
  | _ => first | (cases h; done) | exact ⟨rfl, rfl, rfl⟩

theorem plainSp_not_field {s : Sp} (h : plainSp s = true) : isFieldExpr s = false :=
  (plainSp_shape h).1

theorem leafKind_plain {s : Sp} (h : plainSp s = true) : leafKind s = .plain :=
  (plainSp_shape h).2.2

theorem leafKind_plainRight {s : Sp} (h : plainRightSp s = true) : leafKind s = .plain ∨ leafKind s = .fcls := by
  cases s with
  | fcls _ | bareCls _ | mapBare => exact .inr rfl
  | _ => exact .inl (leafKind_plain h)

/-- What the induction carries about the object a supported spelling evaluates to.  Of a class or an alias (neither a
    Field instance nor a union) everything but `gt` and `kd` holds by computation: the defaults. -/
structure Good (s : Sp) (o : Obj) : Prop where
  gt : gtli ptm o = .ok (some (denote s))
  fo : isFieldObj o = isFieldExpr s := by rfl
  /-- an object that is not a union is its own single member of an enclosing union (unions are flattened) -/
  members : unionLike s = false → unionMembers o = [o] := by exact fun _ => rfl
  /-- not equal (Python `==`) to `NoneType`: `Optional[x]` / `None | x` keep both members -/
  nn : objEq o .noneTy = false ∧ objEq .noneTy o = false := by exact ⟨rfl, rfl⟩
  ki : kwAllowed s = true → o = .finst (denote s) := by exact nofun
  sc : isSclsObj o = isStructSp s := by rfl
  kd : KindOk (leafKind s) o

theorem good_finst {s : Sp} (hf : isFieldExpr s = true) (hk : leafKind s = .bad) : Good s (.finst (denote s)) :=
  { gt := rfl, fo := hf.symm, ki := fun _ => rfl, sc := (fieldExpr_shape hf).1.symm, kd := hk ▸ trivial }

theorem good_tree (k : UKind) {s : Sp} {a b : Obj} {ma mb : FieldDecl} (ha : gtli ptm a = .ok (some ma))
    (hb : gtli ptm b = .ok (some mb)) (hd : denote s = .anyOf [ma, mb]) (hu : unionLike s = true)
    (hk : leafKind s = .bad) : Good s (treeObj k [a, b]) := by
  have hf : isFieldExpr s = false := Bool.eq_false_iff.2 fun hf => by rw [(fieldExpr_shape hf).2] at hu; cases hu
  refine ⟨?_, (isFieldObj_treeObj k _).trans hf.symm, (fun h => nomatch hu.symm.trans h), ?_, fun h => ?_,
    (isSclsObj_treeObj k _).trans (unionLike_not_struct hu).symm, hk ▸ trivial⟩
  · rw [hd]; exact gtli_treeObj k (gtliArgs_cons true ha (gtliArgs_one true hb)) (Nat.le_add_left 1 1)
  · unfold treeObj; split <;> exact ⟨rfl, rfl⟩
  · rw [kwAllowed_fieldExpr h] at hf; cases hf

theorem Good.fieldOrScls {s : Sp} {o : Obj} (g : Good s o) (h : isFieldOrStruct s = true) :
    (isFieldObj o || isSclsObj o) = true := by
  rw [g.fo, g.sc]; exact h

/-- a member of `Union[…]` / `X | Y`: `None`, or a supported expression that is not itself a union -/
theorem member_ok {z : Sp} (ih : supported ptm z = true → ∃ o, ev ptm z = .ok o ∧ Good z o)
    (h : isNoneLit z = true ∨ (supported ptm z = true ∧ unionLike z = false)) :
    ∃ o, ev ptm z = .ok o ∧ unionMembers o = [typingArg o] ∧ gtli ptm (typingArg o) = .ok (some (denote z))
      ∧ KindOk (leafKind z) o := by
  rcases h with h | h
  · cases isNoneLit_eq h
    exact ⟨.noneV, rfl, rfl, rfl, rfl⟩
  · obtain ⟨o, hev, g⟩ := ih h.1
    refine ⟨o, hev, ?_⟩
    rw [typingArg_of_gtli g.gt]
    exact ⟨g.members h.2, g.gt, g.kd⟩

/-- an argument of `AnyOf[…]`, an operand of `Field | …`: `None`, or a supported expression -/
theorem item_ok {z : Sp} (ih : supported ptm z = true → ∃ o, ev ptm z = .ok o ∧ Good z o)
    (h : isNoneLit z = true ∨ supported ptm z = true) : ∃ o, ev ptm z = .ok o ∧ getItem ptm o = .ok (denote z) := by
  rcases h with h | h
  · cases isNoneLit_eq h
    exact ⟨.noneV, rfl, rfl⟩
  · obtain ⟨o, hev, g⟩ := ih h
    exact ⟨o, hev, getItem_of_gtli g.gt⟩

theorem ev_good : ∀ s : Sp, supported ptm s = true → ∃ o, ev ptm s = .ok o ∧ Good s o := by
  intro s
  induction s with
  | builtin k =>
    exact fun _ => ⟨_, rfl,
      { gt := gtli_ty_class (generic_scalar k) (cbt_scalar k) (default_scalar k),
        kd := by cases k <;> first | exact ⟨rfl, rfl, rfl⟩ | trivial }⟩
  | fcls k => exact fun _ => ⟨_, rfl, { gt := gtli_fcls (default_scalar k), kd := ⟨rfl, rfl, rfl⟩ }⟩
  | finst k => exact fun _ => ⟨_, by simp only [ev, default_scalar, bindE_ok, denote], good_finst rfl rfl⟩
  | lit d n | mapInst => exact fun _ => ⟨_, rfl, good_finst rfl rfl⟩
  | noneLit => exact nofun
  | bareBuiltin c =>
    exact fun h => ⟨_, rfl,
      { gt := gtli_ty_class (generic_coll c) (cbt_coll c) (default_coll c h),
        kd := by cases c <;> exact ⟨rfl, rfl, rfl⟩ }⟩
  | bareTyping c =>
    exact fun h => ⟨_, rfl,
      { gt := gtli_ty_generic (generic_tcoll c) (origin_tcoll c) (cbt_coll c) (default_coll c h),
        kd := by cases c <;> exact ⟨rfl, rfl⟩ }⟩
  | bareCls c => exact fun h => ⟨_, rfl, { gt := gtli_fcls (default_coll c h), kd := ⟨rfl, rfl, rfl⟩ }⟩
  | bareInst c => exact fun h => ⟨_, by simp only [ev, default_coll c h, bindE_ok, denote], good_finst rfl rfl⟩
  | pep585 c x ih | typingG c x ih =>
    intro h
    obtain ⟨ox, hev, g⟩ := ih h
    exact ⟨_, by simp only [ev, hev, bindE_ok, typingArg_of_gtli g.gt]; rfl,
      { gt := gtli_alias _ (cbt_coll c) (gtliArgs_one _ g.gt) (mkFromArgs_coll c _),
        kd := by first | exact ⟨rfl, rfl, rfl⟩ | exact ⟨rfl, rfl⟩ }⟩
  | sub c x ih =>
    intro h
    simp only [supported, Bool.and_eq_true] at h
    obtain ⟨ox, hev, g⟩ := ih h.1
    exact ⟨_, by simp only [ev, hev, getItem_of_gtli g.gt, mkItems_coll, bindE_ok, denote], good_finst rfl rfl⟩
  | call c x ih =>
    intro h
    simp only [supported, Bool.and_eq_true] at h
    obtain ⟨ox, hev, g⟩ := ih h.1
    exact ⟨_, by simp only [ev, hev, callItem, mapToField_ok g.gt (g.fieldOrScls h.2), Option.toList,
      mkFromArgs_coll, bindE_ok, denote], good_finst rfl rfl⟩
  | dictBare => exact fun _ => ⟨_, rfl, { gt := gtli_ty_class generic_dict cbt_dict rfl, kd := ⟨rfl, rfl, rfl⟩ }⟩
  | tDictBare => exact fun _ => ⟨_, rfl, { gt := gtli_ty_generic generic_tdict origin_tdict cbt_dict rfl, kd := ⟨rfl, rfl⟩ }⟩
  | mapBare => exact fun _ => ⟨_, rfl, { gt := gtli_fcls rfl, kd := ⟨rfl, rfl, rfl⟩ }⟩
  | dict585 k v ihk ihv | dictTyping k v ihk ihv =>
    intro h
    simp only [supported, Bool.and_eq_true] at h
    obtain ⟨ok', hek, gk⟩ := ihk h.1
    obtain ⟨ov, hev, gv⟩ := ihv h.2
    exact ⟨_, by simp only [ev, hek, hev, bindE_ok, typingArg_of_gtli gk.gt, typingArg_of_gtli gv.gt]; rfl,
      { gt := gtli_alias _ cbt_dict (gtliArgs_cons _ gk.gt (gtliArgs_one _ gv.gt)) rfl,
        kd := by first | exact ⟨rfl, rfl, rfl⟩ | exact ⟨rfl, rfl⟩ }⟩
  | mapCall k v ihk ihv =>
    intro h
    simp only [supported, Bool.and_eq_true] at h
    obtain ⟨ok', hek, gk⟩ := ihk h.1.1.1
    obtain ⟨ov, hev, gv⟩ := ihv h.1.1.2
    exact ⟨_, by simp only [ev, hek, hev, mapToField_ok gk.gt (gk.fieldOrScls h.1.2),
      mapToField_ok gv.gt (gv.fieldOrScls h.2), mapEntry, mkItems, bindE_ok, denote], good_finst rfl rfl⟩
  | optional x ih =>
    intro h
    simp only [supported, Bool.and_eq_true, Bool.not_eq_true'] at h
    obtain ⟨ox, hev, g⟩ := ih h.1
    exact ⟨_, by simp only [ev, hev, bindE_ok, g.members h.2, List.cons_append, List.nil_append,
        mkUnion_of_distinct (allDistinct_pair g.nn.1) (Nat.le_refl 2)],
      good_tree .typing g.gt (b := .noneTy) rfl rfl rfl rfl⟩
  | union x y ihx ihy =>
    intro h
    simp only [supported, Bool.and_eq_true, Bool.not_eq_true', Bool.or_eq_true] at h
    obtain ⟨⟨hx, hy⟩, hd⟩ := h
    obtain ⟨ox, hevx, hmx, hgx, -⟩ := member_ok ihx hx
    obtain ⟨oy, hevy, hmy, hgy, -⟩ := member_ok ihy hy
    have hne : objEq (typingArg ox) (typingArg oy) = false := by
      simpa only [distinctObjs, hevx, hevy, Bool.not_eq_true'] using hd
    exact ⟨_, by simp only [ev, hevx, hevy, bindE_ok, hmx, hmy, List.cons_append, List.nil_append,
        mkUnion_of_distinct (allDistinct_pair hne) (Nat.le_refl 2)],
      good_tree .typing hgx hgy rfl rfl rfl⟩
  | anyOf x y ihx ihy =>
    intro h
    simp only [supported, itemOk, Bool.and_true, Bool.and_eq_true, Bool.or_eq_true] at h
    obtain ⟨ox, hevx, hix⟩ := item_ok ihx h.1
    obtain ⟨oy, hevy, hiy⟩ := item_ok ihy h.2
    exact ⟨_, by simp only [ev, hevx, hevy, hix, hiy, bindE_ok, denote], good_finst rfl rfl⟩
  | pipe x y ihx ihy =>
    intro h
    by_cases hnx : isNoneLit x = true
    · cases isNoneLit_eq hnx
      simp only [supported, isNoneLit, if_true, Bool.and_eq_true, Bool.not_eq_true'] at h
      obtain ⟨⟨hsy, hpy⟩, huy⟩ := h
      obtain ⟨oy, hevy, gy⟩ := ihy hsy
      have hk : pipeKind .none (leafKind y) = .plain := by rcases leafKind_plainRight hpy with h | h <;> rw [h] <;> rfl
      have hp := pipeObj_tree (l := .noneV) (r := oy) (kx := .none) (ky := leafKind y) (by rw [hk]; nofun) rfl
        gy.kd
      rw [hk, unionMembers_noneV, gy.members huy] at hp
      exact ⟨_, by simp only [ev, hevy, bindE_ok, hp (allDistinct_pair gy.nn.2) (Nat.le_refl 2),
          List.cons_append, List.nil_append], good_tree .plain (a := .noneTy) rfl gy.gt rfl rfl rfl⟩
    · rw [Bool.not_eq_true] at hnx
      simp only [supported, hnx, Bool.false_eq_true, if_false, Bool.and_eq_true] at h
      obtain ⟨hx, hrest⟩ := h
      obtain ⟨ox, hevx, gx⟩ := ihx hx
      by_cases hfx : isFieldExpr x = true
      · simp only [hfx, if_true, Bool.or_eq_true] at hrest
        obtain ⟨oy, hevy, hiy⟩ := item_ok ihy hrest
        exact ⟨_, by simp only [ev, hevx, hevy, bindE_ok, pipeObj, gx.fo.trans hfx, if_true,
          orFields_of_getItem (getItem_of_gtli gx.gt) hiy, denote], good_finst (s := .pipe x y) hfx rfl⟩
      · rw [Bool.not_eq_true] at hfx
        simp only [hfx, Bool.false_eq_true, if_false, Bool.and_eq_true, Bool.or_eq_true, Bool.not_eq_true'] at hrest
        obtain ⟨⟨hpx, hy⟩, hd⟩ := hrest
        obtain ⟨oy, hevy, hmy, hgy, hky⟩ := member_ok ihy (hy.imp id fun h => ⟨h.1.1, h.2⟩)
        have hk : pipeKind .plain (leafKind y) = .plain := by
          rcases hy with hy | hy
          · cases isNoneLit_eq hy; rfl
          · rcases leafKind_plainRight hy.1.2 with h | h <;> rw [h] <;> rfl
        have hne : objEq ox (typingArg oy) = false := by
          simpa only [distinctObjs, hevx, hevy, typingArg_of_gtli gx.gt, Bool.not_eq_true'] using hd
        have hp := pipeObj_tree (l := ox) (r := oy) (kx := leafKind x) (ky := leafKind y)
          (by rw [leafKind_plain hpx, hk]; nofun) gx.kd hky
        rw [leafKind_plain hpx, hk, gx.members (plainSp_shape hpx).2.1, hmy] at hp
        exact ⟨_, by simp only [ev, hevx, hevy, bindE_ok, hp (allDistinct_pair hne) (Nat.le_refl 2), List.cons_append,
            List.nil_append],
          good_tree .plain gx.gt hgy rfl (by simp only [unionLike, hfx, Bool.not_false]) rfl⟩
  | scls d n => exact fun _ => ⟨_, rfl, { gt := rfl, kd := ⟨rfl, rfl, rfl⟩ }⟩
  | tup585 x y ihx ihy | tupTyping x y ihx ihy =>
    intro h
    simp only [supported, Bool.and_eq_true] at h
    obtain ⟨ox, hex, gx⟩ := ihx h.1
    obtain ⟨oy, hey, gy⟩ := ihy h.2
    exact ⟨_, by simp only [ev, hex, hey, bindE_ok, typingArg_of_gtli gx.gt, typingArg_of_gtli gy.gt]; rfl,
      { gt := gtli_alias _ cbt_tuple (gtliArgs_cons _ gx.gt (gtliArgs_one _ gy.gt)) rfl,
        kd := by first | exact ⟨rfl, rfl, rfl⟩ | exact ⟨rfl, rfl⟩ }⟩
  | mapSub x y ihx ihy | tupSub x y ihx ihy =>
    intro h
    simp only [supported, Bool.and_eq_true] at h
    obtain ⟨ox, hex, gx⟩ := ihx h.1.1.1
    obtain ⟨oy, hey, gy⟩ := ihy h.1.1.2
    exact ⟨_, by simp only [ev, hex, hey, getItem_of_gtli gx.gt, getItem_of_gtli gy.gt, mkItems, bindE_ok, denote],
      good_finst rfl rfl⟩
  | tupCall x y ihx ihy =>
    intro h
    simp only [supported, Bool.and_eq_true] at h
    obtain ⟨ox, hex, gx⟩ := ihx h.1.1.1
    obtain ⟨oy, hey, gy⟩ := ihy h.1.1.2
    exact ⟨_, by simp only [ev, hex, hey, tupleItem_ok gx.gt (gx.fieldOrScls h.1.2),
      tupleItem_ok gy.gt (gy.fieldOrScls h.2), mkItems, bindE_ok, denote], good_finst rfl rfl⟩
  | pipeLit x v n ih =>
    intro h
    simp only [supported, Bool.and_eq_true] at h
    obtain ⟨ox, hev, g⟩ := ih h.1.1
    exact ⟨_, by simp only [ev, hev, bindE_ok, g.fo.trans h.1.2, if_true, getItem_of_gtli g.gt, denote],
      good_finst (s := .pipeLit x v n) h.1.2 rfl⟩
  | tri585 x y z ihx ihy ihz | triTyping x y z ihx ihy ihz =>
    intro h
    simp only [supported, Bool.and_eq_true] at h
    obtain ⟨ox, hex, gx⟩ := ihx h.1.1
    obtain ⟨oy, hey, gy⟩ := ihy h.1.2
    obtain ⟨oz, hez, gz⟩ := ihz h.2
    exact ⟨_, by simp only [ev, hex, hey, hez, bindE_ok, typingArg_of_gtli gx.gt, typingArg_of_gtli gy.gt,
        typingArg_of_gtli gz.gt]; rfl,
      { gt := gtli_alias _ cbt_tuple (gtliArgs_cons _ gx.gt (gtliArgs_cons _ gy.gt (gtliArgs_one _ gz.gt))) rfl,
        kd := by first | exact ⟨rfl, rfl, rfl⟩ | exact ⟨rfl, rfl⟩ }⟩
  | triSub x y z ihx ihy ihz =>
    intro h
    simp only [supported, Bool.and_eq_true] at h
    obtain ⟨ox, hex, gx⟩ := ihx h.1.1.1.1.1
    obtain ⟨oy, hey, gy⟩ := ihy h.1.1.1.1.2
    obtain ⟨oz, hez, gz⟩ := ihz h.1.1.1.2
    exact ⟨_, by simp only [ev, hex, hey, hez, getItem_of_gtli gx.gt, getItem_of_gtli gy.gt, getItem_of_gtli gz.gt,
      mkItems, bindE_ok, denote], good_finst rfl rfl⟩
  | triCall x y z ihx ihy ihz =>
    intro h
    simp only [supported, Bool.and_eq_true] at h
    obtain ⟨⟨⟨⟨⟨hx, hy⟩, hz⟩, fx⟩, fy⟩, fz⟩ := h
    obtain ⟨ox, hex, gx⟩ := ihx hx
    obtain ⟨oy, hey, gy⟩ := ihy hy
    obtain ⟨oz, hez, gz⟩ := ihz hz
    exact ⟨_, by simp only [ev, hex, hey, hez, tupleItem_ok gx.gt (gx.fieldOrScls fx),
      tupleItem_ok gy.gt (gy.fieldOrScls fy), tupleItem_ok gz.gt (gz.fieldOrScls fz), mkItems, bindE_ok,
      denote], good_finst rfl rfl⟩

theorem denote_mkScalar (f : ScalarForm) (k : Scalar) : denote (mkScalar f k) = k.decl := by cases f <;> rfl
theorem denote_mkBare (f : BareForm) (c : Coll) : denote (mkBare f c) = c.anyDecl := by cases f <;> rfl
theorem denote_mkBareDict (f : BareForm) : denote (mkBareDict f) = .mapAny {} := by cases f <;> rfl
theorem denote_mkColl (f : CollForm) (c : Coll) (x : Sp) : denote (mkColl f c x) = c.ofDecl (denote x) := by
  cases f <;> rfl
theorem denote_mkDict (f : CollForm) (k v : Sp) : denote (mkDict f k v) = .mapOf (denote k) (denote v) {} := by
  cases f <;> rfl
theorem denote_mkAlt (f : AltForm) (x y : Sp) : denote (mkAlt f x y) = .anyOf [denote x, denote y] := by
  cases f <;> rfl
theorem denote_mkTup (f : CollForm) (x y : Sp) : denote (mkTup f x y) = .tuplePos [denote x, denote y] false := by
  cases f <;> rfl
theorem denote_mkTri (f : CollForm) (x y z : Sp) :
    denote (mkTri f x y z) = .tuplePos [denote x, denote y, denote z] false := by
  cases f <;> rfl

theorem sameMeaning_denote {s t : Sp} (h : SameMeaning s t) : denote s = denote t := by
  induction h <;>
    simp only [denote_mkScalar, denote_mkBare, denote_mkBareDict, denote_mkColl, denote_mkDict, denote_mkAlt,
      denote_mkTup, denote_mkTri, denote, *]

/-- the documented meaning of declaring field `d`, optional or not, with a default: what `fieldMeaning` and
    `flatMeaning` say of their respective field and optionality -/
def meaningOf (O : Oracles) (d : FieldDecl) (opt : Bool) (val : Option (PyVal × PyVal)) : R FieldRes :=
  match val with
  | none => .ok (.field d (!opt) none)
  | some (v, stored) => bindE (tryDefault O d v) fun _ => .ok (eqResult d opt stored)

theorem fieldMeaning_eq_meaningOf (O : Oracles) (fs : FieldSp) :
    fieldMeaning O fs = meaningOf O (denote fs.ty) (effOptional fs) fs.dflt.value := rfl

theorem flatMeaning_eq_meaningOf (O : Oracles) (fs : FieldSp) :
    flatMeaning O fs = meaningOf O (flatDecl fs) (flatOptional fs) fs.dflt.value := rfl

theorem eqResult_scalar (d : FieldDecl) (opt : Bool) {v : PyVal} (h : scalarDefault v = true) :
    eqResult d opt v = .field d false (some v) := by
  cases v <;> first | rfl | cases h

theorem tryDefault_of_ok {O : Oracles} {d : FieldDecl} {v : PyVal} (h : defaultOk O d v = true) :
    tryDefault O d v = .ok () := by
  unfold defaultOk at h
  unfold tryDefault
  cases hv : validate O d v with
  | ok y => rfl
  | error e => rw [hv] at h; cases h

/-- `Field(default=v)`: a truthy default is validated by `Field.__init__`, a falsy one is not validated at all, which
    agrees with the documented meaning only where the default is valid -/
theorem kw_meaning {O : Oracles} {d : FieldDecl} {opt : Bool} {v : PyVal} {n : Nat} {k : Obj → R FieldRes}
    (hk : k (.finst d) = finishField O d opt (.kw v n)) (hkd : kwDefault v = true)
    (hok : (truthy v || v.isNone || defaultOk O d v) = true) :
    bindE (applyKw O (.finst d) v) k = meaningOf O d opt (DefaultSp.kw v n).value := by
  by_cases hn : v.isNone = true
  · have hv : v = .none := by cases v <;> first | rfl | cases hn
    subst hv
    simp only [applyKw, truthy, Bool.false_eq_true, if_false, bindE_ok, hk]; rfl
  · rw [Bool.not_eq_true] at hn
    have hsc : scalarDefault v = true := by simpa only [kwDefault, hn, Bool.or_false] using hkd
    have hm : meaningOf O d opt (DefaultSp.kw v n).value = bindE (tryDefault O d v) fun _ => .ok (.field d false (some v)) := by
      simp only [meaningOf, DefaultSp.value, hn, Bool.false_eq_true, if_false, eqResult_scalar d opt hsc]
    have hf : finishField O d opt (.kw v n) = .ok (.field d false (some v)) := by
      simp only [finishField, hn, Bool.false_eq_true, if_false]
    rw [hm, applyKw]
    by_cases ht : truthy v = true
    · rw [if_pos ht]
      cases tryDefault O d v with
      | error e => rfl
      | ok u => exact hk.trans hf
    · rw [if_neg ht, bindE_ok, hk, hf]
      rw [Bool.not_eq_true] at ht
      rw [tryDefault_of_ok (by simpa only [ht, hn, Bool.false_or] using hok)]
      rfl

/-- `add_annotations_to_class_dict` on an object that `get_typing_lib_info` converts to `d`: only a converted typing
    expression (not a Field, not a Structure class) is looked at for a `None` member (`_handle_typing_optional`) -/
theorem annField_of_gtli (O : Oracles) (fs : FieldSp) {o : Obj} {d : FieldDecl} (hg : gtli ptm o = .ok (some d)) :
    annField O ptm fs o
      = finishField O d (fs.inOptional || (!(isFieldObj o || isSclsObj o) && hasNoneOpt d)) fs.dflt := by
  unfold annField
  by_cases hf : (isFieldObj o || isSclsObj o) = true
  · simp only [hf, if_true, getItem_of_gtli hg, bindE_ok, Bool.not_true, Bool.false_and, Bool.or_false]
  · rw [Bool.not_eq_true] at hf
    simp only [hf, Bool.false_eq_true, if_false, hg, bindE_ok, afterGtli, Bool.not_false, Bool.true_and, Bool.or_comm]

/-- `name = <expr>` with a Field or a Structure class on the right and no `=` default (there is no place for one) -/
theorem assignField_of_gtli (O : Oracles) (name : String) (mode : Mode) (ty : Sp) {dflt : DefaultSp} (inOpt quoted unres : Bool)
    {o : Obj} {d : FieldDecl} (hg : gtli ptm o = .ok (some d)) (hfo : (isFieldObj o || isSclsObj o) = true)
    (hd : match dflt with | .eq _ _ => False | .eqF _ _ => False | _ => True) :
    assignField ptm ⟨name, mode, ty, dflt, inOpt, quoted, unres⟩ o = finishField O d inOpt dflt := by
  have hgi := getItem_of_gtli hg
  cases o with
  | finst d => cases hgi; cases dflt <;> first | rfl | cases hd
  | scls d => cases hgi; cases dflt <;> first | rfl | cases hd
  | fcls h =>
    simp only [getItem] at hgi
    cases dflt <;> first | (simp only [assignField, hgi, bindE_ok]; rfl) | cases hd
  | _ => cases hfo

/-- Evaluating the declaration's expression (with its `default=`, if any) to an object that stands for the field `d`, and
    handing it to any consumer `k` that finishes that field, gives the documented meaning of declaring `d`; `annField` and
    `assignField` are such consumers.  With `default=` the expression is a call of a Field class: the object is the
    instance itself. -/
theorem evTop_meaning (O : Oracles) (name : String) (mode : Mode) {ty : Sp} {dflt : DefaultSp} (inOpt quoted unres : Bool)
    (opt : Bool) (k : Obj → R FieldRes) {o : Obj} {d : FieldDecl} (hev : ev ptm ty = .ok o)
    (hd : match dflt with
      | .none => True
      | .eq v _ => eqDefault v = true
      | .eqF _ _ => True
      | .kw v _ => (kwDefault v && kwAllowed ty && (truthy v || v.isNone || defaultOk O d v)) = true ∧ o = .finst d
      | .kwF _ _ => kwAllowed ty = true ∧ o = .finst d)
    (hk : k o = finishField O d opt dflt) :
    bindE (evTop O ptm ⟨name, mode, ty, dflt, inOpt, quoted, unres⟩) k = meaningOf O d opt dflt.value := by
  cases dflt with
  | none => simp only [evTop, hev, bindE_ok, hk]; rfl
  | eq v n => simp only [evTop, hev, bindE_ok, hk, finishField, hd, Bool.not_true, Bool.false_eq_true, if_false]; rfl
  | eqF p n => simp only [evTop, hev, bindE_ok, hk]; rfl
  | kw v n =>
    obtain ⟨hd, rfl⟩ := hd
    simp only [Bool.and_eq_true] at hd
    simp only [evTop, hev, bindE_ok, hd.1.1, hd.1.2, Bool.not_true, Bool.or_self, Bool.false_eq_true, if_false]
    exact kw_meaning hk hd.1.1 hd.2
  | kwF p n =>
    obtain ⟨hd, rfl⟩ := hd
    simp only [evTop, hev, bindE_ok, hd, Bool.not_true, Bool.false_eq_true, if_false, applyKwF, meaningOf, DefaultSp.value]
    cases tryDefault O d p with
    | error e => rfl
    | ok u => exact hk

/-- The second phase (`StructMeta.__new__` on the evaluated object), whatever the spelling and whatever `d`: the supported
    region (`elabField_fieldMeaning`, `d = denote`) and the union trees (`ElabFlat.elabField_flatMeaning`, `d` = the flattened
    AnyOf) are its instances. -/
theorem elabField_of_obj (O : Oracles) (future : Bool) (fs : FieldSp) {o : Obj} {d : FieldDecl}
    (hev : ev ptm fs.ty = .ok o) (hg : gtli ptm o = .ok (some d))
    (hm : fs.mode = .assign → (isFieldObj o || isSclsObj o) = true)
    (hd : match fs.dflt with
      | .none => True
      | .eq v _ => eqDefault v = true ∧ fs.mode = .ann
      | .eqF _ _ => fs.mode = .ann
      | .kw v _ => (kwDefault v && kwAllowed fs.ty && (truthy v || v.isNone || defaultOk O d v)) = true ∧ o = .finst d
      | .kwF _ _ => kwAllowed fs.ty = true ∧ o = .finst d) :
    elabField O ptm future fs
      = meaningOf O d (fs.inOptional || (fs.mode == .ann && !(isFieldObj o || isSclsObj o) && hasNoneOpt d)) fs.dflt.value := by
  obtain ⟨name, mode, ty, dflt, inOpt, quoted, unres⟩ := fs
  cases mode with
  | ann =>
    exact evTop_meaning O name .ann inOpt quoted unres _ _ hev
      (by cases dflt <;> first | trivial | exact hd | exact hd.1) (annField_of_gtli O _ hg)
  | assign =>
    cases dflt with
    | eq v n => cases hd.2
    | eqF p n => cases hd
    | none | kw v n | kwF p n =>
      exact evTop_meaning O name .assign inOpt quoted unres _ _ hev (by first | trivial | exact hd)
        ((assignField_of_gtli O name .assign ty inOpt quoted unres hg (hm rfl) trivial).trans
          (congrArg (finishField O d · _) (Bool.or_false inOpt).symm))

theorem struct_noNone {ty : Sp} (hs : supported ptm ty = true) (h : isStructSp ty = true) :
    hasNoneOpt (denote ty) = false := by
  cases ty with
  | scls d n => cases d <;> first | rfl | cases hs
  | _ => cases h

theorem elabField_fieldMeaning (O : Oracles) (future : Bool) (fs : FieldSp)
    (h : fieldSupported O ptm future fs = true) : elabField O ptm future fs = fieldMeaning O fs := by
  simp only [fieldSupported, Bool.and_eq_true] at h
  obtain ⟨⟨hs, hm⟩, hd⟩ := h
  obtain ⟨o, hev, g⟩ := ev_good fs.ty hs
  -- a Structure class has no `None` member, so looking only at non-fields (`effOptional`) is the same
  have hopt : (fs.inOptional || (fs.mode == .ann && !(isFieldObj o || isSclsObj o) && hasNoneOpt (denote fs.ty)))
      = effOptional fs := by
    rw [g.fo, g.sc, effOptional]
    cases hsc : isStructSp fs.ty
    · rw [Bool.or_false]
    · rw [struct_noNone hs hsc, Bool.and_false, Bool.and_false]
  rw [fieldMeaning_eq_meaningOf, ← hopt]
  refine elabField_of_obj O future fs hev g.gt (fun e => g.fieldOrScls (by rw [e] at hm; exact hm)) ?_
  revert hd
  cases fs.dflt with
  | none => exact fun _ => trivial
  | eq v n => exact fun h => by simpa only [Bool.and_eq_true, beq_iff_eq] using h
  | eqF p n => exact fun h => eq_of_beq h
  | kw v n => exact fun h => ⟨h, g.ki (by simp only [Bool.and_eq_true] at h; exact h.1.2)⟩
  | kwF p n => exact fun h => ⟨h, g.ki h⟩

theorem fieldMeaning_same (O : Oracles) {a b : FieldSp} (h : FieldSame a b) : fieldMeaning O a = fieldMeaning O b := by
  rw [fieldMeaning_eq_meaningOf, fieldMeaning_eq_meaningOf, h.dflt, h.opt, sameMeaning_denote h.ty]

theorem elabFieldAt_eq_elabField (sc : Scope) (O : Oracles) (future : Bool) (fs : FieldSp) (h : stringOk sc future fs = true) :
    elabFieldAt sc O ptm future fs = elabField O ptm future fs := by
  simp only [stringOk, Bool.not_eq_true'] at h
  simp [elabFieldAt, h]

end Typedpy.Elab
