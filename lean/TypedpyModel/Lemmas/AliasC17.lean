/-
  Lemmas/AliasC17.lean — C17's "convert_dict leaves its input intact" for the heap-level model of `_convert` /
  `convert_dict` (Sem/AliasC17.lean).

  Hypotheses: copy sites copy (the regenerated table `Generated/AliasingC17.lean` is NOT imported here) and every
  `FunctionCall` of the (nested) mappings obeys the capability discipline `FnOk` (`mapFnsOk`).
  `_convert` writes into its working copy, so its pieces are not allocating steps (`Tr` of Lemmas/Alias); their
  specification is `Spec n0 h c Q` (nothing below `n0` is written; on return the region `[n0, next)` is closed and `Q`
  holds), used under `Reg n0 h`, with a bind rule and one small lemma per piece of the model; the pieces that only
  allocate (copy sites, `allocLike`) come from Lemmas/Alias through `Tr.spec`.  A piece that turns an item into an item
  (a copy site, a step of `deep_get`, `_convert` itself, the loop of `convert_dict`) is stated as `ConvAt c`: it meets
  the specification in every region from an item of the region, and from any item if `c` holds.
  An operation that meets it from any heap on any item is `ConvOk`: `hConvertDict_ok` (sites S1 `doc` and S3 `const`
  copy, S2 `step` may be ANY mode) and `hConvert_ok` (S2 and S3 copy).  A successful call of a `ConvOk` operation is
  `Isolated` (`ConvOk.isolated`); what that gives the caller is in Lemmas/Alias, and `IntactFor` says it in one piece,
  together with "unchanged also when the call raises midway".
-/
import TypedpyModel.Sem.AliasC17
import TypedpyModel.Lemmas.Alias
namespace Typedpy.AliasC17
open Typedpy.Alias

/-- `Frame` with the bound at `n0` instead of `h.next`: `_convert` writes into its working copy, a cell at or above `n0` -/
def FrameAt (n0 : Nat) (h h' : Heap) : Prop := h.next ≤ h'.next ∧ ∀ a, a < n0 → h'.cells a = h.cells a

theorem FrameAt.rfl' (n0 : Nat) (h : Heap) : FrameAt n0 h h := ⟨Nat.le_refl _, fun _ _ => rfl⟩

theorem FrameAt.trans {n0 : Nat} {h1 h2 h3 : Heap} (a : FrameAt n0 h1 h2) (b : FrameAt n0 h2 h3) :
    FrameAt n0 h1 h3 :=
  ⟨Nat.le_trans a.1 b.1, fun x hx => by rw [b.2 x hx, a.2 x hx]⟩

theorem FrameAt.of_frame {n0 : Nat} {h h' : Heap} (le : n0 ≤ h.next) (f : Frame h h') : FrameAt n0 h h' :=
  ⟨f.1, fun a ha => f.2 a (Nat.lt_of_lt_of_le ha le)⟩

/-- what every piece of `_convert` satisfies when started inside a region based at `n0`: it writes nothing
    below `n0`, and when it returns, the region is still closed under references and the result satisfies `Q` -/
def Spec {α : Type} (n0 : Nat) (h : Heap) (c : R α) (Q : Heap → α → Prop) : Prop :=
  FrameAt n0 h c.1 ∧ ∀ a, c.2 = some a → NewClosed n0 c.1 ∧ Q c.1 a

theorem spec_pure {α : Type} {n0 : Nat} {h : Heap} {a : α} {Q : Heap → α → Prop} (rg : Reg n0 h)
    (q : Q h a) : Spec n0 h (h, some a) Q :=
  ⟨FrameAt.rfl' _ _, fun b e => by simp only [Option.some.injEq] at e; subst e; exact ⟨rg.2, q⟩⟩

theorem spec_fail {α : Type} {n0 : Nat} {h : Heap} {Q : Heap → α → Prop} : Spec n0 h ((h, none) : R α) Q :=
  ⟨FrameAt.rfl' _ _, fun _ e => nomatch e⟩

theorem spec_bind {α β : Type} {n0 : Nat} {h : Heap} {c : R α} {k : Heap → α → R β} {Q : Heap → α → Prop}
    {Q' : Heap → β → Prop} (rg : Reg n0 h) (hc : Spec n0 h c Q)
    (hk : ∀ h1 a, Reg n0 h1 → h.next ≤ h1.next → Q h1 a → Spec n0 h1 (k h1 a) Q') :
    Spec n0 h (bindR c k) Q' := by
  obtain ⟨h1, o⟩ := c
  cases o with
  | none => exact ⟨hc.1, fun _ e => nomatch e⟩
  | some a =>
    have q := hc.2 a rfl
    have s := hk h1 a ⟨Nat.le_trans rg.1 hc.1.1, q.1⟩ hc.1.1 q.2
    exact ⟨hc.1.trans s.1, s.2⟩

/-- a step that only allocates (`Tr` of Lemmas/Alias) is in particular a step of `_convert` -/
theorem _root_.Typedpy.Alias.Tr.spec {α : Type} {n0 : Nat} {P : Prop} {h : Heap} {c : R α} {Q : Heap → α → Prop}
    (t : Tr n0 P h c Q) (rg : Reg n0 h) (p : P) : Spec n0 h c Q :=
  ⟨FrameAt.of_frame rg.1 (t.frame rfl), fun _ e => t.post rg.1 rg.2 p (Prod.ext rfl e)⟩

theorem getD_in {n0 : Nat} {h : Heap} {its : List (String × Item)} (hi : ItemsIn n0 h its) (k : String) (v : Int) :
    ItemIn n0 h ((lookupItem k its).getD (.atom v)) := by
  cases e : lookupItem k its with
  | none => exact itemIn_atom _ _ _
  | some x =>
    obtain ⟨k', hk'⟩ := c19_lookupItem_mem e
    exact hi _ hk'

theorem dictItems_eq {h : Heap} {d : Item} {its : List (String × Item)} (e : dictItems h d = some its) :
    ∃ a, d = .ref a ∧ (h.cells a).tag = "dict" ∧ its = (h.cells a).items := by
  cases d with
  | atom v => simp [dictItems] at e
  | ref a =>
    simp only [dictItems] at e
    by_cases c : (h.cells a).tag = "dict"
    · rw [if_pos c] at e
      simp only [Option.some.injEq] at e
      exact ⟨a, rfl, c, e.symm⟩
    · rw [if_neg c] at e
      exact nomatch e

theorem dictItems_in {n0 : Nat} {h : Heap} {d : Item} {its : List (String × Item)} (rg : Reg n0 h)
    (hd : ItemIn n0 h d) (e : dictItems h d = some its) : ItemsIn n0 h its := by
  obtain ⟨a, ea, _, ei⟩ := dictItems_eq e
  subst ea ei
  exact c19_cell_items_in rg.2 (hd a rfl)

theorem spec_write {n0 : Nat} {h : Heap} {a : Nat} (rg : Reg n0 h) (ra : n0 ≤ a) {c : Cell}
    (hc : ItemsIn n0 h c.items) : Spec n0 h (h.write a c, some ()) (fun _ _ => True) :=
  ⟨⟨Nat.le_refl _, fun x hx => by simp only [Heap.write]; rw [if_neg (by omega)]⟩,
    fun _ _ => ⟨newClosed_write rg.2 a hc, trivial⟩⟩

theorem spec_hSet {n0 : Nat} {h : Heap} {out : Item} {k : String} {x : Item} (rg : Reg n0 h)
    (ho : ItemIn n0 h out) (hx : ItemIn n0 h x) : Spec n0 h (hSet h out k x) (fun _ _ => True) := by
  cases out with
  | atom v => exact spec_fail
  | ref a =>
    simp only [hSet]
    split
    · refine spec_write rg (ho a rfl).1 fun p hp => ?_
      cases mem_setItem hp with
      | inl m => exact c19_cell_items_in rg.2 (ho a rfl) p m
      | inr m => rw [m]; exact hx
    · exact spec_fail

theorem spec_then_hSet {n0 : Nat} {h : Heap} {c : R Item} {out : Item} {k : String} (rg : Reg n0 h)
    (ho : ItemIn n0 h out) (hc : Spec n0 h c (ItemIn n0)) :
    Spec n0 h (bindR c fun h1 x => hSet h1 out k x) (fun _ _ => True) :=
  spec_bind rg hc fun _ _ rg1 m1 q1 => spec_hSet rg1 (ho.mono m1) q1

theorem spec_hDel {n0 : Nat} {h : Heap} {out : Item} {k : String} (A : Atoms) (rg : Reg n0 h)
    (ho : ItemIn n0 h out) : Spec n0 h (hDel A h out k) (fun _ _ => True) := by
  have raises : ∀ b : Bool, Spec n0 h (if b = true then (h, none) else (h, some ())) (fun _ _ => True) := fun b => by
    cases b
    · exact spec_pure rg trivial
    · exact spec_fail
  cases out with
  | atom v => exact raises _
  | ref a =>
    simp only [hDel]
    split
    · exact spec_write rg (ho a rfl).1 fun p hp => c19_cell_items_in rg.2 (ho a rfl) p (List.mem_filter.mp hp).1
    · exact raises _

/-- what a (nested) converter satisfies: from ANY input item, in ANY region -/
def ConvOk (f : Heap → Item → R Item) : Prop :=
  ∀ n0 h i, n0 ≤ h.next → NewClosed n0 h → Spec n0 h (f h i) (ItemIn n0)

/-- `ConvOk` on inputs of the region only -/
def ConvRel (f : Heap → Item → R Item) : Prop :=
  ∀ n0 h i, n0 ≤ h.next → NewClosed n0 h → ItemIn n0 h i → Spec n0 h (f h i) (ItemIn n0)

/-- `ConvOk` if `c` holds, `ConvRel` in any case.  With `c` := "site S2 copies" this is what `_convert`
    satisfies whatever it does at S2 (deep copy, shallow copy, no copy at all, …): either it copies its argument, or the
    argument already lies in the region `[n0, next)` — for `convert_dict` it always does, being S1's private copy, which is
    why only S1 (`doc`) and S3 (`const`) matter there.  With `c` := `False`: a step specified on items of the region only
    (`deep_get`, the loop of `convert_dict`). -/
def ConvAt (c : Prop) (f : Heap → Item → R Item) : Prop :=
  ∀ n0 h i, Reg n0 h → c ∨ ItemIn n0 h i → Spec n0 h (f h i) (ItemIn n0)

theorem ConvAt.ok {c : Prop} {f : Heap → Item → R Item} (hf : ConvAt c f) (hc : c) : ConvOk f :=
  fun n0 h i le nc => hf n0 h i ⟨le, nc⟩ (.inl hc)

theorem ConvAt.rel {c : Prop} {f : Heap → Item → R Item} (hf : ConvAt c f) : ConvRel f :=
  fun n0 h i le nc hi => hf n0 h i ⟨le, nc⟩ (.inr hi)

theorem ConvOk.rel {f : Heap → Item → R Item} (hf : ConvOk f) : ConvRel f :=
  fun n0 h i le nc _ => hf n0 h i le nc

theorem ConvAt.of {c : Prop} {f : Heap → Item → R Item} (hr : ConvRel f) (ho : c → ConvOk f) : ConvAt c f :=
  fun n0 h i rg hi => hi.elim (fun hc => ho hc n0 h i rg.1 rg.2) (hr n0 h i rg.1 rg.2)

/-- a copy site only allocates (a `Walk` of Lemmas/Alias), so it is a converter in this sense: from anywhere when its
    mode copies, and whatever its mode on an item of the region -/
theorem copyAt_at (m : Mode) (fuel : Nat) : ConvAt (m.copies = true) (copyAt m fuel) :=
  fun n0 h i rg pre => (leafAny_walk n0 m fuel h i).spec rg pre

theorem mapItems_cons_eq (f : Heap → Item → R Item) (h : Heap) (k : String) (i : Item)
    (rest : List (String × Item)) :
    mapItems f h ((k, i) :: rest) =
      bindR (f h i) fun h1 i' => bindR (mapItems f h1 rest) fun h2 r => (h2, some ((k, i') :: r)) := by
  simp only [mapItems]
  rcases f h i with ⟨h1, _ | i'⟩ <;> simp only [bindR]
  rcases mapItems f h1 rest with ⟨h2, _ | r⟩ <;> rfl

theorem spec_mapItems {n0 : Nat} {c : Prop} {f : Heap → Item → R Item} (hf : ConvAt c f) :
    ∀ (its : List (String × Item)) (h : Heap), Reg n0 h → c ∨ ItemsIn n0 h its →
      Spec n0 h (mapItems f h its) (ItemsIn n0) := by
  intro its
  induction its with
  | nil => intro h rg _; exact spec_pure rg (fun p hp => nomatch hp)
  | cons q rest ih =>
    intro h rg hp
    obtain ⟨k, i⟩ := q
    rw [mapItems_cons_eq]
    refine spec_bind rg (hf n0 h i rg (hp.imp_right (· _ List.mem_cons_self))) ?_
    intro h1 i' rg1 m1 q1
    refine spec_bind rg1 (ih h1 rg1 (hp.imp_right fun x p hm => (x p (List.mem_cons_of_mem _ hm)).mono m1)) ?_
    intro h2 r rg2 m2 q2
    exact spec_pure rg2 (ItemsIn.cons (q1.mono m2) q2)

theorem mem_reindexFrom : ∀ (its : List (String × Item)) (n : Nat) (p : String × Item),
    p ∈ reindexFrom n its → ∃ q, q ∈ its ∧ q.2 = p.2 := by
  intro its
  induction its with
  | nil => intro n p hp; cases hp
  | cons q rest ih =>
    intro n p hp
    obtain ⟨k, i⟩ := q
    unfold reindexFrom at hp
    cases hp with
    | head => exact ⟨(k, i), List.mem_cons_self, rfl⟩
    | tail _ hm =>
      obtain ⟨q', hq', e⟩ := ih _ p hm
      exact ⟨q', List.mem_cons_of_mem _ hq', e⟩

theorem getNextShape_at (A : Atoms) {rec : Option (Heap → Item → R Item)} (hrec : ∀ f, rec = some f → ConvAt False f)
    (key : String) : ConvAt False (getNextShape A rec key) := by
  intro n0 h d rg hd
  have hd := hd.resolve_left id
  simp only [getNextShape]
  cases e : dictItems h d with
  | some its => exact spec_pure rg (getD_in (dictItems_in rg hd e) _ _)
  | none =>
    cases d with
    | atom v => exact spec_pure rg (itemIn_atom _ _ _)
    | ref a =>
      simp only
      cases isSeqItem h (.ref a) with
      | false => exact spec_pure rg (itemIn_atom _ _ _)
      | true =>
        simp only [if_true]
        cases rec with
        | none => exact spec_fail
        | some f =>
          simp only
          refine spec_bind rg (spec_mapItems (hrec f rfl) _ h rg (.inr fun p hp =>
            c19_cell_items_in rg.2 (hd a rfl) p (List.mem_filter.mp hp).1)) ?_
          intro h1 its rg1 _ q1
          refine (Tr.alloc _ _).spec rg1 ?_
          intro p hp
          obtain ⟨q, hq, e⟩ := mem_reindexFrom its 0 p hp
          rw [← e]; exact q1 q hq

theorem getNext_at (A : Atoms) : ∀ (fuel : Nat) (key : String), ConvAt False (getNext A fuel key)
  | 0, key => getNextShape_at A (rec := none) (fun _ e => nomatch e) key
  | n + 1, key => getNextShape_at A (fun _ e => Option.some.inj e ▸ getNext_at A n key) key

theorem hDeepGet_at (A : Atoms) (fuel : Nat) : ∀ path : List String, ConvAt False (hDeepGet A fuel path)
  | [] => fun _ _ _ rg hd => spec_pure rg (hd.resolve_left id)
  | key :: rest => fun n0 h d rg hd => by
    unfold hDeepGet
    refine spec_bind rg ?_ (fun h1 d1 rg1 _ q1 => hDeepGet_at A fuel rest n0 h1 d1 rg1 (.inr q1))
    cases truthy A h d with
    | true => exact getNext_at A fuel key n0 h d rg hd
    | false => exact spec_pure rg (itemIn_atom _ _ _)

/-- **Assumption on the functions of `FunctionCall` entries (capability discipline).**  A user function is
    handed references into `out_dict` (the working copy).  It is assumed to be *pure in the heap sense*:
    (1) it only allocates — it writes no cell that existed when it was called (so it mutates neither its
    arguments nor any global object), also when it raises; and (2) what it returns is an atom, something it
    built, or something reachable from its arguments — formally: for every region base `n0` such that the
    region `[n0, next)` is closed under references and contains all arguments, the region is still closed
    afterwards and contains the result.  A function that returns a global (pre-existing) object, stores its
    argument somewhere global, or mutates its arguments is OUTSIDE the statement of the theorems. -/
def FnOk (f : Heap → List Item → R Item) : Prop :=
  ∀ h args h' r, f h args = (h', r) →
    Frame h h' ∧
    ∀ n0, n0 ≤ h.next → NewClosed n0 h → (∀ a, a ∈ args → ItemIn n0 h a) →
      ∀ i, r = some i → NewClosed n0 h' ∧ ItemIn n0 h' i

def HCEntry.Ok : HCEntry → Prop
  | .sub f => ConvOk f
  | .fn f _ => FnOk f
  | _ => True

def HCEntry.OkRel : HCEntry → Prop
  | .sub f => ConvRel f
  | .fn f _ => FnOk f
  | _ => True

/-- the entries of a compiled mapping behave: relative to a region in any case, from anywhere when `c` holds -/
def COkAt (c : Prop) (m : HCMapping) : Prop := ∀ p, p ∈ m → p.2.OkRel ∧ (c → p.2.Ok)

theorem ConvOk.frameSpec {f : Heap → Item → R Item} (hf : ConvOk f) : FrameSpec f := by
  intro h i h' r e
  have := (hf h.next h i (Nat.le_refl _) (newClosed_init h)).1
  rw [e] at this
  exact this

theorem ConvOk.freshSpec {f : Heap → Item → R Item} (hf : ConvOk f) (n0 : Nat) : FreshSpec n0 f := by
  intro h i h' i' le nc e
  have := (hf n0 h i le nc).2 i' (by rw [e])
  rw [e] at this
  exact this

theorem spec_fn {n0 : Nat} {f : Heap → List Item → R Item} (hf : FnOk f) (h : Heap) (args : List Item)
    (rg : Reg n0 h) (ha : ∀ a, a ∈ args → ItemIn n0 h a) : Spec n0 h (f h args) (ItemIn n0) :=
  ⟨FrameAt.of_frame rg.1 (hf h args _ _ rfl).1, fun i' e => (hf h args _ _ rfl).2 n0 rg.1 rg.2 ha i' e⟩

theorem spec_hSub (A : Atoms) {n0 : Nat} {c : Prop} {f : Heap → Item → R Item} (hf : ConvAt c f) (k : String)
    (out : Item) (h : Heap) (content : Item) (rg : Reg n0 h) (ho : ItemIn n0 h out)
    (hct : c ∨ ItemIn n0 h content) : Spec n0 h (hSub A f k out h content) (fun _ _ => True) := by
  simp only [hSub]
  cases isNoneItem A content with
  | true => exact spec_pure rg trivial
  | false =>
    simp only [Bool.false_eq_true, if_false]
    cases isListItem h content with
    | true =>
      simp only [if_true]
      cases content with
      | atom v => exact spec_pure rg trivial
      | ref a =>
        simp only
        refine spec_bind rg (spec_mapItems hf _ h rg
          (hct.imp_right fun hin => c19_cell_items_in rg.2 (hin a rfl))) ?_
        intro h1 its rg1 m1 q1
        exact spec_then_hSet rg1 (ho.mono m1) ((Tr.alloc _ _).spec rg1 q1)
    | false =>
      simp only [Bool.false_eq_true, if_false]
      exact spec_then_hSet rg ho (hf n0 h content rg hct)

theorem spec_hStep1 (A : Atoms) {S : Sites} (hc : S.const.copies = true) (fuel : Nat) {n0 : Nat} {c : Prop}
    (inp out : Item) (k : String) (e : HCEntry) (he : e.OkRel ∧ (c → e.Ok)) (h : Heap) (rg : Reg n0 h)
    (ho : ItemIn n0 h out) (hi : c ∨ ItemIn n0 h inp) :
    Spec n0 h (hStep1 A S fuel inp out k e h) (fun _ _ => True) := by
  cases e with
  | const c =>
    simp only [hStep1]
    exact spec_then_hSet rg ho (copyAt_at S.const fuel n0 h c rg (.inl hc))
  | deleted => exact spec_pure rg trivial
  | move p => exact spec_pure rg trivial
  | sub f =>
    simp only [hStep1]
    cases ed : dictItems h inp with
    | none => exact spec_fail
    | some its =>
      simp only
      cases el : lookupItem k its with
      | none => exact spec_pure rg trivial
      | some content =>
        obtain ⟨k', hk'⟩ := c19_lookupItem_mem el
        exact spec_hSub A (ConvAt.of he.1 he.2) k out h content rg ho
          (hi.imp_right fun hin => dictItems_in rg hin ed _ hk')
  | fn f args =>
    simp only [hStep1, hArgs]
    cases ed : dictItems h out with
    | none => exact spec_fail
    | some its =>
      simp only [bindR_some]
      have hi := dictItems_in rg ho ed
      refine spec_then_hSet rg ho (spec_fn he.1 h _ rg fun a ha => ?_)
      obtain ⟨x, _, ex⟩ := List.mem_map.mp ha
      rw [← ex]; exact getD_in hi _ _

theorem spec_hStep2 (A : Atoms) (fuel : Nat) {n0 : Nat} (out : Item) (k : String) (e : HCEntry) (h : Heap)
    (rg : Reg n0 h) (ho : ItemIn n0 h out) : Spec n0 h (hStep2 A fuel out k e h) (fun _ _ => True) := by
  cases e with
  | move p =>
    simp only [hStep2]
    exact spec_then_hSet rg ho (hDeepGet_at A fuel p n0 h out rg (.inr ho))
  | _ => exact spec_pure rg trivial

theorem spec_hStep3 (A : Atoms) {n0 : Nat} (out : Item) (k : String) (e : HCEntry) (h : Heap)
    (rg : Reg n0 h) (ho : ItemIn n0 h out) : Spec n0 h (hStep3 A out k e h) (fun _ _ => True) := by
  cases e with
  | deleted => exact spec_hDel A rg ho
  | _ => exact spec_pure rg trivial

/-- a loop over the mapping keeps an invariant `I` of the heap that survives allocation, if each step is specified
    under it -/
theorem spec_hLoop {n0 : Nat} {I : Heap → Prop} (mono : ∀ h h', h.next ≤ h'.next → I h → I h')
    {step : String → HCEntry → Heap → R Unit} :
    ∀ (m : HCMapping),
      (∀ p, p ∈ m → ∀ h, Reg n0 h → I h → Spec n0 h (step p.1 p.2 h) (fun _ _ => True)) →
      ∀ h, Reg n0 h → I h → Spec n0 h (hLoop step m h) (fun h' _ => I h') := by
  intro m
  induction m with
  | nil => intro _ h rg hI; exact spec_pure rg hI
  | cons p rest ih =>
    intro hs h rg hI
    obtain ⟨k, e⟩ := p
    unfold hLoop
    refine spec_bind rg (hs (k, e) List.mem_cons_self h rg hI) ?_
    intro h1 _ rg1 m1 _
    exact ih (fun p hp => hs p (List.mem_cons_of_mem _ hp)) h1 rg1 (mono _ _ m1 hI)

theorem hConvShape_at (A : Atoms) (S : Sites) (hc : S.const.copies = true) (fuel : Nat) {m : HCMapping}
    (hm : COkAt (S.step.copies = true) m) : ConvAt (S.step.copies = true) (hConvShape A S fuel m) := by
  intro n0 h inp rg hi
  simp only [hConvShape]
  refine spec_bind rg (copyAt_at S.step fuel n0 h inp rg hi) ?_
  intro h1 out rg1 m1 ho1
  refine spec_bind rg1 (spec_hLoop (I := fun h => ItemIn n0 h out ∧ (S.step.copies = true ∨ ItemIn n0 h inp))
    (fun _ _ le x => ⟨x.1.mono le, x.2.imp_right (·.mono le)⟩) m
    (fun p hp h rg x => spec_hStep1 A hc fuel inp out p.1 p.2 (hm p hp) h rg x.1 x.2)
    h1 rg1 ⟨ho1, hi.imp_right (·.mono m1)⟩) ?_
  intro h2 _ rg2 _ x2
  refine spec_bind rg2 (spec_hLoop (I := fun h => ItemIn n0 h out) (fun _ _ le x => x.mono le) m
    (fun p _ h rg ho => spec_hStep2 A fuel out p.1 p.2 h rg ho) h2 rg2 x2.1) ?_
  intro h3 _ rg3 _ ho3
  refine spec_bind rg3 (spec_hLoop (I := fun h => ItemIn n0 h out) (fun _ _ le x => x.mono le) m
    (fun p _ h rg ho => spec_hStep3 A out p.1 p.2 h rg ho) h3 rg3 ho3) ?_
  intro h4 _ rg4 _ ho4
  exact spec_pure rg4 ho4

mutual
/-- every `FunctionCall` of the mapping, at any nesting depth, obeys the capability discipline `FnOk` -/
def HEntry.FnsOk : HEntry → Prop
  | .const _ => True
  | .deleted => True
  | .move _ => True
  | .fn f _ => FnOk f
  | .sub m => mapFnsOk m
termination_by structural x => x
def mapFnsOk : List (String × HEntry) → Prop
  | [] => True
  | (_, e) :: r => e.FnsOk ∧ mapFnsOk r
termination_by structural x => x
end

mutual
theorem compile_at (A : Atoms) (S : Sites) (hc : S.const.copies = true) (fuel : Nat) :
    (e : HEntry) → e.FnsOk →
      (e.compile A S fuel).OkRel ∧ (S.step.copies = true → (e.compile A S fuel).Ok)
  | .const _, _ => ⟨trivial, fun _ => trivial⟩
  | .deleted, _ => ⟨trivial, fun _ => trivial⟩
  | .move _, _ => ⟨trivial, fun _ => trivial⟩
  | .fn _ _, h => ⟨h, fun _ => h⟩
  | .sub m, h =>
    have := hConvShape_at A S hc fuel (compileMap_at A S hc fuel m h)
    ⟨this.rel, this.ok⟩
theorem compileMap_at (A : Atoms) (S : Sites) (hc : S.const.copies = true) (fuel : Nat) :
    (m : List (String × HEntry)) → mapFnsOk m → COkAt (S.step.copies = true) (compileMap A S fuel m)
  | [], _ => by intro p hp; cases hp
  | (k, e) :: r, h => by
    intro p hp
    cases hp with
    | head => exact compile_at A S hc fuel e h.1
    | tail _ hp' => exact compileMap_at A S hc fuel r h.2 p hp'
end

theorem compile_ok (A : Atoms) {S : Sites} (hst : S.step.copies = true) (hc : S.const.copies = true) (fuel : Nat) :
    (e : HEntry) → e.FnsOk → (e.compile A S fuel).Ok :=
  fun e h => (compile_at A S hc fuel e h).2 hst

theorem compile_rel (A : Atoms) (S : Sites) (hc : S.const.copies = true) (fuel : Nat) :
    (e : HEntry) → e.FnsOk → (e.compile A S fuel).OkRel :=
  fun e h => (compile_at A S hc fuel e h).1

theorem hConvert_at (A : Atoms) (S : Sites) (hc : S.const.copies = true) (fuel : Nat) (m : HMapping)
    (hm : mapFnsOk m) : ConvAt (S.step.copies = true) (hConvert A S fuel m) :=
  hConvShape_at A S hc fuel (compileMap_at A S hc fuel m hm)

theorem hConvert_ok (A : Atoms) {S : Sites} (hst : S.step.copies = true) (hc : S.const.copies = true)
    (fuel : Nat) (m : HMapping) (hm : mapFnsOk m) : ConvOk (hConvert A S fuel m) :=
  (hConvert_at A S hc fuel m hm).ok hst

theorem hRunSteps_at (A : Atoms) (S : Sites) (hc : S.const.copies = true) (fuel : Nat) (ver : Nat → Int) :
    ∀ (ms : List HMapping), (∀ m, m ∈ ms → mapFnsOk m) → ∀ i, ConvAt False (hRunSteps A S fuel ver ms i)
  | [], _, _ => fun _ _ _ rg hd => spec_pure rg (hd.resolve_left id)
  | m :: rest, hm, i => fun n0 h d rg hd => by
    unfold hRunSteps
    refine spec_bind rg (hConvert_at A S hc fuel m (hm m List.mem_cons_self) n0 h d rg (hd.imp_left False.elim)) ?_
    intro h1 d1 rg1 _ q1
    refine spec_bind rg1 (spec_hSet rg1 q1 (itemIn_atom _ _ _)) ?_
    intro h2 _ rg2 m2 _
    exact hRunSteps_at A S hc fuel ver rest (fun m' hm' => hm m' (List.mem_cons_of_mem _ hm')) (i + 1) n0 h2 d1 rg2
      (.inr (q1.mono m2))

/-- `convert_dict`: only its own deep copy (S1) and the copy of `Constant` values (S3) are needed — for EVERY mode at
    S2 (`deep`, `shallow`, `alias`, …) -/
theorem hConvertDict_ok (A : Atoms) {S : Sites} (hd : S.doc.copies = true) (hc : S.const.copies = true)
    (fuel : Nat) (ver : Nat → Int) (ms : List HMapping) (hm : ∀ m, m ∈ ms → mapFnsOk m) :
    ConvOk (hConvertDict A S fuel ver ms) := by
  intro n0 h doc le nc
  simp only [hConvertDict]
  cases dictItems h doc with
  | none => exact spec_fail
  | some its =>
    simp only
    refine spec_bind ⟨le, nc⟩ (copyAt_at S.doc fuel n0 h doc ⟨le, nc⟩ (.inl hd)) ?_
    intro h1 d rg1 _ q1
    exact hRunSteps_at A S hc fuel ver ms hm 0 n0 h1 d rg1 (.inr q1)

theorem roots_of (res : Item) : RootsOf res (roots res) := by
  cases res <;> simp [RootsOf, roots]

theorem ConvOk.isolated {f : Heap → Item → R Item} (hf : ConvOk f) {h h' : Heap} {inp res : Item}
    (e : f h inp = (h', some res)) : Isolated h h' res :=
  have fs := hf.freshSpec h.next h inp h' res (Nat.le_refl _) (newClosed_init h) e
  ⟨hf.frameSpec h inp h' _ e, fs.1, fs.2⟩

def Sites.AllCopy (S : Sites) : Prop := S.doc.copies = true ∧ S.step.copies = true ∧ S.const.copies = true

instance (S : Sites) : Decidable S.AllCopy := by unfold Sites.AllCopy; exact inferInstance

theorem Sites.AllCopy.of_bool {S : Sites} (h : S.allCopy = true) : S.AllCopy := by
  simp only [Sites.allCopy] at h
  have h1 := Bool.and_eq_true_iff.mp h
  have h2 := Bool.and_eq_true_iff.mp h1.1
  exact ⟨h2.1, h2.2, h1.2⟩

/-- in a region that was opened earlier (composition with other operations) -/
theorem hConvertDict_fresh_at (A : Atoms) {S : Sites} (hS : S.AllCopy) (fuel : Nat) (ver : Nat → Int)
    (ms : List HMapping) (hm : ∀ m, m ∈ ms → mapFnsOk m) (n0 : Nat) : FreshSpec n0 (hConvertDict A S fuel ver ms) :=
  (hConvertDict_ok A hS.1 hS.2.2 fuel ver ms hm).freshSpec n0

/-- `K`: what the caller held before — the input document, the mappings, the `Constant` values … -/
theorem hConvertDict_disjoint (A : Atoms) {S : Sites} (hS : S.AllCopy) (fuel : Nat) (ver : Nat → Int)
    (ms : List HMapping) (hm : ∀ m, m ∈ ms → mapFnsOk m) (h : Heap) (doc : Item) (h' : Heap) (res : Item)
    (e : hConvertDict A S fuel ver ms h doc = (h', some res)) (cb : ClosedBelow h.next h)
    (K : List Nat) (hK : ∀ r, r ∈ K → r < h.next) :
    ∀ b, Held h' (roots res) b → (h.next ≤ b ∧ b < h'.next) ∧ ¬ Held h' K b :=
  ((hConvertDict_ok A hS.1 hS.2.2 fuel ver ms hm).isolated e).disjoint (roots_of res) cb K hK

/-- whatever the caller does with the result afterwards (any admissible script of native mutations working from the
    result), no pre-existing cell changes -/
theorem hConvertDict_result_script (A : Atoms) {S : Sites} (hS : S.AllCopy) (fuel : Nat) (ver : Nat → Int)
    (ms : List HMapping) (hm : ∀ m, m ∈ ms → mapFnsOk m) (h : Heap) (doc : Item) (h' : Heap) (res : Item)
    (e : hConvertDict A S fuel ver ms h doc = (h', some res))
    (acts : List Act) (adm : AdmissibleAll h' (roots res) acts) :
    ∀ a, a < h.next → (runScript h' (roots res) acts).1.cells a = h.cells a :=
  ((hConvertDict_ok A hS.1 hS.2.2 fuel ver ms hm).isolated e).old_cells (roots_of res) acts adm

theorem hConvertDict_input_observe (A : Atoms) {S : Sites} (hS : S.AllCopy) (fuel : Nat) (ver : Nat → Int)
    (ms : List HMapping) (hm : ∀ m, m ∈ ms → mapFnsOk m) (h : Heap) (doc : Item) (h' : Heap) (res : Item)
    (e : hConvertDict A S fuel ver ms h doc = (h', some res))
    (acts : List Act) (adm : AdmissibleAll h' (roots res) acts) (cb : ClosedBelow h.next h)
    (hdoc : ItemIn 0 h doc) (n : Nat) :
    observeN n (runScript h' (roots res) acts).1 doc = observeN n h doc ∧
    ∀ x, ItemIn 0 h x → observeN n (runScript h' (roots res) acts).1 x = observeN n h x :=
  have obs := ((hConvertDict_ok A hS.1 hS.2.2 fuel ver ms hm).isolated e).old_observe (roots_of res) acts adm cb
  ⟨obs doc hdoc n, fun x hx => obs x hx n⟩

/-- whatever the caller does afterwards with what it held before (roots `K`), no observation of the result changes -/
theorem hConvertDict_result_observe (A : Atoms) {S : Sites} (hS : S.AllCopy) (fuel : Nat) (ver : Nat → Int)
    (ms : List HMapping) (hm : ∀ m, m ∈ ms → mapFnsOk m) (h : Heap) (doc : Item) (h' : Heap) (res : Item)
    (e : hConvertDict A S fuel ver ms h doc = (h', some res)) (cb : ClosedBelow h.next h)
    (K : List Nat) (hK : ∀ r, r ∈ K → r < h.next) (acts : List Act) (adm : AdmissibleAll h' K acts) (n : Nat) :
    observeN n (runScript h' K acts).1 res = observeN n h' res :=
  ((hConvertDict_ok A hS.1 hS.2.2 fuel ver ms hm).isolated e).new_observe cb K hK acts adm n

theorem hConvert_disjoint (A : Atoms) {S : Sites} (hst : S.step.copies = true) (hc : S.const.copies = true)
    (fuel : Nat) (m : HMapping) (hm : mapFnsOk m) (h : Heap) (inp : Item) (h' : Heap) (res : Item)
    (e : hConvert A S fuel m h inp = (h', some res)) (cb : ClosedBelow h.next h)
    (K : List Nat) (hK : ∀ r, r ∈ K → r < h.next) :
    ∀ b, Held h' (roots res) b → (h.next ≤ b ∧ b < h'.next) ∧ ¬ Held h' K b :=
  ((hConvert_ok A hst hc fuel m hm).isolated e).disjoint (roots_of res) cb K hK

theorem hConvert_result_script (A : Atoms) {S : Sites} (hst : S.step.copies = true) (hc : S.const.copies = true)
    (fuel : Nat) (m : HMapping) (hm : mapFnsOk m) (h : Heap) (inp : Item) (h' : Heap) (res : Item)
    (e : hConvert A S fuel m h inp = (h', some res))
    (acts : List Act) (adm : AdmissibleAll h' (roots res) acts) :
    ∀ a, a < h.next → (runScript h' (roots res) acts).1.cells a = h.cells a :=
  ((hConvert_ok A hst hc fuel m hm).isolated e).old_cells (roots_of res) acts adm

theorem hConvert_input_observe (A : Atoms) {S : Sites} (hst : S.step.copies = true) (hc : S.const.copies = true)
    (fuel : Nat) (m : HMapping) (hm : mapFnsOk m) (h : Heap) (inp : Item) (h' : Heap) (res : Item)
    (e : hConvert A S fuel m h inp = (h', some res))
    (acts : List Act) (adm : AdmissibleAll h' (roots res) acts) (cb : ClosedBelow h.next h)
    (hinp : ItemIn 0 h inp) (n : Nat) :
    observeN n (runScript h' (roots res) acts).1 inp = observeN n h inp ∧
    ∀ x, ItemIn 0 h x → observeN n (runScript h' (roots res) acts).1 x = observeN n h x :=
  have obs := ((hConvert_ok A hst hc fuel m hm).isolated e).old_observe (roots_of res) acts adm cb
  ⟨obs inp hinp n, fun x hx => obs x hx n⟩

theorem hConvert_result_observe (A : Atoms) {S : Sites} (hst : S.step.copies = true) (hc : S.const.copies = true)
    (fuel : Nat) (m : HMapping) (hm : mapFnsOk m) (h : Heap) (inp : Item) (h' : Heap) (res : Item)
    (e : hConvert A S fuel m h inp = (h', some res)) (cb : ClosedBelow h.next h)
    (K : List Nat) (hK : ∀ r, r ∈ K → r < h.next) (acts : List Act) (adm : AdmissibleAll h' K acts) (n : Nat) :
    observeN n (runScript h' K acts).1 res = observeN n h' res :=
  ((hConvert_ok A hst hc fuel m hm).isolated e).new_observe cb K hK acts adm n

/-- **what C17 says about one operation at heap level**: whatever heap it starts from, whatever it is given,
    whether or not it succeeds, (1) every pre-existing cell is unchanged; and if it returns `res`,
    (2) `res` lives entirely in cells allocated by the call (a region closed under references),
    (3) no script of native mutations working from `res` changes a pre-existing cell, and
    (4) (on a well-formed heap) nothing reachable from `res` is reachable from pre-existing roots `K`, and no
        script working from such roots changes any observation of `res`. -/
def IntactFor (op : Heap → Item → R Item) : Prop :=
  ∀ (h : Heap) (inp : Item) (h' : Heap) (r : Option Item), op h inp = (h', r) →
    Frame h h' ∧
    ∀ res, r = some res →
      (ItemIn h.next h' res ∧ NewClosed h.next h') ∧
      (∀ acts, AdmissibleAll h' (roots res) acts →
        ∀ a, a < h.next → (runScript h' (roots res) acts).1.cells a = h.cells a) ∧
      (ClosedBelow h.next h → ∀ K, (∀ x, x ∈ K → x < h.next) →
        (∀ b, Held h' (roots res) b → ¬ Held h' K b) ∧
        ∀ acts, AdmissibleAll h' K acts → ∀ n, observeN n (runScript h' K acts).1 res = observeN n h' res)

theorem ConvOk.intact {f : Heap → Item → R Item} (hf : ConvOk f) : IntactFor f := by
  intro h inp h' r e
  refine ⟨hf.frameSpec h inp h' r e, ?_⟩
  rintro res rfl
  have iso := hf.isolated e
  exact ⟨⟨iso.inside, iso.closed⟩, iso.old_cells (roots_of res), fun cb K hK =>
    ⟨fun b hb => (iso.disjoint (roots_of res) cb K hK b hb).2, iso.new_observe cb K hK⟩⟩

/-- whatever `_convert` does at its own copy site S2 (`extract/aliasing_c17.py` calls the theorems that do not ask for S2
    the `*_weak` ones) -/
theorem hConvertDict_intact_weak (A : Atoms) {S : Sites} (hd : S.doc.copies = true) (hc : S.const.copies = true)
    (fuel : Nat) (ver : Nat → Int) (ms : List HMapping) (hm : ∀ m, m ∈ ms → mapFnsOk m) :
    IntactFor (hConvertDict A S fuel ver ms) :=
  (hConvertDict_ok A hd hc fuel ver ms hm).intact

theorem hConvertDict_intact (A : Atoms) {S : Sites} (hS : S.AllCopy) (fuel : Nat) (ver : Nat → Int)
    (ms : List HMapping) (hm : ∀ m, m ∈ ms → mapFnsOk m) : IntactFor (hConvertDict A S fuel ver ms) :=
  hConvertDict_intact_weak A hS.1 hS.2.2 fuel ver ms hm

/-! ## `FnOk` is satisfiable by functions that really use their arguments -/

theorem FnOk.of_tr {f : Heap → List Item → R Item}
    (t : ∀ n0 h args, Tr n0 (∀ a, a ∈ args → ItemIn n0 h a) h (f h args) (ItemIn n0)) : FnOk f :=
  fun h args _ _ e => ⟨(t 0 h args).frame e, fun n0 le nc ha _ ei => (t n0 h args).post le nc ha (ei ▸ e)⟩

theorem fnIdent_ok (A : Atoms) : FnOk (fnIdent A) :=
  FnOk.of_tr fun _ _ args => Tr.pure fun _ ha => by
    cases args with
    | nil => exact itemIn_atom _ _ _
    | cons a _ => exact ha a List.mem_cons_self

theorem fnWrap_ok : FnOk fnWrap :=
  FnOk.of_tr fun _ _ args => (Tr.alloc _ _).mono fun _ ha p hp => by
    obtain ⟨q, hq, eq⟩ := mem_reindexFrom _ 0 p hp
    obtain ⟨a, hm, ea⟩ := List.mem_map.mp hq
    rw [← eq, ← ea]
    exact ha a hm

/-! ## kernel-checked examples — the hypotheses are needed, and the theorems are not vacuous -/

theorem sameBelow_of_frame {h h' : Heap} (fr : Frame h h') : sameBelow h.next h h' = true := by
  simp only [sameBelow, List.all_eq_true, List.mem_range, beq_iff_eq]
  intro a ha
  exact (fr.2 a ha).symm

def exAtoms : Atoms :=
  { none := 0, isNone := fun v => v == 0, truthyA := fun v => v != 0, delRaises := fun _ _ _ => true }

def allDeep : Sites := { doc := .deep, step := .deep, const := .deep }

/-- cell 0: the caller's document `{"version": 1, "subs": [{"x": 4}, {"x": 5}], "name": 3}` (cells 1–3);
    cell 4: the list `[9, {"z": 1}]` held by a `Constant` of the mapping (cell 5 its inner dict) -/
def exHeap : Heap := Heap.ofList [
  ⟨"dict", [("version", .atom 1), ("subs", .ref 1), ("name", .atom 3)]⟩,
  ⟨"list", [("0", .ref 2), ("1", .ref 3)]⟩,
  ⟨"dict", [("x", .atom 4)]⟩,
  ⟨"dict", [("x", .atom 5)]⟩,
  ⟨"list", [("0", .atom 9), ("1", .ref 5)]⟩,
  ⟨"dict", [("z", .atom 1)]⟩]

def exOld : List Nat := [0, 1, 2, 3, 4, 5]

/-- `{"subs._mapper": {"y": "x", "x": Deleted, "c": Constant(<cell 5>)}, "title": "name",
      "tags": Constant(<cell 4>), "w": FunctionCall(wrap, ["subs", "name"]), "n": FunctionCall(ident, ["subs"]),
      "name": Deleted, "ys": "subs.y"}` — a nested mapper over a list of sub-documents, moves (one of them
    crossing a list), Constants holding containers, functions receiving references into the working copy -/
def exMapping : HMapping :=
  [("subs", .sub [("y", .move ["x"]), ("x", .deleted), ("c", .const (.ref 5))]),
   ("title", .move ["name"]),
   ("tags", .const (.ref 4)),
   ("w", .fn fnWrap ["subs", "name"]),
   ("n", .fn (fnIdent exAtoms) ["subs"]),
   ("name", .deleted),
   ("ys", .move ["subs", "y"])]

theorem exMapping_fnsOk : ∀ m, m ∈ [exMapping] → mapFnsOk m := by
  intro m hm
  rw [List.mem_singleton.mp hm]
  exact ⟨⟨trivial, trivial, trivial, trivial⟩, trivial, trivial, fnWrap_ok, fnIdent_ok _, trivial, trivial, trivial⟩

def exRun (S : Sites) : R Item := hConvertDict exAtoms S 9 (fun i => 2 + i) [exMapping] exHeap (.ref 0)

def resOf (r : R Item) : Item := r.2.getD (.atom 0)

/-- **positive, non-vacuous**: all three sites deep — the call succeeds, builds 17 new cells, every old cell
    (document, Constant values) is unchanged and the result shares no cell with any old address -/
theorem example_all_deep :
    (exRun allDeep).2.isSome = true ∧ (exRun allDeep).1.next = 23 ∧
    sameBelow exHeap.next exHeap (exRun allDeep).1 = true ∧
    sharedPaths 8 (exRun allDeep).1 exOld [] (resOf (exRun allDeep)) = [] ∧
    (reachList 8 (exRun allDeep).1 (resOf (exRun allDeep))).all (fun a => decide (6 ≤ a)) = true ∧
    (observeN 3 (exRun allDeep).1 (resOf (exRun allDeep))).beq
      (.node "dict" [("version", .atom 2),
        ("subs", .node "list" [("0", .node "dict" [("c", .cut), ("y", .atom 4)]),
                               ("1", .node "dict" [("c", .cut), ("y", .atom 5)])]),
        ("tags", .node "list" [("0", .atom 9), ("1", .node "dict" [("z", .atom 1)])]),
        ("w", .node "list" [("0", .node "list" [("0", .cut), ("1", .cut)]), ("1", .atom 3)]),
        ("n", .node "list" [("0", .node "dict" [("c", .cut), ("y", .atom 4)]),
                            ("1", .node "dict" [("c", .cut), ("y", .atom 5)])]),
        ("title", .atom 3),
        ("ys", .node "list" [("0", .atom 4), ("1", .atom 5)])]) = true := by
  decide +kernel

/-- **S2 is needed**: without the `copy.deepcopy` in `_convert`, a `Constant` / `Deleted` mapping writes into
    the caller's document cell (cell 0) -/
theorem step_alias_writes_input :
    sameBelow exHeap.next exHeap
      (hConvert exAtoms { allDeep with step := .alias } 9 [("k", .const (.atom 7)), ("name", .deleted)]
        exHeap (.ref 0)).1 = false := by
  decide +kernel

/-- … and so does `convert_dict` when neither it nor `_convert` copies -/
theorem doc_step_alias_writes_input :
    sameBelow exHeap.next exHeap (exRun { allDeep with doc := .alias, step := .alias }).1 = false := by
  decide +kernel

/-- **S1 is needed**: without the `copy.deepcopy` in `convert_dict`, a document that is already at the latest
    version (no mapping left to apply) is handed back as is -/
theorem doc_alias_returns_input :
    hConvertDict exAtoms { allDeep with doc := .alias } 9 (fun i => 2 + i) [] exHeap (.ref 0) =
      (exHeap, some (.ref 0)) := rfl

/-- **S3 is needed**: without the `copy.deepcopy` around `v()`, the result holds the `Constant`'s own list
    (cell 4) and dict (cell 5) -/
theorem const_alias_shares_constant :
    sharedPaths 8 (exRun { allDeep with const := .alias }).1 exOld [] (resOf (exRun { allDeep with const := .alias }))
      = [["subs", "0", "c"], ["subs", "1", "c"], ["tags"], ["tags", "1"],
         ["w", "0", "0", "c"], ["w", "0", "1", "c"], ["n", "0", "c"], ["n", "1", "c"]] ∧
    sameBelow exHeap.next exHeap (exRun { allDeep with const := .alias }).1 = true := by
  decide +kernel

theorem const_alias_result_reaches_constant :
    ∃ res, (exRun { allDeep with const := .alias }).2 = some res ∧
      Held (exRun { allDeep with const := .alias }).1 (roots res) 4 ∧ 4 < exHeap.next := by
  -- one evaluation of the run for both facts: the result is cell 13, and cell 13 refers to the Constant's list (cell 4)
  have h : (exRun { allDeep with const := .alias }).2 = some (.ref 13)
      ∧ 4 ∈ ((exRun { allDeep with const := .alias }).1.cells 13).kids := by decide +kernel
  exact ⟨.ref 13, h.1, ⟨13, List.mem_singleton.mpr rfl, Reach.step (Reach.refl 13) h.2⟩, by decide⟩

/-- a later `_convert` step un-shares again (its `deepcopy` copies the aliased Constant too): the sharing
    through S3 is visible only in the LAST step's constants -/
theorem const_alias_then_another_step :
    sharedPaths 8 (hConvertDict exAtoms { allDeep with const := .alias } 9 (fun i => 2 + i) [exMapping, []]
        exHeap (.ref 0)).1 exOld []
      (resOf (hConvertDict exAtoms { allDeep with const := .alias } 9 (fun i => 2 + i) [exMapping, []]
        exHeap (.ref 0))) = [] := by
  decide +kernel

/-- **`FnOk` is needed**: a function that returns a global object puts that object into the result -/
theorem global_fn_shares :
    sharedPaths 8 (hConvertDict exAtoms allDeep 9 (fun i => 2 + i) [[("g", .fn (fnGlobal 4) [])]] exHeap (.ref 0)).1
      exOld []
      (resOf (hConvertDict exAtoms allDeep 9 (fun i => 2 + i) [[("g", .fn (fnGlobal 4) [])]] exHeap (.ref 0)))
      = [["g"], ["g", "1"]] := by
  decide +kernel

/-- the general theorems apply to the example (all hypotheses are dischargeable) -/
theorem example_all_deep_by_theorem :
    Frame exHeap (exRun allDeep).1 ∧
    ∀ res, (exRun allDeep).2 = some res → ItemIn exHeap.next (exRun allDeep).1 res ∧ NewClosed exHeap.next (exRun allDeep).1 := by
  have i := (hConvertDict_ok exAtoms (S := allDeep) rfl rfl 9 (fun i => 2 + i) [exMapping] exMapping_fnsOk).intact
    exHeap (.ref 0) _ _ (Prod.eta (exRun allDeep)).symm
  exact ⟨i.1, fun res e => (i.2 res e).1⟩

/-- **S2 is NOT needed for `convert_dict`**: with no copy at all / a shallow copy in `_convert` (S1 and S3
    deep) the run on the example still succeeds, leaves every old cell unchanged and shares nothing old -/
theorem step_alias_or_shallow_still_intact :
    (exRun { allDeep with step := .alias }).2.isSome = true ∧
    sameBelow exHeap.next exHeap (exRun { allDeep with step := .alias }).1 = true ∧
    sharedPaths 8 (exRun { allDeep with step := .alias }).1 exOld [] (resOf (exRun { allDeep with step := .alias })) = [] ∧
    (exRun { allDeep with step := .shallow }).2.isSome = true ∧
    sameBelow exHeap.next exHeap (exRun { allDeep with step := .shallow }).1 = true ∧
    sharedPaths 8 (exRun { allDeep with step := .shallow }).1 exOld [] (resOf (exRun { allDeep with step := .shallow })) = [] ∧
    (observeN 6 (exRun { allDeep with step := .alias }).1 (resOf (exRun { allDeep with step := .alias }))).beq
      (observeN 6 (exRun allDeep).1 (resOf (exRun allDeep))) = true ∧
    (observeN 6 (exRun { allDeep with step := .shallow }).1 (resOf (exRun { allDeep with step := .shallow }))).beq
      (observeN 6 (exRun allDeep).1 (resOf (exRun allDeep))) = true := by
  decide +kernel

theorem example_step_alias_by_theorem : IntactFor (hConvertDict exAtoms { allDeep with step := .alias } 9
    (fun i => 2 + i) [exMapping]) :=
  (hConvertDict_ok exAtoms rfl rfl 9 _ [exMapping] exMapping_fnsOk).intact

end Typedpy.AliasC17

