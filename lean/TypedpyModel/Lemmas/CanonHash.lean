/-
  The repaired hash (Sem/CanonHash.lean) respects `==`: `pyEq v w → cHash H v = cHash H w` (`cHash_of_pyEq`) on values
  that satisfy `okValS` (`okVal` plus: the members of a set are pairwise `!=`, so that two `==` sets are matched
  one-to-one), by induction over the value.  Order-independence of sets / dicts / attribute lists is a permutation
  argument: two lists related by a total matching under which no two members share a partner, the second no longer
  than the first, have permutation-equal images under functions that agree on partners (`perm_map_of_matching`, from
  `exists_matching`; `c11_perm_of_matching` is the form with a matching both ways, which needs no lengths).
-/
import TypedpyModel.Sem.CanonHash
import TypedpyModel.Lemmas.EqLemmas
namespace Typedpy
open PyVal (pyEq pyNodup)

theorem perm_map_of_matching {α β γ : Type} (R : α → β → Prop) (f : α → γ) (g : β → γ) (a : List α)
    (b : List β) (hfg : ∀ x ∈ a, ∀ y ∈ b, R x y → f x = g y) (htot : Total R a b)
    (hinj : a.Pairwise (fun x x' => ∀ y ∈ b, R x y → R x' y → False)) (hl : b.length ≤ a.length) :
    (a.map f).Perm (b.map g) := by
  obtain ⟨b', hperm, hpw⟩ := (exists_matching R a b htot hinj).2 hl
  rw [(hpw.imp fun x hx y hy => hfg x hx y (hperm.mem_iff.1 hy)).map_eq]
  exact hperm.map g

theorem c11_perm_of_matching {α β : Type} (R : α → β → Prop) (f : α → Nat) (g : β → Nat) :
    ∀ (a : List α) (b : List β),
      (∀ x ∈ a, ∀ y ∈ b, R x y → f x = g y) →
      (∀ x ∈ a, ∃ y ∈ b, R x y) → (∀ y ∈ b, ∃ x ∈ a, R x y) →
      a.Pairwise (fun x x' => ∀ y, R x y → R x' y → False) →
      b.Pairwise (fun y y' => ∀ x, R x y → R x y' → False) →
      (a.map f).Perm (b.map g) :=
  -- each list is matched one-to-one into the other, so they are equally long
  fun a b hfg h1 h2 pa pb => perm_map_of_matching R f g a b hfg h1 (pa.imp fun h y _ => h y)
    (exists_matching (fun y x => R x y) b a h2 (pb.imp fun h x _ => h x)).1

mutual
def okValS : PyVal → Bool
  | .float q => q.den != 0
  | .dec q => q.den != 0
  | .list xs => okValsS xs
  | .tuple xs => okValsS xs
  | .deque xs => okValsS xs
  | .set _ xs => okValsS xs && pyNodup xs
  | .dict kvs => okKvsS kvs && pyNodup (kvs.map (·.1))
  | .inst _ attrs => okAttrsS attrs && keysDistinct (attrs.map (·.1))
  | .none => true
  | .bool _ => true
  | .int _ => true
  | .str _ => true
  | .enumv _ _ => true
  | .opaque _ => true
termination_by structural v => v
def okValsS : List PyVal → Bool
  | [] => true
  | x :: xs => okValS x && okValsS xs
termination_by structural xs => xs
def okKvsS : List (PyVal × PyVal) → Bool
  | [] => true
  | (k, v) :: rest => okValS k && okValS v && okKvsS rest
termination_by structural kvs => kvs
def okAttrsS : List (String × PyVal) → Bool
  | [] => true
  | (_, v) :: rest => okValS v && okAttrsS rest
termination_by structural kvs => kvs
end

theorem okValsS_iff (xs : List PyVal) : okValsS xs = true ↔ ∀ x ∈ xs, okValS x = true :=
  allB_iff (by rw [okValsS]) (fun _ _ => by rw [okValsS]) xs

theorem okKvsS_iff (kvs : List (PyVal × PyVal)) :
    okKvsS kvs = true ↔ ∀ p ∈ kvs, okValS p.1 = true ∧ okValS p.2 = true :=
  (allB_iff (p := fun p : PyVal × PyVal => okValS p.1 && okValS p.2) (by rw [okKvsS])
    (fun (_, _) _ => by rw [okKvsS]) kvs).trans (by simp only [Bool.and_eq_true])

theorem okAttrsS_iff (kvs : List (String × PyVal)) :
    okAttrsS kvs = true ↔ ∀ p ∈ kvs, okValS p.2 = true :=
  allB_iff (p := fun p : String × PyVal => okValS p.2) (by rw [okAttrsS]) (fun (_, _) _ => by rw [okAttrsS]) kvs

theorem okValS_seq (k : SeqCtor) (xs : List PyVal) : okValS (k.mk xs) = okValsS xs := by
  cases k <;> rfl

theorem okVal_of_okValS : ∀ v : PyVal, okValS v = true → okVal v = true := by
  intro v
  induction v using PyVal.induct_seq with
  | atom v ha => intro h; cases v <;> first | exact h | cases ha
  | seq k xs ih =>
    intro h
    rw [okValS_seq, okValsS_iff] at h
    rw [okVal_seq, okVals_iff]
    exact fun x hx => ih x hx (h x hx)
  | set f xs ih =>
    intro h
    simp only [okValS, Bool.and_eq_true, okValsS_iff] at h
    simp only [okVal, okVals_iff]
    exact fun x hx => ih x hx (h.1 x hx)
  | dict kvs ih =>
    intro h
    simp only [okValS, Bool.and_eq_true, okKvsS_iff] at h
    simp only [okVal, Bool.and_eq_true, okKvs_iff]
    exact ⟨fun p hp => ⟨(ih p hp).1 (h.1 p hp).1, (ih p hp).2 (h.1 p hp).2⟩, h.2⟩
  | inst c attrs ih =>
    intro h
    simp only [okValS, Bool.and_eq_true, okAttrsS_iff] at h
    simp only [okVal, Bool.and_eq_true, okAttrs_iff]
    exact ⟨fun p hp => ih p hp (h.1 p hp), h.2⟩

theorem cHashs_eq_map (H : HashO) : ∀ xs : List PyVal, cHashs H xs = xs.map (cHash H)
  | [] => by simp [cHashs]
  | x :: xs => by simp [cHashs, cHashs_eq_map H xs]

theorem cHashKvs_eq_map (H : HashO) : ∀ kvs : List (PyVal × PyVal),
    cHashKvs H kvs = kvs.map (fun p => H.pair (cHash H p.1) (cHash H p.2))
  | [] => by simp [cHashKvs]
  | (k, v) :: rest => by simp [cHashKvs, cHashKvs_eq_map H rest]

theorem cHashAttrs_eq_map (H : HashO) : ∀ kvs : List (String × PyVal),
    cHashAttrs H kvs = (live kvs).map (fun p => H.pair (H.str p.1) (cHash H p.2))
  | [] => by simp [cHashAttrs, live]
  | (k, v) :: rest => by
    cases hv : v.isNone <;> simp [cHashAttrs, live, hv, cHashAttrs_eq_map H rest]

theorem cHash_seq (H : HashO) (k : SeqCtor) (xs : List PyVal) :
    cHash H (k.mk xs) = H.seq (xs.map (cHash H)) := by
  cases k <;> simp only [SeqCtor.mk, cHash, cHashs_eq_map]

theorem cHash_num (H : HashO) {v : PyVal} {p : Q} (hv : v.asNum = some p) : cHash H v = H.num p := by
  cases v <;> cases hv <;> rfl

theorem cHash_of_pyEq (H : HashO) (hH : H.Respects) :
    ∀ v : PyVal, okValS v = true → ∀ w, okValS w = true → pyEq v w = true → cHash H v = cHash H w := by
  intro v
  induction v using PyVal.induct_seq with
  | atom v ha =>
    -- the same value, or two numbers that are equal
    intro okv w okw h
    cases hv : v.asNum with
    | none => rw [pyEq_atom ha hv h]
    | some p =>
      obtain ⟨q, hw, h⟩ := (pyEq_num hv w).1 h
      rw [cHash_num H hv, cHash_num H hw]
      exact hH.num_eq p q (okVal_num hv (okVal_of_okValS v okv)) (okVal_num hw (okVal_of_okValS w okw)) h
  | seq k a ih =>
    intro okv w okw h
    obtain ⟨b, rfl⟩ := pyEq_seq_left h
    rw [pyEq_seq, pyEqList_iff] at h
    rw [okValS_seq, okValsS_iff] at okv okw
    rw [cHash_seq, cHash_seq, (h.imp fun x hx y hy => ih x hx (okv x hx) y (okw y hy)).map_eq]
  | set f a ih =>
    intro okv w okw h
    obtain ⟨f', b, rfl⟩ := pyEq_set_left h
    rw [pyEq_set_iff] at h
    simp only [okValS, Bool.and_eq_true, okValsS_iff] at okv okw
    simp only [cHash, cHashs_eq_map]
    have oka := fun x hx => okVal_of_okValS x (okv.1 x hx)
    have okb := fun y hy => okVal_of_okValS y (okw.1 y hy)
    -- the members of `b` find distinct partners in `a`, so `b` is no longer than `a`
    have hl := (exists_matching _ b a h.2
      (no_shared_partner id _ b a (by rw [List.map_id]; exact okw.2) oka
        fun y hy x hx e => ⟨pyEq_symm x (oka x hx) y (okb y hy) e, e⟩)).1
    exact hH.frozen_perm _ _ (perm_map_of_matching _ _ _ a b
      (fun x hx y hy => ih x hx (okv.1 x hx) y (okw.1 y hy)) h.1
      (no_shared_partner id _ a b (by rw [List.map_id]; exact okv.2) okb
        fun x hx y hy e => ⟨e, pyEq_symm x (oka x hx) y (okb y hy) e⟩) hl)
  | dict a ih =>
    -- the entries are matched, one way, by `==` keys and values; the lengths make it a bijection
    intro okv w okw h
    obtain ⟨b, rfl⟩ := pyEq_dict_left h
    rw [pyEq_dict_iff] at h
    simp only [okValS, Bool.and_eq_true, okKvsS_iff] at okv okw
    simp only [cHash, cHashKvs_eq_map]
    have okb := fun q hq => okVal_of_okValS _ (okw.1 q hq).1
    exact hH.frozen_perm _ _ (perm_map_of_matching _ _ _ a b
      (fun p hp q hq r => by
        rw [(ih p hp).1 (okv.1 p hp).1 q.1 (okw.1 q hq).1 r.1,
            (ih p hp).2 (okv.1 p hp).2 q.2 (okw.1 q hq).2 r.2])
      h.2
      (no_shared_partner Prod.fst _ a b okv.2 okb fun p hp q hq r =>
        ⟨r.1, pyEq_symm _ (okVal_of_okValS _ (okv.1 p hp).1) _ (okb q hq) r.1⟩)
      (Nat.le_of_eq h.1.symm))
  | inst cn a ih =>
    -- a matching by name over the attributes that do not hold `None`
    intro okv w okw h
    obtain ⟨cn', b, rfl⟩ := pyEq_inst_left h
    rw [pyEq_inst_live] at h
    simp only [okValS, Bool.and_eq_true, okAttrsS_iff] at okv okw
    simp only [cHash, cHashAttrs_eq_map]
    rw [h.1]
    congr 1
    exact hH.frozen_perm _ _ (c11_perm_of_matching AttrEq _ _ (live a) (live b)
      (fun p hp q hq e => by
        rw [e.1, ih p (mem_live.1 hp).1 (okv.1 p (mem_live.1 hp).1) q.2 (okw.1 q (mem_live.1 hq).1) e.2])
      h.2.1 h.2.2
      (((keys_pairwise_ne okv.2).sublist (live_sublist a)).imp fun hne q e e' => hne (e.1.trans e'.1.symm))
      (((keys_pairwise_ne okw.2).sublist (live_sublist b)).imp fun hne p e e' => hne (e.1.symm.trans e'.1)))

theorem mem_dedupS (l : List String) (k : String) : k ∈ dedupS l ↔ k ∈ l :=
  mem_dedupLast (by rw [dedupS]) (fun _ _ => by rw [dedupS]) k l

theorem nodup_dedupS (l : List String) : (dedupS l).Nodup := by
  induction l with
  | nil => simp [dedupS]
  | cons h t ih =>
    simp only [dedupS]
    by_cases hc : t.contains h = true
    · simp only [hc, if_true]; exact ih
    · simp only [hc, Bool.false_eq_true, if_false]
      refine List.nodup_cons.2 ⟨?_, ih⟩
      rw [mem_dedupS]
      simpa using hc

theorem getA_none_of_not_name (d : EqCtx) (x : Inst) (k : String) (h : k ∉ instNames d x) :
    getA d x k = .none := by
  simp only [instNames, mem_dedupS, List.mem_append, not_or] at h
  have h1 := lookup_none_of_not_mem h.1.1
  have h2 := lookup_none_of_not_mem h.2
  have h3 : d.fields.contains k = false := by simpa using h.1.2
  simp only [getA, h1, h2, h3, Bool.and_false, Bool.false_eq_true, if_false]

theorem mem_instNames_of_canonEntry (H : HashO) (d : EqCtx) (x : Inst) (k : String)
    (h : (canonEntry H d x k).isSome = true) : k ∈ instNames d x := by
  apply Classical.byContradiction
  intro hnot
  rw [canonEntry, getA_none_of_not_name d x k hnot] at h
  cases h

theorem c11_filterMap_perm {α β : Type} {g : α → Option β} {l1 l2 : List α} (n1 : l1.Nodup) (n2 : l2.Nodup)
    (h : ∀ k, (g k).isSome = true → (k ∈ l1 ↔ k ∈ l2)) : (l1.filterMap g).Perm (l2.filterMap g) := by
  have e : ∀ l : List α, l.filterMap g = (l.filter (fun k => (g k).isSome)).filterMap g := by
    intro l
    rw [List.filterMap_filter]
    congr 1
    funext k
    cases hg : g k <;> simp
  rw [e l1, e l2]
  exact ((List.perm_ext_iff_of_nodup (n1.filter _) (n2.filter _)).2 fun k => by
    rw [List.mem_filter, List.mem_filter]; exact and_congr_left (h k)).filterMap g

/-- representation invariants of an instance for the canonical hash: the values (and the field
    defaults) satisfy `okValS`, `_none_fields` is a set (no name twice) -/
def okInstS (d : EqCtx) (a : Inst) : Bool :=
  okAttrsS a.attrs && okAttrsS d.defaults && keysDistinct a.nones

theorem okValS_getA (d : EqCtx) (a : Inst) (k : String) (h : okInstS d a = true) :
    okValS (getA d a k) = true := by
  simp only [okInstS, Bool.and_eq_true, okAttrsS_iff] at h
  exact getA_cases (okValS · = true) d a k h.1.1 h.1.2 rfl rfl

end Typedpy
