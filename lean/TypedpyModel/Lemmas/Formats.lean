/-
  Lemmas/Formats.lean — the executable format functions of Core/Formats.lean accept exactly the declaratively
  stated languages: a string is accepted iff it IS the dot-join of components each of which is an octet (IPV4) /
  an RFC 1123 label (HostName, with the bounds on the whole name).
-/
import TypedpyModel.Core.Formats
namespace Typedpy

theorem c02_splitDots_ne_nil (s : List Char) : splitDots s ≠ [] := by
  cases s with
  | nil => simp [splitDots]
  | cons c cs =>
    simp only [splitDots]
    split
    · simp
    · cases splitDots cs <;> simp [consHead]

theorem c02_joinDots_cons_head (c : Char) (q : List Char) (qs : List (List Char)) :
    joinDots ((c :: q) :: qs) = c :: joinDots (q :: qs) := by
  cases qs <;> simp [joinDots]

theorem c02_joinDots_splitDots (s : List Char) : joinDots (splitDots s) = s := by
  induction s with
  | nil => simp [splitDots, joinDots]
  | cons c cs ih =>
    simp only [splitDots]
    cases h : splitDots cs with
    | nil => exact absurd h (c02_splitDots_ne_nil cs)
    | cons q qs =>
      rw [h] at ih
      split
      · next hc => simp [joinDots, ih, hc]
      · simp [consHead, c02_joinDots_cons_head, ih]

theorem c02_splitDots_nodot (p : List Char) (h : '.' ∉ p) : splitDots p = [p] := by
  induction p with
  | nil => simp [splitDots]
  | cons c p ih =>
    have hc : c ≠ '.' := fun e => h (by simp [e])
    have hp : '.' ∉ p := fun e => h (by simp [e])
    simp [splitDots, hc, ih hp, consHead]

theorem c02_splitDots_append (p r : List Char) (h : '.' ∉ p) :
    splitDots (p ++ '.' :: r) = p :: splitDots r := by
  induction p with
  | nil => simp [splitDots]
  | cons c p ih =>
    have hc : c ≠ '.' := fun e => h (by simp [e])
    have hp : '.' ∉ p := fun e => h (by simp [e])
    simp [splitDots, hc, ih hp, consHead]

theorem c02_splitDots_joinDots : ∀ (ps : List (List Char)), ps ≠ [] → (∀ p ∈ ps, '.' ∉ p) →
    splitDots (joinDots ps) = ps
  | [], h, _ => absurd rfl h
  | [p], _, h => by simpa [joinDots] using c02_splitDots_nodot p (h p (by simp))
  | p :: q :: ps, _, h => by
    simp only [joinDots]
    rw [c02_splitDots_append p _ (h p (by simp))]
    rw [c02_splitDots_joinDots (q :: ps) (by simp) (fun x hx => h x (by simp [hx]))]

def Octet (p : List Char) : Prop :=
  1 ≤ p.length ∧ p.length ≤ 3 ∧ (∀ c ∈ p, isAsciiDigit c = true) ∧ decVal p ≤ 255

/-- the documented language of IPV4: four octets joined by single dots, nothing else -/
def IsIPv4 (s : String) : Prop :=
  ∃ a b c d, s.toList = joinDots [a, b, c, d] ∧ Octet a ∧ Octet b ∧ Octet c ∧ Octet d

theorem c02_octetOk_iff (p : List Char) : octetOk p = true ↔ Octet p := by
  simp [octetOk, Octet, List.all_eq_true, and_assoc]

theorem c02_octet_nodot (p : List Char) (h : Octet p) : '.' ∉ p := by
  intro hm
  have := h.2.2.1 '.' hm
  revert this; decide

theorem ipv4Ok_iff (s : String) : ipv4Ok s = true ↔ IsIPv4 s := by
  constructor
  · intro h
    unfold ipv4Ok ipv4OkL at h
    split at h
    · next a b c d heq =>
      simp only [Bool.and_eq_true, c02_octetOk_iff] at h
      refine ⟨a, b, c, d, ?_, h.1.1.1, h.1.1.2, h.1.2, h.2⟩
      rw [← heq, c02_joinDots_splitDots]
    · cases h
  · rintro ⟨a, b, c, d, hs, ha, hb, hc, hd⟩
    unfold ipv4Ok ipv4OkL
    rw [hs, c02_splitDots_joinDots _ (by simp)]
    · simp [(c02_octetOk_iff a).2 ha, (c02_octetOk_iff b).2 hb, (c02_octetOk_iff c).2 hc,
        (c02_octetOk_iff d).2 hd]
    · intro p hp
      simp only [List.mem_cons, List.not_mem_nil, or_false] at hp
      rcases hp with rfl | rfl | rfl | rfl
      · exact c02_octet_nodot _ ha
      · exact c02_octet_nodot _ hb
      · exact c02_octet_nodot _ hc
      · exact c02_octet_nodot _ hd

/-- RFC 1123 label -/
def Label (p : List Char) : Prop :=
  1 ≤ p.length ∧ p.length ≤ 63 ∧ (∀ c ∈ p, isAsciiAlnum c = true ∨ c = '-')
    ∧ p.head? ≠ some '-' ∧ p.getLast? ≠ some '-'

/-- the documented language of HostName: labels joined by single dots, 2..253 characters in all -/
def IsHostName (s : String) : Prop :=
  2 ≤ s.toList.length ∧ s.toList.length ≤ 253
    ∧ ∃ labels, labels ≠ [] ∧ s.toList = joinDots labels ∧ ∀ p ∈ labels, Label p

theorem c02_labelOk_iff (p : List Char) : labelOk p = true ↔ Label p := by
  simp [labelOk, Label, List.all_eq_true, and_assoc]

theorem c02_label_nodot (p : List Char) (h : Label p) : '.' ∉ p := by
  intro hm
  rcases h.2.2.1 '.' hm with h1 | h1
  · revert h1; decide
  · revert h1; decide

theorem hostNameOk_iff (s : String) : hostNameOk s = true ↔ IsHostName s := by
  unfold hostNameOk hostNameOkL IsHostName
  simp only [Bool.and_eq_true, decide_eq_true_eq, List.all_eq_true, c02_labelOk_iff, and_assoc]
  constructor
  · rintro ⟨h1, h2, h3⟩
    exact ⟨h1, h2, splitDots s.toList, c02_splitDots_ne_nil _, (c02_joinDots_splitDots _).symm, h3⟩
  · rintro ⟨h1, h2, labels, hne, hs, hl⟩
    refine ⟨h1, h2, ?_⟩
    rw [hs, c02_splitDots_joinDots labels hne (fun p hp => c02_label_nodot p (hl p hp))]
    exact hl

theorem IsIPv4.chars (s : String) (h : IsIPv4 s) : ∀ c ∈ s.toList, isAsciiDigit c = true ∨ c = '.' := by
  rcases h with ⟨a, b, c, d, hs, ha, hb, hc, hd⟩
  intro x hx
  rw [hs] at hx
  simp only [joinDots, List.mem_append, List.mem_cons] at hx
  rcases hx with h1 | rfl | h1 | rfl | h1 | rfl | h1
  · exact Or.inl (ha.2.2.1 x h1)
  · exact Or.inr rfl
  · exact Or.inl (hb.2.2.1 x h1)
  · exact Or.inr rfl
  · exact Or.inl (hc.2.2.1 x h1)
  · exact Or.inr rfl
  · exact Or.inl (hd.2.2.1 x h1)

theorem IsIPv4.length (s : String) (h : IsIPv4 s) : 7 ≤ s.toList.length ∧ s.toList.length ≤ 15 := by
  rcases h with ⟨a, b, c, d, hs, ha, hb, hc, hd⟩
  rw [hs]
  simp only [joinDots, List.length_append, List.length_cons]
  have := ha.1; have := ha.2.1; have := hb.1; have := hb.2.1; have := hc.1; have := hc.2.1; have := hd.1; have := hd.2.1
  omega

theorem c02_mem_joinDots : ∀ (ps : List (List Char)) (x : Char), x ∈ joinDots ps → x = '.' ∨ ∃ p ∈ ps, x ∈ p
  | [], x, h => by simp [joinDots] at h
  | [p], x, h => Or.inr ⟨p, by simp, by simpa [joinDots] using h⟩
  | p :: q :: ps, x, h => by
    simp only [joinDots, List.mem_append, List.mem_cons] at h
    rcases h with h1 | rfl | h1
    · exact Or.inr ⟨p, by simp, h1⟩
    · exact Or.inl rfl
    · rcases c02_mem_joinDots (q :: ps) x h1 with h2 | ⟨r, hr, hx⟩
      · exact Or.inl h2
      · exact Or.inr ⟨r, List.mem_cons_of_mem p hr, hx⟩

theorem IsHostName.chars (s : String) (h : IsHostName s) :
    ∀ c ∈ s.toList, isAsciiAlnum c = true ∨ c = '-' ∨ c = '.' := by
  rcases h with ⟨_, _, labels, _, hs, hl⟩
  intro x hx
  rw [hs] at hx
  rcases c02_mem_joinDots labels x hx with rfl | ⟨p, hp, hxp⟩
  · exact Or.inr (Or.inr rfl)
  · rcases (hl p hp).2.2.1 x hxp with h1 | h1
    · exact Or.inl h1
    · exact Or.inr (Or.inl h1)

end Typedpy
