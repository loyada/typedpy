/-
  A value rebuilt by copy.deepcopy / a pickle round trip (`rebuildV`) is
  `==` the original whenever rebuilt sets keep their elements (`MemPreserving`); it is identical
  when they also keep their iteration order (`rebuildV_id`).  The order `__getstate__` /
  `__setstate__` give the unpickled `__dict__` (`stateOrder`) changes what no name reads
  (`lookup_stateOrder`).
-/
import TypedpyModel.Lemmas.EqLemmas
import TypedpyModel.Lemmas.Define
import TypedpyModel.Sem.EqHash
namespace Typedpy
open PyVal (pyEq)

theorem rebuildVs_eq_map (S : SetOrder) : ∀ xs : List PyVal,
    rebuildVs S xs = xs.map (rebuildV S)
  | [] => by simp [rebuildVs]
  | x :: xs => by simp [rebuildVs, rebuildVs_eq_map S xs]

theorem rebuildKvs_eq_map (S : SetOrder) : ∀ kvs : List (PyVal × PyVal),
    rebuildKvs S kvs = kvs.map (fun p => (rebuildV S p.1, rebuildV S p.2))
  | [] => by simp [rebuildKvs]
  | (k, v) :: rest => by simp [rebuildKvs, rebuildKvs_eq_map S rest]

theorem rebuildAttrs_eq_map (S : SetOrder) : ∀ kvs : List (String × PyVal),
    rebuildAttrs S kvs = kvs.map (fun p => (p.1, rebuildV S p.2))
  | [] => by simp [rebuildAttrs]
  | (k, v) :: rest => by simp [rebuildAttrs, rebuildAttrs_eq_map S rest]

/-- the rebuilt set has the elements it was built from (what is assumed of `SetOrder`) -/
def MemPreserving (S : SetOrder) : Prop := ∀ xs y, y ∈ S xs ↔ y ∈ xs

theorem rebuildV_seq (S : SetOrder) (k : SeqCtor) (xs : List PyVal) :
    rebuildV S (k.mk xs) = k.mk (xs.map (rebuildV S)) := by
  cases k <;> simp only [SeqCtor.mk, rebuildV, rebuildVs_eq_map]

theorem rebuildV_atom (S : SetOrder) {v : PyVal} (ha : v.isAtom = true) : rebuildV S v = v := by
  cases v <;> first | rfl | cases ha

theorem rebuildV_isNone (S : SetOrder) (v : PyVal) : (rebuildV S v).isNone = v.isNone := by
  cases v <;> rfl

theorem pyEq_rebuildV (S : SetOrder) (hS : MemPreserving S) :
    ∀ v : PyVal, pyEq v (rebuildV S v) = true := by
  intro v
  induction v using PyVal.induct_seq with
  | atom v ha => rw [rebuildV_atom S ha]; exact pyEq_refl v
  | seq k a ih =>
    rw [rebuildV_seq, pyEq_seq, pyEqList_iff]
    exact .of_map ih
  | set f a ih =>
    simp only [rebuildV, rebuildVs_eq_map]
    refine (pyEq_set_iff ..).2 ⟨fun x hx => ⟨rebuildV S x, (hS _ _).2 (List.mem_map.2 ⟨x, hx, rfl⟩), ih x hx⟩,
      fun y hy => ?_⟩
    obtain ⟨x, hx, rfl⟩ := List.mem_map.1 ((hS _ _).1 hy)
    exact ⟨x, hx, ih x hx⟩
  | dict a ih =>
    simp only [rebuildV, rebuildKvs_eq_map]
    exact (pyEq_dict_iff ..).2 ⟨(List.length_map _).symm,
      fun p hp => ⟨_, List.mem_map.2 ⟨p, hp, rfl⟩, (ih p hp).1, (ih p hp).2⟩⟩
  | inst c a ih =>
    simp only [rebuildV, rebuildAttrs_eq_map]
    refine (pyEq_inst_iff ..).2 ⟨rfl, fun p hp => Or.inr ⟨_, List.mem_map.2 ⟨p, hp, rfl⟩, rfl, ih p hp⟩,
      fun q hq => ?_⟩
    obtain ⟨p, hp, rfl⟩ := List.mem_map.1 hq
    exact Or.inr ⟨p, hp, rfl, ih p hp⟩

theorem rebuildV_id : ∀ v : PyVal, rebuildV id v = v := by
  intro v
  induction v using PyVal.induct_seq with
  | atom v ha => exact rebuildV_atom id ha
  | seq k a ih => rw [rebuildV_seq, map_id_of_mem ih]
  | set f a ih => rw [rebuildV, rebuildVs_eq_map, map_id_of_mem ih, id]
  | dict a ih =>
    rw [rebuildV, rebuildKvs_eq_map, map_id_of_mem fun p hp => by rw [(ih p hp).1, (ih p hp).2]]
  | inst c a ih =>
    rw [rebuildV, rebuildAttrs_eq_map, map_id_of_mem fun p hp => by rw [ih p hp]]

theorem rebuildAttrs_id (a : List (String × PyVal)) : rebuildAttrs id a = a := by
  rw [rebuildAttrs_eq_map, map_id_of_mem fun p _ => by rw [rebuildV_id]]

theorem lookup_map_val {α β} (f : α → β) (k : String) (l : List (String × α)) :
    lookup k (l.map (fun p => (p.1, f p.2))) = (lookup k l).map f := by
  induction l with
  | nil => rfl
  | cons p rest ih =>
    rw [List.map, lookup_cons, lookup_cons, ih]
    split <;> rfl

/-- the fields part of the state lists exactly the declared fields that are set -/
theorem c11_lookup_fieldsPart (attrs : Attrs) (k : String) (fs : List String) :
    lookup k (fs.filterMap (fun f => (lookup f attrs).map (fun v => (f, v))))
      = if fs.contains k then lookup k attrs else none := by
  induction fs with
  | nil => rfl
  | cons f fs ih =>
    rw [List.filterMap_cons, List.contains_cons]
    by_cases e : k = f
    · subst e
      cases hl : lookup k attrs with
      | none => simp only [Option.map_none, ih, BEq.rfl, Bool.true_or, hl, ite_self]
      | some v => simp only [Option.map_some, lookup_cons, BEq.rfl, if_true, Bool.true_or]
    · have e' : (k == f) = false := beq_false_of_ne e
      cases hl : lookup f attrs with
      | none => simp only [Option.map_none, ih, e', Bool.false_or]
      | some v =>
        simp only [Option.map_some, lookup_cons, e', Bool.false_eq_true, if_false, ih, Bool.false_or]

theorem lookup_stateOrder (fields : List String) (attrs : Attrs) (k : String) :
    lookup k (stateOrder fields attrs) = lookup k attrs := by
  unfold stateOrder
  rw [lookup_append_orElse, c11_lookup_fieldsPart, lookup_filter_key (fun n => !fields.contains n)]
  cases fields.contains k
  · rfl
  · cases lookup k attrs <;> rfl

theorem getA_pickleOrd (d : EqCtx) (fields : List String) (S : SetOrder) (x : Inst) (k : String) :
    getA d (pickleOrdI fields S x) k = getA d (pickleI S x) k := by
  unfold getA
  -- the two instances differ in the order of `attrs` only
  rw [show (pickleOrdI fields S x).attrs = stateOrder fields (pickleI S x).attrs from rfl, lookup_stateOrder]
  rfl

end Typedpy
