/-
  Lemmas/Idempotent.lean — what a field stores is accepted by the same field again, unchanged (on the fragment
  `idemFrag`: everything except AnyOf, whose stored value may match an earlier option that converts it, and inline
  StructureReference, which re-constructs).  For Set and Map this needs that de-duplication and key normalisation are
  idempotent (`dedup_idem`, `dictOfPairs_idem`).  This is the fact every re-validating entry point (deepcopy,
  clones, from_other_class, serialize-then-deserialize) relies on; the regression of /repo 95931f6 (OneOf / AllOf
  stored an option's normal form) was a violation of it.

  `norm_stable` ("admitted again, with the same normal form") is a mutual structural recursion with `normZip_stable`.  The
  collection cases are the `c01_a…_stable` lemmas, stated for arbitrary functions on the list of parts: the rebuilt
  parts (`n xs`, `dedup (n xs)`, `dictOfPairs (n xs)`) have to be admitted and be their own normal form.  For element-wise
  functions that holds because every element of the rebuilt list is the normal form of an admitted element, hence a
  fixed point (`c01_map_fixed`, `c01_all_map_of_fixed`).
-/
import TypedpyModel.Lemmas.Sound
namespace Typedpy
open PyVal (pyEq pyMem pyNodup)

mutual
/-- declarations on which "the stored value validates again, unchanged" is proved -/
def idemFrag : FieldDecl → Bool
  | .seqOf _ f _ => idemFrag f
  | .seqPos _ fs _ _ => idemFrags fs
  | .tupleOf f _ => idemFrag f
  | .tuplePos fs _ => idemFrags fs
  | .struct c _ _ => !c.inline
  | .setAny _ _ => true
  | .setOf _ f _ => idemFrag f
  | .mapAny _ => true
  | .mapOf kf vf _ => idemFrag kf && idemFrag vf
  | .anyOf _ => false
  | .number _ => true
  | .integer _ => true
  | .float _ => true
  | .string _ _ _ => true
  | .boolean => true
  | .enumLit _ => true
  | .enumCls _ _ => true
  | .seqAny _ _ => true
  | .oneOf _ => true
  | .allOf _ => true
  | .notF _ => true
  | .noneF => true
  | .anything => true
termination_by structural f => f
def idemFrags : List FieldDecl → Bool
  | [] => true
  | f :: fs => idemFrag f && idemFrags fs
termination_by structural fs => fs
end

theorem idemFrags_iff : ∀ fs : List FieldDecl, idemFrags fs = true ↔ ∀ f ∈ fs, idemFrag f = true :=
  allB_iff rfl fun _ _ => rfl

theorem c01_map_fixed {α} {a : α → Bool} {n : α → α} (h : ∀ x, a x = true → a (n x) = true ∧ n (n x) = n x)
    (xs : List α) (hx : xs.all a = true) : ∀ y ∈ xs.map n, a y = true ∧ n y = y := by
  intro y hy
  obtain ⟨x, hm, rfl⟩ := List.mem_map.1 hy
  exact h x (List.all_eq_true.1 hx x hm)

theorem c01_all_map_of_fixed {α} {a : α → Bool} {n : α → α} {ys : List α} (h : ∀ y ∈ ys, a y = true ∧ n y = y) :
    ys.all a = true ∧ ys.map n = ys :=
  ⟨List.all_eq_true.2 fun y hy => (h y hy).1, map_id_of_mem fun y hy => (h y hy).2⟩

theorem c01_aSet_stable {imm : Bool} {sz : SizeOpts} {a : List PyVal → Bool} {n : List PyVal → List PyVal} {v : PyVal}
    (ha : ∀ xs, a xs = true → a (dedup (n xs)) = true ∧ n (dedup (n xs)) = dedup (n xs))
    (h : aSet sz a n v = true) :
    aSet sz a n (nSet imm n v) = true ∧ nSet imm n (nSet imm n v) = nSet imm n v := by
  obtain ⟨fr, xs, rfl, _, h2, h3⟩ := aSet_inv h
  obtain ⟨h4, h5⟩ := ha xs h2
  simp only [nSet, aSet, h5, dedup_idem, Bool.and_eq_true_iff, Bool.or_assoc, Bool.or_self]
  exact ⟨⟨⟨h3, h4⟩, h3⟩, trivial⟩

theorem c01_aMap_stable {sz : SizeOpts} {a : List (PyVal × PyVal) → Bool}
    {n : List (PyVal × PyVal) → List (PyVal × PyVal)} {v : PyVal}
    (ha : ∀ kvs, a kvs = true → a (dictOfPairs (n kvs)) = true ∧ n (dictOfPairs (n kvs)) = dictOfPairs (n kvs))
    (h : aMap sz a n v = true) :
    aMap sz a n (nMap n v) = true ∧ nMap n (nMap n v) = nMap n v := by
  obtain ⟨kvs, rfl, _, h2, h3⟩ := aMap_inv h
  obtain ⟨h4, h5⟩ := ha kvs h2
  simp only [nMap, aMap, h5, dictOfPairs_idem, Bool.and_eq_true_iff]
  exact ⟨⟨⟨h3, h4⟩, h3⟩, trivial⟩

theorem c01_aSeq_stable {k : SeqKind} {sz : SizeOpts} {pre a : List PyVal → Bool}
    {n : List PyVal → List PyVal} {v : PyVal}
    (hpre : ∀ xs ys : List PyVal, xs.length = ys.length → pre xs = pre ys)
    (hlen : ∀ xs, a xs = true → (n xs).length = xs.length)
    (ha : ∀ xs, a xs = true → a (n xs) = true ∧ n (n xs) = n xs)
    (h : aSeq k sz pre a n v = true) :
    aSeq k sz pre a n (nSeq k n v) = true ∧ nSeq k n (nSeq k n v) = nSeq k n v := by
  obtain ⟨xs, hs, _, h2, h3, h4, h5⟩ := aSeq_inv h
  have hs2 := ha xs h4
  rw [nSeq_of_seqElems n hs]
  simp only [nSeq, aSeq, seqElems_mkSeq, Bool.and_eq_true_iff, hs2.2]
  refine ⟨⟨⟨⟨⟨h5, ?_⟩, ?_⟩, hs2.1⟩, h5⟩, trivial⟩
  · rw [hlen xs h4]; exact h2
  · rw [hpre (n xs) xs (hlen xs h4)]; exact h3

theorem c01_aTuple_stable {uniq : Bool} {pre a : List PyVal → Bool} {n : List PyVal → List PyVal} {v : PyVal}
    (hpre : ∀ xs ys : List PyVal, xs.length = ys.length → pre xs = pre ys)
    (hlen : ∀ xs, a xs = true → (n xs).length = xs.length)
    (ha : ∀ xs, a xs = true → a (n xs) = true ∧ n (n xs) = n xs)
    (h : aTuple uniq pre a n v = true) :
    aTuple uniq pre a n (nTuple n v) = true ∧ nTuple n (nTuple n v) = nTuple n v := by
  obtain ⟨xs, rfl, _, h3, h4, h5⟩ := aTuple_inv h
  have hs2 := ha xs h4
  simp only [nTuple, aTuple, Bool.and_eq_true_iff, hs2.2]
  refine ⟨⟨⟨⟨h5, ?_⟩, hs2.1⟩, h5⟩, trivial⟩
  rw [hpre (n xs) xs (hlen xs h4)]; exact h3

mutual
theorem norm_stable (O : Oracles) : ∀ (f : FieldDecl) (v : PyVal), idemFrag f = true →
    admits O f v = true → admits O f (norm O f v) = true ∧ norm O f (norm O f v) = norm O f v := by
  intro f
  cases f with
  -- Float, Boolean, Enum: the normal form is a conforming scalar, which is admitted and is its own normal form
  | float o =>
    intro v _ h
    obtain ⟨q, hq, hn⟩ := cFloat_inv (cFloat_nFloat o v h)
    simp only [norm_float, hq]
    exact ⟨hn, rfl⟩
  | boolean =>
    intro v _ h
    obtain ⟨b, hb⟩ := cBoolean_inv (cBoolean_nBoolean v h)
    simp only [norm_boolean, hb]
    exact ⟨rfl, rfl⟩
  | enumCls cls names =>
    intro v _ h
    obtain ⟨n, hn, hm⟩ := cEnumCls_inv (cEnumCls_nEnumCls cls names v h)
    simp only [norm_enumCls, hn]
    exact ⟨by rw [admits_enumCls, aEnumCls, beq_self_eq_true, hm]; rfl, rfl⟩
  | seqAny k sz =>
    exact fun v _ h =>
      c01_aSeq_stable (fun _ _ _ => rfl) (fun _ _ => rfl) (fun _ _ => ⟨rfl, rfl⟩) h
  | seqOf k f sz =>
    exact fun v hf h => c01_aSeq_stable (fun _ _ _ => rfl) (fun xs _ => List.length_map _)
      (fun xs hx => c01_all_map_of_fixed (c01_map_fixed (fun x => norm_stable O f x hf) xs hx)) h
  | seqPos k fs addl sz =>
    exact fun v hf h => c01_aSeq_stable (fun xs ys he => by simp only [he])
      (fun xs _ => normZip_length O fs xs) (normZip_stable O fs · hf) h
  | tupleOf f uniq =>
    exact fun v hf h => c01_aTuple_stable (fun _ _ _ => rfl) (fun xs _ => List.length_map _)
      (fun xs hx => c01_all_map_of_fixed (c01_map_fixed (fun x => norm_stable O f x hf) xs hx)) h
  | tuplePos fs uniq =>
    exact fun v hf h => c01_aTuple_stable (fun xs ys he => by simp only [he])
      (fun xs _ => normZip_length O fs xs) (normZip_stable O fs · hf) h
  | struct c fields defaults =>
    intro v hf h
    have hf := (Bool.not_eq_true' _).mp hf
    simp only [admits_struct, norm_struct, hf, Bool.false_eq_true, if_false] at h ⊢
    exact ⟨h, trivial⟩
  | setAny imm sz => exact fun v _ h => c01_aSet_stable (fun _ _ => ⟨rfl, rfl⟩) h
  | setOf imm f sz =>
    exact fun v hf h => c01_aSet_stable (fun xs hx => c01_all_map_of_fixed fun y hy =>
      c01_map_fixed (fun x => norm_stable O f x hf) xs hx y (c01_mem_dedup _ y hy)) h
  | mapAny sz => exact fun v _ h => c01_aMap_stable (fun _ _ => ⟨rfl, rfl⟩) h
  | mapOf kf vf sz =>
    intro v hf h
    -- `idemFrag (.mapOf kf vf sz)` unfolds to the conjunction (`rw [idemFrag]` has Lean prove all its equations first)
    have hf := Bool.and_eq_true_iff.1 hf
    refine c01_aMap_stable (fun kvs hx => c01_all_map_of_fixed fun e he => ?_) h
    -- every key and value of the dict is the normal form of an admitted key or value of `kvs`
    have := c01_dictOfPairs_forall (fun k => admits O kf k = true ∧ norm O kf k = k)
      (fun x => admits O vf x = true ∧ norm O vf x = x) _ (fun e he => by
        obtain ⟨kv, hkv, rfl⟩ := List.mem_map.1 he
        have := Bool.and_eq_true_iff.1 (List.all_eq_true.1 hx kv hkv)
        exact ⟨norm_stable O kf kv.1 hf.1 this.1, norm_stable O vf kv.2 hf.2 this.2⟩) e he
    rw [this.1.1, this.1.2, this.2.1, this.2.2]
    exact ⟨rfl, rfl⟩
  | anyOf fs => exact fun _ hf => nomatch hf
  | _ => exact fun v _ h => ⟨h, rfl⟩
termination_by structural f => f

theorem normZip_stable (O : Oracles) : ∀ (fs : List FieldDecl) (xs : List PyVal), idemFrags fs = true →
    admitsZip O fs xs = true →
      admitsZip O fs (normZip O fs xs) = true ∧ normZip O fs (normZip O fs xs) = normZip O fs xs
  | [], xs, _, h => ⟨h, rfl⟩
  | _ :: _, [], _, _ => ⟨rfl, rfl⟩
  | f :: fs, x :: xs, hf, h => by
    have hf := Bool.and_eq_true_iff.1 hf
    rw [admitsZip_cons_cons, Bool.and_eq_true_iff] at h
    have h1 := norm_stable O f x hf.1 h.1
    have h2 := normZip_stable O fs xs hf.2 h.2
    simp only [normZip_cons_cons, admitsZip_cons_cons, Bool.and_eq_true_iff]
    exact ⟨⟨h1.1, h2.1⟩, by rw [h1.2, h2.2]⟩
termination_by structural fs => fs
end

end Typedpy
