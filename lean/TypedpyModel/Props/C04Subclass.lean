/-
  Props/C04Subclass.lean — C04, last clause: "ImmutableStructure, FinalStructure and ImmutableField
  classes cannot be subclassed".

  The class statement is modelled in Sem/Define.lean (C14: `defineClass`, whose check list contains
  `finalCheck` = `_check_for_final_violations(clsobj.mro())`, and `defineFieldClass` for Field
  classes).  The clause is stated about every world reachable by class statements, every position of
  the sealed class among the bases and every other base next to it, and derived from C14's
  `sealed_base_rejected` / `immutableField_subclass_rejected` and from `sealed_in_tail_rejected`
  (Lemmas/Faults.lean: a sealed class anywhere in the linearisation).
-/
import TypedpyModel.Props.C14
namespace Typedpy.C04
open Typedpy

theorem sealed_ancestor_not_subclassable (O : Oracles) {w : World} (src : ClassSrc) {b s : String}
    {bd : ClassDef} (hb : b ∈ src.bases) (hbd : w.find b = some bd) (hsm : s ∈ bd.mro)
    (hs : sealedCls w s = true) :
    (∃ e, defineClass O w src = .error e) ∧ stepWorld O w (.define src) = w :=
  have hex := C14.sealed_base_rejected O src hb hbd hsm hs
  ⟨hex, stepWorld_define_error hex⟩

/-- **C04 (no subclassing, structures)**: in every world reachable by class statements, a class
    statement that lists — anywhere among its bases, next to any other bases or mix-ins — a class
    that is a strict subclass of ImmutableStructure or FinalStructure (`sealedCls`: a user-defined
    immutable / final structure class) raises, and no class object is created -/
theorem sealed_structure_not_subclassable (O : Oracles) {w : World} (hw : Reachable O w)
    (src : ClassSrc) {b : String} (hb : b ∈ src.bases) (hs : sealedCls w b = true) :
    (∃ e, defineClass O w src = .error e) ∧ stepWorld O w (.define src) = w :=
  have hex := sealed_in_tail_rejected O (fun h => (bases_sublist_mroTail h).subset hb) hs
  ⟨hex, stepWorld_define_error hex⟩

/-- **C04 (no subclassing, fields)**: a Field class statement one of whose bases is a strict
    subclass of ImmutableField raises, whatever the other bases -/
theorem immutable_field_not_subclassable (fw : List FieldCls) (name b : String) (bases : List String)
    (hb : b ∈ bases) (hs : sealedFieldCls fw b = true) :
    ∃ e, defineFieldClass fw name bases = .error e :=
  C14.immutableField_subclass_rejected fw name b bases hb hs

def subW : World :=
  runSteps C14.exO C14.W0
    [.define (C14.plainSrc "Imm" ["ImmutableStructure"] [("a", C14.intF)]),
     .define (C14.plainSrc "Fin" ["FinalStructure"] [("a", C14.intF)]),
     .define (C14.plainSrc "Plain" ["Structure"] [("p", C14.intF)]),
     .mixin "Mixin"]

def raisesTypeErr (r : R ClassDef) : Bool := match r with | .error .typeErr => true | _ => false
def isDefined (r : R ClassDef) : Bool := match r with | .ok _ => true | _ => false

theorem subclass_example :
    sealedCls subW "Imm" = true ∧ sealedCls subW "Fin" = true ∧ sealedCls subW "Plain" = false
    ∧ raisesTypeErr (defineClass C14.exO subW (C14.plainSrc "S1" ["Imm"] [])) = true
    ∧ raisesTypeErr (defineClass C14.exO subW (C14.plainSrc "S2" ["Mixin", "Imm"] [])) = true
    ∧ raisesTypeErr (defineClass C14.exO subW (C14.plainSrc "S3" ["Plain", "Fin"] [])) = true
    ∧ isDefined (defineClass C14.exO subW (C14.plainSrc "S4" ["Mixin", "Plain"] [])) = true
    ∧ (match defineFieldClass [⟨"IF", ["IF", "ImmutableField", "String"]⟩, ⟨"String", ["String"]⟩] "X" ["String", "IF"] with
        | .error .typeErr => true | _ => false) = true := by
  decide +kernel

end Typedpy.C04
