/-
  Lemmas/Derive.lean — helper lemmas about the derivation operators (Sem/Derive.lean): `pickFields`,
  what an operator retains, and the class that `type(name, (Structure,), dict)` yields — every
  quantity of Sem/Define.lean for a class source whose only base is `Structure`.
-/
import TypedpyModel.Lemmas.DefineWorld
import TypedpyModel.Spec.FieldSet
namespace Typedpy

theorem any_hasDefault_eq {n : String} : ∀ {l : List (String × Member)}, KeysNodup l →
    l.any (fun p => p.1 == n && p.2.hasDefault) = memberHasDefault l n
  | [], _ => rfl
  | (k, m) :: rest, h => by
    have hnd := List.nodup_cons.mp h
    rw [List.any_cons, any_hasDefault_eq hnd.2, memberHasDefault, memberHasDefault, lookup]
    by_cases hk : n = k
    · subst hk
      simp [lookup_none_of_not_mem hnd.1]
    · simp [hk, Ne.symm hk]

theorem lookup_pickFields (all : List (String × Member)) (n : String) : ∀ names : List String,
    lookup n (pickFields all names) = if names.contains n then lookup n all else none
  | [] => rfl
  | k :: ks => by
    simp only [pickFields, List.contains_cons]
    by_cases hnk : n = k
    · subst hnk
      cases hk : lookup n all <;> simp [hk, lookup, lookup_pickFields all n ks]
    · cases lookup k all <;>
        simp [hnk, lookup, lookup_filter_ne hnk, lookup_pickFields all n ks]

theorem pickFields_keysNodup (all : List (String × Member)) : ∀ names : List String,
    KeysNodup (pickFields all names)
  | [] => List.nodup_nil
  | k :: ks => by
    simp only [pickFields]
    cases lookup k all with
    | none => exact pickFields_keysNodup all ks
    | some m =>
      refine List.nodup_cons.mpr ⟨fun hm => ?_, ?_⟩
      · rcases List.mem_map.mp hm with ⟨p, hp, hpk⟩
        simpa [hpk] using (List.mem_filter.mp hp).2
      · exact (List.Sublist.map _ List.filter_sublist).nodup (pickFields_keysNodup all ks)

def derivedFields (c : ClassDef) : DeriveOp → List (String × Member)
  | .partialOf => c.allFields
  | .allRequired => c.allFields
  | .extend => c.allFields
  | .omit names => c.allFields.filter fun p => !names.contains p.1
  | .pick names => pickFields c.allFields names

/-- the `_required` list an operator writes into the new class dict -/
def derivedRequired (c : ClassDef) : DeriveOp → List String
  | .partialOf => []
  | .allRequired => (c.allFields.filter fun p => p.2.needsValue).map (·.1)
  | .extend => c.required
  | .omit names => c.required.filter fun x => !names.contains x
  | .pick names => c.required.filter fun x => names.contains x

def keeps : DeriveOp → String → Bool
  | .omit names, n => !names.contains n
  | .pick names, n => names.contains n
  | _, _ => true

theorem lookup_derivedFields (c : ClassDef) (op : DeriveOp) (n : String) :
    lookup n (derivedFields c op) = if keeps op n then lookup n c.allFields else none := by
  cases op with
  | «omit» names => exact lookup_filter_key (fun k => !names.contains k) n c.allFields
  | pick names => exact lookup_pickFields c.allFields n names
  | _ => rfl

theorem derivedFields_keysNodup {c : ClassDef} (h : KeysNodup c.allFields) (op : DeriveOp) :
    KeysNodup (derivedFields c op) := by
  cases op with
  | «omit» names => exact (List.Sublist.map _ List.filter_sublist).nodup h
  | pick names => exact pickFields_keysNodup _ _
  | _ => exact h

theorem derivedFields_sub (c : ClassDef) (op : DeriveOp) : ∀ p ∈ derivedFields c op, p ∈ c.allFields := by
  intro p hp
  cases op with
  | «omit» names => exact (List.mem_filter.mp hp).1
  | pick names =>
    have := lookup_of_mem (pickFields_keysNodup _ _) hp
    rw [lookup_pickFields] at this
    split at this
    · exact lookup_mem this
    · cases this
  | _ => exact hp

theorem ownMembers_derived (c : ClassDef) (fields : List (String × Member)) :
    ownMembers (initEntries c ++ objEntries fields) = fields := by
  rw [ownMembers_append]
  show ownMembers (objEntries fields) = fields
  induction fields with
  | nil => rfl
  | cons p ps ih => rw [objEntries, List.map_cons, ownMembers]; exact congrArg _ ih

theorem mem_derivedSrc_entries {c : ClassDef} {nm : String} {fields : List (String × Member)}
    {req : List String} {p : String × SrcEntry} (hp : p ∈ (derivedSrc c nm fields req).entries) :
    p = ("_fields", .attr .list) ∨ ∃ q ∈ fields, p = (q.1, .obj q.2) := by
  rcases List.mem_cons.mp hp with h1 | h1
  · exact Or.inl h1
  · rcases List.mem_map.mp h1 with ⟨q, hq, rfl⟩
    exact Or.inr ⟨q, hq, rfl⟩

def HasStructure (w : World) : Prop := w.find "Structure" = some (World.builtin "Structure" [] false)

theorem HasStructure.find {w : World} (h : HasStructure w) :
    w.find "Structure" = some (World.builtin "Structure" [] false) := h

section
variable {w : World} {src : ClassSrc} (hS : HasStructure w) (hb : src.bases = ["Structure"])
include hS hb

theorem baseDefs_structure : baseDefs w src = [World.builtin "Structure" [] false] := by
  rw [baseDefs, hb, List.filterMap_cons, hS.find]; rfl

theorem c3_mroSeqs_structure : c3 (mroSeqs w src) = some ["Structure"] := by
  rw [mroSeqs, baseDefs_structure hS hb, hb]; decide +kernel

theorem mroTail_structure : mroTail w src = ["Structure"] := by
  rw [mroTail, c3_mroSeqs_structure hS hb]; rfl

theorem unknownBaseCheck_structure : unknownBaseCheck w src = okU := by
  rw [unknownBaseCheck, baseDefs_structure hS hb, hb]
  simp [hS.find, World.builtin]

theorem mroCheck_structure : mroCheck w src = okU := by
  rw [mroCheck, mroOf, c3_mroSeqs_structure hS hb, hb]; rfl

theorem finalCheck_structure : finalCheck w src = okU := by
  rw [finalCheck, mroTail_structure hS hb]
  simp [sealedCls, hS.find, World.builtin]

/-- `Structure` is left out of `base_structures`: no parameters come from the bases -/
theorem basesParams_structure : basesParams w src = [] := by
  have : structBases w src = [] := by rw [structBases, baseDefs_structure hS hb]; decide
  rw [basesParams, this]; rfl

theorem basesRequired_structure : basesRequired w src = [] := by
  rw [basesRequired, basesParams_structure hS hb]; rfl

theorem allFieldsOf_structure : allFieldsOf w src = updateAll [] (ownMembers src.entries) := by
  have : ownOf w "Structure" = [] := by rw [ownOf, hS.find]; rfl
  rw [allFieldsOf, mroTail_structure hS hb]
  simp only [List.reverse_cons, List.reverse_nil, List.nil_append, List.map_cons, List.map_nil, this,
    List.cons_append, mergeAll, updateAll]

theorem inheritedOpt_structure (get : ClassDef → Option Bool)
    (hg : get (World.builtin "Structure" [] false) = none) :
    inheritedOpt w get (mroTail w src) = none := by
  rw [mroTail_structure hS hb, inheritedOpt, hS.find, Option.bind_some, hg]; rfl

theorem requiredOf_structure {req : List String} (hr : src.required = some req) :
    requiredOf w src = dedupStr (req.filter fun n =>
      !((ownMembers src.entries).any fun p => p.1 == n && p.2.hasDefault)) := by
  have hirc : inheritedRequiredConsts w src = [] := by
    rw [inheritedRequiredConsts, baseDefs_structure hS hb]
    exact List.filter_eq_nil_iff.mpr fun n _ => by simp [World.builtin]
  rw [requiredOf, basesRequired_structure hS hb, hirc, List.nil_append, List.append_nil, requiredEff,
    requiredOwn, hr, allFieldsOf_structure hS hb]
  simp only [Option.getD_some, Option.isNone_some, Bool.false_eq_true, if_false, List.append_nil,
    List.filter_filter]
  refine congrArg dedupStr (List.filter_congr fun n _ => ?_)
  -- the member `_field_by_name` holds for `n` is one of the own entries, none of which has a default
  cases hA : ((ownMembers src.entries).any fun p => p.1 == n && p.2.hasDefault) with
  | true => exact Bool.and_false _
  | false =>
    cases hl : lookup n (updateAll [] (ownMembers src.entries)) with
    | none => rfl
    | some m => simpa using List.any_eq_false.mp hA (n, m) (mem_of_mem_updateAll (lookup_mem hl))

/-- without parameters from the bases a name is required or optional by `_required` alone -/
theorem sigCheck_structure : sigCheck w src = okU := by
  refine if_neg fun h => ?_
  rcases List.any_eq_true.mp h with ⟨n, hr, ho⟩
  simp only [sigOf, basesParams_structure hS hb, basesRequired_structure hS hb, List.map_nil,
    List.filter_nil, List.nil_append, List.append_nil, mem_dedupStr, List.mem_filter,
    List.contains_eq_mem, decide_eq_true_eq, Bool.and_eq_true, Bool.not_eq_true',
    decide_eq_false_iff_not] at hr ho
  exact ho.2.1 hr.2.2

end

end Typedpy
