/-
  Props/C17Deser.lean — C17, second file: the whole path of `Deserializer(VersionedCls).deserialize`.  Kept apart from
  Props/C17.lean, which opens `Typedpy.Convert`, only because that namespace and `Typedpy` (Sem/Validate.lean,
  Sem/Deser.lean) both define `R` / `bindE` / `truthy` / `deserExtras`.
-/
import TypedpyModel.Props.C17
import TypedpyModel.Lemmas.ConvertDeser
namespace Typedpy.C17
open Typedpy.ConvertDeser
open Typedpy.Convert (Json Mapping docVersion convertDict docVersion_obj)

/-! ### the whole path of `Deserializer(VersionedCls).deserialize`

  `versioned_deser_equiv` quantifies over an abstract remainder `rest`.  Here the remainder is the executable model of
  deserialization (Sem/Deser.lean: per-field pass, undeclared keys of the class and of nested classes, constructor
  validation) composed with `Versioned.__init__` (Sem/ConvertDeser.lean `deserializeVersioned`), which the
  correspondence run compares with the real instance / exception on every non-trusted case. -/

/-- deserializing an old document IS running the remainder of deserialization
    on the converted document, and equals deserializing the converted document — for every class declaration,
    every setting of the flags, every history -/
theorem versioned_deserialize_whole_path (O : Oracles) (opts : DeserOpts) (cls : FieldDecl)
    (ms : Option (List Mapping)) (d d' : Json) (v : Int)
    (hv : docVersion d = some v) (h1 : 1 ≤ v) (h : convertDict d (ms.getD []) = .ok d') :
    deserializeVersioned O opts cls ms d = .ok (versionedRest O opts cls (((ms.getD []).length : Int) + 1) d')
    ∧ deserializeVersioned O opts cls ms d' = deserializeVersioned O opts cls ms d :=
  ⟨versioned_deser_result _ ms d d' v hv h1 h, versioned_deser_equiv _ ms d d' v hv h1 h⟩

/-- the same with `direct_trusted_mapping=True` (Sem/Trusted.lean: eligibility classifier, `from_trusted_data`, which
    still runs `Versioned.__init__`): old document and converted document deserialize alike, through the remainder
    applied to the converted document -/
theorem versioned_deserialize_trusted_whole_path (O : Oracles) (opts : DeserOpts) (cls : FieldDecl)
    (ms : Option (List Mapping)) (d d' : Json) (v : Int)
    (hv : docVersion d = some v) (h1 : 1 ≤ v) (h : convertDict d (ms.getD []) = .ok d') :
    deserializeVersionedTrusted O opts cls ms d
        = .ok (versionedRestTrusted O opts cls (((ms.getD []).length : Int) + 1) d')
    ∧ deserializeVersionedTrusted O opts cls ms d' = deserializeVersionedTrusted O opts cls ms d :=
  ⟨versioned_deser_result _ ms d d' v hv h1 h, versioned_deser_equiv _ ms d d' v hv h1 h⟩

/-- for a class whose `version` field is an integer field, deserializing a
    document at any version `v ∈ 1..len+1` yields exactly what the plain deserializer (`Typedpy.deserialize`, the
    model C05/C06 are about) yields for the same class on the converted latest-version document -/
theorem versioned_deserialize_is_plain (O : Oracles) (opts : DeserOpts) (c : ClassOpts)
    (fields : List (String × FieldDecl)) (defaults : List (String × PyVal)) (o : NumOpts)
    (ms : Option (List Mapping)) (d d' : Json) (v : Int)
    (hf : ∀ f, ("version", f) ∈ fields → f = FieldDecl.integer o) (hin : "version" ∈ fields.map (·.1))
    (hv : docVersion d = some v) (h1 : 1 ≤ v) (h2 : v ≤ ((ms.getD []).length : Int) + 1)
    (h : convertDict d (ms.getD []) = .ok d') :
    deserializeVersioned O opts (FieldDecl.struct c fields defaults) ms d
      = .ok (deserializePlain O opts (FieldDecl.struct c fields defaults) d') := by
  rw [(versioned_deserialize_whole_path O opts _ ms d d' v hv h1 h).1]
  have hv' := convert_version_keyed _ d d' v hv h1 h2 h
  rcases docVersion_obj hv' with ⟨kvs', rfl, hg'⟩
  rw [c17_forced_version_noop O opts c fields defaults hf hin _ kvs' hg']

/-- whatever document a `Versioned` class (integer `version` field) accepts — at any
    version, with any history — the instance it returns carries version `len(_versions_mapping) + 1` -/
theorem versioned_instance_latest (O : Oracles) (opts : DeserOpts) (c : ClassOpts)
    (fields : List (String × FieldDecl)) (defaults : List (String × PyVal)) (o : NumOpts)
    (ms : Option (List Mapping)) (d : Json) (x : PyVal)
    (hf : ∀ f, ("version", f) ∈ fields → f = FieldDecl.integer o) (hin : "version" ∈ fields.map (·.1))
    (h : deserializeVersioned O opts (FieldDecl.struct c fields defaults) ms d = .ok (.ok x)) :
    ∃ attrs, x = .inst c.name attrs ∧ lookup "version" attrs = some (.int (((ms.getD []).length : Int) + 1)) := by
  rcases Typedpy.Convert.deserVersioned_ok h with ⟨d', hd'⟩
  exact c17_versionedRest_version O opts c fields defaults hf hin _ d' x hd'.symm

/-- the same with `direct_trusted_mapping=True`: `from_trusted_data` still runs `Versioned.__init__` -/
theorem versioned_instance_latest_trusted (O : Oracles) (opts : DeserOpts) (c : ClassOpts)
    (fields : List (String × FieldDecl)) (defaults : List (String × PyVal)) (o : NumOpts)
    (ms : Option (List Mapping)) (d : Json) (n : String) (attrs : List (String × PyVal))
    (hf : ∀ f, ("version", f) ∈ fields → f = FieldDecl.integer o) (hin : "version" ∈ fields.map (·.1))
    (h : deserializeVersionedTrusted O opts (FieldDecl.struct c fields defaults) ms d = .ok (.ok (.inst n attrs))) :
    lookup "version" attrs = some (.int (((ms.getD []).length : Int) + 1)) := by
  rcases Typedpy.Convert.deserVersioned_ok h with ⟨d', hd'⟩
  simp only [versionedRestTrusted] at hd'
  split at hd'
  · rcases c17_versionedRest_version O opts c fields defaults hf hin _ d' _ hd'.symm with ⟨attrs', he, hl⟩
    cases he
    exact hl
  · split at hd'
    · cases hd'
      exact lookup_setKw _ _ _
    · rename_i hne
      exact absurd hd'.symm (hne _ _)

/-- non-vacuity: a class `V(version: PositiveInt, name: String)` without additional properties, history
    "rename `full` to `name`": the version-1 document deserializes to the instance `V(version=2, name="j")`, the
    same as its converted form -/
def exCls : FieldDecl :=
  .struct { name := "V", required := ["version"], addl := false }
    [("version", .integer { sign := .pos }), ("name", .string none none none)] []

theorem whole_path_example :
    (match ConvertDeser.deserializeVersioned { reMatch := fun _ _ => false } {} exCls
        (some [[("name", .move ["full"]), ("full", .deleted)]])
        (.obj [("version", .int 1), ("full", .str "j")]) with
      | .ok (.ok (.inst n attrs)) => n == "V" && attrs.length == 2
          && (match lookup "name" attrs with | some (.str s) => s == "j" | _ => false)
          && (match lookup "version" attrs with | some (.int i) => i == 2 | _ => false)
      | _ => false) = true := by
  decide +kernel

end Typedpy.C17
