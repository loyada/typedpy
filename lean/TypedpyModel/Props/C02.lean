/-
  Props/C02.lean — C02: accept/reject decision, stored normal form and error class match the docs.

  `admits` / `norm` (Spec/Accepts.lean) are the documented rules; `validate` / `construct`
  (Sem/Validate.lean) mirror the code.  For every declaration (any nesting depth), every value:
  the code accepts exactly the documented inputs, stores exactly the documented normal form, and
  every rejection is a TypeError or ValueError; a missing required field is a TypeError.  All of it is read off
  `validate_spec` / `construct_spec` (Lemmas/Complete.lean).  The same exactness for the extension string fields,
  for DecimalNumber and for classes as the class-definition model records them.
-/
import TypedpyModel.Lemmas.Sound
import TypedpyModel.Lemmas.Formats
import TypedpyModel.Lemmas.Decimal
import TypedpyModel.Sem.DefineBridge
import TypedpyModel.Lemmas.Complete
import TypedpyModel.Spec.WfDecl
namespace Typedpy.C02
open Typedpy

theorem validate_complete (O : Oracles) (f : FieldDecl) (v : PyVal)
    (h : admits O f v = true) : validate O f v = .ok (norm O f v) :=
  (validate_spec O f v).1 h

theorem validate_reject (O : Oracles) (f : FieldDecl) (v : PyVal)
    (h : admits O f v = false) :
    ∃ e, validate O f v = .error e ∧ (e = .typeErr ∨ e = .valueErr ∨ e = .both) :=
  (validate_spec O f v).2 h

/-- keyword construction succeeds exactly on the documented argument sets, yielding the
    documented instance (required present, undeclared names only with additional properties,
    `None` dropped only where `_ignore_none` applies, defaults filled in) -/
theorem construct_complete (O : Oracles) (c : ClassOpts) (fields : List (String × FieldDecl))
    (defaults kw : List (String × PyVal))
    (h : admitsKw O (.struct c fields defaults) kw = true) :
    construct O (.struct c fields defaults) kw = .ok (normKw O (.struct c fields defaults) kw) :=
  (construct_spec O c fields defaults kw).1 h

theorem construct_reject (O : Oracles) (c : ClassOpts) (fields : List (String × FieldDecl))
    (defaults kw : List (String × PyVal))
    (h : admitsKw O (.struct c fields defaults) kw = false) :
    ∃ e, construct O (.struct c fields defaults) kw = .error e
      ∧ (e = .typeErr ∨ e = .valueErr ∨ e = .both) :=
  (construct_spec O c fields defaults kw).2 h

theorem missing_required_is_TypeError (O : Oracles) (c : ClassOpts)
    (fields : List (String × FieldDecl)) (defaults kw : List (String × PyVal)) (r : String)
    (hr : r ∈ c.required) (hm : lookup r kw = none) :
    construct O (.struct c fields defaults) kw = .error .typeErr := by
  have hb : bindOk c (fields.map (·.1)) kw = false := by
    unfold bindOk
    rw [List.any_eq_true.mpr ⟨r, hr, by rw [hm]; rfl⟩]; rfl
  rw [construct_struct, vConstruct, hb]; rfl

theorem float_reads_float (O : Oracles) (o : NumOpts) (v w : PyVal)
    (h : validate O (.float o) v = .ok w) : ∃ q, w = .float q := by
  obtain ⟨ha, rfl⟩ := (validate_spec O (.float o) v).ok_inv h
  obtain ⟨q, hq, _⟩ := cFloat_inv (cFloat_nFloat o v ha)
  exact ⟨q, hq⟩

theorem boolean_reads_bool (O : Oracles) (v w : PyVal)
    (h : validate O .boolean v = .ok w) : ∃ b, w = .bool b := by
  obtain ⟨ha, rfl⟩ := (validate_spec O .boolean v).ok_inv h
  exact cBoolean_inv (cBoolean_nBoolean v ha)

theorem enum_name_reads_member (O : Oracles) (cls : String) (names : List String) (n : String)
    (w : PyVal) (h : validate O (.enumCls cls names) (.str n) = .ok w) : w = .enumv cls n :=
  ((validate_spec O (.enumCls cls names) (.str n)).ok_inv h).2

theorem immutableSet_reads_frozenset (O : Oracles) (f : FieldDecl) (sz : SizeOpts) (v w : PyVal)
    (h : validate O (.setOf true f sz) v = .ok w) : ∃ xs, w = .set true xs := by
  obtain ⟨ha, rfl⟩ := (validate_spec O (.setOf true f sz) v).ok_inv h
  rw [admits_setOf] at ha
  obtain ⟨fr, xs, rfl, -⟩ := aSet_inv ha
  exact ⟨_, by rw [norm_setOf, nSet, Bool.or_true]⟩

/-! ### non-vacuity: a nested, constrained declaration on which the decision goes both ways -/

def exO : Oracles := { reMatch := fun _ _ => true }
def exDecl : FieldDecl :=
  .seqOf .list (.anyOf [.integer { min := some ⟨0, 1⟩, max := some ⟨10, 1⟩, exclMax := true },
                         .float { mult := some 2 }]) { max := some 3, uniq := true }

theorem decision_example :
    admits exO exDecl (.list [.int 1, .int 12]) = true
    ∧ (match norm exO exDecl (.list [.int 1, .int 12]) with
        | .list [.int 1, .float q] => q.num == 12 && q.den == 1
        | _ => false) = true
    ∧ admits exO exDecl (.list [.int 1, .int 11]) = false
    ∧ admits exO exDecl (.list [.int 1, .float ⟨1, 1⟩]) = false
    ∧ admits exO exDecl (.tuple [.int 1]) = false := by
  decide +kernel

/-! ### the extension string fields

`SizedString`, `IPV4`, `HostName`, `DateString`, `TimeString`, `JSONString` are `string` declarations of the model:
`maxlen` is one more upper bound on the length, a format takes the pattern slot as a synthetic token.  For IPV4 and
HostName the token is decided by the model itself (`ipv4Ok` / `hostNameOk`, Core/Formats.lean), and these functions
accept exactly the documented languages (`ipv4Ok_iff`, `hostNameOk_iff`, Lemmas/Formats.lean). -/

/-- the oracles decide the IPV4 / HostName tokens as the model's own format functions do -/
def FormatOracles (O : Oracles) : Prop :=
  ∀ s, O.reMatch ipv4Token s = ipv4Ok s ∧ O.reMatch hostNameToken s = hostNameOk s

/-- the oracles the driver runs with (`fmtMatch` around the per-case table) are such oracles -/
theorem fmtMatch_formatOracles (other : String → String → Bool) (hook : List (String × PyVal) → Bool) :
    FormatOracles { reMatch := fmtMatch other, hookOk := hook } := by
  intro s
  have h : (hostNameToken == ipv4Token) = false := by decide +kernel
  exact ⟨by simp only [fmtMatch, beq_self_eq_true, if_true],
    by simp only [fmtMatch, h, beq_self_eq_true, Bool.false_eq_true, if_false, if_true]⟩

theorem string_field_exact (O : Oracles) (lo hi : Option Nat) (pat : Option String) (v : PyVal) :
    (∀ w, validate O (.string lo hi pat) v = .ok w ↔
      ∃ s, v = .str s ∧ w = .str s ∧ geLen lo s.length = true ∧ leLen hi s.length = true ∧ patOk O pat s = true)
    ∧ (validate O (.string lo hi pat) v = .error .typeErr ↔ ∀ s, v ≠ .str s)
    ∧ (∀ e, validate O (.string lo hi pat) v = .error e → e = .typeErr ∨ e = .valueErr) := by
  rw [validate_string, vString_eq]
  split
  · next s =>
    cases hc : geLen lo s.length && leLen hi s.length && patOk O pat s
    · refine ⟨fun w => ⟨nofun, ?_⟩, ⟨nofun, fun h => absurd rfl (h s)⟩,
        fun e h => Or.inr (Except.error.inj h).symm⟩
      rintro ⟨s', hs, -, h1, h2, h3⟩
      cases hs
      rw [h1, h2, h3] at hc
      cases hc
    · simp only [Bool.and_eq_true] at hc
      refine ⟨fun w => ⟨fun h => ⟨s, rfl, (Except.ok.inj h).symm, hc.1.1, hc.1.2, hc.2⟩, ?_⟩,
        ⟨nofun, fun h => absurd rfl (h s)⟩, nofun⟩
      rintro ⟨s', hs, hw, -⟩
      cases hs
      rw [hw]; rfl
  · next hv =>
    exact ⟨fun w => ⟨nofun, fun ⟨s, hs, _⟩ => absurd hs (hv s)⟩, ⟨fun _ => hv, fun _ => rfl⟩,
      fun e h => Or.inl (Except.error.inj h).symm⟩

/-- **IPV4**: under format oracles the field accepts exactly the strings of the documented language - four
    components of 1..3 ASCII decimal digits, each 0..255, joined by single dots (no trailing newline, no other digits) -
    within the String length bounds, and stores them unchanged -/
theorem ipv4_field_exact (O : Oracles) (hO : FormatOracles O) (lo hi : Option Nat) (v w : PyVal) :
    validate O (.string lo hi (some ipv4Token)) v = .ok w ↔
      ∃ s, v = .str s ∧ w = .str s ∧ geLen lo s.length = true ∧ leLen hi s.length = true ∧ IsIPv4 s := by
  rw [(string_field_exact O lo hi (some ipv4Token) v).1 w]
  simp only [patOk, (hO _).1, ipv4Ok_iff]

/-- **HostName**: exactly the RFC 952/1123 host names - labels of 1..63 ASCII letters / digits / hyphens without a
    hyphen at either end, joined by single dots, 2..253 characters in all -/
theorem hostname_field_exact (O : Oracles) (hO : FormatOracles O) (lo hi : Option Nat) (v w : PyVal) :
    validate O (.string lo hi (some hostNameToken)) v = .ok w ↔
      ∃ s, v = .str s ∧ w = .str s ∧ geLen lo s.length = true ∧ leLen hi s.length = true ∧ IsHostName s := by
  rw [(string_field_exact O lo hi (some hostNameToken) v).1 w]
  simp only [patOk, (hO _).2, hostNameOk_iff]

/-- what an IPV4 field stores consists of ASCII digits and dots only and has 7..15 characters: no trailing newline, no
    digit outside ASCII (the two ways in which the library's own expression was laxer up to /repo 927c40c: findings
    `…:ipv4:trailing-newline`, `…:ipv4:non-ascii-digit`) -/
theorem ipv4_field_chars (O : Oracles) (hO : FormatOracles O) (lo hi : Option Nat) (v w : PyVal)
    (h : validate O (.string lo hi (some ipv4Token)) v = .ok w) :
    ∃ s, w = .str s ∧ (∀ c ∈ s.toList, isAsciiDigit c = true ∨ c = '.') ∧ 7 ≤ s.toList.length ∧ s.toList.length ≤ 15 := by
  rcases (ipv4_field_exact O hO lo hi v w).1 h with ⟨s, _, hw, _, _, hs⟩
  exact ⟨s, hw, IsIPv4.chars s hs, IsIPv4.length s hs⟩

theorem hostname_field_chars (O : Oracles) (hO : FormatOracles O) (lo hi : Option Nat) (v w : PyVal)
    (h : validate O (.string lo hi (some hostNameToken)) v = .ok w) :
    ∃ s, w = .str s ∧ ∀ c ∈ s.toList, isAsciiAlnum c = true ∨ c = '-' ∨ c = '.' := by
  rcases (hostname_field_exact O hO lo hi v w).1 h with ⟨s, _, hw, _, _, hs⟩
  exact ⟨s, hw, IsHostName.chars s hs⟩

/-- **SizedString**(maxlen = m, maxLength = hi) is the `string` declaration with the tighter bound: whatever it stores
    is a `str` no longer than `m` and no longer than `hi` -/
theorem sized_string_bound (O : Oracles) (lo : Option Nat) (hi m : Nat) (pat : Option String) (v w : PyVal)
    (h : validate O (.string lo (some (min hi m)) pat) v = .ok w) :
    ∃ s, w = .str s ∧ s.length ≤ m ∧ s.length ≤ hi := by
  rcases ((string_field_exact O lo (some (min hi m)) pat v).1 w).1 h with ⟨s, _, hw, _, hle, _⟩
  exact ⟨s, hw, leLen_min hle⟩

/-- non-vacuity of the format theorems: the Lean functions on concrete strings (valid, leading zeros, 256, a missing
    component, a trailing newline, an empty label, a hyphen at a label edge, a single character) -/
theorem format_example :
    ipv4Ok "1.2.3.4" = true ∧ ipv4Ok "001.02.3.255" = true ∧ ipv4Ok "256.1.1.1" = false ∧ ipv4Ok "1.2.3" = false
    ∧ ipv4Ok "1.2.3.4\n" = false ∧ ipv4Ok "1..3.4" = false ∧ ipv4Ok "1.2.3.4.5" = false ∧ ipv4Ok "" = false
    ∧ hostNameOk "example.com" = true ∧ hostNameOk "a-b.c9" = true ∧ hostNameOk "a..b" = false
    ∧ hostNameOk "a-.b" = false ∧ hostNameOk "-a" = false ∧ hostNameOk "a.b\n" = false ∧ hostNameOk "a" = false
    ∧ hostNameOk "a_b" = false
    ∧ (match validate { reMatch := fmtMatch fun _ _ => false } (.string none (some 8) (some ipv4Token)) (.str "1.2.3.4") with
        | .ok (.str s) => s == "1.2.3.4" | _ => false) = true
    ∧ (match validate { reMatch := fmtMatch fun _ _ => false } (.string none (some 8) (some ipv4Token)) (.str "10.20.30.40") with
        | .error .valueErr => true | _ => false) = true
    ∧ (match validate { reMatch := fmtMatch fun _ _ => false } (.seqOf .list (.string none none (some hostNameToken)) {})
          (.list [.str "a.b", .str "a..b"]) with
        | .error .valueErr => true | _ => false) = true
    ∧ (match validate { reMatch := fmtMatch fun _ _ => false } (.string none none (some ipv4Token)) (.int 5) with
        | .error .typeErr => true | _ => false) = true := by
  decide +kernel

/-! ### DecimalNumber

`vDecimal` (Sem/Decimal.lean) mirrors `DecimalNumber.__set__`: `Decimal(value)`, then the Number checks, the Decimal is
stored.  `Decimal(str)` is an oracle (`parse`), universally quantified. -/

/-- `Decimal(v)` succeeds exactly on bool / int / float / Decimal and on the strings the `decimal` module parses, and
    yields the Decimal of the same numeric value -/
theorem toDecimal_exact (parse : String → Option Q) (v w : PyVal) :
    toDecimal parse v = .ok w ↔ ∃ q, decValue parse v = some q ∧ w = .dec q := by
  unfold toDecimal
  cases decValue parse v with
  | none => exact ⟨nofun, fun ⟨_, hq, _⟩ => nomatch hq⟩
  | some q => exact ⟨fun h => ⟨q, rfl, (Except.ok.inj h).symm⟩, fun ⟨_, hq, hw⟩ => by cases hq; rw [hw]⟩

theorem toDecimal_reject (parse : String → Option Q) (v : PyVal) (e : ErrCls)
    (h : toDecimal parse v = .error e) : decValue parse v = none ∧ e = decErr v ∧ (e = .typeErr ∨ e = .valueErr) :=
  ⟨(toDecimal_eq_error h).1, (toDecimal_eq_error h).2, (toDecimal_eq_error h).2 ▸ decErr_cases v⟩

/-- **DecimalNumber**: accepted exactly when the value converts to a Decimal whose number satisfies multiplesOf /
    minimum / maximum / exclusiveMaximum; what is stored is that Decimal -/
theorem decimal_field_exact (parse : String → Option Q) (o : NumOpts) (v w : PyVal) :
    vDecimal parse o v = .ok w ↔ ∃ q, decValue parse v = some q ∧ numOk o q = true ∧ w = .dec q := by
  rw [vDecimal, bindE_eq_ok_iff]
  constructor
  · rintro ⟨d, hd, hn⟩
    obtain ⟨q, hq, rfl⟩ := (toDecimal_exact parse v d).1 hd
    obtain ⟨ha, rfl⟩ := (vNumber_spec o _).ok_inv hn
    exact ⟨q, hq, ha, rfl⟩
  · rintro ⟨q, hq, hn, rfl⟩
    exact ⟨_, (toDecimal_exact parse v _).2 ⟨q, hq, rfl⟩, (vNumber_spec o _).1 hn⟩

/-- every rejection of a DecimalNumber is a TypeError or a ValueError: a TypeError exactly when the value has a type
    Decimal cannot be built from; an ill-formed string and a value outside the bounds are ValueErrors -/
theorem decimal_field_reject (parse : String → Option Q) (o : NumOpts) (v : PyVal) (e : ErrCls)
    (h : vDecimal parse o v = .error e) :
    (e = .typeErr ∨ e = .valueErr)
    ∧ (e = .typeErr ↔ (decValue parse v = none ∧ decErr v = .typeErr)) := by
  rw [vDecimal_eq] at h
  cases hd : decValue parse v with
  | none =>
    rw [hd] at h
    cases h
    exact ⟨decErr_cases v, fun he => ⟨rfl, he⟩, fun he => he.2⟩
  | some q =>
    rw [hd] at h
    dsimp only at h
    cases hn : numOk o q <;> rw [hn] at h <;> cases h
    exact ⟨Or.inr rfl, nofun, nofun⟩

theorem decimal_reads_decimal (parse : String → Option Q) (o : NumOpts) (v w : PyVal)
    (h : vDecimal parse o v = .ok w) : ∃ q, w = .dec q ∧ (v.asNum.isSome = true → PyVal.pyEq w v = true) := by
  rcases (decimal_field_exact parse o v w).1 h with ⟨q, hq, _, rfl⟩
  refine ⟨q, rfl, fun hn => ?_⟩
  -- on a number `Decimal(v)` denotes `v.asNum`, and `==` compares the two numeric views
  have hv : v.asNum = some q := by
    unfold decValue at hq
    split at hq <;> first | exact hq | cases hn | cases hq
  show (match v.asNum with | some q' => Q.eq q q' | none => false) = true
  rw [hv]
  exact decide_eq_true rfl

/-- a class with DecimalNumber fields accepts keyword arguments that convert, whose converted form the documented
    rules of the class (the `number` declarations in place of the DecimalNumber fields) admit and whose instance the
    hook accepts; the instance holds the converted values -/
theorem constructD_complete (parse : String → Option Q) (O : Oracles) (c : ClassOpts)
    (fields : List (String × FieldDecl)) (defaults : List (String × PyVal)) (decs : List (String × DecPos))
    (kw kw' : List (String × PyVal)) (hk : convertKw parse decs kw = .ok kw')
    (ha : admitsKw O (.struct c fields defaults) kw' = true)
    (hh : O.hookOk (instAttrs (normKw O (.struct c fields defaults) kw')) = true) :
    constructD parse O (.struct c fields defaults) decs kw = .ok (normKw O (.struct c fields defaults) kw') := by
  unfold constructD constructH
  rw [hk, bindE_ok, construct_complete O c fields defaults kw' ha, bindE_ok]
  simp [hh]

theorem constructD_reject (parse : String → Option Q) (O : Oracles) (c : ClassOpts)
    (fields : List (String × FieldDecl)) (defaults : List (String × PyVal)) (decs : List (String × DecPos))
    (kw : List (String × PyVal)) (e : ErrCls)
    (h : constructD parse O (.struct c fields defaults) decs kw = .error e) :
    e = .typeErr ∨ e = .valueErr ∨ e = .both :=
  ErrIn.bindE (c02_convertKw_err parse decs kw)
    (fun kw' => .bindE (construct_spec O c fields defaults kw').errIn fun _ => .ite (.ok _) (.error OkErr.valueErr)) e h

/-- non-vacuity: a bounded DecimalNumber on int / float / str / Decimal inputs, an ill-formed string, a wrong type; a
    class with a DecimalNumber array -/
theorem decimal_example :
    let parse : String → Option Q := fun s => if s == "1.5" then some ⟨3, 2⟩ else if s == "12" then some ⟨12, 1⟩ else none
    let o : NumOpts := { min := some ⟨0, 1⟩, max := some ⟨10, 1⟩, mult := none }
    (match vDecimal parse o (.str "1.5") with | .ok (.dec q) => q.num == 3 && q.den == 2 | _ => false) = true
    ∧ (match vDecimal parse o (.int 7) with | .ok (.dec q) => q.num == 7 && q.den == 1 | _ => false) = true
    ∧ (match vDecimal parse o (.float ⟨1, 4⟩) with | .ok (.dec q) => q.num == 1 && q.den == 4 | _ => false) = true
    ∧ (match vDecimal parse o (.bool true) with | .ok (.dec q) => q.num == 1 | _ => false) = true
    ∧ (match vDecimal parse o (.str "12") with | .error .valueErr => true | _ => false) = true
    ∧ (match vDecimal parse o (.str "abc") with | .error .valueErr => true | _ => false) = true
    ∧ (match vDecimal parse o (.list []) with | .error .valueErr => true | _ => false) = true
    ∧ (match vDecimal parse o .none with | .error .typeErr => true | _ => false) = true
    ∧ (match vDecimal parse o (.dict []) with | .error .typeErr => true | _ => false) = true
    ∧ (match constructD parse { reMatch := fun _ _ => false }
          (.struct { name := "A", required := ["a"], addl := false, accepts := ["A"] }
            [("a", .seqOf .list (.number o) { uniq := true }), ("d", .number {})] [])
          [("a", .items), ("d", .bare)] [("a", .list [.int 1, .str "1.5"]), ("d", .str "12")] with
        | .ok (.inst "A" [("a", .list [.dec _, .dec _]), ("d", .dec _)]) => true | _ => false) = true
    ∧ (match constructD parse { reMatch := fun _ _ => false }
          (.struct { name := "A", required := ["a"], addl := false, accepts := ["A"] }
            [("a", .seqOf .list (.number o) { uniq := true })] [])
          [("a", .items)] [("a", .list [.int 1, .float ⟨1, 1⟩])] with
        | .error .valueErr => true | _ => false) = true := by
  decide +kernel

/-- the documented decision of `cls(**kw)` for a class record: not abstract, the signature binds, no undeclared keyword
    against the inherited `_additional_properties`, no keyword names a Constant, and the field rules admit the arguments -/
def instAdmits (O : Oracles) (c : ClassDef) (ord : List String) (kw : List (String × PyVal)) : Bool :=
  !c.isAbstract && bindOk c.opts (Bridge.defOrder c) kw && !(!c.addl && undeclaredKw c kw)
    && !kw.any (fun a => (lookup a.1 c.constants).isSome) && admitsKw O (c.toStruct ord [c.name]) kw

/-- `instantiateOrd` is its four guards in front of `construct`; `instAdmits` lists the same conditions -/
theorem instantiateOrd_spec (O : Oracles) (c : ClassDef) (ord : List String) (kw : List (String × PyVal)) :
    Sp (instAdmits O c ord kw) (addConstants c.constants (normKw O (c.toStruct ord [c.name]) kw))
      (instantiateOrd O c ord kw) := by
  have hc : Sp (admitsKw O (c.toStruct ord [c.name]) kw) (normKw O (c.toStruct ord [c.name]) kw)
      (construct O (c.toStruct ord [c.name]) kw) := construct_spec O _ _ _ kw
  have h := hc.map (addConstants c.constants)
  have := Sp.guardT (!c.isAbstract) (Sp.guardT (bindOk c.opts (Bridge.defOrder c) kw)
    (Sp.guard (!(!c.addl && undeclaredKw c kw))
      (Sp.guard (!kw.any (fun a => (lookup a.1 c.constants).isSome)) h)))
  simpa only [instAdmits, instantiateOrd, Bool.and_assoc, Bool.not_not] using this

/-- **C02 for class records**: accepted exactly on the documented arguments, with the documented instance -/
theorem bridge_instantiate_complete (O : Oracles) (c : ClassDef) (ord : List String) (kw : List (String × PyVal))
    (h : instAdmits O c ord kw = true) :
    instantiateOrd O c ord kw = .ok (addConstants c.constants (normKw O (c.toStruct ord [c.name]) kw)) :=
  (instantiateOrd_spec O c ord kw).1 h

theorem bridge_instantiate_reject (O : Oracles) (c : ClassDef) (ord : List String) (kw : List (String × PyVal))
    (h : instAdmits O c ord kw = false) :
    ∃ e, instantiateOrd O c ord kw = .error e ∧ (e = .typeErr ∨ e = .valueErr ∨ e = .both) :=
  (instantiateOrd_spec O c ord kw).2 h

/-- non-vacuity: a subclass record with an inherited bounded field, a Constant and `_additional_properties` off -/
theorem bridge_example :
    let O : Oracles := { reMatch := fun _ _ => true }
    let c : ClassDef := { name := "Sub", bases := ["Base"], mro := ["Sub", "Base"],
                          allFields := [("a", .field (.integer { min := some ⟨0, 1⟩ }) none), ("k", .const (.int 7)),
                                        ("t", .field (.seqOf .list (.string none (some 3) none) {}) none)],
                          constants := [("k", .int 7)], sig := { req := ["a"], opt := ["t"], kwargs := false }, addl := false }
    wfDecl (c.toStruct ["a"] ["Sub"]) = true
    ∧ instAdmits O c ["a"] [("a", .int 1), ("t", .list [.str "abc"])] = true
    ∧ (match instantiateOrd O c ["a"] [("a", .int 1), ("t", .list [.str "abc"])] with
        | .ok (.inst "Sub" attrs) => (lookup "k" attrs).isSome && (lookup "a" attrs).isSome | _ => false) = true
    ∧ instAdmits O c ["a"] [("a", .int (-1))] = false
    ∧ (match instantiateOrd O c ["a"] [("a", .int (-1))] with | .error .valueErr => true | _ => false) = true
    ∧ (match instantiateOrd O c ["a"] [("t", .list [])] with | .error .typeErr => true | _ => false) = true
    ∧ (match instantiateOrd O c ["a"] [("a", .int 1), ("k", .int 8)] with | .error _ => true | _ => false) = true
    ∧ (match instantiateOrd O c ["a"] [("a", .int 1), ("t", .list [.str "abcd"])] with
        | .error .valueErr => true | _ => false) = true := by
  decide +kernel

end Typedpy.C02
