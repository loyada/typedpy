/-
  Props/C16.lean — generated `.pyi` stubs agree with the runtime constructor signatures.  Three layers:
    1. parameters over tree-shaped hierarchies `ClassInfo` (Sem/Stub.lean: any number of bases, any depth, both values
       of the additional-properties default): names, defaults, the `**` clause, helper methods, ordering, imports —
       `C16_statement_holds`;
    2. the TEXT (Sem/StubText.lean): annotation AST, token sequences of every generated header, the recogniser
       `parseDef` of Python's `def` header subset, the lexer `lexPy`;
    3. both sides as models of code (Sem/StubDefine.lean over Sem/Define.lean's class objects, any hierarchy shape):
       `stubD_*` hold in every world, `stubD_*_reachable` and `C16_define_statement_holds` in every reachable world.
  `StructMeta.__new__` reads `_additional_properties` with `getattr` on the new class (inherited lookup, /repo 5f45702),
  as `Structure.__setattr__` and the stub generator do, so the `**` clause of the stub, the `**kwargs` of
  `inspect.signature(cls)` and what the constructor admits are one and the same for every hierarchy and both defaults.
  The inputs of the repaired findings are kernel-evaluated examples (`fixed_*`, `required_optional_fixed_example`).
-/
import TypedpyModel.Lemmas.StubSort
import TypedpyModel.Lemmas.StubLex
import TypedpyModel.Lemmas.StubReach
import TypedpyModel.Lemmas.Stub
import TypedpyModel.Lemmas.StubText
import TypedpyModel.Lemmas.StubDefine
import TypedpyModel.Lemmas.DefineSig
namespace Typedpy.C16
open Typedpy.Stub

/-- keyword names of a stub parameter list = names the runtime signature accepts -/
def NamesAgree (dflt : Bool) (c : ClassInfo) (ps : List Param) : Prop :=
  ∀ n, n ∈ ps.map (·.name) ↔ n ∈ (runtimeSig dflt c).params.map (·.name)

def RequiredAgree (dflt : Bool) (c : ClassInfo) (ps : List Param) : Prop :=
  ∀ n, (⟨n, false⟩ : Param) ∈ ps ↔ runtimeRequired dflt c n = true

/-- `**kw` exactly when the class admits additional properties -/
def KwAgree (dflt : Bool) (c : ClassInfo) (kw : Bool) : Prop := kw = runtimeAdmitsExtra dflt c

/-- the generated `__init__` (stub generated with `additional_properties_default` = the runtime default) -/
def InitAgrees (dflt : Bool) (c : ClassInfo) : Prop :=
  NamesAgree dflt c (stubInit dflt dflt c).params ∧ RequiredAgree dflt c (stubInit dflt dflt c).params ∧
    KwAgree dflt c (stubInit dflt dflt c).kw

/-- the names a helper method's own fixed parameters shadow: they cannot be passed as field overrides at run time -/
def helperShadowed : Helper → List String
  | .shallowClone => []
  | _ => reservedHelper

/-- `shallow_clone_with_overrides` / `from_other_class` / `from_trusted_data`: the fixed leading
    parameters, then the field keywords (those the fixed parameters do not shadow), every one optional, in the order
    of `__init__`, `**kw` as for `__init__` -/
def HelperAgrees (dflt : Bool) (c : ClassInfo) (h : Helper) : Prop :=
  (∃ fields, (stubHelper dflt dflt h c).params = helperPrefix h ++ fields ∧
    (∀ n, n ∈ fields.map (·.name) ↔
      (n ∈ (runtimeSig dflt c).params.map (·.name) ∧ n ∉ helperShadowed h)) ∧
    (∀ p ∈ fields, p.hasDefault = true) ∧
    fields.map (·.name) = ((stubInit dflt dflt c).params.map (·.name)).filter (fun n => !(helperShadowed h).contains n)) ∧
  KwAgree dflt c (stubHelper dflt dflt h c).kw

/-- C16 over tree-shaped hierarchies -/
def C16_statement : Prop := ∀ (dflt : Bool) (c : ClassInfo), InitAgrees dflt c ∧ ∀ h, HelperAgrees dflt c h

/-- the inputs of the repaired finding "inherited-additional-properties": `_additional_properties = True` is only
    inherited and the default is off.  Decidable: the driver evaluates its copy of the predicate (Drive/Stub.lean), by
    which the harness names the finding should the defect return. -/
def inheritedAddlOn (dflt : Bool) (c : ClassInfo) : Bool :=
  !dflt && c.decl.addl.isNone && (addlLookup (mro c) == some true)

/-- the same for "inherited-additional-properties-off:signature-kwargs": `False` only inherited, the default on -/
def inheritedAddlOff (dflt : Bool) (c : ClassInfo) : Bool :=
  dflt && c.decl.addl.isNone && (addlLookup (mro c) == some false)

/-- the `**` clause of the stub `__init__` equals the `**kwargs` of `inspect.signature(cls)` -/
def SigKwAgree (dflt : Bool) (c : ClassInfo) : Prop := (stubInit dflt dflt c).kw = (runtimeSig dflt c).kw

/-- C16, the `**` clause read off `inspect.signature(cls)` instead of the constructor's behaviour -/
def C16_signature_statement : Prop := ∀ (dflt : Bool) (c : ClassInfo), SigKwAgree dflt c

theorem stub_names_agree (dflt apd : Bool) (c : ClassInfo) : NamesAgree dflt c (stubInit dflt apd c).params :=
  fun n => (names_stubArgs dflt c n).trans (names_inv dflt c n).symm

theorem stub_names_are_nonconstant_fields (dflt apd : Bool) (c : ClassInfo) (n : String) :
    n ∈ (stubInit dflt apd c).params.map (·.name) ↔ ∃ f, finalField c n = some f ∧ f.isConst = false :=
  names_stubArgs dflt c n

theorem stub_required_agree (dflt apd : Bool) (c : ClassInfo) :
    RequiredAgree dflt c (stubInit dflt apd c).params := by
  intro n
  show (⟨n, false⟩ : Param) ∈ stubArgs dflt c ↔ _
  rw [mem_stubArgs, runtimeRequired_iff]
  exact and_congr_right fun _ => by simp

theorem stub_default_iff (dflt apd : Bool) (c : ClassInfo) (n : String) :
    (⟨n, true⟩ : Param) ∈ (stubInit dflt apd c).params ↔
      (n ∈ (runtimeSig dflt c).params.map (·.name) ∧ runtimeRequired dflt c n = false) := by
  show (⟨n, true⟩ : Param) ∈ stubArgs dflt c ↔ _
  rw [mem_stubArgs, names_inv]
  refine and_congr_right fun hf => ?_
  rw [← Bool.not_eq_true, runtimeRequired_iff]
  simp [hf]

theorem stub_kw_iff (dflt : Bool) (c : ClassInfo) :
    (stubInit dflt dflt c).kw = runtimeAdmitsExtra dflt c :=
  (runtimeAdmitsExtra_eq dflt c).symm

theorem stub_kw_agree (dflt : Bool) (c : ClassInfo) : KwAgree dflt c (stubInit dflt dflt c).kw :=
  stub_kw_iff dflt c

theorem sig_kwargs_iff_admitted (dflt : Bool) (c : ClassInfo) :
    (runtimeSig dflt c).kw = runtimeAdmitsExtra dflt c :=
  (runtimeSig_kw dflt c).trans (runtimeAdmitsExtra_eq dflt c).symm

theorem stub_sigkw_agree (dflt : Bool) (c : ClassInfo) : SigKwAgree dflt c := by
  unfold SigKwAgree
  rw [stub_kw_iff, sig_kwargs_iff_admitted]

theorem stub_kw_apd_iff (dflt apd : Bool) (c : ClassInfo) :
    (stubInit dflt apd c).kw =
      (match addlLookup (mro c) with | some _ => runtimeAdmitsExtra dflt c | none => apd) := by
  rw [runtimeAdmitsExtra_eq]
  show (addlLookup (mro c)).getD apd = _
  cases addlLookup (mro c) <;> rfl

theorem helperKeep_names (h : Helper) (ps : List Param) :
    (helperKeep h ps).map (·.name) = (ps.map (·.name)).filter (fun n => !(helperShadowed h).contains n) := by
  cases h
  · exact (List.filter_eq_self.mpr fun _ _ => rfl).symm
  all_goals simp [helperKeep, helperShadowed, List.filter_map, Function.comp_def]

theorem helper_fields_agree (dflt apd : Bool) (c : ClassInfo) (h : Helper) :
    ∃ fields, (stubHelper dflt apd h c).params = helperPrefix h ++ fields ∧
      (∀ n, n ∈ fields.map (·.name) ↔
        (n ∈ (runtimeSig dflt c).params.map (·.name) ∧ n ∉ helperShadowed h)) ∧
      (∀ p ∈ fields, p.hasDefault = true) ∧
      fields.map (·.name) =
        ((stubInit dflt apd c).params.map (·.name)).filter (fun n => !(helperShadowed h).contains n) := by
  have hnames : (helperKeep h (stubHelperFields dflt c)).map (·.name) =
      ((stubInit dflt apd c).params.map (·.name)).filter (fun n => !(helperShadowed h).contains n) := by
    rw [helperKeep_names, stubHelperFields, List.map_map]
    rfl
  refine ⟨_, rfl, fun n => ?_, fun p hp => ?_, hnames⟩
  · rw [hnames, List.mem_filter, stub_names_agree dflt apd c n]
    simp
  · obtain ⟨q, _, rfl⟩ := List.mem_map.mp (StubText.c16_helperFields_sub hp)
    cases hq : q.hasDefault <;> simp

theorem stub_params_agree (dflt : Bool) (c : ClassInfo) : InitAgrees dflt c ∧ ∀ h, HelperAgrees dflt c h :=
  ⟨⟨stub_names_agree dflt dflt c, stub_required_agree dflt dflt c, stub_kw_agree dflt c⟩,
   fun h => ⟨helper_fields_agree dflt dflt c h, stub_kw_agree dflt c⟩⟩

theorem C16_statement_holds : C16_statement := fun dflt c => stub_params_agree dflt c

theorem C16_signature_statement_holds : C16_signature_statement := fun dflt c => stub_sigkw_agree dflt c

/-- `_get_ordered_args` yields a legal Python parameter order (no mandatory parameter after an optional one) -/
theorem stub_mandatory_first (dflt apd : Bool) (c : ClassInfo) :
    mandatoryFirst (stubInit dflt apd c).params = true :=
  mandatoryFirst_orderedArgs _

/-- hash-seed independence of the import section: the order in which the `set` is iterated does not matter -/
theorem stub_perm_invariant (xs ys : List (String × String)) (h : xs.Perm ys) :
    renderImports xs = renderImports ys :=
  sortU_perm _ _ (h.map importLine)

theorem stub_set_invariant (xs ys : List (String × String)) (h : ∀ kv, kv ∈ xs ↔ kv ∈ ys) :
    renderImports xs = renderImports ys :=
  sortU_ext _ _ fun s => by simp only [List.mem_map, h]

theorem stub_imports_sorted (xs : List (String × String)) : (renderImports xs).Pairwise (· < ·) :=
  sortU_sorted _

/-- `class K(Structure): e: AnyOf[Integer, None]; s: String` — `e` is required.  The counterexample of the
    fixed finding "required-optional-default" (until /repo 08ea09e the stub rendered `e: Optional[int] = None`): the
    stub keeps `e` mandatory. -/
def ceRequiredOptional : ClassInfo :=
  .mk { name := "K", fields := [{ name := "e", optShape := true }, { name := "s" }] } []

theorem required_optional_fixed_example :
    runtimeRequired true ceRequiredOptional "e" = true ∧
    (stubInit true true ceRequiredOptional).params = [⟨"e", false⟩, ⟨"s", false⟩] := by
  decide +kernel

/-- `class P(Structure): a: String; _additional_properties = True` / `class Q(P): b: String`,
    `additional_properties_default = False` — the counterexample of the repaired finding
    "inherited-additional-properties": stub, `__signature__` and constructor all admit extra keywords -/
def ceInheritedAddl : ClassInfo :=
  .mk { name := "Q", fields := [{ name := "b" }] }
    [.mk { name := "P", fields := [{ name := "a" }], addl := some true } []]

theorem fixed_inherited_addl_example :
    inheritedAddlOn false ceInheritedAddl = true ∧
    (stubInit false false ceInheritedAddl).kw = true ∧ (runtimeSig false ceInheritedAddl).kw = true ∧
    runtimeAdmitsExtra false ceInheritedAddl = true := by
  decide +kernel

/-- `class P(Structure): a: String; _additional_properties = False` / `class Q(P): b: String`, shipped default —
    the counterexample of the repaired finding "inherited-additional-properties-off:signature-kwargs" -/
def ceInheritedAddlOff : ClassInfo :=
  .mk { name := "Q", fields := [{ name := "b" }] }
    [.mk { name := "P", fields := [{ name := "a" }], addl := some false } []]

theorem fixed_inherited_addl_off_example :
    inheritedAddlOff true ceInheritedAddlOff = true ∧
    (stubInit true true ceInheritedAddlOff).kw = false ∧ (runtimeSig true ceInheritedAddlOff).kw = false ∧
    runtimeAdmitsExtra true ceInheritedAddlOff = false := by
  decide +kernel

/-- a three-level hierarchy with a constant, a default, an optional-shaped optional field, a base that
    switches additional properties off and a subclass that re-declares a base field as constant -/
def exHierarchy : ClassInfo :=
  .mk { name := "C", fields := [{ name := "z" }, { name := "k2", isConst := true }, { name := "b", isConst := true }],
        optionalDecl := ["z"] }
    [.mk { name := "B", fields := [{ name := "c", hasDefault := true }, { name := "b" }] }
      [.mk { name := "A", fields := [{ name := "k", isConst := true }, { name := "a" }, { name := "o", optShape := true }],
             requiredDecl := some ["a"], addl := some false } []],
     .mk { name := "M", fields := [{ name := "m" }, { name := "a", hasDefault := true }] } []]

theorem stub_params_agree_example :
    (stubInit true true exHierarchy).params = [⟨"m", false⟩, ⟨"a", false⟩, ⟨"o", true⟩, ⟨"c", true⟩, ⟨"z", true⟩] ∧
    (stubInit true true exHierarchy).kw = false ∧ (runtimeSig true exHierarchy).kw = false ∧
    runtimeAdmitsExtra true exHierarchy = false ∧
    (runtimeSig true exHierarchy).params = [⟨"a", false⟩, ⟨"m", false⟩, ⟨"o", true⟩, ⟨"c", true⟩, ⟨"z", true⟩] ∧
    inheritedAddlOn true exHierarchy = false ∧ inheritedAddlOff true exHierarchy = true ∧
    renderImports [("B", "pkg.b"), ("A", "pkg.a"), ("B", "pkg.b")] = ["from pkg.a import A", "from pkg.b import B"] := by
  decide +kernel

/-! ### the TEXT of the stub (Sem/StubText.lean): every generated header is a `def` / `class` header of Python

  The hypothesis `textDomain` — field names are identifiers that are not keywords, the annotations are well-formed
  (`Ann.wf`) — is what `get_type_info` returns for every case the harness generates (checked per case).  `anns` gives
  the annotation of a field by name and is universally quantified. -/

open Typedpy.StubText

theorem init_text_parses_of_mandatory_first (anns : String → Ann) (s : Stub.Sig)
    (hm : mandatoryFirst s.params = true) (h : textDomain anns s.params = true) :
    parseDef (initToks anns s) = some ⟨"__init__", ⟨"self", .pk, false⟩ :: (s.params.map pkInfo ++ kwInfos s.kw (kwName s.params))⟩ :=
  (c16_init_accepted anns s hm h).parses

theorem stub_init_text_parses (dflt apd : Bool) (c : ClassInfo) (anns : String → Ann)
    (h : textDomain anns (stubInit dflt apd c).params = true) :
    parseDef (initToks anns (stubInit dflt apd c)) =
      some ⟨"__init__", ⟨"self", .pk, false⟩ ::
        ((stubInit dflt apd c).params.map pkInfo ++
          kwInfos (stubInit dflt apd c).kw (kwName (stubInit dflt apd c).params))⟩ :=
  init_text_parses_of_mandatory_first anns _ (stub_mandatory_first dflt apd c) h

theorem stub_helper_text_parses (dflt apd : Bool) (c : ClassInfo) (anns : String → Ann) (hk : Helper)
    (h : textDomain anns (stubInit dflt apd c).params = true) :
    parseDef (helperToks anns hk (stubInit dflt apd c)) =
      some ⟨helperName hk, helperLeadInfos hk ++
        ((helperFields hk (stubInit dflt apd c).params).map (helperInfo hk) ++
          kwInfos (stubInit dflt apd c).kw (kwName (stubInit dflt apd c).params))⟩ :=
  (c16_helper_accepted anns hk _ h).parses

theorem stub_class_header_parses (c : String) (bases : List (List String)) (hc : identOk c = true)
    (hb : ∀ b ∈ bases, dottedOk b = true) : parseClass (classToks c bases) = some (c, bases.length) := by
  cases bases with
  | nil => simp [classToks, parseClass, hc]
  | cons b rest =>
    have hall : ∀ y ∈ dottedToks b :: rest.map dottedToks, Flat y ∧ y ≠ [] ∧ exprOk y = true :=
      List.forall_mem_map (l := b :: rest).mpr fun q hq =>
        ⟨c16_flat_dotted q, c16_dotted_ne q (hb q hq), c16_exprOk_ann (.name q) (hb q hq)⟩
    have hnot : dottedToks b :: rest.map dottedToks ≠ [[]] := fun e =>
      (hall _ List.mem_cons_self).2.1 (List.cons.inj e).1
    simp only [classToks, List.isEmpty_cons, Bool.false_eq_true, if_false, List.map_cons, parseClass, hc, if_true]
    rw [c16_splitParams_join _ _ fun y hy => (hall y hy).1]
    simp only [hnot, if_false, c16_dropTrailing_id _ fun y hy => (hall y hy).2.1,
      List.all_eq_true.mpr fun y hy => (hall y hy).2.2, if_true]
    simp

theorem stub_attr_text_parses (dflt apd : Bool) (c : ClassInfo) (anns : String → Ann)
    (h : textDomain anns (stubInit dflt apd c).params = true) :
    ∀ p ∈ (stubInit dflt apd c).params, parseAttr (attrToks (anns p.name) p) = some (p.name, p.hasDefault) := by
  intro p hp
  exact c16_attr_parses _ p (c16_of_textDomain h p hp).1 (c16_of_textDomain h p hp).2

/-- methods, functions and user-written `__init__`: printing a legal `inspect.Signature` the way
    `_get_list_of_params_with_type` does (the `/` and `*` markers from the two flags) and parsing the text gives the
    same names, kinds and default flags back — for every legal signature -/
theorem stub_method_text_roundtrip (f : String) (ps : List RParam) (ret : Option Ann) (hf : identOk f = true)
    (hne : ps ≠ []) (hv : validSig ps = true) (hok : ∀ p ∈ ps, rparamOk p = true ∧ noVarDefault p = true)
    (hret : optWf ret = true) :
    parseDef (methodToks f ps ret) = some ⟨f, ps.map RParam.info⟩ :=
  (c16_method_roundtrip f ps ret hf hv hok hret).parses

def helperLeadNames (h : Helper) : List String := (helperLeadInfos h).map (·.name)

/-- parameter names of a generated helper method are pairwise distinct (so the stub compiles) exactly when none of
    its field keywords (those the fixed parameters do not shadow) is named like a fixed parameter or like the
    var-keyword — which is called `kwargs` when a field is called `kw` (repair of the finding
    "uncompilable-stub:parameter-name-clash") -/
theorem stub_helper_dupfree_iff (dflt apd : Bool) (c : ClassInfo) (h : Helper) :
    dupFree (helperLeadNames h ++ ((helperFields h (stubInit dflt apd c).params).map (·.name) ++
        (if (stubInit dflt apd c).kw then [kwName (stubInit dflt apd c).params] else []))) =
      ((helperFields h (stubInit dflt apd c).params).map (·.name)).all
        (fun n => !(fixedNames (helperLeadNames h) (stubInit dflt apd c).kw
          (kwName (stubInit dflt apd c).params)).contains n) := by
  apply c16_dupFree_method
  · cases h <;> decide
  · cases h <;> (unfold kwName; split <;> decide)
  · exact ((c16_helperFields_sublist h _).map _).nodup (nodup_names_stubArgs dflt c)

/-- the same for `__init__`, whose parameters are named like those of `shallow_clone_with_overrides`: `self`, every
    field, the var-keyword -/
theorem stub_init_dupfree_iff (dflt apd : Bool) (c : ClassInfo) :
    dupFree (["self"] ++ ((stubInit dflt apd c).params.map (·.name) ++
        (if (stubInit dflt apd c).kw then [kwName (stubInit dflt apd c).params] else []))) =
      ((stubInit dflt apd c).params.map (·.name)).all
        (fun n => !(fixedNames ["self"] (stubInit dflt apd c).kw (kwName (stubInit dflt apd c).params)).contains n) :=
  stub_helper_dupfree_iff dflt apd c .shallowClone

/-- hence: unless a field is literally named `self`, `cls` or `kwargs` (typedpy refuses `kwargs` as a field name),
    all four generated methods have pairwise distinct parameter names — fields named `source_object`, `ignore_props`
    or `kw` do not clash -/
theorem stub_methods_dupfree (dflt apd : Bool) (c : ClassInfo)
    (hn : ∀ n ∈ (stubInit dflt apd c).params.map (·.name), n ≠ "self" ∧ n ≠ "cls" ∧ n ≠ "kwargs") :
    dupFree (["self"] ++ ((stubInit dflt apd c).params.map (·.name) ++
        (if (stubInit dflt apd c).kw then [kwName (stubInit dflt apd c).params] else []))) = true ∧
    ∀ h, dupFree (helperLeadNames h ++ ((helperFields h (stubInit dflt apd c).params).map (·.name) ++
        (if (stubInit dflt apd c).kw then [kwName (stubInit dflt apd c).params] else []))) = true := by
  have hk : ∀ n ∈ (stubInit dflt apd c).params.map (·.name), n ≠ kwName (stubInit dflt apd c).params := by
    intro n hmem e
    unfold kwName at e
    split at e
    · exact (hn n hmem).2.2 e
    · next hany => exact hany (by simpa [e] using hmem)
  -- the first claim is the second for `shallow_clone_with_overrides` (as in `stub_init_dupfree_iff`)
  refine (and_iff_right_of_imp fun hall => hall .shallowClone).mpr fun h => ?_
  rw [stub_helper_dupfree_iff]
  refine c16_all_not_fixed _ _ _ _ fun n hmem => ?_
  -- a field keyword is a field that the fixed parameters do not shadow
  obtain ⟨hmem, hsh⟩ := List.mem_filter.mp (helperKeep_names h _ ▸ hmem)
  refine ⟨?_, hk n hmem⟩
  have h1 := hn n hmem
  cases h with
  | shallowClone => simp [helperLeadNames, helperLeadInfos, h1.1]
  | _ => simpa [helperLeadNames, helperLeadInfos, h1.2.1, helperShadowed, reservedHelper] using hsh

/-- `class S(Structure): source_object: String; kw: String` — the former instance of the repaired finding
    "uncompilable-stub:parameter-name-clash" (/repo 9cb14af): the headers parse and no two parameters share a name -/
def ceNameClash : ClassInfo := .mk { name := "S", fields := [{ name := "source_object" }, { name := "kw" }] } []

theorem fixed_name_clash_example :
    parseDef (helperToks (fun _ => .name ["str"]) .fromOtherClass (stubInit true true ceNameClash)) =
      some ⟨"from_other_class", [⟨"cls", .pk, false⟩, ⟨"source_object", .pk, false⟩, ⟨"ignore_props", .ko, true⟩,
        ⟨"kw", .ko, true⟩, ⟨"kwargs", .vk, false⟩]⟩ ∧
    parseDef (initToks (fun _ => .name ["str"]) (stubInit true true ceNameClash)) =
      some ⟨"__init__", [⟨"self", .pk, false⟩, ⟨"source_object", .pk, false⟩, ⟨"kw", .pk, false⟩,
        ⟨"kwargs", .vk, false⟩]⟩ := by
  decide +kernel

/-- annotations for the fields of `exHierarchy`, one of each form of `Ann` -/
def exAnns : String → Ann
  | "o" => .sub ["Optional"] [.name ["int"]]
  | "c" => .sub ["dict"] [.name ["str"], .sub ["Union"] [.name ["int"], .name ["datetime", "date"]]]
  | "z" => .sub ["Callable"] [.lst [.name ["int"]], .name ["None"]]
  | "m" => .sub ["Literal"] [.lit, .lit]
  | _ => .name ["str"]

/-- non-vacuity, at the character level: the `__init__` of `exHierarchy` as text, lexed and parsed -/
theorem stub_text_example :
    toksText (initToks exAnns (stubInit true true exHierarchy)) =
      "def __init__ ( self , m : Literal [ 0 , 0 ] , a : str , o : Optional [ int ] = None , " ++
      "c : Optional [ dict [ str , Union [ int , datetime . date ] ] ] = None , " ++
      "z : Optional [ Callable [ [ int ] , None ] ] = None ) : ..." ∧
    (lexPy (toksText (initToks exAnns (stubInit true true exHierarchy)))).bind parseDef =
      some ⟨"__init__", [⟨"self", .pk, false⟩, ⟨"m", .pk, false⟩, ⟨"a", .pk, false⟩, ⟨"o", .pk, true⟩,
        ⟨"c", .pk, true⟩, ⟨"z", .pk, true⟩]⟩ ∧
    textDomain exAnns (stubInit true true exHierarchy).params = true := by
  have htext : toksText (initToks exAnns (stubInit true true exHierarchy)) =
      "def __init__ ( self , m : Literal [ 0 , 0 ] , a : str , o : Optional [ int ] = None , " ++
      "c : Optional [ dict [ str , Union [ int , datetime . date ] ] ] = None , " ++
      "z : Optional [ Callable [ [ int ] , None ] ] = None ) : ..." := by
    -- compared as lists of characters, those of the literals taken without decoding (see `c16_identOk_ofList`)
    apply String.toList_inj.mp
    rw [toksText, String.toList_intercalate, String.toList_append, String.toList_append]
    repeat rw [String.toList_ofList]
    decide +kernel
  refine ⟨htext, ?_, by decide +kernel⟩
  rw [htext, lexPy, String.toList_append, String.toList_append]
  repeat rw [String.toList_ofList]
  decide +kernel

/-- the recogniser is not trivial: the texts of the repaired defects and of typical breakage are rejected -/
theorem parse_rejects_examples :
    -- a parameter without default after one with default (what the generator wrote for the input of the finding
    -- "required-optional-default" before 08ea09e)
    (lexPy "def __init__(self, e: Optional[int] = None, s: str, **kw): ...").bind parseDef = none ∧
    -- `= None` inside a subscription (fixed finding "unparsable-stub:nested-optional-default")
    (lexPy "def __init__(self, m: dict[str, Optional[int] = None]): ...").bind parseDef = none ∧
    -- `**kw` not last, bare `*` without a named parameter, `/` first, two `*`
    (lexPy "def f(self, **kw, a: int = None): ...").bind parseDef = none ∧
    (lexPy "def f(cls, source_object: Any, *, **kw): ...").bind parseDef = none ∧
    (lexPy "def f(/, a): ...").bind parseDef = none ∧
    (lexPy "def f(*a, *, b): ...").bind parseDef = none ∧
    -- unbalanced bracket, missing comma, unterminated string (seeded C16-10: `Literal["1/2"", "3/4""]`)
    (lexPy "def f(a: dict[str, int): ...").bind parseDef = none ∧
    (lexPy "def f(a: int b: str): ...").bind parseDef = none ∧
    (lexPy "def f(size: Literal[\"1/2\"\", \"3/4\"\"]): ...").bind parseDef = none ∧
    -- and a positional-only marker is read back
    (lexPy "def f(a, /, b=None, *args, c, **kw) -> dict[str, int]: ...").bind parseDef =
      some ⟨"f", [⟨"a", .po, false⟩, ⟨"b", .pk, true⟩, ⟨"args", .va, false⟩, ⟨"c", .ko, false⟩, ⟨"kw", .vk, false⟩]⟩ := by
  repeat rw [c16_lexPy_ofList]
  decide +kernel

/-- whatever the leaves render to (well-formed annotations), `AnyOf/OneOf/AllOf[X, None]` → `Optional[..]`, other
    unions → `Union[..]`, `Map[K, V]` → `dict[.., ..]`, nested to any depth, is a well-formed annotation: it contains
    no default and is accepted by the expression recogniser (the fixed finding "unparsable-stub:nested-optional-default"
    cannot recur in the model) -/
theorem type_info_wf (t : FTy) (h : FTy.wf t = true) :
    (typeInfo t).wf = true ∧ exprOk (annToks (typeInfo t)) = true ∧ (∀ u ∈ annToks (typeInfo t), u ≠ Tok.eq) := by
  have hw := c16_typeInfo_wf t h
  exact ⟨hw, c16_exprOk_ann _ hw, fun u hu => c16_ne_eq_of_annTok (c16_annTok_ann _ u hu)⟩

/-- `m: Map[String, AnyOf[Integer, None]]` (the input of the fixed finding): `dict[str, Optional[int]]` -/
theorem type_info_example :
    toksText (annToks (typeInfo (.map [.leaf (.name ["str"]), .opt (.leaf (.name ["int"]))]))) =
      "dict [ str , Optional [ int ] ]" := by
  decide +kernel

/-- printing any token sequence whose names are identifier-shaped (one blank after each token) and lexing the
    characters gives the tokens back: every token-level acceptance theorem above is a theorem about text -/
theorem lex_render_roundtrip (ts : List Tok) (h : ∀ t ∈ ts, tokLexOk t = true) :
    lexPy (renderText ts) = some ts :=
  c16_lexPy_render ts h

theorem stub_init_text_accepted (dflt apd : Bool) (c : ClassInfo) (anns : String → Ann)
    (h : textDomain anns (stubInit dflt apd c).params = true) :
    (lexPy (renderText (initToks anns (stubInit dflt apd c)))).bind parseDef =
      some ⟨"__init__", ⟨"self", .pk, false⟩ ::
        ((stubInit dflt apd c).params.map pkInfo ++
          kwInfos (stubInit dflt apd c).kw (kwName (stubInit dflt apd c).params))⟩ :=
  c16_accepts_text (c16_init_accepted anns _ (stub_mandatory_first dflt apd c) h)

theorem stub_helper_text_accepted (dflt apd : Bool) (c : ClassInfo) (anns : String → Ann) (hk : Helper)
    (h : textDomain anns (stubInit dflt apd c).params = true) :
    (lexPy (renderText (helperToks anns hk (stubInit dflt apd c)))).bind parseDef =
      some ⟨helperName hk, helperLeadInfos hk ++
        ((helperFields hk (stubInit dflt apd c).params).map (helperInfo hk) ++
          kwInfos (stubInit dflt apd c).kw (kwName (stubInit dflt apd c).params))⟩ :=
  c16_accepts_text (c16_helper_accepted anns hk _ h)

theorem stub_method_text_accepted (f : String) (ps : List RParam) (ret : Option Ann) (hf : identOk f = true)
    (hne : ps ≠ []) (hv : validSig ps = true) (hok : ∀ p ∈ ps, rparamOk p = true ∧ noVarDefault p = true)
    (hret : optWf ret = true) :
    (lexPy (renderText (methodToks f ps ret))).bind parseDef = some ⟨f, ps.map RParam.info⟩ :=
  c16_accepts_text (c16_method_roundtrip f ps ret hf hv hok hret)

/-- when some class of the MRO declares `_additional_properties`, the `**` clause does not depend on the default the
    stub generator was given: everything proved for `apd = dflt` carries over -/
theorem stub_kw_apd_declared (dflt apd : Bool) (c : ClassInfo) (h : (addlLookup (mro c)).isSome = true) :
    (stubInit dflt apd c).kw = (stubInit dflt dflt c).kw := by
  obtain ⟨b, hb⟩ := Option.isSome_iff_exists.mp h
  rw [stub_kw_apd_iff, stub_kw_apd_iff dflt dflt, hb]

/-- when no class declares it, the stub says `apd` and the constructor follows the runtime default: they agree iff
    the generator was configured like the runtime -/
theorem stub_kw_apd_undeclared (dflt apd : Bool) (c : ClassInfo) (h : addlLookup (mro c) = none) :
    (stubInit dflt apd c).kw = apd ∧ runtimeAdmitsExtra dflt c = dflt :=
  ⟨by rw [stub_kw_apd_iff, h], by rw [runtimeAdmitsExtra_eq, h]; rfl⟩

/-! ### both sides as models of code (Sem/StubDefine.lean): the stub generator over Sem/Define.lean's class objects

  The statements up to `stubD_init_text_accepted` are one-step facts: they hold for EVERY world `w` and EVERY class
  source `src`, hence for every hierarchy shape (several bases, shared ancestors, diamonds), with no reachability
  hypothesis. -/

open Typedpy.StubD

/-- keyword names of the stub `__init__` = names of Define's runtime signature, exactly when every non-constant
    name of `_field_by_name` is one `make_signature` draws from (`namesCovered`, decidable, evaluated per case) -/
theorem stubD_names_agree_iff (apd : Bool) (w : World) (src : ClassSrc) :
    (∀ n, n ∈ (stubInitD apd w src).params.map (·.name) ↔ n ∈ (sigParamsD (Typedpy.sigOf w src)).map (·.name)) ↔
      namesCovered w src = true := by
  dsimp only [stubInitD]
  -- both sides in terms of: key of `_field_by_name`, Constant, covered
  simp only [namesCovered, Bool.and_eq_true, List.all_eq_true, Bool.or_eq_true, List.contains_eq_mem,
    decide_eq_true_eq, List.mem_append, ← c16_covered_iff, c16_names_stubArgsD_build, c16_sigD_names]
  constructor
  · intro h
    refine ⟨fun n hk => ?_, fun n hcov => ?_⟩ <;> by_cases hnc : n ∈ constNamesD w src
    · exact .inl hnc
    · exact .inr ((h n).mp ⟨hk, hnc⟩).1
    · exact c16_const_sub_keys w src n hnc
    · exact ((h n).mpr ⟨hcov, hnc⟩).1
  · rintro ⟨h1, h2⟩ n
    exact and_congr_left fun hnc => ⟨fun hk => (h1 n hk).resolve_left hnc, h2 n⟩

theorem stubD_required_agree (apd : Bool) (w : World) (src : ClassSrc) (n : String)
    (hcov : covered w src n = true) (hk : n ∈ (allFieldsOf w src).map (·.1)) :
    (⟨n, false⟩ : Param) ∈ (stubInitD apd w src).params ↔ n ∈ (Typedpy.sigOf w src).req := by
  have hr : ∀ l : List String, (false = !l.contains n) ↔ n ∈ l := by simp
  show (⟨n, false⟩ : Param) ∈ stubArgsD (build w src) ↔ _
  rw [c16_mem_stubArgsD, mem_sigOf_req, c16_const_isNone, hr]
  dsimp only [build]
  exact ⟨fun ⟨_, hC, h⟩ => ⟨hC, (c16_covered_iff w src n).mp hcov, h⟩, fun ⟨hC, _, h⟩ => ⟨hk, hC, h⟩⟩

theorem stubD_kw_iff (dflt : Bool) (w : World) (src : ClassSrc) :
    (stubInitD dflt w src).kw = admitsD dflt w src := by
  rw [admitsD, sigKwD, Bool.and_self]
  rfl

theorem stubD_sigkw_agree (dflt : Bool) (w : World) (src : ClassSrc) :
    (stubInitD dflt w src).kw = sigKwD dflt w src := rfl

/-- with the shipped default the `**kwargs` compared above is literally the `kwargs` of Define's `make_signature` -/
theorem stubD_sigkw_is_define (w : World) (src : ClassSrc) : sigKwD true w src = (build w src).sig.kwargs := rfl

theorem stubD_mandatory_first (apd : Bool) (w : World) (src : ClassSrc) :
    mandatoryFirst (stubInitD apd w src).params = true :=
  mandatoryFirst_orderedArgs _

theorem stubD_init_text_parses (apd : Bool) (w : World) (src : ClassSrc) (anns : String → Ann)
    (h : textDomain anns (stubInitD apd w src).params = true) :
    parseDef (initToks anns (stubInitD apd w src)) =
      some ⟨"__init__", ⟨"self", .pk, false⟩ ::
        ((stubInitD apd w src).params.map pkInfo ++
          kwInfos (stubInitD apd w src).kw (kwName (stubInitD apd w src).params))⟩ :=
  init_text_parses_of_mandatory_first anns _ (stubD_mandatory_first apd w src) h

theorem stubD_helper_text_parses (apd : Bool) (w : World) (src : ClassSrc) (anns : String → Ann) (hk : Helper)
    (h : textDomain anns (stubInitD apd w src).params = true) :
    parseDef (helperToks anns hk (stubInitD apd w src)) =
      some ⟨helperName hk, helperLeadInfos hk ++
        ((helperFields hk (stubInitD apd w src).params).map (helperInfo hk) ++
          kwInfos (stubInitD apd w src).kw (kwName (stubInitD apd w src).params))⟩ :=
  (c16_helper_accepted anns hk _ h).parses

theorem stubD_init_text_accepted (apd : Bool) (w : World) (src : ClassSrc) (anns : String → Ann)
    (h : textDomain anns (stubInitD apd w src).params = true) :
    (lexPy (renderText (initToks anns (stubInitD apd w src)))).bind parseDef =
      some ⟨"__init__", ⟨"self", .pk, false⟩ ::
        ((stubInitD apd w src).params.map pkInfo ++
          kwInfos (stubInitD apd w src).kw (kwName (stubInitD apd w src).params))⟩ :=
  c16_accepts_text (c16_init_accepted anns _ (stubD_mandatory_first apd w src) h)

def dFld (n : String) (d : Bool := false) : String × SrcEntry :=
  (n, .obj (.field .anything (if d then some (.lit (.int 0)) else none)))
def dCst (n : String) : String × SrcEntry := (n, .obj (.const (.int 3)))

def defAll : World → List ClassSrc → World
  | w, [] => w
  | w, s :: rest => defAll (w.add (build w s)) rest

/-- `class A: x, a; _optional = ['x']` / `class B(A): b` / `class C(A): x (required again), c = default;
    _additional_properties = False` / `class D(B, C): d` — a benign diamond: MRO `D B C A` (C3); `get_base_info` finds
    `x` optional in `B`'s signature and required in `C`'s: the later, stricter base wins (fix d18be04); stub and
    signature agree on names, defaults and the `**` clause (`_additional_properties = False` inherited from `C`,
    fix 5f45702) -/
def dmA : ClassSrc := { name := "A", bases := ["Structure"], entries := [dFld "x", dFld "a"], optional := ["x"] }
def dmB : ClassSrc := { name := "B", bases := ["A"], entries := [dFld "b"] }
def dmC : ClassSrc := { name := "C", bases := ["A"], entries := [dFld "x", dFld "c" true], addl := some false }
def dmD : ClassSrc := { name := "D", bases := ["B", "C"], entries := [dFld "d"] }
def dmW : World := defAll World.init [dmA, dmB, dmC]

theorem stubD_diamond_example :
    (build dmW dmD).mro = ["D", "B", "C", "A", "Structure"] ∧
    (stubInitD true dmW dmD).params = [⟨"x", false⟩, ⟨"a", false⟩, ⟨"b", false⟩, ⟨"d", false⟩, ⟨"c", true⟩] ∧
    (Typedpy.sigOf dmW dmD).req = ["a", "b", "x", "d"] ∧ (Typedpy.sigOf dmW dmD).opt = ["c"] ∧
    namesCovered dmW dmD = true ∧
    (stubInitD true dmW dmD).kw = false ∧ sigKwD true dmW dmD = false ∧ (Typedpy.sigOf dmW dmD).kwargs = false ∧
    inheritedOffD true dmW dmD = true := by
  decide +kernel

/-- `class Y: n = Constant(3), y` / `class P(Y): p` / `class Z(Y): n: String, z` / `class B(P, Z): b` /
    `class D(B): d` — the former counterexample of the repaired finding "names-mismatch:constant-shadowed-in-diamond"
    (fix f0f7ce1): until then `B` took `n` for a Constant (`getattr` inside `StructMeta.__new__` answered from `P`'s
    `_field_by_name`), `B.__signature__` dropped `n`, and the stub of `D` had a keyword `n` that `D.__signature__` had
    not.  Since the fix constant-ness is read from the class dicts along the MRO: `n` is `Z`'s Field in `B` and in `D`,
    on both sides. -/
def dqY : ClassSrc := { name := "Y", bases := ["Structure"], entries := [dCst "n", dFld "y"] }
def dqP : ClassSrc := { name := "P", bases := ["Y"], entries := [dFld "p"] }
def dqZ : ClassSrc := { name := "Z", bases := ["Y"], entries := [dFld "n", dFld "z"] }
def dqB : ClassSrc := { name := "B", bases := ["P", "Z"], entries := [dFld "b"] }
def dqD : ClassSrc := { name := "D", bases := ["B"], entries := [dFld "d"] }
def dqW : World := defAll World.init [dqY, dqP, dqZ, dqB]

theorem fixed_diamond_names_example :
    namesCovered dqW dqD = true ∧
    "n" ∈ (stubInitD true dqW dqD).params.map (·.name) ∧ "n" ∈ (sigParamsD (Typedpy.sigOf dqW dqD)).map (·.name) ∧
    (∀ n, n ∈ (stubInitD true dqW dqD).params.map (·.name) ↔ n ∈ (sigParamsD (Typedpy.sigOf dqW dqD)).map (·.name)) := by
  have hcov : namesCovered dqW dqD = true := by decide +kernel
  have hiff := (stubD_names_agree_iff true dqW dqD).mpr hcov
  have hsig : "n" ∈ (sigParamsD (Typedpy.sigOf dqW dqD)).map (·.name) := by decide +kernel
  exact ⟨hcov, (hiff "n").mpr hsig, hsig, hiff⟩

/-- in every reachable world (all histories of class statements) the stub never lacks a parameter the constructor
    signature has — any hierarchy shape, no hypothesis on the class records: C14's invariant `SigOk`
    (Lemmas/DefineSig.lean) -/
theorem stubD_sig_names_in_stub_reachable {O : Oracles} {w : World} (hr : Reachable O w) {src : ClassSrc} (apd : Bool)
    (hc : runChecks (checks O w src) = .ok ()) (hfresh : w.find src.name = none) (n : String)
    (hn : n ∈ (sigParamsD (Typedpy.sigOf w src)).map (·.name)) :
    n ∈ (stubInitD apd w src).params.map (·.name) :=
  (c16_names_stubArgsD (build w src) n).mpr
    ((c14_build_sigOk (reachable_ok hr) (reachable_sigOk hr) hc).names n ((c16_mem_sigParamsD _ n).mp hn))

/-- with the converse inclusion: the signature of every class of a reachable world is COMPLETE (`SigFull`,
    Lemmas/StubReach.lean), an invariant whose step goes through the C3 linearisation — the first owner of a name
    along the new class's MRO is the first owner along the MRO of the direct base it comes from
    (`allFieldsOf_own_or_base`, Lemmas/DefineWorld.lean) -/
theorem stubD_names_agree_reachable {O : Oracles} {w : World} (hr : Reachable O w) {src : ClassSrc} (apd : Bool)
    (hc : runChecks (checks O w src) = .ok ()) (hfresh : w.find src.name = none) (n : String) :
    n ∈ (stubInitD apd w src).params.map (·.name) ↔ n ∈ (sigParamsD (Typedpy.sigOf w src)).map (·.name) := by
  refine ⟨fun hn => ?_, stubD_sig_names_in_stub_reachable hr apd hc hfresh n⟩
  have hkeys := (c16_names_stubArgsD (build w src) n).mp hn
  have hfull := c16_build_sigFull (reachable_ok hr) (reachable_sigOk hr) (c16_reachable_sigFull hr) hc hfresh
  exact (c16_mem_sigParamsD _ n).mpr (hfull.full n hkeys.1 hkeys.2)

theorem stubD_namesCovered_reachable {O : Oracles} {w : World} (hr : Reachable O w) {src : ClassSrc}
    (hc : runChecks (checks O w src) = .ok ()) (hfresh : w.find src.name = none) : namesCovered w src = true :=
  (stubD_names_agree_iff true w src).mp (stubD_names_agree_reachable hr true hc hfresh)

/-- C16 over the Define model: names, default iff not required, and the `**` clause, for every class
    statement that passes the checks in a world reachable by class statements, and both values of the default -/
theorem C16_define_statement_holds {O : Oracles} {w : World} (hr : Reachable O w) {src : ClassSrc} (dflt : Bool)
    (hc : runChecks (checks O w src) = .ok ()) (hfresh : w.find src.name = none) :
    (∀ n, n ∈ (stubInitD dflt w src).params.map (·.name) ↔ n ∈ (sigParamsD (Typedpy.sigOf w src)).map (·.name)) ∧
    (∀ n, (⟨n, false⟩ : Param) ∈ (stubInitD dflt w src).params ↔ n ∈ (Typedpy.sigOf w src).req) ∧
    (stubInitD dflt w src).kw = admitsD dflt w src := by
  have hnames := stubD_names_agree_reachable hr dflt hc hfresh
  refine ⟨hnames, fun n => ?_, stubD_kw_iff dflt w src⟩
  -- `stubD_required_agree` asks for a name of the signature, and a name on either side of the claim is one
  have hreq := fun h =>
    stubD_required_agree dflt w src n ((c16_sigD_names w src n).mp h).1
      ((c16_names_stubArgsD_build w src n).mp ((hnames n).mpr h)).1
  exact ⟨fun h => (hreq ((hnames n).mp (List.mem_map_of_mem h))).mp h,
    fun h => (hreq ((c16_mem_sigParamsD _ n).mpr (.inl h))).mpr h⟩

end Typedpy.C16
