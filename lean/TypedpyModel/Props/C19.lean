/-
  C19: operations never mutate caller data and never hand out live internal state.

  Model: Sem/Alias.lean — a heap with identities, type-directed walks (`transfer`) whose behaviour at each site
  (operation, kind, category) is read off the regenerated table `Generated.aliasing`, and the caller's script of native
  mutations.  The argument: a walk under ANY table writes no pre-existing cell (`transfer_frame`); if every site of the
  declaration copies, the result lies in the region the walk allocated, and that region is closed under reachability
  (`transfer_isolated`), so scripts started outside it cannot write into it and scripts started inside it cannot write
  outside (`Isolated.new_observe`, `Isolated.old_cells`; `holds_of_fresh_result` for the results that get there
  otherwise: the owner's copy).  The table enters through one obligation, `TablesOk`: every row is safe, out of the
  statement's scope, or a listed finding.  The statement is claimed for declarations all of whose sites are admitted
  (`C19_partial`; for a multi-field wrapper: the sites of ALL its options), not for sites the table has no row for.
  Every unsafe in-scope row must come with a kernel-checked counterexample history; the rows repaired in typedpy
  (5e8a8ad, d7f6fe4, c0c3c23, 89fd84a, 2fb1f4d, ab026bd) carry positive theorems.
-/
import TypedpyModel.Lemmas.Alias
import TypedpyModel.Spec.AliasScope
import TypedpyModel.Generated.Aliasing
import TypedpyModel.Generated.AliasApi
import TypedpyModel.Pinned.Aliasing
namespace Typedpy.C19
open Typedpy.Alias

/-- the walk of any operation, under ANY table, successful or not, leaves every pre-existing cell alone -/
theorem args_unchanged (M : Kind → Cat → Mode) (fuel : Nat) (s : Shape) (h : Heap) (src : Item) (h' : Heap)
    (r : Option Item) (e : transfer M fuel s h src = (h', r)) :
    h.next ≤ h'.next ∧ ∀ a, a < h.next → h'.cells a = h.cells a :=
  transfer_frame M fuel s h src h' r e

theorem args_unchanged_op (tbl : List AliasRow) (op : OpK) (top : Kind) (fuel : Nat) (s : Shape) (h : Heap)
    (arg : Item) (hrow : ∀ row, lookupRow tbl op top .none = some row → row.argMutated = false) :
    ∀ a, a < h.next → (execOp tbl op top fuel s h arg).1.cells a = h.cells a := by
  intro a ha
  have fr := transfer_frame (modeOf tbl op) fuel s h arg _ _ rfl
  simp only [execOp]
  cases hl : lookupRow tbl op top .none with
  | none => exact fr.2 a ha
  | some row =>
    simp only [hrow row hl]
    exact fr.2 a ha

theorem setattr_frame (M : Kind → Cat → Mode) (fuel : Nat) (s : Shape) (h : Heap) (inst : Nat) (name : String)
    (v : Item) : ∀ a, a < h.next → a ≠ inst → (setattrOp M fuel s h inst name v).1.cells a = h.cells a := by
  intro a ha ne
  simp only [setattrOp]
  cases ht : transfer M fuel s h v with
  | mk h1 o =>
    have fr := transfer_frame M fuel s h v h1 o ht
    cases o with
    | none => exact fr.2 a ha
    | some v' =>
      simp only [Heap.write]
      rw [if_neg ne]
      exact fr.2 a ha

/-- what an `argMutated` site does (the behaviour of `schema_to_struct_code` before commit d1407f7):
    the caller's `required` list loses an element -/
def mutatingTable : List AliasRow :=
  [{ op := .schemaToCode, kind := .root, cat := .none, argMutated := true, returns := .scalar, retainsArg := false,
     shallow := false, deep := false, astMode := "mutates", agree := true }]

theorem arg_mutation_counterexample :
    let h0 := Heap.ofList [⟨"dict", [("required", .ref 1)]⟩, ⟨"list", [("0", .atom 1), ("1", .atom 2)]⟩]
    (execOp mutatingTable .schemaToCode .root 5 (.scalar .scalar) h0 (.ref 1)).1.cells 1 ≠ h0.cells 1 := by
  decide

def roots : Item → List Nat
  | .ref a => [a]
  | .atom _ => []

theorem roots_of (res : Item) : RootsOf res (roots res) := by
  cases res <;> simp [RootsOf, roots]

/-- both separation clauses follow from "the result lies in the region the walk allocated" alone -/
theorem holds_of_fresh_result {h h' : Heap} {res : Item} (fr : Frame h h')
    (fs : NewClosed h.next h' ∧ ItemIn h.next h' res) :
    (∀ acts, AdmissibleAll h' (roots res) acts →
      ∀ a, a < h.next → (runScript h' (roots res) acts).1.cells a = h.cells a) ∧
    (ClosedBelow h.next h → ∀ K, (∀ x, x ∈ K → x < h.next) → ∀ acts, AdmissibleAll h' K acts →
      ∀ n, observeN n (runScript h' K acts).1 res = observeN n h' res) :=
  have iso : Isolated h h' res := ⟨fr, fs.1, fs.2⟩
  ⟨iso.old_cells (roots_of res), iso.new_observe⟩

theorem result_in_new_region {M : Kind → Cat → Mode} {fuel : Nat} {s : Shape} (hs : safeShape M s = true)
    {h : Heap} {src : Item} {h' : Heap} {res : Item} (e : transfer M fuel s h src = (h', some res)) :
    NewClosed h.next h' ∧ ∀ b, Held h' (roots res) b → h.next ≤ b ∧ b < h'.next :=
  ⟨(transfer_isolated hs e).closed, (transfer_isolated hs e).held (roots_of res)⟩

/-- output side: the declaration's sites are all copied ⇒ for EVERY script of native
    mutations applied to objects reachable from the returned value (and to objects the caller creates),
    every cell that existed before the call — the instance's payload, the class's lists, the arguments —
    is unchanged. -/
theorem returns_fresh (M : Kind → Cat → Mode) (fuel : Nat) (s : Shape) (hs : safeShape M s = true)
    (h : Heap) (src : Item) (h' : Heap) (res : Item) (e : transfer M fuel s h src = (h', some res))
    (acts : List Act) (adm : AdmissibleAll h' (roots res) acts) :
    ∀ a, a < h.next → (runScript h' (roots res) acts).1.cells a = h.cells a :=
  (transfer_isolated hs e).old_cells (roots_of res) acts adm

theorem returns_fresh_observe (M : Kind → Cat → Mode) (fuel : Nat) (s : Shape) (hs : safeShape M s = true)
    (h : Heap) (src : Item) (h' : Heap) (res : Item) (e : transfer M fuel s h src = (h', some res))
    (acts : List Act) (adm : AdmissibleAll h' (roots res) acts) (cb : ClosedBelow h.next h)
    (inst : Nat) (hi : inst < h.next) (n : Nat) :
    observeN n (runScript h' (roots res) acts).1 (.ref inst) = observeN n h (.ref inst) :=
  (transfer_isolated hs e).old_observe (roots_of res) acts adm cb _ (fun _ ea => Item.ref.inj ea ▸ ⟨Nat.zero_le _, hi⟩) n

/-- input side, frame half (holds for ANY table): no script of native mutations applied to objects reachable
    from the caller's arguments `K` (all of which existed before the call) writes into a cell the operation
    allocated.  What makes the instance safe is `retained_fresh_observe`: when every site copies, the
    instance's payload lies entirely inside that region. -/
theorem retained_fresh (M : Kind → Cat → Mode) (fuel : Nat) (s : Shape)
    (h : Heap) (src : Item) (h' : Heap) (inst : Item) (e : transfer M fuel s h src = (h', some inst))
    (cb : ClosedBelow h.next h) (K : List Nat) (hK : ∀ r, r ∈ K → r < h.next)
    (acts : List Act) (adm : AdmissibleAll h' K acts) :
    ∀ a, h.next ≤ a → a < h'.next → (runScript h' K acts).1.cells a = h'.cells a :=
  fun a h1 h2 => (transfer_frame M fuel s h src h' _ e).new_cells cb hK acts adm a ⟨h1, h2⟩

/-- input side: the declaration's sites are all copied ⇒ for EVERY script of native
    mutations applied to objects reachable from the caller's arguments, every observation of what the
    operation built (the new instance with its whole payload, to any depth) is unchanged. -/
theorem retained_fresh_observe (M : Kind → Cat → Mode) (fuel : Nat) (s : Shape) (hs : safeShape M s = true)
    (h : Heap) (src : Item) (h' : Heap) (inst : Item) (e : transfer M fuel s h src = (h', some inst))
    (cb : ClosedBelow h.next h) (K : List Nat) (hK : ∀ r, r ∈ K → r < h.next)
    (acts : List Act) (adm : AdmissibleAll h' K acts) (n : Nat) :
    observeN n (runScript h' K acts).1 inst = observeN n h' inst :=
  (transfer_isolated hs e).new_observe cb K hK acts adm n

theorem setattr_value_fresh (M : Kind → Cat → Mode) (fuel : Nat) (s : Shape) (hs : safeShape M s = true)
    (h : Heap) (v : Item) (h1 : Heap) (v' : Item) (e : transfer M fuel s h v = (h1, some v'))
    (cb : ClosedBelow h.next h) (K : List Nat) (hK : ∀ r, r ∈ K → r < h.next)
    (acts : List Act) (adm : AdmissibleAll h1 K acts) (n : Nat) :
    observeN n (runScript h1 K acts).1 v' = observeN n h1 v' :=
  retained_fresh_observe M fuel s hs h v h1 v' e cb K hK acts adm n

/-- **setattr, joint separation**: the declaration's sites all copy, the value graph the caller passes (roots `K`)
    is separate from the instance (`K` reaches nothing the instance reaches) ⇒ after `inst.name = value` NO script of
    native mutations from the caller's value changes ANY observation of the instance — the assigned field and all
    the other fields, to any depth. -/
theorem setattr_separation (M : Kind → Cat → Mode) (fuel : Nat) (s : Shape) (hs : safeShape M s = true)
    (h : Heap) (inst : Nat) (name : String) (v : Item) (h2 : Heap)
    (e : setattrOp M fuel s h inst name v = (h2, some ()))
    (cb : ClosedBelow h.next h) (hi : inst < h.next)
    (K : List Nat) (hK : ∀ r, r ∈ K → r < h.next) (sep : ∀ a, Held h K a → ¬ Reach h inst a)
    (acts : List Act) (adm : AdmissibleAll h2 K acts) (n : Nat) :
    observeN n (runScript h2 K acts).1 (.ref inst) = observeN n h2 (.ref inst) := by
  simp only [setattrOp] at e
  cases ht : transfer M fuel s h v with
  | mk h1 o =>
    rw [ht] at e
    cases o with
    | none => simp at e
    | some v' =>
      simp only [Prod.mk.injEq, and_true] at e
      have iso := transfer_isolated hs ht
      have hnext : h2.next = h1.next := by rw [← e]; rfl
      have cellInst : h2.cells inst = ⟨(h1.cells inst).tag, setItem name v' (h1.cells inst).items⟩ := by
        rw [← e]; simp [Heap.write]
      have cellOther : ∀ b, b ≠ inst → h2.cells b = h1.cells b := by
        intro b hb; rw [← e]; simp only [Heap.write]; rw [if_neg hb]
      -- what the caller's value reaches is old and apart from the instance: the assignment has not touched it
      have heldOld : ∀ a, Held h2 K a → Held h K a := by
        intro a ⟨r, hr, ra⟩
        refine ⟨r, hr, c19_reach_transport (h := h) (h2 := h2) (fun b rb => ?_) ra⟩
        exact (cellOther b fun eq => sep b ⟨r, hr, rb⟩ (eq ▸ Reach.refl _)).trans
          (iso.frame.2 b (reach_below cb (hK r hr) rb))
      -- protected: what the instance reached before, and the freshly built value; closed under the references of `h2`
      let P := fun a => Reach h inst a ∨ (h.next ≤ a ∧ a < h1.next)
      have closed : ∀ b, P b → ∀ c, c ∈ (h2.cells b).kids → P c := by
        intro b pb c hk
        by_cases eb : b = inst
        · subst eb
          rw [cellInst] at hk
          cases c19_kids_setItem _ name v' _ c hk with
          | inl h3 => exact Or.inl ((Reach.refl b).step (iso.frame.2 b hi ▸ h3))
          | inr h3 => exact Or.inr (iso.inside c h3)
        · rw [cellOther b eb] at hk
          cases pb with
          | inl hold => exact Or.inl (hold.step (iso.frame.2 b (reach_below cb hi hold) ▸ hk))
          | inr hnew => exact Or.inr (iso.closed b hnew.1 hnew.2 c hk)
      have sp := script_protects P acts h2 K
        (fun a ha pa => have ⟨r, hr, ra⟩ := heldOld a ha
          pa.elim (sep a ⟨r, hr, ra⟩) fun h3 => absurd (reach_below cb (hK r hr) ra) (Nat.not_lt.mpr h3.1))
        (fun a pa => hnext ▸ pa.elim (fun h3 => Nat.lt_of_lt_of_le (reach_below cb hi h3) iso.frame.1) (·.2))
        adm
      exact observe_agree P sp.1 closed n _ fun a ea => Or.inl (Item.ref.inj ea ▸ Reach.refl _)

/-- non-vacuity of `setattr_separation`, kernel-evaluated on today's table: instance cell 0 (field "a" -> list cell 1),
    the caller assigns its own list (cell 2, holding list cell 3) to the Array[Array[Integer]] field "f"; emptying both
    of the caller's lists afterwards leaves every observation of the instance as it was -/
theorem setattr_separation_example :
    let h0 := Heap.ofList [⟨"inst", [("a", .ref 1)]⟩, ⟨"list", [("0", .atom 2)]⟩,
                           ⟨"list", [("0", .ref 3)]⟩, ⟨"list", [("0", .atom 2)]⟩]
    let s := Shape.coll .array (.coll .array (.scalar .number))
    (match setattrOp (modeOf Generated.aliasing .setattr) 9 s h0 0 "f" (.ref 2) with
     | (h2, some ()) =>
       safeShape (modeOf Generated.aliasing .setattr) s &&
       (observeN 5 (runScript h2 [2] [.write 2 ⟨"list", []⟩, .write 3 ⟨"list", []⟩]).1 (.ref 0)).beq (observeN 5 h2 (.ref 0)) &&
       (reachList 5 h2 (.ref 0)).length == 4
     | _ => false) = true := by
  decide +kernel

def TablesOk (tbl : List AliasRow) : Prop := ∀ r, r ∈ tbl → (r.safe || !r.inScope || isKnown r) = true

/-- the unsafe in-scope rows of today's table are exactly the listed ones; two inclusions, not an equality of lists:
    the order of the rows of the regenerated table is not fixed -/
theorem only_listed_rows_unsafe_today :
    ((Generated.aliasing.filter fun r => !r.safe && r.inScope).all (fun r => knownRows.contains (r.op, r.kind, r.cat)) &&
     knownRows.all (fun k => (Generated.aliasing.filter fun r => !r.safe && r.inScope).any
       fun r => r.op == k.1 && r.kind == k.2.1 && r.cat == k.2.2)) = true := by
  decide +kernel

/-- obligation re-checked against the regenerated table on every run: a new aliasing / mutating site within the
    statement's scope, or one where the source reading and the probe disagree, breaks it (sites out of scope share by
    design; `no_arg_mutation_today` speaks about every row) -/
theorem tables_ok : TablesOk Generated.aliasing := by
  intro r hr
  have h := (Bool.and_eq_true_iff.mp only_listed_rows_unsafe_today).1
  rw [List.all_filter, List.all_eq_true] at h
  simpa only [isKnown, Bool.not_and, Bool.not_not] using h r hr

theorem known_rows_are_findings :
    knownRows.all (fun k => Generated.aliasing.any fun r =>
      r.op == k.1 && r.kind == k.2.1 && r.cat == k.2.2 && !r.safe && r.inScope) = true := by
  decide +kernel

theorem no_arg_mutation_today : Generated.aliasing.all (fun r => !r.argMutated && r.agree) = true := by
  decide +kernel

/-- the committed snapshot the model was last aligned with has the same unsafe rows as today's table -/
theorem pinned_same_findings :
    (Generated.aliasing.filter fun r => !r.safe).map (fun r => (r.op, r.kind, r.cat)) =
    (Pinned.aliasing.filter fun r => !r.safe).map (fun r => (r.op, r.kind, r.cat)) := by
  -- evaluated, not tied by `rfl`: a regeneration that changes a safe row leaves the statement true and must not break it
  decide +kernel

def siteOk (tbl : List AliasRow) (op : OpK) (kc : Kind × Cat) : Bool :=
  match lookupRow tbl op kc.1 kc.2 with
  | some r => r.mode.copies
  | none => false

theorem modeOf_copies {tbl : List AliasRow} {op : OpK} {k : Kind} {c : Cat} :
    siteOk tbl op (k, c) = true → (modeOf tbl op k c).copies = true := by
  unfold siteOk modeOf
  -- a row: both sides ask whether it copies; no row: `siteOk` is `false` and `alias` does not copy
  cases lookupRow tbl op k c <;> exact id

theorem all_imp {α : Type} {p q : α → Bool} (hpq : ∀ a, p a = true → q a = true) (l : List α)
    (h : l.all p = true) : l.all q = true :=
  List.all_eq_true.mpr fun a ha => hpq a (List.all_eq_true.mp h a ha)

theorem all_append {α : Type} {p : α → Bool} {l1 l2 : List α} (h : (l1 ++ l2).all p = true) :
    l1.all p = true ∧ l2.all p = true := by
  rw [List.all_append] at h
  exact Bool.and_eq_true_iff.mp h

theorem and_mono {a b a' b' : Bool} (ha : a = true → a' = true) (hb : b = true → b' = true)
    (h : (a && b) = true) : (a' && b') = true :=
  Bool.and_eq_true_iff.mpr ((Bool.and_eq_true_iff.mp h).imp ha hb)

-- `sitesOf` lists a node's own site and then those below it, `safeShape` asks the node to copy and then those below
-- it to be safe, both by computation: every node is one step of `and_mono`
mutual
theorem safeShape_of_sites (tbl : List AliasRow) (op : OpK) :
    (s : Shape) → (sitesOf s).all (siteOk tbl op) = true → safeShape (modeOf tbl op) s = true
  | .scalar _, _ => rfl
  | .any, h | .untyped, h => modeOf_copies (Bool.and_eq_true_iff.mp h).1
  | .coll _ s, h => and_mono modeOf_copies (safeShape_of_sites tbl op s) h
  | .keyed _ fs, h => and_mono modeOf_copies (safeFields_of_sites tbl op fs) h
  | .wrap _ s, h => and_mono modeOf_copies (safeShape_of_sites tbl op s) h
  | .wrapN k _ opts, h => and_mono modeOf_copies (safeOpts_of_sites tbl op k opts) h
  | .owned s, h => safeShape_of_sites tbl op s (Bool.and_eq_true_iff.mp h).2
theorem safeOpts_of_sites (tbl : List AliasRow) (op : OpK) (k : Kind) :
    (opts : List Shape) → (sitesOfOpts k opts).all (siteOk tbl op) = true → safeOpts (modeOf tbl op) k opts = true
  | [], _ => rfl
  | s :: rest, h =>
    -- the option's own site, then `sitesOf s ++ sitesOfOpts k rest`
    have h' := Bool.and_eq_true_iff.mp h
    have h'' := all_append h'.2
    Bool.and_eq_true_iff.mpr ⟨Bool.and_eq_true_iff.mpr ⟨modeOf_copies h'.1, safeShape_of_sites tbl op s h''.1⟩,
      safeOpts_of_sites tbl op k rest h''.2⟩
theorem safeFields_of_sites (tbl : List AliasRow) (op : OpK) :
    (fs : List (String × Shape)) → (sitesOfFields fs).all (siteOk tbl op) = true → safeFields (modeOf tbl op) fs = true
  | [], _ => rfl
  | (_, s) :: rest, h =>
    and_mono (safeShape_of_sites tbl op s) (safeFields_of_sites tbl op rest) (Bool.and_eq_true_iff.mpr (all_append h))
end

theorem admitted_ok {tbl : List AliasRow} (ok : TablesOk tbl) {op : OpK} {kc : Kind × Cat}
    (h : admitted tbl op kc = true) : siteOk tbl op kc = true := by
  revert h
  unfold admitted siteOk
  cases hl : lookupRow tbl op kc.1 kc.2 with
  | none => exact id
  | some r =>
    intro h
    have h' := Bool.and_eq_true_iff.mp h
    -- in scope and not listed: of the obligation "safe, out of scope or listed" only `r.safe` is left, and that the
    -- row copies is its last conjunct
    have hs := ok r (lookupRow_mem hl)
    rw [h'.1, Eq.mp (Bool.not_eq_true' _) h'.2] at hs
    simp only [Bool.not_true, Bool.or_false] at hs
    exact (Bool.and_eq_true_iff.mp hs).2

/-- what C19 says about one operation on one declaration: whatever heap it starts from, whatever it is
    given, whether or not it succeeds, (1) every pre-existing cell is unchanged, and if it succeeds,
    (2) no script of native mutations from the returned value changes a pre-existing cell and
    (3) no script from pre-existing objects (the arguments) changes the region the operation built. -/
def HoldsFor (tbl : List AliasRow) (op : OpK) (s : Shape) : Prop :=
  ∀ (fuel : Nat) (h : Heap) (src : Item) (h' : Heap) (r : Option Item),
    transfer (modeOf tbl op) fuel s h src = (h', r) →
    (∀ a, a < h.next → h'.cells a = h.cells a) ∧
    ∀ res, r = some res →
      (∀ acts, AdmissibleAll h' (roots res) acts →
        ∀ a, a < h.next → (runScript h' (roots res) acts).1.cells a = h.cells a) ∧
      (ClosedBelow h.next h → ∀ K, (∀ x, x ∈ K → x < h.next) → ∀ acts, AdmissibleAll h' K acts →
        ∀ n, observeN n (runScript h' K acts).1 res = observeN n h' res)

def inScopeShape (op : OpK) (s : Shape) : Bool := (sitesOf s).all fun kc => inScopeSite op kc.1

/-- the statement over ALL in-scope sites, also those the table has no row for: not claimed (`C19_partial` is) -/
def C19_statement (tbl : List AliasRow) : Prop :=
  ∀ (op : OpK) (s : Shape), inScopeShape op s = true → HoldsFor tbl op s

theorem holdsFor_of_safe (tbl : List AliasRow) (op : OpK) (s : Shape)
    (hs : safeShape (modeOf tbl op) s = true) : HoldsFor tbl op s := by
  intro fuel h src h' r e
  refine ⟨(transfer_frame _ fuel s h src h' r e).2, ?_⟩
  rintro res rfl
  exact ⟨(transfer_isolated hs e).old_cells (roots_of res), (transfer_isolated hs e).new_observe⟩

/-- for ANY table that meets the obligation `TablesOk`, the statement holds for every
    operation and every declaration all of whose sites are admitted (known to the table, in scope, and not
    one of the listed known-finding rows) — the exclusion is the decidable predicate `admitted`. -/
theorem C19_partial (tbl : List AliasRow) (ok : TablesOk tbl) (op : OpK) (s : Shape)
    (adm : (sitesOf s).all (admitted tbl op) = true) : HoldsFor tbl op s :=
  holdsFor_of_safe tbl op s
    (safeShape_of_sites tbl op s (all_imp (fun _ h => admitted_ok ok h) _ adm))

theorem C19_today (op : OpK) (s : Shape) (adm : (sitesOf s).all (admitted Generated.aliasing op) = true) :
    HoldsFor Generated.aliasing op s :=
  C19_partial _ tables_ok op s adm

/-- `f op` with `op` brought to a constructor before `f` sees it.  The kernel evaluates call by name and remembers the
    value of a closed term: behind `byOp` every lookup of an operation meets the same closed term for that
    operation's rows, whichever expression the operation came from -/
def byOp {β : Type} (f : OpK → β) : OpK → β
  | .construct => f .construct | .setattr => f .setattr | .deserialize => f .deserialize
  | .serialize => f .serialize | .fieldSerialize => f .fieldSerialize | .fastSerialize => f .fastSerialize
  | .convert => f .convert | .derive => f .derive | .toSchema => f .toSchema | .schemaToCode => f .schemaToCode

theorem byOp_eq {β : Type} (f : OpK → β) (op : OpK) : byOp f op = f op := by cases op <;> rfl

/-- a lookup only ever sees the rows of its operation.  Rewriting with this before
    a table obligation is evaluated makes the kernel walk the whole table once per operation and the operation's rows
    once per site, instead of the whole table once per site -/
theorem lookupRow_byOp (tbl : List AliasRow) :
    lookupRow tbl = byOp fun o => lookupRow (tbl.filter fun r => r.op == o) o := by
  funext op k c; rw [byOp_eq, lookupRow_filter]

theorem modeOf_byOp (tbl : List AliasRow) :
    modeOf tbl = byOp fun o => modeOf (tbl.filter fun r => r.op == o) o := by
  funext op k c; simp only [byOp_eq, modeOf, lookupRow_filter]

theorem admitted_byOp (tbl : List AliasRow) :
    admitted tbl = byOp fun o => admitted (tbl.filter fun r => r.op == o) o := by
  funext op kc; simp only [byOp_eq, admitted, lookupRow_filter]

def witnessItem : Cat → Shape
  | .number => .scalar .number
  | .string => .scalar .string
  | .any => .any
  | .untyped => .untyped
  | .coll => .coll .array (.scalar .number)
  | .struct => .keyed .struct [("x", .scalar .number)]
  | .inline => .keyed .inline [("x", .scalar .number)]
  | .wrap => .wrap .anyOf (.coll .array (.scalar .number))
  | .enum => .scalar .enum
  | .tupl => .coll .tuple (.coll .array (.scalar .number))
  | _ => .scalar .scalar

def witnessShape (k : Kind) (c : Cat) : Shape :=
  match k with
  | .array | .deque | .set | .immSet | .tuple | .map => .coll k (witnessItem c)
  | .anyOf | .oneOf | .allOf | .notF => .wrap k (witnessItem c)
  | .misfit => .wrapN .anyOf (.fixed 0) [match c with | .coll => .coll .map (.scalar .number) | _ => witnessItem c]
  | .any => .any
  | .document | .mapping | .names | .required | .enumValues | .default | .schema | .fieldState => .wrap k .any
  | _ => .keyed k [("x", .scalar .number)]

/-- cell 0: the top-level container (kwargs for input operations, the instance for output operations);
    cell 1: the collection stored under key "f" -/
def witnessHeap : Heap :=
  Heap.ofList [⟨"top", [("f", .ref 1)]⟩, ⟨"list", [("0", .atom 1), ("x", .atom 2)]⟩]

def topless (op : OpK) : Bool := op == .setattr || op == .fieldSerialize

/-- run the row's operation on the witness, let the caller clear the collection (cell 1) — which it can
    reach both from what it passed in and from what it got back — and compare observations of both sides -/
def cexWorks (tbl : List AliasRow) (r : AliasRow) : Bool :=
  let s := if topless r.op then witnessShape r.kind r.cat else .keyed .root [("f", witnessShape r.kind r.cat)]
  let src : Item := if topless r.op then .ref 1 else .ref 0
  match transfer (modeOf tbl r.op) 5 s witnessHeap src with
  | (h', some res) =>
    let poked := (runScript h' (roots res) [.write 1 ⟨"list", []⟩]).1
    (reachList 4 h' res).contains 1                                     -- the poke is admissible from the result
      && !(observeN 4 poked res).beq (observeN 4 h' res)                 -- input side: the new instance changed
      && !(observeN 4 poked (.ref 0)).beq (observeN 4 h' (.ref 0))       -- output side: the source (instance) changed
  | _ => false

/-- for every unsafe in-scope row of today's table the model exhibits a history violating the statement:
    operation, one native mutation of an object the caller legitimately holds, observation differs -/
theorem unsafe_rows_have_counterexamples :
    (Generated.aliasing.filter fun r => !r.safe && r.inScope).all (cexWorks Generated.aliasing) = true := by
  first
  | -- while no row is listed (`knownRows = []`) there is no unsafe in-scope row at all
    exact List.all_eq_true.mpr fun r hr =>
      (Bool.false_ne_true (List.all_eq_true.mp (Bool.and_eq_true_iff.mp only_listed_rows_unsafe_today).1 r hr)).elim
  | -- once a row is listed the line above does not typecheck: run the listed rows on their witnesses
    decide +kernel

theorem reachList_sound (h : Heap) : ∀ (n : Nat) (i : Item) (b : Nat), b ∈ reachList n h i → Held h (roots i) b
  | n, .atom _, _, hb => by cases n <;> cases hb
  | n, .ref a, b, hb => ⟨a, List.mem_singleton_self a, reachList_reach h n a b hb⟩

/-- since typedpy commit 89fd84a constructing with `OneOf[Array[Integer], …]` keeps a private copy, not the caller's
    list (cell 1): clearing that list afterwards leaves the new instance as it was -/
theorem oneOf_keeps_a_copy_today :
    let s := Shape.keyed .root [("f", .wrap .oneOf (.coll .array (.scalar .number)))]
    let out := transfer (modeOf Generated.aliasing .construct) 5 s witnessHeap (.ref 0)
    ∃ inst, out.2 = some inst ∧
      (reachList 4 out.1 inst).contains 1 = false ∧
      (observeN 3 (runScript out.1 [0] [.write 1 ⟨"list", []⟩]).1 inst).beq (observeN 3 out.1 inst) = true := by
  refine ⟨.ref 3, ?_⟩
  decide +kernel

def oneOfShape : Shape :=
  .keyed .root [("a", .wrapN .oneOf .firstFit [.coll .array (.scalar .number), .coll .map (.coll .array (.scalar .number)), .scalar .string]),
                ("b", .wrapN .allOf .firstFit [.coll .array (.scalar .number)]),
                ("c", .wrapN .oneOf .firstFit [.keyed .inline [("x", .scalar .number), ("l", .coll .array (.scalar .number))], .scalar .string]),
                ("d", .coll .array (.wrapN .oneOf .firstFit [.wrapN .anyOf .firstFit [.coll .array (.scalar .number), .scalar .string], .scalar .number]))]

theorem oneOfShape_admitted : (sitesOf oneOfShape).all (admitted Generated.aliasing .construct) = true := by
  decide +kernel

/-- OneOf / AllOf over every kind of container option (and with ALL their options): the statement holds today for
    construction and assignment -/
theorem oneOf_allOf_fresh_today :
    HoldsFor Generated.aliasing .construct oneOfShape ∧
    HoldsFor Generated.aliasing .setattr (.wrapN .oneOf .firstFit [.coll .array (.scalar .number), .scalar .string]) ∧
    HoldsFor Generated.aliasing .setattr (.wrapN .allOf .firstFit [.coll .map (.coll .array (.scalar .number))]) :=
  ⟨C19_today _ _ oneOfShape_admitted, C19_today _ _ (by decide +kernel), C19_today _ _ (by decide +kernel)⟩

/-- `AnyOf[Array[Integer], Enum(values=…)]` -/
def misfitShape : Shape := .wrapN .anyOf .firstFit [.coll .array (.scalar .number), .scalar .enum]

/-- `AnyOf.serialize` with several options (typedpy commit ab026bd) hands the stored list (cell 1 of `witnessHeap`) to the
    option that takes it, the Array option, and the document is a new list -/
theorem anyOf_serialize_picks_the_fitting_option_today :
    let out := transfer (modeOf Generated.aliasing .fieldSerialize) 5 misfitShape witnessHeap (.ref 1)
    ∃ doc, out.2 = some doc ∧ (reachList 4 out.1 doc).contains 1 = false ∧
      (observeN 3 (runScript out.1 (roots doc) [.write 2 ⟨"list", []⟩]).1 (.ref 0)).beq (observeN 3 out.1 (.ref 0)) = true := by
  refine ⟨.ref 2, ?_⟩
  decide +kernel

/-- cell 0: kwargs {f: cell 1}; cell 1: the tuple (cell 2, 2); cell 2: the caller's list inside the tuple -/
def tupleHeap : Heap :=
  Heap.ofList [⟨"dict", [("f", .ref 1)]⟩, ⟨"tuple", [("0", .ref 2), ("1", .atom 2)]⟩, ⟨"list", [("0", .atom 4)]⟩]

def tupleShape : Shape :=
  .keyed .root [("f", .wrapN .oneOf .firstFit [.keyed .tuplePos [("0", .coll .array (.scalar .string)), ("1", .scalar .number)],
                                               .scalar .string])]

/-- `OneOf[Tuple[Array[String], Integer], String]` given a tuple keeps a private deep copy (typedpy commit 2fb1f4d): the
    caller's list inside the tuple (cell 2) is not the instance's, emptying it changes nothing -/
theorem oneOf_copies_tuple_elements_today :
    let out := transfer (modeOf Generated.aliasing .construct) 5 tupleShape tupleHeap (.ref 0)
    ∃ inst, out.2 = some inst ∧ (reachList 5 out.1 inst).all (fun a => decide (3 ≤ a)) = true ∧
      (observeN 4 (runScript out.1 [0] [.write 2 ⟨"list", []⟩]).1 inst).beq (observeN 4 out.1 inst) = true := by
  decide +kernel

def fastShape : Shape :=
  .keyed .root [("a", .coll .array (.scalar .number)), ("s", .coll .array (.scalar .string)),
                ("u", .coll .array .untyped), ("q", .coll .deque .untyped), ("m", .coll .map .untyped),
                ("b", .coll .array (.coll .array (.scalar .number)))]

/-- fast serialization (and, below, `<field>.serialize`) of scalar-item and untyped collections — Array[Integer],
    Array[String], untyped Array / Deque / Map, also nested — is covered by the statement for all heaps, values and
    caller scripts (the `return value` short cuts repaired in typedpy commit 5e8a8ad) -/
theorem fast_serialization_fresh_today : HoldsFor Generated.aliasing .fastSerialize fastShape :=
  C19_today _ _ (by rw [admitted_byOp]; decide +kernel)

theorem field_serialize_fresh_today :
    HoldsFor Generated.aliasing .fieldSerialize (.coll .array (.scalar .number)) ∧
    HoldsFor Generated.aliasing .fieldSerialize (.coll .array .untyped) ∧
    HoldsFor Generated.aliasing .fieldSerialize (.coll .deque .untyped) ∧
    HoldsFor Generated.aliasing .fieldSerialize (.coll .map .untyped) :=
  have h : ∀ s ∈ [Shape.coll .array (.scalar .number), .coll .array .untyped, .coll .deque .untyped, .coll .map .untyped],
      (sitesOf s).all (admitted Generated.aliasing .fieldSerialize) = true := by
    rw [admitted_byOp]; decide +kernel
  ⟨C19_today _ _ (h _ (by simp)), C19_today _ _ (h _ (by simp)), C19_today _ _ (h _ (by simp)),
   C19_today _ _ (h _ (by simp))⟩

/-- the inputs of `cexWorks` with the opposite outcome: on the witness of a repaired row the operation succeeds and
    what it returns / keeps does not contain the collection it was given (cell 1) -/
def freshOnWitness (tbl : List AliasRow) (k : OpK × Kind × Cat) : Bool :=
  let s := if topless k.1 then witnessShape k.2.1 k.2.2 else .keyed .root [("f", witnessShape k.2.1 k.2.2)]
  let src : Item := if topless k.1 then .ref 1 else .ref 0
  match transfer (modeOf tbl k.1) 5 s witnessHeap src with
  | (h', some res) =>
    let poked := (runScript h' [] [.write 1 ⟨"list", []⟩]).1
    !(reachList 4 h' res).contains 1 && (observeN 4 poked res).beq (observeN 4 h' res)
  | _ => false

/-- both facts about the repaired rows in one evaluation: they walk the rows of the same five operations -/
theorem fixed_rows_today : fixedRows.all (fun k =>
    (match lookupRow Generated.aliasing k.1 k.2.1 k.2.2 with
     | some r => r.safe
     | none => false) && freshOnWitness Generated.aliasing k) = true := by
  delta freshOnWitness
  rw [lookupRow_byOp, modeOf_byOp]
  decide +kernel

theorem fixed_rows_safe_today :
    fixedRows.all (fun k => Generated.aliasing.any fun r =>
      r.op == k.1 && r.kind == k.2.1 && r.cat == k.2.2 && r.safe) = true := by
  refine all_imp (fun k hk => ?_) _ fixed_rows_today
  have hk := (Bool.and_eq_true_iff.mp hk).1
  split at hk
  · next r hl =>
    have hkey := lookupRow_key hl
    exact List.any_eq_true.mpr ⟨r, lookupRow_mem hl, by simp only [hkey, hk, beq_self_eq_true, Bool.and_self]⟩
  · exact absurd hk (by decide)

theorem fixed_rows_fresh_on_witness : fixedRows.all (freshOnWitness Generated.aliasing) = true :=
  all_imp (fun _ hk => (Bool.and_eq_true_iff.mp hk).2) _ fixed_rows_today

def exampleShape : Shape :=
  .keyed .root [("a", .coll .array (.coll .array (.scalar .number))),
                ("m", .coll .map (.coll .array (.scalar .number))),
                ("i", .keyed .inline [("x", .scalar .number), ("l", .coll .array (.scalar .string))])]

def exampleHeap : Heap := Heap.ofList [
  ⟨"inst", [("a", .ref 1), ("m", .ref 3), ("i", .ref 5)]⟩,
  ⟨"list", [("0", .ref 2)]⟩, ⟨"list", [("0", .atom 1), ("1", .atom 2)]⟩,
  ⟨"dict", [("k", .ref 4)]⟩, ⟨"list", [("0", .atom 3)]⟩,
  ⟨"inst", [("x", .atom 7), ("l", .ref 6)]⟩, ⟨"list", [("0", .atom 8)]⟩]

/-- a non-trivial declaration (Array[Array[Integer]], Map[String, Array[Integer]], a nested structure)
    is admitted under the regular Serializer and under construction, the operation succeeds on a concrete
    heap, and the returned document shares no cell with the instance -/
theorem C19_example :
    (sitesOf exampleShape).all (admitted Generated.aliasing .serialize) = true ∧
    (sitesOf exampleShape).all (admitted Generated.aliasing .construct) = true ∧
    (match transfer (modeOf Generated.aliasing .serialize) 9 exampleShape exampleHeap (.ref 0) with
     | (h', some res) => sameBelow 7 exampleHeap h' && (reachList 6 h' res).all (fun a => decide (7 ≤ a))
                          && (reachList 6 h' res).length == 7
     | _ => false) = true := by
  rw [admitted_byOp, modeOf_byOp]
  decide +kernel

def firstByte (s : String) : Nat := (s.toByteArray.data.toList.headD 0).toNat

/-- string equality that compares the first bytes as numbers before anything else: by `==` alone the kernel is slow to
    find two string literals different, even when they differ in the first byte -/
def nameEq (a b : String) : Bool := Nat.beq (firstByte a) (firstByte b) && a == b

theorem beq_eq_nameEq (a b : String) : (a == b) = nameEq a b := by
  unfold nameEq
  -- by the decision procedure itself, not by `beq_self_eq_true` / `simp`: those bring in `Classical.choice`
  match decEq a b with
  | isTrue h => subst h; rw [show (a == a) = true from decide_eq_true rfl, Nat.beq_refl]; rfl
  | isFalse h => rw [beq_false_of_ne h, Bool.and_false]

/-- the obligations over the public API in one evaluation: all of them read the names of `apiRows`, and what is dear
    in evaluating them is turning each string literal into its bytes, which the kernel does once per declaration -/
theorem api_obligations :
    apiCovered Generated.publicApi = true ∧ apiRowsProbed Generated.apiProbed = true ∧
    apiCovered (("brand_new_public_function", "function") :: Generated.publicApi) = false ∧
    apiCovered [("serialize", "function"), ("Array", "field")] = true := by
  simp only [apiCovered, apiKindCovered, apiRowsProbed, List.contains_eq_any_beq, beq_eq_nameEq]
  decide +kernel

/-- obligation re-checked against the public API introspected from /repo on every run: a new public function,
    method of an entry-point class or non-field class without a row in `apiRows` breaks it -/
theorem api_covered : apiCovered Generated.publicApi = true :=
  api_obligations.1

/-- every row that claims coverage is backed by an executable probe / operation stream of the suite -/
theorem api_rows_probed : apiRowsProbed Generated.apiProbed = true :=
  api_obligations.2.1

theorem api_ops_in_table : apiOpsInTable Generated.aliasing = true := by
  -- the rows of the last four operations stand at the end of the table: found from behind
  have late : ∀ o ∈ [OpK.convert, .derive, .toSchema, .schemaToCode],
      Generated.aliasing.reverse.any (fun t => t.op == o) = true := by decide +kernel
  have rows : ∀ o : OpK, Generated.aliasing.any (fun t => t.op == o) = true := by
    intro o
    cases o
    case convert | derive | toSchema | schemaToCode => rw [← List.any_reverse]; exact late _ (by simp)
    all_goals decide +kernel
  have pure := List.all_eq_true.mp no_arg_mutation_today
  simp only [apiOpsInTable, List.all_eq_true]
  intro r _
  split
  · next o _ =>
    simp only [Bool.and_eq_true, List.all_eq_true, Bool.or_eq_true]
    exact ⟨rows o, fun t ht => Or.inr (Bool.and_eq_true_iff.mp (pure t ht)).1⟩
  · rfl

theorem api_covered_example :
    apiCovered (("brand_new_public_function", "function") :: Generated.publicApi) = false ∧
    apiCovered [("serialize", "function"), ("Array", "field")] = true :=
  api_obligations.2.2

/-- what C19 says about a field of an immutable owner given a value that is not one of the exempt immutable
    kinds (scalars, typed wrappers, ImmutableStructure instances) -/
def OwnerHoldsFor (tbl : List AliasRow) (op : OpK) (s : Shape) : Prop :=
  ∀ (fuel : Nat) (h : Heap) (src : Item) (h' : Heap) (r : Option Item), ownerExempt h src = false →
    transfer (modeOf tbl op) fuel (.owned s) h src = (h', r) →
    (∀ a, a < h.next → h'.cells a = h.cells a) ∧
    ∀ res, r = some res →
      (∀ acts, AdmissibleAll h' (roots res) acts →
        ∀ a, a < h.next → (runScript h' (roots res) acts).1.cells a = h.cells a) ∧
      (ClosedBelow h.next h → ∀ K, (∀ x, x ∈ K → x < h.next) → ∀ acts, AdmissibleAll h' K acts →
        ∀ n, observeN n (runScript h' K acts).1 res = observeN n h' res)

/-- **immutable owners**: for ANY table whose owner row copies — whatever the rows of the field below say
    (`Anything` keeping the object, `OneOf` storing the original, a `return value` short cut …) and for EVERY
    declaration — the value an immutable owner keeps / hands out is separate from the caller's: deep copy in,
    deep copy out, with the separation theorem -/
theorem immutable_owner_holds (tbl : List AliasRow) (op : OpK) (s : Shape)
    (hm : (modeOf tbl op .owner .none).ownerCopies = true) : OwnerHoldsFor tbl op s := by
  intro fuel h src h' r hx e
  have fr := transfer_frame (modeOf tbl op) fuel (.owned s) h src h' r e
  refine ⟨fr.2, ?_⟩
  intro res hr
  subst hr
  exact holds_of_fresh_result fr
    (owned_fresh h.next (modeOf tbl op) fuel s hm h src hx h' res (Nat.le_refl _) (newClosed_init h) e)

def ownerOps : List OpK := [.construct, .setattr, .deserialize, .serialize, .fieldSerialize, .fastSerialize]

/-- today's table: for every operation the owner row exists, the source reading (`deepcopy(` under the
    IS_IMMUTABLE tests of `Structure.__setattr__`, `Field.__set__`, `Field.__get__`) agrees with the witness, and
    the owner copies -/
theorem owner_rows_copy_today :
    ownerOps.all (fun op =>
      (modeOf Generated.aliasing op .owner .none).ownerCopies &&
      (match lookupRow Generated.aliasing op .owner .none with
       | some r => r.agree && r.astMode == "deep" && !r.argMutated
       | none => false)) = true := by
  decide +kernel

theorem immutable_owner_today (op : OpK) (hop : op ∈ ownerOps) (s : Shape) :
    OwnerHoldsFor Generated.aliasing op s := by
  apply immutable_owner_holds
  have h := owner_rows_copy_today
  rw [List.all_eq_true] at h
  exact (Bool.and_eq_true_iff.mp (h op hop)).1

/-- what C19 says about constructing / deserializing a whole immutable class from plain caller data -/
def ImmutableClassHoldsFor (tbl : List AliasRow) (op : OpK) (fs : List (String × Shape)) : Prop :=
  ∀ (fuel : Nat) (h : Heap) (a : Nat) (h' : Heap) (r : Option Item), PlainItems h (h.cells a).items →
    transfer (modeOf tbl op) fuel (.keyed .root fs) h (.ref a) = (h', r) →
    (∀ x, x < h.next → h'.cells x = h.cells x) ∧
    ∀ inst, r = some inst →
      (∀ acts, AdmissibleAll h' (roots inst) acts →
        ∀ x, x < h.next → (runScript h' (roots inst) acts).1.cells x = h.cells x) ∧
      (ClosedBelow h.next h → ∀ K, (∀ x, x ∈ K → x < h.next) → ∀ acts, AdmissibleAll h' K acts →
        ∀ n, observeN n (runScript h' K acts).1 inst = observeN n h' inst)

/-- **a whole ImmutableStructure**: for ANY table whose owner row copies and whose top-level site rebuilds — whatever
    the rows of the fields say — and for EVERY list of declared fields (each behind the owner's copy), constructing the
    instance from plain data writes nothing of the caller's, and afterwards neither a script from the instance changes
    the caller's objects nor a script from the caller's objects any observation of the instance -/
theorem immutable_class_holds (tbl : List AliasRow) (op : OpK) (fs : List (String × Shape)) (ho : allOwned fs = true)
    (hm : (modeOf tbl op .owner .none).ownerCopies = true) (hroot : modeOf tbl op .root .none = .rebuild) :
    ImmutableClassHoldsFor tbl op fs := by
  intro fuel h a h' r pl e
  have fr := transfer_frame (modeOf tbl op) fuel (.keyed .root fs) h (.ref a) h' r e
  refine ⟨fr.2, ?_⟩
  intro inst hr
  subst hr
  exact holds_of_fresh_result fr (immutable_class_fresh (modeOf tbl op) fuel fs ho hm hroot h a pl h' inst e)

theorem immutable_class_today (fs : List (String × Shape)) (ho : allOwned fs = true) :
    ImmutableClassHoldsFor Generated.aliasing .construct fs ∧ ImmutableClassHoldsFor Generated.aliasing .deserialize fs :=
  ⟨immutable_class_holds _ _ fs ho (by decide +kernel) (by decide +kernel),
   immutable_class_holds _ _ fs ho (by decide +kernel) (by decide +kernel)⟩

theorem firstFit_spec (h : Heap) (i : Item) : ∀ (opts : List Shape),
    (∀ j s, j < firstFitIdx h i opts → opts[j]? = some s → fits s h i = false) ∧
    (∀ s, opts[firstFitIdx h i opts]? = some s → fits s h i = true)
  | [] => ⟨fun j s hj => by simp [firstFitIdx] at hj, fun s e => by simp [firstFitIdx] at e⟩
  | o :: rest => by
    have ih := firstFit_spec h i rest
    cases hf : fits o h i with
    | true =>
      simp only [firstFitIdx, hf, if_true]
      refine ⟨fun j s hj => by omega, ?_⟩
      intro s e
      simp only [List.getElem?_cons_zero, Option.some.injEq] at e
      rw [← e]; exact hf
    | false =>
      simp only [firstFitIdx, hf, Bool.false_eq_true, if_false]
      constructor
      · intro j s hj e
        cases j with
        | zero =>
          simp only [List.getElem?_cons_zero, Option.some.injEq] at e
          rw [← e]; exact hf
        | succ j =>
          simp only [List.getElem?_cons_succ] at e
          exact ih.1 j s (by omega) e
      · intro s e
        simp only [List.getElem?_cons_succ] at e
        exact ih.2 s e

/-- a fixed delegation hands the value to THAT option if the value fits it, and to no option otherwise (the `misfit`
    site of that option's category: `fallbackSite`) -/
theorem fixed_pick_spec (n : Nat) (opts : List Shape) (h : Heap) (i : Item) :
    (pickIdx (.fixed n) opts h i = n ∧ ∃ s, opts[n]? = some s ∧ fits s h i = true) ∨
    pickIdx (.fixed n) opts h i = opts.length := by
  simp only [pickIdx]
  cases ho : opts[n]? with
  | none => exact Or.inr rfl
  | some s =>
    by_cases hf : fits s h i = true
    · exact Or.inl ⟨by simp only [if_pos hf], s, rfl, hf⟩
    · exact Or.inr (by simp only [if_neg hf])

def anyOpts : Shape :=
  .wrapN .anyOf .firstFit [.coll .array (.scalar .number), .coll .map (.coll .array (.scalar .number)), .scalar .string]

def hetShape : Shape :=
  .keyed .root [("xs", .coll .array anyOpts), ("one", anyOpts), ("m", .coll .map anyOpts),
                ("opt", .wrapN .anyOf .firstFit [.scalar .scalar, .coll .map (.coll .array (.scalar .number)),
                                                .coll .array (.scalar .number)])]

theorem hetShape_admitted :
    (sitesOf hetShape).all (admitted Generated.aliasing .construct) = true ∧
    (sitesOf hetShape).all (admitted Generated.aliasing .serialize) = true ∧
    (sitesOf hetShape).all (admitted Generated.aliasing .deserialize) = true := by
  refine ⟨by decide +kernel, ?_⟩
  rw [admitted_byOp]
  decide +kernel

/-- `AnyOf[Array[Integer], Map[String, Array[Integer]], String]` with ALL its options, as the element of an
    Array, as a Map value and on its own, plus `Optional[Map | Array]`: admitted under construction, the Serializer
    and the Deserializer — whichever option each value takes, the statement holds -/
theorem anyOf_all_options_today :
    HoldsFor Generated.aliasing .construct hetShape ∧ HoldsFor Generated.aliasing .serialize hetShape ∧
    HoldsFor Generated.aliasing .deserialize hetShape :=
  ⟨C19_today _ _ hetShape_admitted.1, C19_today _ _ hetShape_admitted.2.1, C19_today _ _ hetShape_admitted.2.2⟩

/-- cell 0: kwargs {xs: cell 1}; cell 1: [cell 2 (a list), cell 3 (a dict), "s"]; cell 4: the list inside the dict -/
def hetHeap : Heap := Heap.ofList [
  ⟨"dict", [("xs", .ref 1)]⟩,
  ⟨"list", [("0", .ref 2), ("1", .ref 3), ("2", .atom 4)]⟩,
  ⟨"list", [("0", .atom 2)]⟩, ⟨"dict", [("k", .ref 4)]⟩, ⟨"list", [("0", .atom 2)]⟩]

def oneOpts : Shape :=
  .wrapN .oneOf .firstFit [.coll .array (.scalar .number), .coll .map (.coll .array (.scalar .number)), .scalar .string]

/-- non-vacuity, kernel-evaluated on today's table: the elements of ONE list take different options of
    `OneOf[Array, Map, String]` (the list the first, the dict the second, the string the third); under construction
    today's OneOf keeps none of the caller's containers (it stores a private deep copy), on a plain Structure as well
    as owned by an ImmutableStructure -/
theorem wrapN_owned_example :
    (match transfer (modeOf Generated.aliasing .construct) 9 (.keyed .root [("xs", .coll .array oneOpts)]) hetHeap (.ref 0) with
     | (h', some res) => sameBelow 5 hetHeap h' && (reachList 6 h' res).all (fun a => decide (5 ≤ a))
                          && (reachList 6 h' res).length == 5
     | _ => false) = true ∧
    (match transfer (modeOf Generated.aliasing .construct) 9 (.keyed .root [("xs", .owned (.coll .array oneOpts))]) hetHeap (.ref 0) with
     | (h', some res) => sameBelow 5 hetHeap h' && (reachList 6 h' res).all (fun a => decide (5 ≤ a))
     | _ => false) = true ∧
    pickIdx .firstFit [.coll .array (.scalar .number), .coll .map .untyped, .scalar .string] hetHeap (.ref 3) = 1 ∧
    pickIdx (.fixed 2) [.coll .array (.scalar .number), .coll .map .untyped, .scalar .string] hetHeap (.ref 3) = 3 := by
  decide +kernel

/-- "known" to the table: it has a row for the site — not a known finding as in `knownRows` / `isKnown` -/
def knownInScope (tbl : List AliasRow) (op : OpK) (kc : Kind × Cat) : Bool :=
  (lookupRow tbl op kc.1 kc.2).isSome && inScopeSite op kc.1

theorem inScope_of_lookup {tbl : List AliasRow} {op : OpK} {k : Kind} {c : Cat} {r : AliasRow}
    (h : lookupRow tbl op k c = some r) : r.inScope = inScopeSite op k := by
  have hk := lookupRow_key h
  simp only [AliasRow.inScope, hk.1, hk.2.1]

theorem admitted_eq_knownInScope (tbl : List AliasRow) : admitted tbl = knownInScope tbl := by
  funext op kc
  unfold admitted knownInScope
  cases hl : lookupRow tbl op kc.1 kc.2 with
  | none => rfl
  -- `knownRows = []`: no row is a listed finding, `!isKnown r` computes to `true`
  | some r => exact (Bool.and_true _).trans (inScope_of_lookup hl)

/-- **the statement holds today**: no finding row is listed, so for EVERY operation and EVERY declaration built from
    sites the table has rows for (for a multi-field wrapper: all options; for an immutable owner: the owner row too)
    and the statement speaks about, all three clauses hold — on all heaps, for all values and all caller scripts -/
theorem C19_holds_today (op : OpK) (s : Shape)
    (hk : (sitesOf s).all (knownInScope Generated.aliasing op) = true) : HoldsFor Generated.aliasing op s :=
  C19_today op s (admitted_eq_knownInScope _ ▸ hk)

/-- non-vacuity: declarations with several container options per wrapper, nested collections and structures meet the
    hypothesis of `C19_holds_today` under construction, assignment, both serializers and the Deserializer -/
theorem C19_holds_today_example :
    ((sitesOf hetShape).all (knownInScope Generated.aliasing .construct) &&
     (sitesOf hetShape).all (knownInScope Generated.aliasing .serialize) &&
     (sitesOf hetShape).all (knownInScope Generated.aliasing .deserialize) &&
     (sitesOf oneOfShape).all (knownInScope Generated.aliasing .construct) &&
     (sitesOf exampleShape).all (knownInScope Generated.aliasing .fastSerialize) &&
     (sitesOf (Shape.coll .array (.coll .map (.scalar .number)))).all (knownInScope Generated.aliasing .setattr) &&
     (sitesOf (Shape.coll .array (.coll .map (.scalar .number)))).all (knownInScope Generated.aliasing .fieldSerialize)) = true := by
  rw [← admitted_eq_knownInScope, hetShape_admitted.1, hetShape_admitted.2.1, hetShape_admitted.2.2, oneOfShape_admitted]
  rw [admitted_byOp]
  decide +kernel

end Typedpy.C19
