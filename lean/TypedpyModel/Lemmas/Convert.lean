/-
  Lemmas/Convert.lean — which loop of `_convert` writes which key; version bookkeeping of the `convert_dict` loop, the
  loop against the documented `upgrade` and in two stages; the `Versioned` prologue on a document with an integer
  version; the `Bool` equality on JSON values is equality.
-/
import TypedpyModel.Spec.ConvertSpec
namespace Typedpy.Convert

theorem get_cons (k k' : String) (v : Json) (r : Obj) :
    get k ((k', v) :: r) = if k' = k then some v else get k r := rfl

theorem set_nil (k : String) (v : Json) : set k v [] = [(k, v)] := rfl

theorem set_cons (k : String) (v : Json) (k' : String) (v' : Json) (r : Obj) :
    set k v ((k', v') :: r) = if k' = k then (k, v) :: r else (k', v') :: set k v r := rfl

theorem loop1_cons (k : String) (e : CEntry) (r : CMapping) (inp out : Obj) :
    loop1 ((k, e) :: r) inp out = bindE (step1 k e inp out) fun out' => loop1 r inp out' := rfl

theorem compileMap_cons (k : String) (e : Entry) (r : Mapping) :
    compileMap ((k, e) :: r) = (k, e.compile) :: compileMap r := rfl

theorem Entry.compile_fn (g : UserFn) (a : List String) : (Entry.fn g a).compile = .fn g a := rfl
theorem Entry.compile_sub (m : Mapping) : (Entry.sub m).compile = .sub (convShape (compileMap m)) := rfl

theorem postMap_nil : postMap [] = [] := rfl

theorem postMap_cons (k : String) (e : Entry) (r : Mapping) :
    postMap ((k, e) :: r) = (k, e.toPost) :: postMap r := rfl

theorem runSteps_nil (v : Int) (d : Json) : runSteps [] v d = .ok d := rfl

theorem runSteps_cons (m : Mapping) (ms : List Mapping) (v : Int) (d : Json) :
    runSteps (m :: ms) v d =
      bindE (convert m d) fun d' => bindE (setVersion (v + 1) d') fun d'' => runSteps ms (v + 1) d'' := rfl

theorem bindE_eq_ok {α β} {r : R α} {k : α → R β} {z : β} (h : bindE r k = .ok z) :
    ∃ y, r = .ok y ∧ k y = .ok z := by
  cases r with
  | error e => simp at h
  | ok y => exact ⟨y, rfl, by simpa using h⟩

theorem bindE_eq_error {α β} {r : R α} {k : α → R β} {e : Err} (h : bindE r k = .error e) :
    r = .error e ∨ ∃ y, r = .ok y ∧ k y = .error e := by
  cases r with
  | error e' => left; simpa using h
  | ok y => right; exact ⟨y, rfl, by simpa using h⟩

/-- `beq_self_eq_true` at `String`, so that a use does not have to find `ReflBEq String` -/
theorem key_beq_self (k : String) : (k == k) = true := beq_self_eq_true k

theorem get_set_same (k : String) (v : Json) (o : Obj) : get k (set k v o) = some v := by
  induction o with
  | nil => rw [set_nil, get_cons, if_pos rfl]
  | cons p r ih =>
    rw [set_cons]
    by_cases h : p.1 = k
    · rw [if_pos h, get_cons, if_pos rfl]
    · rw [if_neg h, get_cons, if_neg h, ih]

theorem get_set_other {k q : String} (v : Json) (h : k ≠ q) (o : Obj) : get q (set k v o) = get q o := by
  induction o with
  | nil => rw [set_nil, get_cons, if_neg h]
  | cons p r ih =>
    rw [set_cons]
    by_cases hk : p.1 = k
    · rw [if_pos hk, get_cons, if_neg h, get_cons, if_neg (hk ▸ h)]
    · rw [if_neg hk, get_cons, get_cons, ih]

theorem erase_cons (k k' : String) (v' : Json) (r : Obj) :
    erase k ((k', v') :: r) = if k' = k then erase k r else (k', v') :: erase k r := by
  by_cases hk : k' = k <;> simp [erase, hk]

theorem get_erase_same (k : String) (o : Obj) : get k (erase k o) = none := by
  induction o with
  | nil => rfl
  | cons p r ih =>
    rw [erase_cons]
    by_cases hk : p.1 = k
    · rw [if_pos hk]; exact ih
    · rw [if_neg hk, get_cons, if_neg hk]; exact ih

theorem get_erase_other {k q : String} (h : k ≠ q) (o : Obj) : get q (erase k o) = get q o := by
  induction o with
  | nil => rfl
  | cons p r ih =>
    rw [erase_cons]
    by_cases hk : p.1 = k
    · rw [if_pos hk, get_cons, if_neg (hk ▸ h)]; exact ih
    · rw [if_neg hk, get_cons, get_cons, ih]

theorem get_erase_none {k q : String} (o : Obj) (h : get q o = none) : get q (erase k o) = none := by
  by_cases hk : k = q
  · subst hk; exact get_erase_same k o
  · rw [get_erase_other hk]; exact h

theorem compileMap_eq_map (m : Mapping) : compileMap m = m.map fun p => (p.1, p.2.compile) := by
  induction m with
  | nil => rfl
  | cons p r ih => rw [compileMap_cons, ih]; rfl

theorem compileMap_append (a b : Mapping) : compileMap (a ++ b) = compileMap a ++ compileMap b := by
  simp only [compileMap_eq_map, List.map_append]

/-- `loop2` matches on the kind of the head entry; with `step2` it is the iteration of one function of the entry
    (`loop2_cons`), and the case split on the entry is made once, in `step2_get` -/
def step2 (k : String) : CEntry → Obj → Obj
  | .move p, out => set k (deepGet (.obj out) p) out
  | _, out => out

/-- the same for `loop3` (`loop3_cons`) -/
def step3 (k : String) : CEntry → Obj → Obj
  | .deleted, out => erase k out
  | _, out => out

theorem loop2_cons (k : String) (e : CEntry) (r : CMapping) (out : Obj) :
    loop2 ((k, e) :: r) out = loop2 r (step2 k e out) := by cases e <;> rfl

theorem loop3_cons (k : String) (e : CEntry) (r : CMapping) (out : Obj) :
    loop3 ((k, e) :: r) out = loop3 r (step3 k e out) := by cases e <;> rfl

/-! ### which loop writes which key: an entry acts on its own key only, and only in the loop of its kind
    (loop 1: Constant / `._mapper` / FunctionCall, loop 2: moves, loop 3: `Deleted`) -/

theorem step1_frame {k q : String} (e : CEntry) (inp out out' : Obj) (hk : k ≠ q)
    (h : step1 k e inp out = .ok out') : get q out' = get q out := by
  cases e with
  | const v => simp only [step1] at h; cases h; exact get_set_other v hk out
  | deleted => simp only [step1] at h; cases h; rfl
  | move p => simp only [step1] at h; cases h; rfl
  | fn g args =>
    simp only [step1] at h
    rcases bindE_eq_ok h with ⟨r, _, h2⟩
    cases h2; exact get_set_other r hk out
  | sub f =>
    simp only [step1] at h
    split at h
    · cases h; rfl
    · cases h; rfl
    · rcases bindE_eq_ok h with ⟨ys, _, h2⟩
      cases h2; exact get_set_other _ hk out
    · rcases bindE_eq_ok h with ⟨c', _, h2⟩
      cases h2; exact get_set_other _ hk out

theorem step1_inert {e : Entry} (he : e.toPost.isWriter1 = false) (k : String) (inp out : Obj) :
    step1 k e.compile inp out = .ok out := by
  cases e with
  | move p => rfl
  | deleted => rfl
  | _ => cases he

theorem step2_get {k q : String} {e : Entry} (he : k = q → e.toPost.isMove = false) (out : Obj) :
    get q (step2 k e.compile out) = get q out := by
  cases e with
  | move p =>
    have hk : k ≠ q := fun hk => Bool.noConfusion (he hk)
    exact get_set_other _ hk out
  | _ => rfl

theorem step3_get {k q : String} {e : Entry} (he : k = q → e.toPost.isDeleted = false) (out : Obj) :
    get q (step3 k e.compile out) = get q out := by
  cases e with
  | deleted =>
    have hk : k ≠ q := fun hk => Bool.noConfusion (he hk)
    exact get_erase_other hk out
  | _ => rfl

theorem loop1_frame_of_inert {q : String} (m : Mapping) (inp out out' : Obj)
    (hw : ∀ e, (q, e) ∈ m → ∀ o, step1 q e.compile inp o = .ok o) (h : loop1 (compileMap m) inp out = .ok out') :
    get q out' = get q out := by
  induction m generalizing out with
  | nil => cases h; rfl
  | cons p r ih =>
    rw [compileMap_cons, loop1_cons] at h
    rcases bindE_eq_ok h with ⟨o1, h1, h2⟩
    rw [ih o1 (fun e he => hw e (.tail _ he)) h2]
    by_cases hk : p.1 = q
    · rw [hk, hw p.2 (hk ▸ .head _)] at h1
      cases h1; rfl
    · exact step1_frame _ inp out o1 hk h1

theorem loop1_frame {q : String} (m : Mapping) (inp out out' : Obj)
    (hw : ∀ e, (q, e) ∈ m → e.toPost.isWriter1 = false) (h : loop1 (compileMap m) inp out = .ok out') :
    get q out' = get q out :=
  loop1_frame_of_inert m inp out out' (fun e he o => step1_inert (hw e he) q inp o) h

theorem loop2_frame {q : String} (m : Mapping) (out : Obj) (hw : ∀ e, (q, e) ∈ m → e.toPost.isMove = false) :
    get q (loop2 (compileMap m) out) = get q out := by
  induction m generalizing out with
  | nil => rfl
  | cons p r ih =>
    rw [compileMap_cons, loop2_cons, ih _ (fun e he => hw e (.tail _ he))]
    exact step2_get (fun hk => hw p.2 (by rw [← hk]; exact .head _)) out

theorem loop3_frame {q : String} (m : Mapping) (out : Obj) (hw : ∀ e, (q, e) ∈ m → e.toPost.isDeleted = false) :
    get q (loop3 (compileMap m) out) = get q out := by
  induction m generalizing out with
  | nil => rfl
  | cons p r ih =>
    rw [compileMap_cons, loop3_cons, ih _ (fun e he => hw e (.tail _ he))]
    exact step3_get (fun hk => hw p.2 (by rw [← hk]; exact .head _)) out

theorem convert_obj_eq {m : Mapping} {b : Obj} {r : Json} (h : convert m (.obj b) = .ok r) :
    ∃ o1, loop1 (compileMap m) b b = .ok o1 ∧ r = .obj (loop3 (compileMap m) (loop2 (compileMap m) o1)) := by
  simp only [convert, convShape] at h
  rcases bindE_eq_ok h with ⟨o1, h1, h2⟩
  cases h2
  exact ⟨o1, h1, rfl⟩

theorem get_loop3_loop2 {m : Mapping} {k : String} (o1 : Obj) (hm : ∀ e, (k, e) ∈ m → e.toPost.isMove = false)
    (hd : ∀ e, (k, e) ∈ m → e.toPost.isDeleted = false) :
    get k (loop3 (compileMap m) (loop2 (compileMap m) o1)) = get k o1 := by
  rw [loop3_frame m _ hd, loop2_frame m _ hm]

theorem get_of_no_entry {m : Mapping} {q : String} {inp out o1 : Obj} (hno : ∀ e, (q, e) ∉ m)
    (h1 : loop1 (compileMap m) inp out = .ok o1) :
    get q (loop3 (compileMap m) (loop2 (compileMap m) o1)) = get q out := by
  rw [get_loop3_loop2 o1 (fun e he => absurd he (hno e)) (fun e he => absurd he (hno e)),
    loop1_frame m inp out o1 (fun e he => absurd he (hno e)) h1]

theorem convert_frame {q : String} (m : Mapping) (kvs : Obj) (r : Json)
    (hw : writesKey q m = false) (h : convert m (.obj kvs) = .ok r) :
    ∃ kvs', r = .obj kvs' ∧ get q kvs' = get q kvs := by
  rcases convert_obj_eq h with ⟨o1, h1, rfl⟩
  refine ⟨_, rfl, get_of_no_entry (fun e he => ?_) h1⟩
  simpa using List.any_eq_false.mp hw _ he

/-- the disjunction is the invariant of the induction: the `Deleted` entry is still ahead, or the key is gone already -/
theorem loop3_deleted {k : String} (m : Mapping) (out : Obj)
    (h : (k, Entry.deleted) ∈ m ∨ get k out = none) : get k (loop3 (compileMap m) out) = none := by
  induction m generalizing out with
  | nil =>
    rcases h with h | h
    · cases h
    · exact h
  | cons p r ih =>
    obtain ⟨k', e⟩ := p
    rw [compileMap_cons, loop3_cons]
    apply ih
    rcases h with h | h
    · rcases List.mem_cons.mp h with h | h
      · cases h; exact .inr (get_erase_same k out)
      · exact .inl h
    · right
      cases e with
      | deleted => exact get_erase_none out h
      | _ => exact h

/-- as in `loop3_deleted`: the `Constant` is still ahead, or the key holds `v` already; `hu`: no other entry writes
    `k` in loop 1 -/
theorem loop1_const {k : String} {v : Json} (m : Mapping) (inp out out' : Obj)
    (hu : ∀ e, (k, e) ∈ m → e.toPost.isWriter1 = true → e = .const v) (h : loop1 (compileMap m) inp out = .ok out')
    (hm : (k, Entry.const v) ∈ m ∨ get k out = some v) : get k out' = some v := by
  induction m generalizing out with
  | nil =>
    cases h
    rcases hm with hm | hm
    · cases hm
    · exact hm
  | cons p r ih =>
    obtain ⟨k', e⟩ := p
    rw [compileMap_cons, loop1_cons] at h
    rcases bindE_eq_ok h with ⟨o1, h1, h2⟩
    apply ih o1 (fun e he => hu e (.tail _ he)) h2
    by_cases hk : k' = k
    · subst hk
      cases hw : e.toPost.isWriter1 with
      | true =>
        cases hu e (.head _) hw
        cases h1
        exact .inr (get_set_same _ _ _)
      | false =>
        rw [step1_inert hw] at h1
        cases h1
        exact hm.imp_left fun hm => (List.mem_cons.mp hm).resolve_left fun he => by cases he; cases hw
    · rcases hm with hm | hm
      · rcases List.mem_cons.mp hm with hm | hm
        · cases hm; exact absurd rfl hk
        · exact .inl hm
      · right; rw [step1_frame _ inp out o1 hk h1]; exact hm

theorem docVersion_obj {d : Json} {v : Int} (h : docVersion d = some v) :
    ∃ kvs, d = .obj kvs ∧ get "version" kvs = some (.int v) := by
  cases d with
  | obj kvs =>
    refine ⟨kvs, rfl, ?_⟩
    simp only [docVersion] at h
    split at h
    · rename_i i hi; cases h; exact hi
    · cases h
  | _ => simp [docVersion] at h

theorem docVersion_of_get {kvs : Obj} {v : Int} (h : get "version" kvs = some (.int v)) :
    docVersion (.obj kvs) = some v := by
  simp [docVersion, h]

theorem effectiveVersion_obj {d : Json} {v : Int} (h : effectiveVersion d = some v) :
    ∃ kvs, d = .obj kvs ∧ startVersion kvs = .ok v := by
  cases d with
  | obj kvs =>
    refine ⟨kvs, rfl, ?_⟩
    simp only [effectiveVersion] at h
    simp only [startVersion]
    split at h
    · rename_i hn; cases h; simp [hn]
    · rename_i i hi; cases h; simp [hi, versionInt]
    · rename_i hi; cases h; simp [hi, versionInt]
    · cases h
  | _ => simp [effectiveVersion] at h

theorem effectiveVersion_of_docVersion {d : Json} {v : Int} (h : docVersion d = some v) :
    effectiveVersion d = some v := by
  rcases docVersion_obj h with ⟨kvs, rfl, hg⟩
  simp [effectiveVersion, hg]

theorem runSteps_cons_step (m : Mapping) (ms : List Mapping) (v : Int) (d : Json) :
    runSteps (m :: ms) v d = bindE (stepSpec m v d) (runSteps ms (v + 1)) := by
  rw [runSteps_cons, stepSpec]
  cases convert m d <;> rfl

theorem stepSpec_ok {m : Mapping} {v : Int} {d d' : Json} (h : stepSpec m v d = .ok d') :
    ∃ a, convert m d = .ok (.obj a) ∧ d' = .obj (set "version" (.int (v + 1)) a) := by
  rcases bindE_eq_ok h with ⟨c, hc, h2⟩
  cases c <;> cases h2
  exact ⟨_, hc, rfl⟩

theorem stepSpec_version {m : Mapping} {v : Int} {d d' : Json} (h : stepSpec m v d = .ok d') :
    docVersion d' = some (v + 1) := by
  obtain ⟨a, _, rfl⟩ := stepSpec_ok h
  exact docVersion_of_get (get_set_same _ _ _)

/-- after at least one step the version is the counter: nothing is asked of the start document -/
theorem runSteps_version_cons (m : Mapping) (ms : List Mapping) (d r : Json) (v : Int)
    (h : runSteps (m :: ms) v d = .ok r) : docVersion r = some (v + (m :: ms).length) := by
  induction ms generalizing m d v with
  | nil =>
    rw [runSteps_cons_step] at h
    rcases bindE_eq_ok h with ⟨d', hs, h2⟩
    cases h2
    exact stepSpec_version hs
  | cons m' ms ih =>
    rw [runSteps_cons_step] at h
    rcases bindE_eq_ok h with ⟨d', _, h2⟩
    rw [ih m' d' (v + 1) h2, Int.add_assoc, Int.add_comm 1]
    rfl

theorem runSteps_version (steps : List Mapping) (d r : Json) (v : Int)
    (hv : docVersion d = some v) (h : runSteps steps v d = .ok r) : docVersion r = some (v + steps.length) := by
  cases steps with
  | nil => cases h; simpa using hv
  | cons m ms => exact runSteps_version_cons m ms d r v h

theorem runSteps_effVersion (steps : List Mapping) (d r : Json) (v : Int)
    (hv : effectiveVersion d = some v) (h : runSteps steps v d = .ok r) :
    effectiveVersion r = some (v + steps.length) := by
  cases steps with
  | nil => cases h; simpa using hv
  | cons m ms => exact effectiveVersion_of_docVersion (runSteps_version_cons m ms d r v h)

theorem runSteps_append (a b : List Mapping) (v : Int) (d : Json) :
    runSteps (a ++ b) v d = bindE (runSteps a v d) fun d' => runSteps b (v + a.length) d' := by
  induction a generalizing v d with
  | nil => simp [runSteps_nil]
  | cons m a ih =>
    rw [List.cons_append, runSteps_cons_step, runSteps_cons_step]
    cases stepSpec m v d with
    | error e => rfl
    | ok d' => simp only [bindE_ok, ih, List.length_cons, Int.natCast_succ, Int.add_assoc, Int.add_comm 1]

theorem pySliceFrom_nonneg {α} {i : Int} (h : 0 ≤ i) (l : List α) : pySliceFrom i l = l.drop i.toNat := by
  simp [pySliceFrom, h]

/-- a version `v ≥ 1` is `i + 1` for the number `i` of mappings already behind the document; stating the arithmetic
    of the theorems about `convert_dict` in terms of `i : Nat` keeps it free of `Int.toNat` -/
theorem version_eq_succ {v : Int} (h1 : 1 ≤ v) : ∃ i : Nat, v = i + 1 := ⟨(v - 1).toNat, by omega⟩

theorem convertDict_drop {d : Json} {i : Nat} (ms : List Mapping) (hv : effectiveVersion d = some ((i : Int) + 1)) :
    convertDict d ms = runSteps (ms.drop i) ((i : Int) + 1) d := by
  rcases effectiveVersion_obj hv with ⟨kvs, rfl, hs⟩
  simp only [convertDict, hs, bindE_ok, show ¬ (i : Int) + 1 < 1 by omega, if_false]
  rw [pySliceFrom_nonneg (by omega), Int.add_sub_cancel, Int.toNat_natCast]

theorem drop_take_split {α} (l : List α) (i k : Nat) :
    l.drop i = (l.take k).drop i ++ l.drop (i + ((l.take k).drop i).length) := by
  rw [List.drop_take, ← List.drop_drop]
  exact (List.prefix_iff_eq_append.mp (List.take_prefix _ _)).symm

/-- from version `i + 1`, `len - i` steps lead to `max (i + 1) (len + 1)` -/
theorem version_after (i n : Nat) : (i : Int) + 1 + ((n - i : Nat) : Int) = max ((i : Int) + 1) ((n : Int) + 1) := by
  rcases Nat.le_total n i with h | h
  · rw [Nat.sub_eq_zero_of_le h, Int.max_eq_left (Int.add_le_add_right (Int.ofNat_le.mpr h) 1)]; rfl
  · rw [Int.ofNat_sub h, Int.max_eq_right (Int.add_le_add_right (Int.ofNat_le.mpr h) 1), Int.add_right_comm,
      Int.add_comm (i : Int), Int.sub_add_cancel]

theorem upgrade_eq_runSteps (ms : List Mapping) (n i : Nat) (d : Json)
    (hv : effectiveVersion d = some ((i : Int) + 1)) (hn : n = ms.length - i) :
    runSteps (ms.drop i) ((i : Int) + 1) d = upgrade ms n d := by
  induction n generalizing i d with
  | zero => rw [List.drop_eq_nil_of_le (by omega)]; rfl
  | succ n ih =>
    have hlt : i < ms.length := by omega
    -- both sides begin with the documented step for mapping number `i + 1`, which hands on version `i + 2`
    have hu : upgrade ms (n + 1) d = bindE (stepSpec ms[i] ((i : Int) + 1) d) (upgrade ms n) := by
      simp only [upgrade, hv, show ¬ (i : Int) + 1 < 1 by omega, if_false, Int.add_sub_cancel, Int.toNat_natCast,
        List.getElem?_eq_getElem hlt]
    rw [List.drop_eq_getElem_cons hlt, runSteps_cons_step, hu]
    cases hs : stepSpec ms[i] ((i : Int) + 1) d with
    | error e => rfl
    | ok d' => exact ih (i + 1) d' (effectiveVersion_of_docVersion (stepSpec_version hs)) (by omega)

theorem convertDict_take (ms : List Mapping) (d : Json) (v : Int) (k : Nat)
    (hv : effectiveVersion d = some v) (h1 : 1 ≤ v) :
    convertDict d ms = bindE (convertDict d (ms.take k)) fun d1 => convertDict d1 ms := by
  obtain ⟨i, rfl⟩ := version_eq_succ h1
  rw [convertDict_drop ms hv, convertDict_drop _ hv, drop_take_split ms i k, runSteps_append]
  cases hs : runSteps ((ms.take k).drop i) ((i : Int) + 1) d with
  | error e => rfl
  | ok d1 =>
    have hv1 : effectiveVersion d1 = some (((i + ((ms.take k).drop i).length : Nat) : Int) + 1) := by
      rw [runSteps_effVersion _ d d1 _ hv hs]
      congr 1
      omega
    rw [bindE_ok, bindE_ok, convertDict_drop ms hv1]
    congr 1
    omega

theorem nonPositiveVersion_int {v : Int} (h : 1 ≤ v) : nonPositiveVersion (.int v) = false := by
  simp only [nonPositiveVersion, versionInt, decide_eq_false_iff_not]
  omega

/-- the three cases of the prologue (no `_versions_mapping` attribute, empty history, non-empty history) are one:
    with an empty history `convert_dict` is the identity on such a document (`hnil`) -/
theorem deserVersioned_eq {α} (rest : Json → α) (ms : Option (List Mapping)) {d : Json} {v : Int}
    (hv : docVersion d = some v) (h1 : 1 ≤ v) :
    deserVersioned rest ms d = bindE (convertDict d (ms.getD [])) fun d' => .ok (rest d') := by
  have hnil : convertDict d [] = .ok d := by
    obtain ⟨i, rfl⟩ := version_eq_succ h1
    rw [convertDict_drop [] (effectiveVersion_of_docVersion hv), List.drop_nil, runSteps_nil]
  rcases docVersion_obj hv with ⟨kvs, rfl, hg⟩
  simp only [deserVersioned, hg, nonPositiveVersion_int h1, Bool.false_eq_true, if_false]
  rcases ms with _ | _ | ⟨m, r⟩
  · simp only [Option.getD_none, hnil, bindE_ok]
  · simp only [Option.getD_some, hnil, bindE_ok]
  · rfl

theorem deserVersioned_ok {α} {rest : Json → α} {ms : Option (List Mapping)} {d : Json} {y : α}
    (h : deserVersioned rest ms d = .ok y) : ∃ d', y = rest d' := by
  simp only [deserVersioned] at h
  split at h
  · split at h
    · cases h
    · split at h
      · cases h
      · split at h
        · cases h; exact ⟨_, rfl⟩
        · cases h; exact ⟨_, rfl⟩
        · rcases bindE_eq_ok h with ⟨d', _, h2⟩
          cases h2; exact ⟨_, rfl⟩
  · cases h

mutual
theorem Json.beq_refl : ∀ a : Json, a.beq a = true
  | .null => rfl
  | .bool b => beq_self_eq_true b
  | .int i => beq_self_eq_true i
  | .str s => key_beq_self s
  | .float n d => by
    show (n == n && d == d) = true
    rw [beq_self_eq_true n, beq_self_eq_true d]; rfl
  | .list xs => Json.beqList_refl xs
  | .obj kvs => Json.beqObj_refl kvs
theorem Json.beqList_refl : ∀ xs : List Json, Json.beqList xs xs = true
  | [] => rfl
  | x :: xs => by
    show (Json.beq x x && Json.beqList xs xs) = true
    rw [Json.beq_refl x, Json.beqList_refl xs]; rfl
theorem Json.beqObj_refl : ∀ xs : List (String × Json), Json.beqObj xs xs = true
  | [] => rfl
  | (k, x) :: xs => by
    show (k == k && Json.beq x x && Json.beqObj xs xs) = true
    rw [key_beq_self k, Json.beq_refl x, Json.beqObj_refl xs]; rfl
end

mutual
theorem Json.beq_sound : ∀ (a b : Json), Json.beq a b = true → a = b
  | .null, b, h => by cases b <;> simp [Json.beq] at h ⊢
  | .bool x, b, h => by cases b <;> simp [Json.beq] at h ⊢; exact h
  | .int x, b, h => by cases b <;> simp [Json.beq] at h ⊢; exact h
  | .str x, b, h => by cases b <;> simp [Json.beq] at h ⊢; exact h
  | .float n d, b, h => by cases b <;> simp [Json.beq] at h ⊢; exact h
  | .list xs, b, h => by
    cases b with
    | list ys => simp only [Json.beq] at h; rw [Json.beqList_sound xs ys h]
    | _ => simp [Json.beq] at h
  | .obj xs, b, h => by
    cases b with
    | obj ys => simp only [Json.beq] at h; rw [Json.beqObj_sound xs ys h]
    | _ => simp [Json.beq] at h
theorem Json.beqList_sound : ∀ (a b : List Json), Json.beqList a b = true → a = b
  | [], b, h => by cases b <;> simp [Json.beqList] at h ⊢
  | x :: xs, b, h => by
    cases b with
    | nil => simp [Json.beqList] at h
    | cons y ys =>
      simp only [Json.beqList, Bool.and_eq_true] at h
      rw [Json.beq_sound x y h.1, Json.beqList_sound xs ys h.2]
theorem Json.beqObj_sound : ∀ (a b : List (String × Json)), Json.beqObj a b = true → a = b
  | [], b, h => by cases b <;> simp [Json.beqObj] at h ⊢
  | (k, x) :: xs, b, h => by
    cases b with
    | nil => simp [Json.beqObj] at h
    | cons p ys =>
      obtain ⟨k', y⟩ := p
      simp only [Json.beqObj, Bool.and_eq_true, beq_iff_eq] at h
      rw [h.1.1, Json.beq_sound x y h.1.2, Json.beqObj_sound xs ys h.2]
end

end Typedpy.Convert
