/-
  Lemmas/ConvertDeser.lean — on a document that already carries the latest version, forcing the constructor's
  `version` keyword (`Versioned.__init__`) changes nothing: the remainder of the `Versioned` deserialization is the
  plain deserialization (Sem/Deser.lean `deserialize`) of the class.  On any document, the instance the remainder
  returns carries the forced version.  Both for a class whose `version` field is an integer field.
-/
import TypedpyModel.Sem.ConvertDeser
import TypedpyModel.Lemmas.Convert
import TypedpyModel.Lemmas.Trusted
namespace Typedpy.ConvertDeser
open Typedpy

theorem setKw_cons (k : String) (v : PyVal) (k' : String) (v' : PyVal) (r : List (String × PyVal)) :
    setKw k v ((k', v') :: r) = if k' = k then (k, v) :: r else (k', v') :: setKw k v r := rfl

theorem deser_integer_int {O : Oracles} {opts : DeserOpts} {ign : Bool} {o : NumOpts} {L : Int} {y : PyVal}
    (h : deser O opts ign (.integer o) (.int L) = .ok y) : y = .int L := by
  rw [deser_integer, noneGuard_eq rfl] at h
  exact (dValidated_eq_ok.mp h).2

/-- an undeclared key is none of the declared ones: both filters for extras (`deserExtras`, `extrasOf`) begin with
    this test, so neither hands on a second `version` keyword -/
theorem ne_of_contains_false {names : List String} {k : String} (hin : k ∈ names) {a : String}
    (h : names.contains a = false) : a ≠ k :=
  fun e => Bool.false_ne_true (h.symm.trans (List.contains_iff_mem.mpr (e ▸ hin)))

theorem toPy_obj (kvs : Convert.Obj) : toPy (.obj kvs) = .dict (toPyObj kvs) := rfl

/-- what `kwOfDict` makes of the dict `toPy` turns a JSON object into (`kwOfDict_toPyObj`) -/
def kwOf (kvs : Convert.Obj) : List (String × PyVal) := kvs.map fun p => (p.1, toPy p.2)

theorem kwOfDict_toPyObj (kvs : Convert.Obj) : kwOfDict (toPyObj kvs) = some (kwOf kvs) := by
  induction kvs with
  | nil => rfl
  | cons p r ih =>
    show (kwOfDict (toPyObj r)).map _ = _
    rw [ih]; rfl

theorem lookup_kwOf {k : String} {j : Convert.Json} (kvs : Convert.Obj)
    (h : Convert.get k kvs = some j) : lookup k (kwOf kvs) = some (toPy j) := by
  induction kvs with
  | nil => cases h
  | cons p r ih =>
    obtain ⟨k', v⟩ := p
    rw [Convert.get_cons] at h
    show lookup k ((k', toPy v) :: kwOf r) = _
    by_cases hk : k' = k
    · subst hk
      rw [if_pos rfl] at h
      cases h
      exact lookup_cons_self _ _ _
    · rw [if_neg hk] at h
      rw [lookup_cons_ne (Ne.symm hk)]
      exact ih h

theorem setKw_of_lookup {k : String} {v : PyVal} (l : List (String × PyVal))
    (h : lookup k l = some v) : setKw k v l = l := by
  induction l with
  | nil => cases h
  | cons p r ih =>
    obtain ⟨k', v'⟩ := p
    rw [setKw_cons]
    by_cases hk : k' = k
    · subst hk
      rw [lookup_cons_self] at h
      cases h
      rw [if_pos rfl]
    · rw [lookup_cons_ne (Ne.symm hk)] at h
      rw [if_neg hk, ih h]

theorem setKw_append {k : String} {v : PyVal} (a b : List (String × PyVal))
    (h : ∀ p, p ∈ a → p.1 ≠ k) : setKw k v (a ++ b) = a ++ setKw k v b := by
  induction a with
  | nil => rfl
  | cons p r ih =>
    rw [List.cons_append, setKw_cons, if_neg (h p (.head _)), ih (fun p hp => h p (.tail _ hp)), List.cons_append]

theorem lookup_setKw (k : String) (v : PyVal) (l : List (String × PyVal)) :
    lookup k (setKw k v l) = some v := by
  induction l with
  | nil => exact lookup_cons_self k v []
  | cons p r ih =>
    rw [setKw_cons]
    by_cases hk : p.1 = k
    · rw [if_pos hk]; exact lookup_cons_self k v r
    · rw [if_neg hk, lookup_cons_ne (Ne.symm hk)]; exact ih

theorem lookup_of_all {α} {l : List (String × α)} {n : String} {a0 : α}
    (hf : ∀ a, (n, a) ∈ l → a = a0) (hin : n ∈ l.map (·.1)) : lookup n l = some a0 := by
  obtain ⟨a, h⟩ := mem_keys_iff_lookup.mp hin
  rw [h, hf a (lookup_mem h)]

section
variable (O : Oracles) (opts : DeserOpts) (c : ClassOpts) (fields : List (String × FieldDecl))
  (defaults : List (String × PyVal)) {o : NumOpts} (L : Int)
  (hf : ∀ f, ("version", f) ∈ fields → f = .integer o) (hin : "version" ∈ fields.map (·.1))

/-- every key of a JSON object is a string, so `kwOfDict` succeeds and the remainder is the field pass followed by the
    constructor call -/
theorem versionedRest_obj (latest : Int) (kvs : Convert.Obj) :
    versionedRest O opts (.struct c fields defaults) latest (.obj kvs)
      = bindE (deserFields O opts c (kwOf kvs) fields false) fun ys =>
          vConstruct c (fields.map (·.1))
            (setKw "version" (.int latest) (deserExtras opts c (fields.map (·.1)) (kwOf kvs) ++ ys))
            (validateFields O c defaults
              (setKw "version" (.int latest) (deserExtras opts c (fields.map (·.1)) (kwOf kvs) ++ ys)) fields) := by
  simp only [versionedRest, toPy_obj, dClassRef, kwOfDict_toPyObj]
  cases deserFields O opts c (kwOf kvs) fields false <;> rfl

theorem versionedRest_ok_obj {latest : Int} {d : Convert.Json} {x : PyVal}
    (h : versionedRest O opts (.struct c fields defaults) latest d = .ok x) : ∃ kvs, d = .obj kvs := by
  cases d with
  | obj kvs => exact ⟨kvs, rfl⟩
  | _ => cases h

include hf hin

theorem c17_deserFields_version {doc ys : List (String × PyVal)} (hl : lookup "version" doc = some (.int L))
    (h : deserFields O opts c doc fields false = .ok ys) : lookup "version" ys = some (.int L) := by
  obtain ⟨y, hy, hly⟩ := (deserFields_spec O opts c doc fields ys h).2.2 _ _ _ (lookup_of_all hf hin) hl rfl
  rw [hly, deser_integer_int hy]

theorem c17_validateFields_version {kw ys : List (String × PyVal)} (hl : lookup "version" kw = some (.int L))
    (h : validateFields O c defaults kw fields = .ok ys) : lookup "version" ys = some (.int L) := by
  have hys := ((validateFields_spec O c defaults kw fields).ok_inv h).2
  have ha : argFor c defaults kw "version" = some (.int L) := by simp [argFor, hl, PyVal.isNone]
  rw [hys, lookup_normFields', lookup_of_all hf hin, ha]
  rfl

theorem c17_forced_version_noop (latest : Int) (kvs : Convert.Obj)
    (hg : Convert.get "version" kvs = some (.int latest)) :
    versionedRest O opts (.struct c fields defaults) latest (.obj kvs)
      = deserializePlain O opts (.struct c fields defaults) (.obj kvs) := by
  rw [versionedRest_obj]
  simp only [deserializePlain, deserialize, toPy_obj, dClassRef, kwOfDict_toPyObj]
  cases hd : deserFields O opts c (kwOf kvs) fields false with
  | error e => rfl
  | ok ys =>
    have hex : ∀ p, p ∈ deserExtras opts c (fields.map (·.1)) (kwOf kvs) → p.1 ≠ "version" := fun p hp => by
      simp only [deserExtras, List.mem_filter, Bool.and_eq_true, Bool.not_eq_true'] at hp
      exact ne_of_contains_false hin hp.2.1.1
    simp only [bindE, setKw_append _ _ hex,
      setKw_of_lookup ys (c17_deserFields_version O opts c fields latest hf hin (lookup_kwOf kvs hg) hd)]

theorem c17_versionedRest_version (latest : Int) (d : Convert.Json)
    (x : PyVal) (h : versionedRest O opts (.struct c fields defaults) latest d = .ok x) :
    ∃ attrs, x = .inst c.name attrs ∧ lookup "version" attrs = some (.int latest) := by
  obtain ⟨kvs, rfl⟩ := versionedRest_ok_obj O opts c fields defaults h
  rw [versionedRest_obj] at h
  obtain ⟨ys, _, h⟩ := bindE_eq_ok h
  simp only [vConstruct] at h
  split at h
  · cases h
  · obtain ⟨attrs, hv, h⟩ := bindE_eq_ok h
    cases h
    refine ⟨_, rfl, ?_⟩
    rw [lookup_append_of_not_mem fun hm => by
      obtain ⟨p, hp, hpk⟩ := List.mem_map.1 hm
      simp only [extrasOf, List.mem_filter, Bool.and_eq_true, Bool.not_eq_true'] at hp
      exact ne_of_contains_false hin hp.2.1 hpk]
    exact c17_validateFields_version O c fields defaults latest hf hin (lookup_setKw _ _ _) hv
end

end Typedpy.ConvertDeser
