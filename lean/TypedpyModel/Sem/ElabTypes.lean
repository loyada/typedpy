/-
  Sem/ElabTypes.lean — vocabulary of declaration elaboration (C13): spelling atoms, field-class
  heads and the row type of the regenerated table `Generated/TypeMap.lean` (image of
  `convert_basic_types`, `type_is_generic`, `__origin__`, `get_typing_lib_info`,
  `FieldMeta.__getitem__`, `_or_fields` on every atom of the vocabulary).
  Everything here has `DecidableEq`; `Generated.typeMap = Pinned.typeMap` is closed by `rfl` (`Props/C13Tie.lean`).
-/
import TypedpyModel.Core.Field
namespace Typedpy

/-- Field classes that the builtin → field mapping can produce -/
inductive Head where
  | integer | string | float | boolean | anything
  | array | map | set | immSet | deque | tuple | anyOf
  | dateField | dateTime | timeField
  /-- any other class name (only ever produced by a changed mapping) -/
  | other (name : String)
deriving Repr, DecidableEq, Inhabited

/-- abstract spelling atoms: builtin classes, `typing` aliases and specials -/
inductive Atom where
  | int | str | float | bool | list | dict | set | frozenset | tuple | deque
  | date | datetime | time
  | tAny | tUnion | tOptional
  | tList | tDict | tSet | tFrozenSet | tDeque | tTuple
  | noneType
deriving Repr, DecidableEq, Inhabited

/-- outcome of probing one of the real conversion functions on an atom -/
inductive Probe where
  /-- returned `None` -/
  | none
  /-- returned the Field class -/
  | cls (h : Head)
  /-- returned an instance of the Field class (no arguments) -/
  | inst (h : Head)
  /-- raised the named exception -/
  | err (name : String)
deriving Repr, DecidableEq, Inhabited

/-- one row of the regenerated table -/
structure TMRow where
  atom : Atom
  /-- `convert_basic_types(atom)` -/
  cbt : Option Head
  /-- `type_is_generic(atom)` -/
  generic : Bool
  /-- `getattr(atom, "__origin__", None)` when it is an atom of the vocabulary -/
  origin : Option Atom
  /-- `isinstance(atom, type)` -/
  isClass : Bool
  /-- `get_typing_lib_info(atom)` -/
  gtli : Probe
  /-- `Field[atom]` (`FieldMeta.__getitem__`) -/
  item : Probe
  /-- second option of `_or_fields(Integer, atom)` -/
  orRight : Probe
deriving Repr, DecidableEq, Inhabited

abbrev TypeMap := List TMRow

namespace TypeMap
def row? (tm : TypeMap) (a : Atom) : Option TMRow := tm.find? (fun r => r.atom == a)
/-- `convert_basic_types` (a `dict.get`: atoms not in the table map to `None`) -/
def cbt (tm : TypeMap) (a : Atom) : Option Head := (tm.row? a).bind (·.cbt)
def generic (tm : TypeMap) (a : Atom) : Bool := match tm.row? a with | some r => r.generic | none => false
def origin (tm : TypeMap) (a : Atom) : Option Atom := (tm.row? a).bind (·.origin)
def isClass (tm : TypeMap) (a : Atom) : Bool := match tm.row? a with | some r => r.isClass | none => false
end TypeMap

/-- the result of probing a depth-one form (e.g. `list[int]`, `Optional[int]`, `int | str`) with the
    real functions, rendered as canonical text (kept as strings so that the table is decidable) -/
structure FormRow where
  form : String
  gtli : String
  item : String
  orRight : String
  /-- class-level outcome of `a: <form>`: fields / required -/
  ann : String
deriving Repr, DecidableEq, Inhabited

end Typedpy
