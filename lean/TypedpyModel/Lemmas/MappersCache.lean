/-
  Lemmas/MappersCache.lean — C07: the process-wide cache `aggregated_mapper_by_class`, with the entries the
  real code files for nested classes while it builds a base mapper: the base mapper built through the
  cache is the plain one, at any depth, and the cache stays coherent (`c07_cBaseFld_ok`; the whole call is
  `C07.cache_transparent_nested`).
-/
import TypedpyModel.Lemmas.Mappers
namespace Typedpy.Mappers

mutual
/-- the class tree below is filed consistently in `env`: the id of every nested class names that class -/
def envFs (env : String → Cls) : List Fld → Prop
  | [] => True
  | f :: fs => envF env f ∧ envFs env fs
termination_by structural fs => fs
def envF (env : String → Cls) : Fld → Prop
  | .scalar _ _ => True
  | .mapped _ _ _ _ => True
  | .nested _ _ _ ci fs => (env ci.cid).own = ci.ser ∧ (env ci.cid).fields = fs ∧ envFs env fs
termination_by structural f => f
end

/-- `C07.CacheOK` (Props/C07.lean) is this definition again, word for word -/
def CacheOKn (S : StrFns) (env : String → Cls) (dec : String → Option MDict) (cache : Cache) : Prop :=
  ∀ e ∈ cache, e.2 = aggregate S true (env e.1.1).own (env e.1.1).fields (dec e.1.2.1) e.1.2.2

theorem c07_cacheOK_snoc (S : StrFns) (env : String → Cls) (dec : String → Option MDict) (cache : Cache)
    (k : CacheKey) (m : MDict) (h : CacheOKn S env dec cache)
    (hm : m = aggregate S true (env k.1).own (env k.1).fields (dec k.2.1) k.2.2) :
    CacheOKn S env dec (cache ++ [(k, m)]) := by
  intro e he
  rcases List.mem_append.mp he with he | he
  · exact h e he
  · simp only [List.mem_singleton] at he
    subst he
    exact hm

theorem c07_cBaseFields_of (S : StrFns) (env : String → Cls) (dec : String → Option MDict) (fs : List Fld)
    (hf : ∀ f ∈ fs, ∀ cache : Cache, CacheOKn S env dec cache → envF env f →
      (cBaseFld S cache f).1 = baseFld S true f ∧ CacheOKn S env dec (cBaseFld S cache f).2) :
    ∀ cache : Cache, CacheOKn S env dec cache → envFs env fs →
      (cBaseFields S cache fs).1 = baseFields S true fs ∧ CacheOKn S env dec (cBaseFields S cache fs).2 := by
  induction fs with
  | nil => exact fun _ h _ => ⟨rfl, h⟩
  | cons f rest ih =>
    intro cache h he
    simp only [envFs] at he
    have h1 := hf f (List.mem_cons_self ..) cache h he.1
    have h2 := ih (fun g hg => hf g (List.mem_cons_of_mem _ hg)) _ h1.2 he.2
    simp only [cBaseFields, baseFields, h1.1, h2.1]
    exact ⟨trivial, h2.2⟩

theorem c07_cBaseFld_ok (S : StrFns) (env : String → Cls) (dec : String → Option MDict)
    (hdec : dec "" = none) :
    ∀ (f : Fld) (cache : Cache), CacheOKn S env dec cache → envF env f →
      (cBaseFld S cache f).1 = baseFld S true f ∧ CacheOKn S env dec (cBaseFld S cache f).2 := by
  intro f
  induction f using Fld.induction with
  | scalar n o | mapped n o _ _ _ => exact fun _ h _ => ⟨rfl, h⟩
  | nested n o sh ci fs ih =>
    intro cache h he
    simp only [envF] at he
    obtain ⟨he1, he2, he3⟩ := he
    have hagg : aggregate S true (env ci.cid).own (env ci.cid).fields (dec "") false
        = foldAdd S true ci.ser (baseFields S true fs) := by
      rw [he1, he2, hdec]; simp [aggregate, effList]
    simp only [cBaseFld]
    cases hl : lookupR (ci.cid, "", false) cache with
    | some m =>
      have hm := h _ (mem_of_lookupR _ _ cache hl)
      simp only at hm
      rw [hagg] at hm
      simp [baseFld, CInfo.lst, hm, h]
    | none =>
      have ih := c07_cBaseFields_of S env dec fs ih cache h he3
      simp only [baseFld, CInfo.lst, if_true, ih.1, true_and]
      exact c07_cacheOK_snoc S env dec _ (ci.cid, "", false) _ ih.2 (by rw [hagg])

end Typedpy.Mappers
