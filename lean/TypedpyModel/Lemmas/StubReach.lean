/-
  Lemmas/StubReach.lean — completeness of the constructor signature in every reachable world: every non-Constant
  name of `_field_by_name` is a parameter of `__signature__` (`SigFull`, an invariant of every history of class
  statements; the converse inclusion is C14's `SigOk`, Lemmas/DefineSig.lean).  Consequence (Props/C16.lean): the
  keyword names of the generated stub `__init__` ARE the names of the runtime signature, for every class any history
  can define — any hierarchy shape, C3 linearisation included.
-/
import TypedpyModel.Lemmas.StubDefine
import TypedpyModel.Lemmas.DefineSig
import TypedpyModel.Lemmas.DeriveTotal
namespace Typedpy.StubD
open Typedpy

/-- `full` is the invariant.  `struct` is carried along because `get_base_info` reads only the `structBases` (Structure
    classes other than `Structure` itself): a base that supplies a parameter must be one of them. -/
structure SigFull (c : ClassDef) : Prop where
  full : ∀ n, n ∈ c.fieldNames → (lookup n c.constants).isNone = true → n ∈ c.sig.req ∨ n ∈ c.sig.opt
  struct : ∀ n, n ∈ c.sig.req ∨ n ∈ c.sig.opt → c.isStruct = true ∧ c.name ≠ "Structure"

/-- `root`: `Structure` exists, so a class statement with a fresh name does not create it (`SigFull.struct`) -/
structure WorldSigFull (w : World) : Prop where
  root : (w.find "Structure").isSome = true
  all : ∀ n c, w.find n = some c → SigFull c

theorem c16_sigFull_simple {c : ClassDef} (hs : c.sig = {}) (ha : c.allFields = []) : SigFull c where
  full := by
    intro n hn
    simp [ClassDef.fieldNames, ha] at hn
  struct := by
    intro n hn
    rw [hs] at hn
    rcases hn with h | h <;> cases h

theorem c16_build_sigFull {O : Oracles} {w : World} {src : ClassSrc} (hw : WorldOk w) (hs : WorldSigOk w)
    (hf : WorldSigFull w) (hc : runChecks (checks O w src) = .ok ()) (hfresh : w.find src.name = none) :
    SigFull (build w src) where
  struct := by
    intro n _
    refine ⟨rfl, ?_⟩
    intro e
    have hr := hf.root
    have : (build w src).name = src.name := rfl
    rw [this] at e
    rw [← e, hfresh] at hr
    cases hr
  full := by
    intro n hn hconst
    -- it suffices that the name is one `make_signature` draws from
    suffices hcov : covered w src n = true from
      (c16_mem_sigParamsD _ n).mp ((c16_sigD_names w src n).mpr ⟨hcov, (c16_const_isNone w src n).mp hconst⟩)
    rcases mem_keys_iff_lookup.mp hn with ⟨m, hm⟩
    rw [build_allFields] at hm
    rcases allFieldsOf_own_or_base hw (defFacts hc) hm with hown | ⟨b, hb, bd, hfb, hlb⟩
    · have := mem_keys_iff_lookup.mpr ⟨m, hown⟩
      exact (c16_covered_iff w src n).mpr (.inl (by simpa using this))
    · -- inherited: the identical member of a direct base, hence not a Constant of the base either
      have hconstB : (lookup n bd.constants).isNone = true := by
        rw [build_constants, resolvedFields, c14_lookup_constantsOf (allFieldsOf_keysNodup w src), hm] at hconst
        rw [(hs b bd hfb).consts, c14_lookup_constantsOf (classOk_keysNodup (hw b bd hfb)), hlb]
        exact hconst
      have hsigB := (hf.all b bd hfb).full n (mem_keys_iff_lookup.mpr ⟨m, hlb⟩) hconstB
      have hstruct := (hf.all b bd hfb).struct n hsigB
      have hsb : bd ∈ structBases w src :=
        List.mem_filter.mpr ⟨mem_baseDefs.mpr ⟨b, hb, hfb⟩, by simp [hstruct.1, hstruct.2]⟩
      exact (c16_covered_iff w src n).mpr (.inr (mem_basesParams_names.mpr ⟨bd, hsb, hsigB⟩))

theorem c16_reachable_sigFull {O : Oracles} {w : World} (h : Reachable O w) : WorldSigFull w where
  root := by rw [reachable_hasStructure h]; rfl
  all := by
    refine Reachable.all_classes (P := fun _ c => SigFull c) ?_ ?_ ?_ (fun _ _ h => h) h
    · intro _ _ c hc
      rcases mem_init_classes hc with ⟨_, _, rfl | rfl⟩ <;> exact c16_sigFull_simple rfl rfl
    · exact fun _ _ => c16_sigFull_simple rfl rfl
    · exact fun hr ih hc hfresh => c16_build_sigFull (reachable_ok hr) (reachable_sigOk hr)
        ⟨by rw [reachable_hasStructure hr]; rfl, ih⟩ hc hfresh

end Typedpy.StubD
