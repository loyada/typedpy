/-
  Lemmas/WorldFootprint.lean — the STATE footprint of a use (C15): an operation on class `c` writes only state owned by
  `c` or by the classes `c` refers to, transitively — given as any set `S ∋ c` closed under "is referred to by a field
  of" (`SClosed`).  Each of the three kinds of write of `Writes` (`Lemmas/World.lean`) leaves what lies outside `S` as it
  is (`Writes.untouched`); `use_state_frame` in `Props/C15.lean` reads the footprint of an operation off `use_writes`.
-/
import TypedpyModel.Lemmas.World
namespace Typedpy.World

/-- `cores`: no class is added or removed and no definition-time core changes, inside `S` either; a set that is
    `SClosed` in `w` is so in `w2` -/
structure Untouched (S : ClassId → Bool) (w w2 : World) : Prop where
  classes : ∀ d, S d = false → alookup d w2.classes = alookup d w.classes
  mapper : ∀ d b, S d = false → alookup (CKey.id d b) w2.mapperCache = alookup (CKey.id d b) w.mapperCache
  simpl : ∀ d b, S d = false → alookup (CKey.id d b) w2.simplicityCache = alookup (CKey.id d b) w.simplicityCache
  wrappers : w2.wrappers = w.wrappers
  counter : w2.srCounter = w.srCounter
  flags : w2.flags = w.flags
  cores : ∀ d, (alookup d w2.classes).map (·.core) = (alookup d w.classes).map (·.core)

theorem untouched_refl (S : ClassId → Bool) (w : World) : Untouched S w w :=
  ⟨fun _ _ => rfl, fun _ _ _ => rfl, fun _ _ _ => rfl, rfl, rfl, rfl, fun _ => rfl⟩

theorem untouched_trans {S : ClassId → Bool} {w w2 w3 : World} (h1 : Untouched S w w2) (h2 : Untouched S w2 w3) :
    Untouched S w w3 :=
  ⟨fun d hd => (h2.classes d hd).trans (h1.classes d hd), fun d b hd => (h2.mapper d b hd).trans (h1.mapper d b hd),
   fun d b hd => (h2.simpl d b hd).trans (h1.simpl d b hd), h2.wrappers.trans h1.wrappers,
   h2.counter.trans h1.counter, h2.flags.trans h1.flags, fun d => (h2.cores d).trans (h1.cores d)⟩

theorem ckey_ne {c d : ClassId} {b b' : Bool} (h : c ≠ d) : CKey.id c b ≠ CKey.id d b' := by
  intro hk; cases hk; exact h rfl

theorem setEntry_untouched {S : ClassId → Bool} {w : World} {c : ClassId} {e e' : Entry}
    (hl : alookup c w.classes = some e) (hcore : e'.core = e.core) (hS : S c = true) :
    Untouched S w (setEntry w c e') := by
  refine ⟨fun d hd => alookup_cons_ne _ _ (ne_of_true_of_false hS hd), fun _ _ _ => rfl, fun _ _ _ => rfl, rfl, rfl, rfl,
    fun d => ?_⟩
  by_cases h : c = d
  · subst h
    rw [show alookup c (setEntry w c e').classes = some e' from alookup_cons_eq _ _ _, hl]
    exact congrArg some hcore
  · rw [show alookup d (setEntry w c e').classes = alookup d w.classes from alookup_cons_ne _ _ h]

/-- a cache entry a use adds is keyed by the identity of a class of `S`; a serializer is written onto one -/
theorem Writes.untouched {cfg : Config} (hc : cfg.cachesById = true) {S : ClassId → Bool} {w w2 : World}
    (h : Writes cfg S w w2) : Untouched S w w2 := by
  induction h with
  | refl w => exact untouched_refl S w
  | trans _ _ ih1 ih2 => exact untouched_trans ih1 ih2
  | @mapper w c e b hS _ =>
    refine ⟨fun _ _ => rfl, fun d b' hd => ?_, fun _ _ _ => rfl, rfl, rfl, rfl, fun _ => rfl⟩
    rw [mkey_id hc]
    exact alookup_cons_ne _ _ (ckey_ne (ne_of_true_of_false hS hd))
  | @simpl w c e hS _ =>
    refine ⟨fun _ _ => rfl, fun _ _ _ => rfl, fun d b' hd => ?_, rfl, rfl, rfl, fun _ => rfl⟩
    rw [skey_id hc]
    exact alookup_cons_ne _ _ (ckey_ne (ne_of_true_of_false hS hd))
  | ser hS hl => exact setEntry_untouched hl rfl hS

end Typedpy.World
