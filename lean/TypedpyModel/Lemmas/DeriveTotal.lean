/-
  Lemmas/DeriveTotal.lean — totality of the derivation operators: on a class of a reachable world
  (field names acceptable to the metaclass, Constants of a supported type: `ClassGood`, an invariant
  of every history) every operator passes every check of the class statement it ends in.
-/
import TypedpyModel.Lemmas.Derive
namespace Typedpy

/-- what every member of every class the metaclass ever accepted satisfies: its name neither starts
    with `_` nor is `kwargs`, and a Constant holds a value of a supported type -/
def GoodMember (p : String × Member) : Prop :=
  badFieldName p.1 = false ∧ ∀ v, p.2 = .const v → constSupported v = true

def ClassGood (c : ClassDef) : Prop := ∀ p ∈ c.allFields, GoodMember p

def WorldGood (w : World) : Prop := ∀ n c, w.find n = some c → ClassGood c

theorem c12_checks_derived_ok (O : Oracles) {w : World} (hS : HasStructure w) (c : ClassDef) (nm : String)
    (fields : List (String × Member)) (req : List String) (hg : ∀ p ∈ fields, GoodMember p) :
    runChecks (checks O w (derivedSrc c nm fields req)) = .ok () := by
  have hb : (derivedSrc c nm fields req).bases = ["Structure"] := rfl
  refine runChecks_ok_iff.mpr fun chk hchk => ?_
  rcases mem_checks.mp hchk with ⟨p, hp, rfl⟩ | rfl | ⟨p, hp, rfl⟩ | ⟨p, hp, rfl⟩ | ⟨p, hp, rfl⟩
    | rfl | rfl | ⟨p, hp, rfl⟩ | rfl | ⟨p, hp, rfl⟩ | rfl | rfl
  · rcases mem_derivedSrc_entries hp with rfl | ⟨q, _, rfl⟩ <;> rfl
  · exact unknownBaseCheck_structure hS hb
  · rcases mem_derivedSrc_entries hp with rfl | ⟨q, hq, rfl⟩
    · rfl
    · exact if_neg (by simp [entryMember, (hg q hq).1])
  · rcases mem_derivedSrc_entries hp with rfl | ⟨q, _, rfl⟩
    · simp [nonTypedpyCheck, isBareType, okU]
    · rfl
  · rcases mem_derivedSrc_entries hp with rfl | ⟨q, _, rfl⟩ <;> rfl
  · exact mroCheck_structure hS hb
  · exact finalCheck_structure hS hb
  · -- the members by name are among the fields handed over
    have hq : p ∈ fields := by
      rw [resolvedFields, allFieldsOf_structure hS hb] at hp
      exact ownMembers_derived c fields ▸ mem_of_mem_updateAll hp
    rw [constCheck]
    split
    · rename_i v hv
      rw [(hg p hq).2 v hv]; rfl
    · rfl
  · rfl
  · rcases mem_derivedSrc_entries hp with rfl | ⟨q, _, rfl⟩
    · simp [blockConstCheck, knownAttrs, okU]
    · rfl
  · exact sigCheck_structure hS hb
  · rfl

def opNames : DeriveOp → List String
  | .omit ns => ns
  | .pick ns => ns
  | _ => []

theorem deriveSrc_eq (c : ClassDef) (nm : String) (op : DeriveOp) :
    deriveSrc c nm op = if (opNames op).all (fun k => c.fieldNames.contains k)
      then .ok (derivedSrc c nm (derivedFields c op) (derivedRequired c op)) else .error .typeErr := by
  cases op <;> rfl

theorem deriveClass_ok {O : Oracles} {w : World} {c d : ClassDef} {nm : String} {op : DeriveOp}
    (h : deriveClass O w c nm op = .ok d) :
    runChecks (checks O w (derivedSrc c nm (derivedFields c op) (derivedRequired c op))) = .ok ()
      ∧ d = build w (derivedSrc c nm (derivedFields c op) (derivedRequired c op)) := by
  rcases bindE_eq_ok h with ⟨src, hsrc, hd⟩
  rw [deriveSrc_eq] at hsrc
  split at hsrc <;> cases hsrc
  exact defineClass_ok hd

theorem deriveClass_unknown_name (O : Oracles) (w : World) (c : ClassDef) (nm : String) {op : DeriveOp}
    {k : String} (hk : k ∈ opNames op) (hn : k ∉ c.fieldNames) :
    deriveClass O w c nm op = .error .typeErr := by
  rw [deriveClass, deriveSrc_eq, if_neg fun h => hn (by simpa using List.all_eq_true.mp h k hk)]
  rfl

theorem c12_derive_total (O : Oracles) {w : World} (hS : HasStructure w) {c : ClassDef} (hg : ClassGood c)
    (nm : String) (op : DeriveOp) (hn : ∀ k ∈ opNames op, k ∈ c.fieldNames) :
    deriveClass O w c nm op
      = .ok (build w (derivedSrc c nm (derivedFields c op) (derivedRequired c op))) := by
  rw [deriveClass, deriveSrc_eq, if_pos (List.all_eq_true.mpr fun k hk => by simpa using hn k hk),
    bindE_ok]
  exact defineClass_of_checks
    (c12_checks_derived_ok O hS c nm _ _ fun p hp => hg p (derivedFields_sub c op p hp))

theorem c12_build_good {O : Oracles} {w : World} {src : ClassSrc} (hw : WorldOk w) (hg : WorldGood w)
    (hc : runChecks (checks O w src) = .ok ()) : ClassGood (build w src) := by
  intro p hp
  rw [build_allFields] at hp
  rcases allFieldsOf_own_or_base hw (defFacts hc) (lookup_of_mem (allFieldsOf_keysNodup w src) hp) with
    hown | ⟨b, _, bd, hbd, hl⟩
  · -- declared in the class body: the name check and the Constant check have passed
    rcases mem_ownMembers (List.mem_reverse.mp (lookup_mem hown)) with ⟨e, he, hem⟩
    refine ⟨?_, fun v hv => ?_⟩
    · have hnc := runChecks_ok_iff.mp hc _ (mem_checks_name (O := O) (w := w) he)
      simpa [hem] using raiseIf_ok.mp hnc
    · have hcc := runChecks_ok_iff.mp hc _ (mem_checks_const (O := O) (p := p) hp)
      rw [constCheck, hv] at hcc
      exact raiseUnless_ok.mp hcc
  · -- inherited: a member of a base, good by the invariant
    exact hg b bd hbd _ (lookup_mem hl)

theorem reachable_good {O : Oracles} {w : World} (h : Reachable O w) : WorldGood w := by
  refine Reachable.all_classes (P := fun _ c => ClassGood c) ?_ ?_ ?_ (fun _ _ h => h) h
  · intro _ _ c hc p hp
    rcases mem_init_classes hc with ⟨_, _, rfl | rfl⟩ <;> cases hp
  · intro _ _ p hp; cases hp
  · exact fun hr hg hc _ => c12_build_good (reachable_ok hr) hg hc

/-- `Structure` is in every reachable world (class names are fresh, so nothing shadows it) -/
theorem reachable_hasStructure {O : Oracles} {w : World} (h : Reachable O w) : HasStructure w := by
  induction h with
  | init bc bn => rfl
  | step _ _ _ ih => exact find_add_of_some ih

end Typedpy
