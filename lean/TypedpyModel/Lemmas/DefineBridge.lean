/-
  Lemmas/DefineBridge.lean — facts about the bridge class record → `FieldDecl.struct`
  (Sem/DefineBridge.lean) and about keyword construction (`construct`, Sem/Validate.lean) through it:
  acceptance is a conjunction of independent per-field steps (hence independent of the order of the
  fields, i.e. of the PYTHONHASHSEED-dependent order of the required parameters), and the step of a
  field depends only on the Field object, its default, the class-level None handling and the
  keyword supplied.
-/
import TypedpyModel.Sem.DefineBridge
import TypedpyModel.Lemmas.Define
namespace Typedpy

def isOkR {α} : R α → Bool
  | .ok _ => true
  | .error _ => false

theorem isOkR_iff {α} {r : R α} : isOkR r = true ↔ ∃ y, r = .ok y := by
  cases r <;> simp [isOkR]

/-- one field's step of `Structure.__init__`: the value it receives (if any) validates -/
def stepOk (O : Oracles) (c : ClassOpts) (defaults kw : List (String × PyVal))
    (p : String × FieldDecl) : Bool :=
  match argFor c defaults kw p.1 with
  | none => true
  | some v => isOkR (validate O p.2 v)

theorem bindE_ok_iff {α β} (r : R α) (k : α → β) :
    (∃ z, bindE r (fun y => .ok (k y)) = .ok z) ↔ ∃ y, r = .ok y := by
  cases r <;> simp

theorem ite_error_ok_iff {α} {b : Bool} {e : ErrCls} {r : R α} :
    (∃ x, (if b then .error e else r) = .ok x) ↔ b = false ∧ ∃ x, r = .ok x := by
  cases b <;> simp

theorem c14_validateFields_ok_iff (O : Oracles) (c : ClassOpts) (defaults kw : List (String × PyVal)) :
    ∀ fs : List (String × FieldDecl),
      (∃ ys, validateFields O c defaults kw fs = .ok ys) ↔ ∀ p ∈ fs, stepOk O c defaults kw p = true
  | [] => by simp [validateFields]
  | (name, f) :: rest => by
    rw [List.forall_mem_cons, ← c14_validateFields_ok_iff O c defaults kw rest, validateFields, stepOk]
    cases argFor c defaults kw name with
    | none => simp
    | some v =>
      cases hv : validate O f v with
      | error e => simp [hv, isOkR]
      | ok y =>
        simp only [hv, bindE_ok, isOkR, true_and]
        exact bindE_ok_iff _ _

theorem c14_construct_ok_iff (O : Oracles) (c : ClassOpts) (fs : List (String × FieldDecl))
    (defaults kw : List (String × PyVal)) :
    (∃ x, construct O (.struct c fs defaults) kw = .ok x) ↔
      (bindOk c (fs.map (·.1)) kw = true ∧ ∀ p ∈ fs, stepOk O c defaults kw p = true) := by
  rw [← c14_validateFields_ok_iff]
  simp only [construct, vConstruct, ite_error_ok_iff, bindE_ok_iff, Bool.not_eq_false']

theorem c14_bindOk_names_congr (c : ClassOpts) {n1 n2 : List String} (kw : List (String × PyVal))
    (h : ∀ n, n ∈ n1 ↔ n ∈ n2) : bindOk c n1 kw = bindOk c n2 kw := by
  have : ∀ a : String × PyVal, n1.contains a.1 = n2.contains a.1 := fun a =>
    Bool.eq_iff_iff.mpr (by simpa using h a.1)
  simp only [bindOk, this]

theorem c14_construct_accepts_congr (O : Oracles) (c : ClassOpts) {fs1 fs2 : List (String × FieldDecl)}
    (defaults kw : List (String × PyVal)) (h : ∀ p, p ∈ fs1 ↔ p ∈ fs2) :
    (∃ x, construct O (.struct c fs1 defaults) kw = .ok x) ↔
      (∃ x, construct O (.struct c fs2 defaults) kw = .ok x) := by
  have hn : ∀ n, n ∈ fs1.map (·.1) ↔ n ∈ fs2.map (·.1) := fun n => by
    simp only [List.mem_map, h]
  rw [c14_construct_ok_iff, c14_construct_ok_iff, c14_bindOk_names_congr c kw hn]
  simp only [h]

theorem c14_mem_orderBy {names : List String} {fs : List (String × FieldDecl)} {p : String × FieldDecl} :
    p ∈ Bridge.orderBy names fs ↔ p.1 ∈ names ∧ lookup p.1 fs = some p.2 := by
  obtain ⟨n, d⟩ := p
  simp only [Bridge.orderBy, List.mem_filterMap, Option.map_eq_some_iff, Prod.mk.injEq]
  constructor
  · rintro ⟨a, ha, d', hl, rfl, rfl⟩
    exact ⟨ha, hl⟩
  · rintro ⟨hn, hl⟩
    exact ⟨n, hn, d, hl, rfl, rfl⟩

theorem c14_mem_sigOrder (c : ClassDef) (ord : List String) (n : String) :
    n ∈ Bridge.sigOrder c ord ↔ n ∈ Bridge.defOrder c := by
  simp only [Bridge.sigOrder, List.mem_append, List.mem_filter, List.contains_eq_mem,
    decide_eq_true_eq, Bool.not_eq_true', decide_eq_false_iff_not]
  constructor
  · rintro (⟨_, h⟩ | ⟨h, _⟩) <;> exact h
  · intro h
    by_cases hs : n ∈ dedupStr (ord ++ c.sig.opt)
    · exact Or.inl ⟨hs, h⟩
    · exact Or.inr ⟨h, fun hx => hs hx.1⟩

theorem c14_mem_toStruct_fields (c : ClassDef) (ord : List String) (p : String × FieldDecl) :
    p ∈ Bridge.orderBy (Bridge.sigOrder c ord) (Bridge.fieldDecls c) ↔
      lookup p.1 (Bridge.fieldDecls c) = some p.2 := by
  rw [c14_mem_orderBy, c14_mem_sigOrder, and_iff_right_iff_imp]
  exact fun h => mem_keys_iff_lookup.mpr ⟨_, h⟩

theorem c01_orderBy_names (names : List String) (fs : List (String × FieldDecl)) :
    (Bridge.orderBy names fs).map (·.1) = names.filter (fun n => (lookup n fs).isSome) := by
  induction names with
  | nil => rfl
  | cons n rest ih =>
    simp only [Bridge.orderBy, List.filterMap_cons, List.filter_cons] at ih ⊢
    cases hl : lookup n fs with
    | none => simpa [hl] using ih
    | some d => simpa [hl] using ih

theorem c14_mem_toStruct_names (c : ClassDef) (ord : List String) (n : String) :
    n ∈ (Bridge.orderBy (Bridge.sigOrder c ord) (Bridge.fieldDecls c)).map (·.1) ↔ n ∈ Bridge.defOrder c := by
  rw [c01_orderBy_names, List.mem_filter, c14_mem_sigOrder, lookup_isSome_iff]
  exact and_iff_left_of_imp id

/-- C14 / bridge: the constructor's accept / reject decision does not depend on the
    order in which the interpreter iterates the set of required parameters -/
theorem c14_toStruct_order_irrelevant (O : Oracles) (c : ClassDef) (ord1 ord2 acc1 acc2 : List String)
    (kw : List (String × PyVal)) :
    (∃ x, construct O (c.toStruct ord1 acc1) kw = .ok x) ↔
      (∃ x, construct O (c.toStruct ord2 acc2) kw = .ok x) := by
  have hm := fun p => (c14_mem_toStruct_fields c ord1 p).trans (c14_mem_toStruct_fields c ord2 p).symm
  have hn := fun n => (c14_mem_toStruct_names c ord1 n).trans (c14_mem_toStruct_names c ord2 n).symm
  simp only [ClassDef.toStruct]
  rw [c14_construct_ok_iff, c14_construct_ok_iff, c14_bindOk_names_congr _ kw hn]
  simp only [hm]
  -- what is left differs in `accepts`, which neither binding nor the fields' steps read
  exact Iff.rfl

theorem c14_lookup_memberDecls {l : List (String × Member)} (hk : KeysNodup l) (n : String) :
    lookup n (memberDecls l) = match lookup n l with
      | some (.field d _) => some d
      | _ => none := by
  have : memberDecls l = l.filterMap fun p =>
      (match p.2 with | .field d _ => some d | _ => none).map fun b => (p.1, b) := by
    clear hk
    induction l with
    | nil => rfl
    | cons p ps ih => obtain ⟨k, m⟩ := p; cases m <;> simp [memberDecls, ih]
  rw [this, lookup_filterMap_val (fun m => match m with | .field d _ => some d | _ => none) hk]
  rcases lookup n l with _ | (_ | _) <;> rfl

theorem c14_lookup_memberDefaults {l : List (String × Member)} (hk : KeysNodup l) (n : String) :
    lookup n (memberDefaults l) = match lookup n l with
      | some (.field _ (some d)) => some d.value
      | _ => none := by
  have : memberDefaults l = l.filterMap fun p =>
      (match p.2 with | .field _ (some d) => some d.value | _ => none).map fun b => (p.1, b) := by
    clear hk
    induction l with
    | nil => rfl
    | cons p ps ih =>
      obtain ⟨k, m | v⟩ := p
      · rename_i dflt
        cases dflt <;> simp [memberDefaults, ih]
      · simp [memberDefaults, ih]
  rw [this, lookup_filterMap_val (fun m => match m with | .field _ (some d) => some d.value | _ => none) hk]
  rcases lookup n l with _ | (⟨_, _ | _⟩ | _) <;> rfl

theorem c14_lookup_constantsOf : ∀ {l : List (String × Member)}, KeysNodup l → ∀ n,
    lookup n (constantsOf l) = match lookup n l with
      | some (.const v) => some v
      | _ => none := by
  intro l hk n
  have : constantsOf l = l.filterMap fun p =>
      (match p.2 with | .const v => some v | _ => none).map fun b => (p.1, b) := by
    rw [constantsOf]
    congr 1
    funext p
    cases p.2 <;> rfl
  rw [this, lookup_filterMap_val (fun m => match m with | .const v => some v | _ => none) hk]
  rcases lookup n l with _ | (_ | _) <;> rfl

theorem c14_mem_defOrder {c : ClassDef} (hk : KeysNodup c.allFields) (n : String) :
    n ∈ Bridge.defOrder c ↔ ∃ d dflt, lookup n c.allFields = some (.field d dflt) := by
  rw [Bridge.defOrder, ← lookup_isSome_iff, Bridge.fieldDecls, c14_lookup_memberDecls hk]
  cases hl : lookup n c.allFields with
  | none => simp
  | some m => cases m <;> simp

theorem c14_defOrder_sub_fieldNames {c : ClassDef} (hk : KeysNodup c.allFields) {n : String}
    (h : n ∈ Bridge.defOrder c) : n ∈ c.fieldNames := by
  rcases (c14_mem_defOrder hk n).mp h with ⟨d, dflt, hl⟩
  exact mem_keys_iff_lookup.mpr ⟨_, hl⟩

theorem Bridge.wf_iff {c : ClassDef} : Bridge.wf c = true ↔
    (∀ n ∈ c.sig.req, n ∈ Bridge.defOrder c) ∧ ∀ n ∈ Bridge.defOrder c, lookup n c.constants = none := by
  simp only [Bridge.wf, Bool.and_eq_true, List.all_eq_true, List.contains_eq_mem, decide_eq_true_eq,
    Option.isNone_iff_eq_none]

theorem mem_restrictKw {b : ClassDef} {kw : List (String × PyVal)} {a : String × PyVal}
    (h : a ∈ restrictKw b kw) : a.1 ∈ Bridge.defOrder b := by
  simpa using (List.mem_filter.mp h).2

theorem c14_lookup_restrictKw (b : ClassDef) (kw : List (String × PyVal)) {n : String}
    (h : n ∈ Bridge.defOrder b) : lookup n (restrictKw b kw) = lookup n kw := by
  rw [restrictKw, lookup_filter_key (fun k => (Bridge.defOrder b).contains k), if_pos (by simpa using h)]

/-- C14 core: whatever the subclass constructor accepts, the base constructor accepts when it is
    given the arguments that are fields of the base — provided every declared field of the base is
    the same Field object in the subclass, the base demands no parameter the subclass does not (and
    only declared fields of its own), and the subclass does not switch class-level None-dropping on. -/
theorem c14_construct_restrict (O : Oracles) {S B : ClassDef}
    (hkS : KeysNodup S.allFields) (hkB : KeysNodup B.allFields)
    (hsame : ∀ n ∈ Bridge.defOrder B, lookup n S.allFields = lookup n B.allFields)
    (hreq : ∀ n ∈ B.sig.req, n ∈ S.sig.req)
    (hreqF : ∀ n ∈ B.sig.req, n ∈ Bridge.defOrder B)
    (hign : S.ignoreNone = true → B.ignoreNone = true)
    (ordS accS ordB accB : List String) (kw : List (String × PyVal)) {x : PyVal}
    (h : construct O (S.toStruct ordS accS) kw = .ok x) :
    ∃ y, construct O (B.toStruct ordB accB) (restrictKw B kw) = .ok y := by
  rcases (c14_construct_ok_iff O _ _ _ kw).mp ⟨x, h⟩ with ⟨hbS, hsS⟩
  apply (c14_construct_ok_iff O _ _ _ _).mpr
  simp only [bindOk, Bool.and_eq_true, Bool.not_eq_true', Bool.not_eq_true, List.any_eq_false] at hbS ⊢
  refine ⟨⟨?_, ?_⟩, ?_⟩
  · -- required parameters of the base are supplied
    intro r hr
    rw [c14_lookup_restrictKw B kw (hreqF r hr)]
    exact hbS.1 r (hreq r hr)
  · -- nothing undeclared is left
    refine Bool.and_eq_false_imp.mpr fun _ => List.any_eq_false.mpr fun a ha => ?_
    rw [Bool.not_eq_true, Bool.not_eq_false', List.contains_iff_mem]
    exact (c14_mem_toStruct_names B ordB a.1).mpr (mem_restrictKw ha)
  · intro p hp
    have hlB := (c14_mem_toStruct_fields B ordB p).mp hp
    have hpB : p.1 ∈ Bridge.defOrder B := mem_keys_iff_lookup.mpr ⟨_, hlB⟩
    have hmem := hsame p.1 hpB
    -- the same member on both sides: same declaration, same default
    have hdS : lookup p.1 (Bridge.fieldDecls S) = some p.2 := by
      rw [Bridge.fieldDecls, c14_lookup_memberDecls hkS, hmem, ← c14_lookup_memberDecls hkB]
      exact hlB
    have hstepS := hsS p ((c14_mem_toStruct_fields S ordS p).mpr hdS)
    have hdef : lookup p.1 (Bridge.defaults B) = lookup p.1 (Bridge.defaults S) := by
      rw [Bridge.defaults, Bridge.defaults, c14_lookup_memberDefaults hkB, c14_lookup_memberDefaults hkS, hmem]
    simp only [stepOk, argFor] at hstepS ⊢
    rw [c14_lookup_restrictKw B kw hpB, hdef]
    cases hkw : lookup p.1 kw with
    | none => simpa [hkw] using hstepS
    | some v =>
      simp only [hkw] at hstepS ⊢
      -- a `None` the base drops needs no validation; one it keeps the subclass kept as well
      by_cases hcB : (v.isNone && B.ignoreNone && !B.sig.req.contains p.1) = true
      · rw [if_pos hcB]
      · have hcS : ¬ ((v.isNone && S.ignoreNone && !S.sig.req.contains p.1) = true) := by
          intro hc
          apply hcB
          simp only [Bool.and_eq_true, Bool.not_eq_true', List.contains_eq_mem, decide_eq_false_iff_not] at hc ⊢
          exact ⟨⟨hc.1.1, hign hc.1.2⟩, fun hb => hc.2 (hreq _ hb)⟩
        rw [if_neg hcS] at hstepS
        rw [if_neg hcB]
        exact hstepS

theorem instantiateOrd_ok_iff (O : Oracles) (c : ClassDef) (ord : List String) (kw : List (String × PyVal)) :
    (∃ x, instantiateOrd O c ord kw = .ok x) ↔
      (c.isAbstract = false ∧ bindOk c.opts (Bridge.defOrder c) kw = true
        ∧ (!c.addl && undeclaredKw c kw) = false
        ∧ kw.any (fun a => (lookup a.1 c.constants).isSome) = false)
      ∧ ∃ x, construct O (c.toStruct ord [c.name]) kw = .ok x := by
  simp only [instantiateOrd, ite_error_ok_iff, bindE_ok_iff, Bool.not_eq_false', and_assoc]

end Typedpy
