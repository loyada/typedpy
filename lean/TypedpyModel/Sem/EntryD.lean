/-
  Sem/EntryD.lean — the Deserializer as one more validating entry point of a chain (Sem/Entry.lean has the ones that
  start from an instance): `Deserializer(cls).deserialize(doc, keep_undefined=…)` builds a fresh instance from a
  document (Sem/Deser.lean: field-by-field pre-processing, then the constructor, whose `__init__` runs the class's
  `__validate__` hook), and the round trip `deserialize(Serializer(x).serialize())` rebuilds the current one.
-/
import TypedpyModel.Sem.Entry
import TypedpyModel.Sem.Deser
namespace Typedpy

inductive EntryOpD where
  /-- copy / deepcopy / pickle / shallow_clone_with_overrides / from_other_class / cast_to -/
  | plain (op : EntryOp)
  /-- `Deserializer(cls).deserialize(doc, …)`: the instance so far is dropped, a new one is built from `doc` -/
  | deser (opts : DeserOpts) (doc : PyVal)
  /-- `Deserializer(cls).deserialize(Serializer(x).serialize(), …)` -/
  | reser (opts : DeserOpts)
deriving Inhabited

/-- the class's `__validate__` hook on a freshly built instance -/
def hookCheck (O : Oracles) (y : PyVal) : R PyVal :=
  if O.hookOk (instAttrs y) then .ok y else .error .valueErr

def applyEntryD (O : Oracles) (cls : FieldDecl) (x : PyVal) : EntryOpD → R PyVal
  | .plain op => applyEntryH O cls x op
  | .deser opts doc => bindE (deserialize O opts cls doc) (hookCheck O)
  | .reser opts => bindE (serialize O cls x) fun d => bindE (deserialize O opts cls d) (hookCheck O)

def runChainD (O : Oracles) (cls : FieldDecl) : PyVal → List EntryOpD → R PyVal
  | x, [] => .ok x
  | x, op :: rest => bindE (applyEntryD O cls x op) fun y => runChainD O cls y rest

theorem runChainD_plain (O : Oracles) (cls : FieldDecl) :
    ∀ (x : PyVal) (ops : List EntryOp), runChainD O cls x (ops.map .plain) = runChainH O cls x ops
  | _, [] => rfl
  | x, op :: rest => by
    simp only [List.map, runChainD, runChainH, applyEntryD]
    cases applyEntryH O cls x op with
    | error e => rfl
    | ok y => simp only [bindE_ok]; exact runChainD_plain O cls y rest

end Typedpy
