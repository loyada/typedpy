/-
  C10: trusted and fast shortcut paths equal the validated paths on valid data.

  Sem/Trusted.lean models the classifier `_structure_simplicity_level`, the trusted branch of
  `deserialize_structure_internal` and `from_trusted_data` / `trust_supplied_values`; Sem/Fast.lean
  models `create_serializer` and the per-field `serialize` methods.  All theorems quantify over ALL
  class declarations (unbounded nesting), documents, keyword arguments, instances and oracles.

  The code violates the property as stated (`trusted_statement`, `ineligible_statement`,
  `from_trusted_statement`, `fast_statement` below are all FALSE of the model, which mirrors the
  code): each known defect is a kernel-checked counterexample theorem, and what is proved are the
  `_partial` theorems, restricted by explicit decidable predicates to the complement of the
  known-finding region (Spec/TrustedSafe.lean, Spec/FastSafe.lean).

  "equal" is `eqv`: Python `==` where `Structure.__eq__` reads an attribute holding None like an
  unset one and a frozenset equals the set of the same elements (`tnorm` normal forms equal).
  "serializing identically" is equality of the serialized documents (strict: 1 and 1.0 differ).
-/
import TypedpyModel.Lemmas.TrustedMap
import TypedpyModel.Lemmas.FastExh
import TypedpyModel.Lemmas.FastMap
import TypedpyModel.Lemmas.Mappers
import TypedpyModel.Lemmas.EqLemmas
import TypedpyModel.Lemmas.TrustedCtor
import TypedpyModel.Lemmas.TrustedExh
import TypedpyModel.Lemmas.Fast
namespace Typedpy.C10
open Typedpy

/-- the statement at full strength: every class typedpy classifies as eligible, every JSON
    document the regular path accepts -/
def trusted_statement : Prop :=
  ∀ (O : Oracles) (opts : DeserOpts) (cls : FieldDecl) (d x : PyVal),
    wfDecl cls = true → eligible noMappers cls = true → isJson d = true →
    deserialize O opts cls d = .ok x →
    ∃ y, deserializeTrusted noMappers O opts cls d = .ok y ∧ eqv x y = true
      ∧ serialize O cls y = serialize O cls x

/-- **C10 (trusted deserialization), proved part**: for every eligible class in the region
    `tsafeCls` (nested classes at any depth, Array / Optional of scalars and classes, Set of
    scalars, Enum, `_ignore_none`, additional properties on or off) and every document in
    `plainDoc` that the regular path accepts, `direct_trusted_mapping=True` returns an instance
    equal to the regular one, and both serialize to the same document. -/
theorem trusted_equiv_partial (O : Oracles) (opts : DeserOpts) (cls : FieldDecl) (d x : PyVal)
    (he : eligible noMappers cls = true) (hs : tsafeCls cls = true)
    (hp : plainDoc opts cls d = true) (hr : deserialize O opts cls d = .ok x) :
    ∃ y, deserializeTrusted noMappers O opts cls d = .ok y ∧ eqv x y = true
      ∧ serialize O cls y = serialize O cls x := by
  rcases trusted_equiv_core O opts cls d x he hs hp hr with ⟨y, h1, h2, h3⟩
  refine ⟨y, h1, ?_, h3⟩
  unfold eqv
  rw [h2]
  exact pyEq_refl _

/-- for a class typedpy does not classify as eligible (and whose mapper it supports) the flag
    changes nothing -/
theorem ineligible_noop_partial (Mp : MapEnv) (O : Oracles) (opts : DeserOpts) (cls : FieldDecl)
    (d : PyVal) (hcls : ∃ c fs ds, cls = .struct c fs ds)
    (he : eligible Mp cls = false) (hm : verdictOf Mp cls ≠ .raises) :
    deserializeWithFlag Mp O opts true cls d = deserialize O opts cls d := by
  rcases hcls with ⟨c, fs, ds, rfl⟩
  unfold eligible at he
  simp only [deserializeWithFlag, if_true, deserializeTrusted]
  cases hv : verdictOf Mp (.struct c fs ds) with
  | raises => exact absurd hv hm
  | no => rfl
  | lvl l => simp [hv] at he

def ineligible_statement : Prop :=
  ∀ (Mp : MapEnv) (O : Oracles) (opts : DeserOpts) (c : ClassOpts) (fs : List (String × FieldDecl))
    (ds : List (String × PyVal)) (d : PyVal),
    eligible Mp (.struct c fs ds) = false →
    deserializeWithFlag Mp O opts true (.struct c fs ds) d = deserialize O opts (.struct c fs ds) d

def exO : Oracles := { reMatch := fun _ _ => true }
def isErr {α} (r : R α) : Bool := match r with | .error _ => true | .ok _ => false
def isOk {α} (r : R α) : Bool := match r with | .error _ => false | .ok _ => true

def mkCls (name : String) (req : List String) (fields : List (String × FieldDecl))
    (defaults : List (String × PyVal) := []) : FieldDecl :=
  .struct { name := name, required := req, accepts := [name] } fields defaults

def foo : FieldDecl := mkCls "Foo" ["a"] [("a", .integer {})]
def str0 : FieldDecl := .string none none none

/-- fixed `crash:enum-mapping` (d9ee4f9): a class with a non-optional `AnyOf` field does not make
    `_get_enum_mapping` raise; it is `not_nested`, inside the proved region, and both paths agree -/
def cxCrash : FieldDecl := mkCls "A" ["m"] [("m", .anyOf [.integer {}, str0])]
theorem fixed_crash_enum_mapping :
    wfDecl cxCrash = true ∧ verdictOf noMappers cxCrash = .lvl .flat ∧ tsafeCls cxCrash = true
    ∧ plainDoc {} cxCrash (.dict [(.str "m", .int 1)]) = true
    ∧ (match deserialize exO {} cxCrash (.dict [(.str "m", .int 1)]),
             deserializeTrusted noMappers exO {} cxCrash (.dict [(.str "m", .int 1)]) with
        | .ok x, .ok y => eqv x y
        | _, _ => false) = true := by
  decide +kernel

/-- fixed `optional-unchecked:non-none-option` (d9ee4f9): `Optional[Map[String, Foo]]` is classified
    through its non-None option and is not eligible: the flag changes nothing -/
def cxOptMap : FieldDecl := mkCls "A" ["m"] [("m", .anyOf [.mapOf str0 foo {}, .noneF])]
def cxOptMapDoc : PyVal := .dict [(.str "m", .dict [(.str "k", .dict [(.str "a", .int 1)])])]
theorem fixed_optional_unchecked :
    eligible noMappers cxOptMap = false ∧ verdictOf noMappers cxOptMap = .no
    ∧ (match deserialize exO {} cxOptMap cxOptMapDoc, deserializeWithFlag noMappers exO {} true cxOptMap cxOptMapDoc with
        | .ok x, .ok y => eqv x y && PyVal.pyEq x y
        | _, _ => false) = true := by
  decide +kernel

/-- fixed `optional-unchecked:none-first` (d9ee4f9): `AnyOf[NoneField, Foo]` is read through `Foo` -/
def cxNoneFirst : FieldDecl := mkCls "A" ["m"] [("m", .anyOf [.noneF, foo])]
theorem fixed_optional_none_first :
    eligible noMappers cxNoneFirst = true ∧ tsafeCls cxNoneFirst = true
    ∧ (match deserialize exO {} cxNoneFirst (.dict [(.str "m", .dict [(.str "a", .int 1)])]),
             deserializeTrusted noMappers exO {} cxNoneFirst (.dict [(.str "m", .dict [(.str "a", .int 1)])]) with
        | .ok x, .ok y => eqv x y
        | _, _ => false) = true := by
  decide +kernel

/-- fixed `unnormalised:array-of-enum` (d9ee4f9): `Array[Enum[Color]]` makes the class `nested` and
    is mapped element by element -/
def cxArrEnum : FieldDecl := mkCls "A" ["m"] [("m", .seqOf .list (.enumCls "Color" ["RED", "BLUE"]) {})]
theorem fixed_array_of_enum :
    verdictOf noMappers cxArrEnum = .lvl .nested ∧ tsafeCls cxArrEnum = true
    ∧ (match deserialize exO {} cxArrEnum (.dict [(.str "m", .list [.str "RED"])]),
             deserializeTrusted noMappers exO {} cxArrEnum (.dict [(.str "m", .list [.str "RED"])]) with
        | .ok x, .ok y => eqv x y
        | _, _ => false) = true := by
  decide +kernel

/-- fixed `dropped:set-items` (d9ee4f9): `Set[Number]` keeps its items -/
def cxSetNumber : FieldDecl := mkCls "A" ["m"] [("m", .setOf false (.number {}) {})]
theorem fixed_set_items_dropped :
    eligible noMappers cxSetNumber = true ∧ tsafeCls cxSetNumber = true
    ∧ (match deserialize exO {} cxSetNumber (.dict [(.str "m", .list [.int 1, .int 1, .float ⟨5, 2⟩])]),
             deserializeTrusted noMappers exO {} cxSetNumber (.dict [(.str "m", .list [.int 1, .int 1, .float ⟨5, 2⟩])]) with
        | .ok x, .ok (.inst "A" [("m", .set _ ys)]) => eqv x (.inst "A" [("m", .set false ys)]) && ys.length == 2
        | _, _ => false) = true := by
  decide +kernel

/-- finding `unnormalised:anyof-enum`: a non-optional `AnyOf` is kept raw, so an Enum-class option
    given a member name stays a string where the regular path stores the member -/
def cxAnyEnum : FieldDecl := mkCls "A" ["m"] [("m", .anyOf [.enumCls "Color" ["RED", "BLUE"], .integer {}])]
theorem counterexample_anyof_enum :
    eligible noMappers cxAnyEnum = true
    ∧ (match deserialize exO {} cxAnyEnum (.dict [(.str "m", .str "RED")]),
             deserializeTrusted noMappers exO {} cxAnyEnum (.dict [(.str "m", .str "RED")]) with
        | .ok x, .ok y => !eqv x y
        | _, _ => false) = true := by
  decide +kernel

/-- finding `unnormalised:optional-immutable-set`: the trusted instance of `Optional[ImmutableSet[X]]`
    holds a plain set, which the ImmutableSet option does not validate: it cannot be serialized -/
def cxOptImmSet : FieldDecl := mkCls "A" ["m"] [("m", .anyOf [.setOf true (.integer {}) {}, .noneF])]
theorem counterexample_optional_immutable_set :
    eligible noMappers cxOptImmSet = true
    ∧ (match deserialize exO {} cxOptImmSet (.dict [(.str "m", .list [.int 1])]),
             deserializeTrusted noMappers exO {} cxOptImmSet (.dict [(.str "m", .list [.int 1])]) with
        | .ok x, .ok y => eqv x y && isOk (serialize exO cxOptImmSet x) && isErr (serialize exO cxOptImmSet y)
        | _, _ => false) = true := by
  decide +kernel

/-- `Optional[Set[X]]` with a mutable Set is inside the proved region (both option orders): the plain
    set the trusted instance holds is what the Set option validates and serializes -/
def cxOptSet : FieldDecl :=
  mkCls "A" ["m"] [("m", .anyOf [.setOf false (.integer {}) {}, .noneF]), ("n", .anyOf [.noneF, .setOf false (.enumCls "Color" ["RED", "BLUE"]) {}])]
theorem trusted_optional_set_example :
    eligible noMappers cxOptSet = true ∧ tsafeCls cxOptSet = true
    ∧ plainDoc {} cxOptSet (.dict [(.str "m", .list [.int 1, .int 1, .int 2]), (.str "n", .list [.str "RED"])]) = true
    ∧ (match deserialize exO {} cxOptSet (.dict [(.str "m", .list [.int 1, .int 1, .int 2]), (.str "n", .list [.str "RED"])]),
             deserializeTrusted noMappers exO {} cxOptSet (.dict [(.str "m", .list [.int 1, .int 1, .int 2]), (.str "n", .list [.str "RED"])]) with
        | .ok x, .ok y => eqv x y && isOk (serialize exO cxOptSet y)
        | _, _ => false) = true := by
  decide +kernel

/-- finding `unnormalised:boolean-string`: the regular path turns 'True' into `True` -/
def cxBool : FieldDecl := mkCls "A" ["m"] [("m", .boolean)]
theorem counterexample_boolean_string :
    eligible noMappers cxBool = true
    ∧ (match deserialize exO {} cxBool (.dict [(.str "m", .str "True")]),
             deserializeTrusted noMappers exO {} cxBool (.dict [(.str "m", .str "True")]) with
        | .ok x, .ok y => !eqv x y
        | _, _ => false) = true := by
  decide +kernel

/-- finding `dropped:undeclared-keys`: with keep_undefined and additional properties the regular
    path keeps an undeclared key as an attribute, `from_trusted_data` only copies declared fields -/
def cxExtras : FieldDecl := mkCls "A" ["m"] [("m", .integer {})]
theorem counterexample_undeclared_keys :
    eligible noMappers cxExtras = true
    ∧ (match deserialize exO { keepUndefined := true } cxExtras (.dict [(.str "m", .int 1), (.str "zz", .int 3)]),
             deserializeTrusted noMappers exO { keepUndefined := true } cxExtras
               (.dict [(.str "m", .int 1), (.str "zz", .int 3)]) with
        | .ok x, .ok y => !eqv x y
        | _, _ => false) = true := by
  decide +kernel

/-- observation that tells two serialized documents apart: the value under key `k` -/
def docHas (k : String) (p : PyVal → Bool) (r : R PyVal) : Bool :=
  match r with
  | .ok (.dict kvs) => kvs.any fun kv => (match kv.1 with | .str s => s == k | _ => false) && p kv.2
  | _ => false

theorem ser_ne_of_obs {obs : R PyVal → Bool} {s : PyVal → R PyVal} {a b : R PyVal} {x y : PyVal}
    (hx : a = .ok x) (hy : b = .ok y) (h : obs (bindE b s) ≠ obs (bindE a s)) : s y ≠ s x := by
  subst hx hy
  exact fun e => h (congrArg obs e)

/-- finding `defaults-not-applied`: the trusted instance lacks the default the constructor stores;
    the instances are `==` (reads fall back to the default) but serialize differently -/
def cxDefault : FieldDecl := mkCls "A" [] [("m", .integer {}), ("n", .integer {})] [("m", .int 5)]
theorem counterexample_defaults :
    eligible noMappers cxDefault = true
    ∧ ∀ x y, deserialize exO {} cxDefault (.dict [(.str "n", .int 1)]) = .ok x →
        deserializeTrusted noMappers exO {} cxDefault (.dict [(.str "n", .int 1)]) = .ok y →
        serialize exO cxDefault y ≠ serialize exO cxDefault x :=
  ⟨by decide +kernel, fun _ _ hx hy => ser_ne_of_obs (obs := docHas "m" fun _ => true) hx hy (by decide +kernel)⟩

/-- finding `unnormalised:float-int`: a Float field given `1` holds `1.0` on the regular path and `1`
    on the trusted path: `==` holds, the serialized JSON numbers differ (1.0 vs 1) -/
def cxFloat : FieldDecl := mkCls "A" ["m"] [("m", .float {})]
def isIntDoc : PyVal → Bool | .int _ => true | _ => false
theorem counterexample_float_int :
    eligible noMappers cxFloat = true
    ∧ (match deserialize exO {} cxFloat (.dict [(.str "m", .int 1)]),
             deserializeTrusted noMappers exO {} cxFloat (.dict [(.str "m", .int 1)]) with
        | .ok x, .ok y => eqv x y
        | _, _ => false) = true
    ∧ ∀ x y, deserialize exO {} cxFloat (.dict [(.str "m", .int 1)]) = .ok x →
        deserializeTrusted noMappers exO {} cxFloat (.dict [(.str "m", .int 1)]) = .ok y →
        serialize exO cxFloat y ≠ serialize exO cxFloat x :=
  ⟨by decide +kernel, by decide +kernel,
    fun _ _ hx hy => ser_ne_of_obs (obs := docHas "m" isIntDoc) hx hy (by decide +kernel)⟩

/-- fixed `none-attribute-hash:set-of-structures` (c4803f1: equal structures have equal hashes): the
    trusted instances that keep a null as an attribute holding None are `==` to the ones without it
    AND hash alike, so `Set[Foo]` collapses them on the trusted path as on the regular path -/
def fooOpt : FieldDecl := mkCls "Foo" [] [("a", .integer {}), ("b", .integer {})]
def cxSetStruct : FieldDecl := mkCls "A" ["m"] [("m", .setOf false fooOpt {})]
def cxSetStructDoc : PyVal :=
  .dict [(.str "m", .list [.dict [(.str "a", .int 1)], .dict [(.str "a", .int 1), (.str "b", .none)]])]
theorem fixed_set_of_structures :
    eligible noMappers cxSetStruct = true
    ∧ (match deserialize exO {} cxSetStruct cxSetStructDoc,
             deserializeTrusted noMappers exO {} cxSetStruct cxSetStructDoc with
        | .ok (.inst cx [(nx, .set fx xs)]), .ok (.inst cy [(ny, .set fy ys)]) =>
            xs.length == 1 && ys.length == 1 && eqv (.inst cx [(nx, .set fx xs)]) (.inst cy [(ny, .set fy ys)])
        | _, _ => false) = true := by
  decide +kernel

/-- `hc` has the shape in which the counterexample theorems state that two runs differ -/
theorem differ_refutes {a b : R PyVal}
    (hc : (match a, b with | .ok x, .ok y => !eqv x y | _, _ => false) = true)
    (h : ∀ x, a = .ok x → ∃ y, b = .ok y ∧ eqv x y = true) : False := by
  cases a with
  | error e => cases hc
  | ok x =>
    rcases h x rfl with ⟨y, rfl, he⟩
    simp only [he, Bool.not_true] at hc
    cases hc

/-- the statement at full strength is false of the model (hence, by correspondence, of the code) -/
theorem trusted_statement_false : ¬ trusted_statement := fun h =>
  differ_refutes counterexample_boolean_string.2 fun x hx => by
    rcases h exO {} cxBool (.dict [(.str "m", .str "True")]) x (by decide +kernel)
      counterexample_boolean_string.1 (by decide +kernel) hx with ⟨y, hy, he, _⟩
    exact ⟨y, hy, he⟩

/-- finding `ineligible-raises:unsupported-mapper`: a class whose mapper `_is_mapper_simple`
    refuses is not eligible, yet the flag is not a no-op: the classifier raises ValueError -/
def cxComplexEnv : MapEnv := fun n => if n == "A" then .complex false else .none
theorem counterexample_ineligible_raises :
    eligible cxComplexEnv cxExtras = false
    ∧ isOk (deserialize exO {} cxExtras (.dict [(.str "m", .int 1)])) = true
    ∧ isErr (deserializeWithFlag cxComplexEnv exO {} true cxExtras (.dict [(.str "m", .int 1)])) = true := by
  decide +kernel

theorem ineligible_statement_false : ¬ ineligible_statement := by
  intro h
  rcases counterexample_ineligible_raises with ⟨h1, h2, h3⟩
  -- `cxExtras` is a `.struct` by unfolding, so `h` applies to it as it stands
  rw [show deserializeWithFlag cxComplexEnv exO {} true cxExtras _ = deserialize exO {} cxExtras _
    from h _ _ _ _ _ _ _ h1] at h3
  cases hd : deserialize exO {} cxExtras (.dict [(.str "m", .int 1)]) with
  | ok x => rw [hd] at h3; cases h3
  | error e => rw [hd] at h2; cases h2

def exInner : FieldDecl :=
  .struct { name := "Inner", required := ["id"], accepts := ["Inner"], ignoreNone := true, addl := false }
    [("id", .integer { min := some ⟨0, 1⟩ }), ("tags", .setOf true (.string (some 1) none none) {}),
     ("note", .anyOf [.string none none none, .noneF])] []
def exOuter : FieldDecl :=
  .struct { name := "Outer", required := ["kind", "items"], accepts := ["Outer"] }
    [("kind", .enumCls "Color" ["RED", "BLUE"]), ("items", .seqOf .list exInner { max := some 3 }),
     ("best", .anyOf [exInner, .noneF]), ("ratio", .anyOf [.noneF, .float {}]), ("flags", .seqOf .list .boolean {}), ("count", .integer {}),
     ("colors", .seqOf .list (.enumCls "Color" ["RED", "BLUE"]) {}), ("either", .anyOf [.integer {}, .string none none none]),
     ("nums", .setOf false (.number {}) {})] []
def exDoc : PyVal :=
  .dict [(.str "kind", .str "BLUE"),
         (.str "items", .list [.dict [(.str "id", .int 1), (.str "tags", .list [.str "a", .str "b", .str "a"]), (.str "note", .none)],
                               .dict [(.str "id", .int 2)]]),
         (.str "best", .dict [(.str "id", .int 7), (.str "note", .str "x")]),
         (.str "ratio", .float ⟨1, 2⟩), (.str "flags", .list [.bool true]), (.str "count", .none), (.str "unused", .none),
         (.str "colors", .list [.str "RED", .str "BLUE"]), (.str "either", .str "x"),
         (.str "nums", .list [.int 1, .float ⟨1, 2⟩, .int 1])]

/-- a nested class tree with Enum, Array of classes, Optional class, Set, `_ignore_none`, nulls and
    an undeclared key (keep_undefined off) meets every hypothesis of `trusted_equiv_partial`, and the trusted instance
    really differs syntactically from the regular one (attributes holding None, set vs frozenset) -/
theorem trusted_equiv_example :
    eligible noMappers exOuter = true ∧ tsafeCls exOuter = true
    ∧ plainDoc { keepUndefined := false } exOuter exDoc = true
    ∧ isOk (deserialize exO { keepUndefined := false } exOuter exDoc) = true
    ∧ (match deserialize exO { keepUndefined := false } exOuter exDoc,
             deserializeTrusted noMappers exO { keepUndefined := false } exOuter exDoc with
        | .ok (.inst cx ax), .ok (.inst cy ay) => eqv (.inst cx ax) (.inst cy ay) && ax.length != ay.length
        | _, _ => false) = true := by
  decide +kernel

def exFlat : FieldDecl :=
  .struct { name := "Flat", required := ["a"], accepts := ["Flat"] }
    [("a", .integer {}), ("b", .seqOf .list (.string none none none) {}), ("c", .float {})] []
theorem trusted_equiv_flat_example :
    verdictOf noMappers exFlat = .lvl .flat ∧ tsafeCls exFlat = true
    ∧ plainDoc {} exFlat (.dict [(.str "a", .int 1), (.str "b", .list [.str "x"]), (.str "c", .none)]) = true
    ∧ isOk (deserialize exO {} exFlat (.dict [(.str "a", .int 1), (.str "b", .list [.str "x"]), (.str "c", .none)])) = true := by
  decide +kernel

def from_trusted_statement : Prop :=
  ∀ (O : Oracles) (cls : FieldDecl) (kw : List (String × PyVal)) (x : PyVal),
    construct O cls kw = .ok x → ∃ y, fromTrustedKw cls kw = .ok y ∧ eqv x y = true

/-- **C10 (trusted construction), proved part**: on constructor-valid keyword arguments that are
    already in stored form (`storedKw`: the explicit normalisation side condition — no Float ← int,
    Boolean ← 'True'/'False', Enum ← member name, StructureReference ← dict, omitted default,
    undeclared keyword; a Set / Map / positional collection the constructor rebuilds is given as a
    set / frozenset of the field's mutability, a dict with pairwise different string keys, a
    tuple / list of stored-form elements) `from_trusted_data(mapping)` yields an instance equal to
    the validated one -/
theorem from_trusted_equiv_partial (O : Oracles) (cls : FieldDecl) (kw : List (String × PyVal))
    (x : PyVal) (hs : storedKw cls kw = true) (hc : construct O cls kw = .ok x) :
    ∃ y, fromTrustedMap cls kw = .ok y ∧ eqv x y = true := by
  rcases from_trusted_map_core O cls kw x hs hc with ⟨y, h1, h2⟩
  refine ⟨y, h1, ?_⟩
  unfold eqv; rw [h2]; exact pyEq_refl _

/-- `from_trusted_data(None, **kw)` and `cls(**kw)` under `trust_supplied_values()` store every
    keyword as given; listed in field order (the order of `__dict__` is not observable through
    `==`) this is the instance `from_trusted_data(mapping)` builds -/
theorem from_trusted_kw_equiv_partial (O : Oracles) (c : ClassOpts) (fields : List (String × FieldDecl))
    (defaults kw : List (String × PyVal)) (x : PyVal)
    (hs : storedKw (.struct c fields defaults) kw = true)
    (hord : kwInFieldOrder fields kw = kw)
    (hc : construct O (.struct c fields defaults) kw = .ok x) :
    ∃ y, fromTrustedKw (.struct c fields defaults) kw = .ok y ∧ eqv x y = true := by
  rcases from_trusted_equiv_partial O _ kw x hs hc with ⟨y, h1, h2⟩
  refine ⟨y, ?_, h2⟩
  -- `fromTrustedKw` on `kwInFieldOrder fields kw` is `fromTrustedMap` on `kw` by unfolding
  rw [← hord]
  exact h1

/-- the excluded points, run on the model: an Enum field given a member NAME is constructor-valid,
    the validated instance holds the member, the trusted one the string — not equal (finding
    `unnormalised:enum-name`); a Float given an int is equal (`1 == 1.0`) -/
def cxEnumName : FieldDecl := mkCls "A" ["m"] [("m", .enumCls "Color" ["RED"])]
theorem counterexample_from_trusted_enum_name :
    (match construct exO cxEnumName [("m", .str "RED")], fromTrustedKw cxEnumName [("m", .str "RED")] with
      | .ok x, .ok y => !eqv x y
      | _, _ => false) = true
    ∧ (match construct exO cxFloat [("m", .int 1)], fromTrustedKw cxFloat [("m", .int 1)] with
      | .ok x, .ok y => eqv x y
      | _, _ => false) = true := by
  decide +kernel

theorem from_trusted_statement_false : ¬ from_trusted_statement := fun h =>
  differ_refutes counterexample_from_trusted_enum_name.1 (h exO cxEnumName [("m", .str "RED")])

theorem from_trusted_example :
    storedKw exOuter [("kind", .enumv "Color" "RED"), ("items", .list []), ("flags", .list [.bool false])] = true
    ∧ isOk (construct exO exOuter [("kind", .enumv "Color" "RED"), ("items", .list []), ("flags", .list [.bool false])]) = true := by
  decide +kernel

/-- collections the constructor rebuilds, given in stored form, are inside the region: a Set and an
    ImmutableSet, a fixed-length Tuple, a positional Array with a surplus element, a Map -/
def cxRebuilt : FieldDecl :=
  mkCls "A" ["s"] [("s", .setOf false (.integer {}) {}), ("f", .setOf true str0 {}), ("t", .tuplePos [.integer {}, str0] false),
                   ("p", .seqPos .list [.integer {}] true {}), ("m", .mapOf str0 (.float {}) {})]
def cxRebuiltKw : List (String × PyVal) :=
  [("s", .set false [.int 1, .int 2]), ("f", .set true [.str "a"]), ("t", .tuple [.int 1, .str "x"]),
   ("p", .list [.int 1, .str "surplus"]), ("m", .dict [(.str "k", .float ⟨1, 2⟩)])]
theorem from_trusted_rebuilt_example :
    storedKw cxRebuilt cxRebuiltKw = true ∧ isOk (construct exO cxRebuilt cxRebuiltKw) = true
    ∧ storedKw cxRebuilt [("s", .set true [.int 1])] = true               -- a frozenset for a mutable Set: stays frozen
    ∧ storedKw cxRebuilt [("s", .set false [.int 1]), ("f", .set false [.str "a"])] = false   -- a plain set for an ImmutableSet
    ∧ (match construct exO cxRebuilt cxRebuiltKw, fromTrustedMap cxRebuilt cxRebuiltKw with
        | .ok x, .ok y => eqv x y
        | _, _ => false) = true := by
  decide +kernel

/-- the statement at full strength: every class tree (all classes FastSerializable, no mapper) for
    which `create_serializer` succeeds, every well-formed instance, both flags (`JK`: the enum classes
    whose members are int / float / str instances) -/
def fast_statement : Prop :=
  ∀ (O : Oracles) (JK : List String) (cls : FieldDecl) (x : PyVal) (compact : Bool),
    wfDecl cls = true → createOk noMappers [] cls = true → wellFormed O cls x = true →
    fastSerialize noMappers [] JK false compact cls x = serializeCompact O compact cls x

/-- **C10 (fast serialization), proved part**: for every class in the region `fsafeCls` (scalars,
    Enum, Array / Deque / Set / Map / fixed-length Tuple over such fields at any depth, nested
    FastSerializable classes, Optional) and every instance of the stored shape (`fwf`), the
    installed `serialize()` returns the document the regular serialization of the identically
    declared class returns (for the instance with its attributes listed in field order: the
    order of `__dict__` / of the document's keys is not part of the claim). -/
theorem fast_equiv_partial (O : Oracles) (JK : List String) (cls : FieldDecl) (x : PyVal)
    (hs : fsafeCls [] cls = true) (hw : fwf O cls x = true) :
    fastSerialize noMappers [] JK false false cls x = serialize O cls (canonV cls x) := by
  cases cls with
  | struct c fields defaults =>
    have hinl : c.inline = false := by
      unfold fsafeCls fsafeD at hs
      simp only [Bool.and_eq_true_iff, Bool.not_eq_true'] at hs
      exact hs.1.1.1
    cases x <;> try (unfold fwf at hw; cases hw)
    rename_i cn attrs
    rw [c10_fastSerialize_eq_fser noMappers JK c fields defaults cn _ hinl]
    exact (fser_equiv O JK _ _ hs hw).1
  | _ => simp [fsafeCls] at hs

/-- `compact=True` on both sides, for the classes the regular path compacts (one field, required,
    no additional properties) holding a value -/
theorem fast_equiv_compact_partial (O : Oracles) (JK : List String) (c : ClassOpts) (n : String) (f : FieldDecl)
    (defaults : List (String × PyVal)) (cn : String) (attrs : List (String × PyVal)) (v : PyVal)
    (hs : fsafeCls [] (.struct c [(n, f)] defaults) = true)
    (hw : fwf O (.struct c [(n, f)] defaults) (.inst cn attrs) = true)
    (hreq : c.required = [n]) (haddl : c.addl = false)
    (hv : lookup n attrs = some v) (hvn : v.isNone = false) :
    fastSerialize noMappers [] JK false true (.struct c [(n, f)] defaults) (.inst cn attrs)
      = serializeCompact O true (.struct c [(n, f)] defaults)
          (canonV (.struct c [(n, f)] defaults) (.inst cn attrs)) := by
  unfold fsafeCls fsafeD at hs
  simp only [fsafeFields, Bool.and_eq_true_iff, Bool.not_eq_true'] at hs
  unfold fwf at hw
  simp only [fwfFields, hv, Bool.and_eq_true_iff, Bool.or_eq_true] at hw
  have hwf : fwf O f v = true := hw.2.1.resolve_left (by rw [hvn]; exact Bool.noConfusion)
  have ihf := fser_equiv O JK f v hs.2.1 hwf
  have hget := fGet_eq_ser O JK f v hwf hvn ihf.1
  unfold canonV
  simp only [fastSerialize, attrsOf, fFields_cons, fFields_nil, getAttr, hv, hget, serializeCompact, haddl, Bool.not_false,
    Bool.and_self, if_true, hreq, beq_self_eq_true, canonFields, List.append_nil, lookup,
    noMappers_apply, keyDedupe, TMapper.isNone]
  cases hser : ser O f (canonV f v) with
  | error e => rfl
  | ok j =>
    have hjn := ihf.2 hvn j hser
    simp [bindE_ok, hjn]

/-- `serialize_none=True` only adds explicit nulls: removing them gives the `serialize_none=False`
    document (for every class, instance and set of non-fast classes; no region needed) -/
theorem fast_serialize_none (NF JK : List String) (cls : FieldDecl) (x : PyVal) :
    fastSerialize noMappers NF JK false false cls x
      = bindE (fastSerialize noMappers NF JK true false cls x) fun d =>
          match d with
          | .dict r => .ok (.dict (r.filter fun kv => !kv.2.isNone))
          | w => .ok w := by
  cases cls with
  | struct c fields defaults =>
    simp only [fastSerialize, Bool.false_and, Bool.false_eq_true, if_false, noMappers_apply, keyDedupe,
      TMapper.isNone, if_true, fFields_serialize_none noMappers NF JK .none defaults (attrsOf x) fields]
    cases fFields noMappers NF JK true .none defaults (attrsOf x) fields <;> rfl
  | _ => rfl

/-- fixed `fast:tuple-index` (00ca995): `Tuple[Integer]` of two elements serializes element-wise, and
    the class is inside the proved region -/
def cxTuple : FieldDecl := mkCls "A" ["t"] [("t", .tupleOf (.integer {}) false)]
theorem fixed_fast_tuple_index :
    createOk noMappers [] cxTuple = true ∧ fsafeCls [] cxTuple = true
    ∧ fwf exO cxTuple (.inst "A" [("t", .tuple [.int 1, .int 2])]) = true
    ∧ (match serialize exO cxTuple (.inst "A" [("t", .tuple [.int 1, .int 2])]),
             fastSerialize noMappers [] [] false false cxTuple (.inst "A" [("t", .tuple [.int 1, .int 2])]) with
        | .ok (.dict [(_, .list [.int 1, .int 2])]), .ok (.dict [(_, .list [.int 1, .int 2])]) => true
        | _, _ => false) = true := by
  decide +kernel

/-- fixed `fast:positional-index` (00ca995): a positional Array passes its surplus elements through -/
def cxPos : FieldDecl := mkCls "A" ["t"] [("t", .seqPos .list [.integer {}] true {})]
theorem fixed_fast_positional_index :
    createOk noMappers [] cxPos = true
    ∧ (match serialize exO cxPos (.inst "A" [("t", .list [.int 1, .str "x"])]),
             fastSerialize noMappers [] [] false false cxPos (.inst "A" [("t", .list [.int 1, .str "x"])]) with
        | .ok (.dict [(_, .list [.int 1, .str "x"])]), .ok (.dict [(_, .list [.int 1, .str "x"])]) => true
        | _, _ => false) = true := by
  decide +kernel

/-- fixed `fast:positional-index:deque`: a positional Deque passes its surplus elements through, like
    the positional Array -/
def cxPosDeque : FieldDecl := mkCls "A" ["t"] [("t", .seqPos .deque [.integer {}] true {})]
theorem fixed_fast_positional_index_deque :
    createOk noMappers [] cxPosDeque = true
    ∧ wellFormed exO cxPosDeque (.inst "A" [("t", .deque [.int 1, .str "x"])]) = true
    ∧ (match serialize exO cxPosDeque (.inst "A" [("t", .deque [.int 1, .str "x"])]),
             fastSerialize noMappers [] [] false false cxPosDeque (.inst "A" [("t", .deque [.int 1, .str "x"])]) with
        | .ok (.dict [(_, .list [.int 1, .str "x"])]), .ok (.dict [(_, .list [.int 1, .str "x"])]) => true
        | _, _ => false) = true := by
  decide +kernel

/-- finding `fast:compact-conditions`: `set_compact_wrapper` compacts every one-field class; the
    regular path only one whose field is required and that forbids additional properties -/
def cxCompact : FieldDecl := mkCls "A" ["a"] [("a", .integer {})]
def isDictDoc : R PyVal → Bool | .ok (.dict _) => true | _ => false
theorem counterexample_fast_compact_conditions :
    createOk noMappers [] cxCompact = true
    ∧ isDictDoc (serializeCompact exO true cxCompact (.inst "A" [("a", .int 1)])) = true
    ∧ isDictDoc (fastSerialize noMappers [] [] false true cxCompact (.inst "A" [("a", .int 1)])) = false := by
  decide +kernel

/-- finding `fast:inline-none-keys`: `StructureReference.serialize` emits every field, unset ones
    as null; the regular path drops them -/
def cxInline : FieldDecl :=
  mkCls "A" ["s"] [("s", .struct { name := "Inl", required := ["x"], inline := true }
                          [("x", .integer {}), ("y", str0)] [])]
def cxInlineX : PyVal := .inst "A" [("s", .inst "Inl" [("x", .int 1)])]
def sizeAt (k : String) (r : R PyVal) : Nat :=
  match r with
  | .ok (.dict kvs) => (kvs.filterMap fun kv => match kv.1, kv.2 with
      | .str s, .dict inner => if s == k then some inner.length else none
      | _, _ => none).foldl (· + ·) 0
  | _ => 0
theorem counterexample_fast_inline_none_keys :
    createOk noMappers [] cxInline = true
    ∧ sizeAt "s" (serialize exO cxInline cxInlineX) = 1
    ∧ sizeAt "s" (fastSerialize noMappers [] [] false false cxInline cxInlineX) = 2 := by
  decide +kernel

/-- finding `fast:untyped-raw`: the elements of an untyped Array / Deque / Map are copied, not
    serialized: a tuple inside stays a tuple where the regular path emits a JSON array -/
def cxUntyped : FieldDecl := mkCls "A" ["q"] [("q", .seqAny .list {})]
def fieldHoldsTuple (r : R PyVal) : Bool :=
  match r with
  | .ok (.dict [(_, .list [.tuple _])]) => true
  | _ => false
theorem counterexample_fast_untyped_raw :
    createOk noMappers [] cxUntyped = true
    ∧ fieldHoldsTuple (serialize exO cxUntyped (.inst "A" [("q", .list [.tuple [.int 2, .int 3]])])) = false
    ∧ fieldHoldsTuple (fastSerialize noMappers [] [] false false cxUntyped
        (.inst "A" [("q", .list [.tuple [.int 2, .int 3]])])) = true := by
  decide +kernel

/-- finding `fast:extras-dropped` (documented limitation): an attribute that is not a declared
    field is serialized by the regular path only -/
theorem counterexample_fast_extras :
    createOk noMappers [] cxCompact = true
    ∧ wellFormed exO cxCompact (.inst "A" [("a", .int 1), ("zz", .int 2)]) = true
    ∧ docHas "zz" (fun _ => true) (serialize exO cxCompact (.inst "A" [("a", .int 1), ("zz", .int 2)])) = true
    ∧ docHas "zz" (fun _ => true)
        (fastSerialize noMappers [] [] false false cxCompact (.inst "A" [("a", .int 1), ("zz", .int 2)])) = false := by
  decide +kernel

theorem fast_statement_false : ¬ fast_statement := by
  intro h
  rcases counterexample_fast_extras with ⟨h1, h2, h3, h4⟩
  -- without `compact` the right side is `serialize` by unfolding
  have e : fastSerialize noMappers [] [] false false cxCompact _ = serialize exO cxCompact _ :=
    h exO [] cxCompact _ false (by decide +kernel) h1 h2
  rw [e, h3] at h4
  cases h4

def exFastInner : FieldDecl :=
  .struct { name := "Inner", required := ["id"], accepts := ["Inner"] }
    [("id", .integer {}), ("tags", .setOf false (.enumCls "Color" ["RED", "BLUE"]) {}),
     ("note", .anyOf [.string none none none, .noneF])] []
def exFastOuter : FieldDecl :=
  .struct { name := "Outer", required := ["items"], accepts := ["Outer"] }
    [("items", .seqOf .list exFastInner {}), ("m", .mapOf (.string none none none) (.float {}) {}),
     ("pair", .tuplePos [.integer {}, .boolean] false), ("names", .tupleOf (.string none none none) false),
     ("best", .anyOf [.noneF, exFastInner]),
     ("q", .seqOf .deque (.number {}) {})] []
def exFastX : PyVal :=
  .inst "Outer" [("best", .inst "Inner" [("note", .str "n"), ("id", .int 7)]),
                 ("items", .list [.inst "Inner" [("id", .int 1), ("tags", .set false [.enumv "Color" "RED"])]]),
                 ("m", .dict [(.str "k", .float ⟨1, 2⟩)]), ("pair", .tuple [.int 1, .bool true]), ("names", .tuple [.str "a", .str "b", .str "c"]),
                 ("q", .deque [.int 1, .float ⟨3, 2⟩])]

/-- a class tree with nested classes, Array / Set / Map / Tuple / Deque, Enum and both Optional
    shapes, with attributes NOT in field order, meets the hypotheses; the fast document is a
    six-key JSON object -/
theorem fast_equiv_example :
    fsafeCls [] exFastOuter = true ∧ fwf exO exFastOuter exFastX = true
    ∧ createOk noMappers [] exFastOuter = true ∧ wellFormed exO exFastOuter exFastX = true
    ∧ (match fastSerialize noMappers [] [] false false exFastOuter exFastX with
        | .ok (.dict r) => r.length == 6 && isJson (.dict r)
        | _ => false) = true := by
  decide +kernel

/-- a declared `_deserialization_mapper` wins over the `_serialization_mapper` (as in the regular
    path): the table of the trusted path is built from it -/
theorem mapper_deser_first (m s : TMapper) (b b' : Option TMapper) :
    ({ ser := some s, deser := some m, baseSer := b, baseDeser := b' } : MapperDecl).resolved = m := rfl

/-- … an empty one included: `{}` declared for reading switches the renaming off -/
theorem mapper_deser_empty_wins (s : TMapper) :
    mapKey ({ ser := some s, deser := some (.rename []) } : MapperDecl).resolved "a_b" = "a_b" := rfl

/-- without a deserialization mapper the serialization mapper is read -/
theorem mapper_ser_fallback (s : TMapper) :
    ({ ser := some s } : MapperDecl).resolved = s := rfl

/-- an inherited mapper is read when the class declares none; the class's own shadows it -/
theorem mapper_inherited (b : TMapper) :
    ({ baseSer := some b } : MapperDecl).resolved = b
    ∧ ∀ s, ({ ser := some s, baseSer := some b } : MapperDecl).resolved = s := ⟨rfl, fun _ => rfl⟩

example : mapKey (mapEnvOf [("A", { ser := some .lower, deser := some (.rename [("a_b", "k")]) })] "A") "a_b" = "k" := by
  decide +kernel

/-- **C10 (first use)**: the trusted constructor reaches `FastSerializable.__init__` (which installs
    the class's serializer) once per instance, so `x.serialize()` of a trusted-built instance is the
    document of the installed serializer whether or not the class was instantiated before -/
theorem first_use_partial (Mp : MapEnv) (NF JK : List String) (had : Bool) (cls : FieldDecl) (x : PyVal) :
    fastSerializeFirst Mp NF JK had cls x = fastSerialize Mp NF JK false false cls x := by
  simp [fastSerializeFirst, installedAfterTrustedInit]

theorem first_use_warm (Mp : MapEnv) (NF JK : List String) (cls : FieldDecl) (x : PyVal) :
    fastSerializeFirst Mp NF JK true cls x = fastSerialize Mp NF JK false false cls x :=
  first_use_partial Mp NF JK true cls x

/-- the statement at full strength (history independence for every trusted-built instance) -/
def first_use_statement : Prop :=
  ∀ (Mp : MapEnv) (NF JK : List String) (cls : FieldDecl) (x : PyVal),
    fastSerializeFirst Mp NF JK false cls x = fastSerializeFirst Mp NF JK true cls x

/-- … which holds since the repair of `first-use-order:no-values` -/
theorem first_use_history_independent : first_use_statement := by
  intro Mp NF JK cls x
  rw [first_use_partial, first_use_partial]

/-- fixed `first-use-order:no-values`: an instance made from no values gets the serializer too -/
def cxFirstUse : FieldDecl := mkCls "A" [] [("a", .integer {})]
theorem fixed_first_use_no_values :
    createOk noMappers [] cxFirstUse = true
    ∧ isDictDoc (fastSerializeFirst noMappers [] [] false cxFirstUse (.inst "A" [])) = true
    ∧ isDictDoc (fastSerializeFirst noMappers [] [] true cxFirstUse (.inst "A" [])) = true
    ∧ isDictDoc (serialize exO cxFirstUse (.inst "A" [])) = true := by
  decide +kernel

/-- non-vacuity of the case `fixed_first_use_no_values` leaves out: a trusted-built instance WITH values
    on a fresh class gets a document too -/
theorem first_use_example :
    (attrsOf (.inst "A" [("a", .int 1)])).isEmpty = false
    ∧ isDictDoc (fastSerializeFirst noMappers [] [] false cxFirstUse (.inst "A" [("a", .int 1)])) = true := by
  decide +kernel

/-- **the trusted path with mappers factors through the key translation**: with one simple mapper
    per class (`simpleEnv`: NO_MAPPER / TO_CAMELCASE / TO_LOWERCASE / a flat rename dict, resolved
    per class by `MapperDecl.resolved`), for every eligible class of the region `tsafeCls` at any
    nesting depth and EVERY document, `direct_trusted_mapping=True` returns what the mapper-free
    trusted path returns for the document with every class-level object's keys translated back to
    field names by its class's own mapper (`untrV`) -/
theorem trusted_mapper_factor (Mp : MapEnv) (hM : simpleEnv Mp) (O : Oracles) (opts : DeserOpts)
    (cls : FieldDecl) (d : PyVal) (he : eligible Mp cls = true) (hs : tsafeCls cls = true) :
    deserializeTrusted Mp O opts cls d = deserializeTrusted noMappers O opts cls (untrV Mp cls d) := by
  cases cls <;> try (simp [tsafeCls] at hs)
  rename_i c fields defaults
  unfold tsafeD at hs
  simp only [Bool.and_eq_true_iff, Bool.not_eq_true'] at hs
  rw [c10_eligible_simple Mp hM] at he
  rcases eligible_struct noMappers c fields defaults rfl he with ⟨l, hvd, hl⟩
  simp only [deserializeTrusted, c10_verdict_simple Mp hM, hvd, tFields_lvl noMappers _ fields l hl]
  exact c10_class_factor Mp c fields defaults _ d (fun nf _ => c10_tval_factor Mp hM nf.2) (hM c.name)
    hs.1.1 hs.1.2 hs.2

theorem mapper_verdict_invariant (Mp : MapEnv) (hM : simpleEnv Mp) (cls : FieldDecl) :
    verdictOf Mp cls = verdictOf noMappers cls := c10_verdict_simple Mp hM cls

/-- **C10 (trusted deserialization WITH mappers), proved part**: for every eligible class tree of
    the region `tsafeCls` whose classes each have a simple mapper, and every document that the
    regular path with those mappers (`deserializeMapped`: every class-level object read through its
    class's own mapper) accepts and whose translation lies in `plainDoc`: the trusted path
    succeeds, the instances are `==` and serialize to the same document.  (The regular path with
    mappers outside `deserializeMapped` — an enclosing class's TO_CAMELCASE / TO_LOWERCASE reaching
    nested classes, chained parent mappers, field-name fallback — is the known-finding region
    `mapper:cascade` / `mapper:base-chain` / `mapper:fallback`.) -/
theorem trusted_mapper_equiv_partial (Mp : MapEnv) (hM : simpleEnv Mp) (O : Oracles) (opts : DeserOpts)
    (cls : FieldDecl) (d x : PyVal)
    (he : eligible Mp cls = true) (hs : tsafeCls cls = true)
    (hp : plainDoc opts cls (untrV Mp cls d) = true)
    (hr : deserializeMapped Mp O opts cls d = .ok x) :
    ∃ y, deserializeTrusted Mp O opts cls d = .ok y ∧ eqv x y = true
      ∧ serialize O cls y = serialize O cls x := by
  rw [trusted_mapper_factor Mp hM O opts cls d he hs]
  rw [c10_eligible_simple Mp hM] at he
  exact trusted_equiv_partial O opts cls (untrV Mp cls d) x he hs hp hr

/-- non-vacuity: a rename mapper on the outer class, TO_CAMELCASE on the nested one, a document
    spelled with each class's own keys -/
def exMapInner : FieldDecl := mkCls "In" ["first_name"] [("first_name", str0), ("age", .integer {})]
def exMapOuter : FieldDecl :=
  mkCls "Out" ["who"] [("who", exMapInner), ("all_of", .seqOf .list exMapInner {}), ("n", .anyOf [.integer {}, .noneF])]
def exMapEnv : MapEnv := fun n =>
  if n == "Out" then .rename [("who", "person"), ("all_of", "everyone")] else if n == "In" then .camel else .none
def exMapDoc : PyVal :=
  .dict [(.str "person", .dict [(.str "firstName", .str "a"), (.str "age", .int 3)]),
         (.str "everyone", .list [.dict [(.str "firstName", .str "b")]]), (.str "n", .none)]
theorem trusted_mapper_example :
    eligible exMapEnv exMapOuter = true ∧ tsafeCls exMapOuter = true
    ∧ plainDoc {} exMapOuter (untrV exMapEnv exMapOuter exMapDoc) = true
    ∧ isOk (deserializeMapped exMapEnv exO {} exMapOuter exMapDoc) = true
    ∧ isErr (deserialize exO {} exMapOuter exMapDoc) = true
    ∧ (match deserializeMapped exMapEnv exO {} exMapOuter exMapDoc,
             deserializeTrusted exMapEnv exO {} exMapOuter exMapDoc with
        | .ok x, .ok y => eqv x y
        | _, _ => false) = true := by
  decide +kernel

theorem exMapEnv_simple : simpleEnv exMapEnv := by
  intro n
  simp only [exMapEnv]
  split
  · rfl
  · split <;> rfl

/-- a simple mapper of this model as the mapper list of `Sem/Mappers.lean` (C07) -/
def toMappers : TMapper → List Mappers.Mapper
  | .none => []
  | .camel => [.camel]
  | .lower => [.lower]
  | .rename d => [.dict (d.map fun p => (Mappers.MKey.fld p.1, Mappers.MV.key p.2))]
  | .complex _ => []

theorem c10_lookupR_rename (f : String) : ∀ d : List (String × String),
    Mappers.lookupR (Mappers.MKey.fld f) (d.map fun p => (Mappers.MKey.fld p.1, Mappers.MV.key p.2))
      = (lookupLast f d).map Mappers.MV.key
  | [] => rfl
  | (k, v) :: r => by
    simp only [List.map_cons, Mappers.lookupR, lookupLast, c10_lookupR_rename f r]
    cases lookupLast f r with
    | some x => rfl
    | none =>
      by_cases h : f = k
      · simp [h]
      · simp [h, Ne.symm h]

/-- the key of field `f` under C07's pointwise specification `keyOf` of the aggregated mapper is
    `mapKey m f`, the key the trusted path (and the fast serializer) uses -/
theorem mapKey_is_keyOf (m : TMapper) (f : String) :
    Mappers.keyOf Mappers.asciiFns (toMappers m) f = .key (mapKey m f) := by
  cases m with
  | none => rfl
  | camel => rfl
  | lower => rfl
  | complex l => rfl
  | rename d =>
    simp only [toMappers, Mappers.keyOf, List.foldl_cons, List.foldl_nil, Mappers.stepKey, Mappers.mapsTo,
      Mappers.applyKey, c10_lookupR_rename, mapKey]
    cases lookupLast f d with
    | none => simp
    | some t =>
      simp only [Option.map_some, Option.getD_some]
      split <;> rename_i h
      · have : f = t := by simpa using h
        rw [this]
      · rfl

/-- **composition with C07's model of the regular path**: in the mapper `aggregate_serialization_mappers`
    (`forSer = true`) / `aggregate_deserialization_mappers` (`forSer = false`) resolve for a class
    whose only mapper is the simple mapper `m`, every field `f` of the class is keyed by
    `mapKey m f` — the entry `get_flat_resolved_mapper` gives the trusted path and
    `create_serializer` gives the fast path -/
theorem trusted_key_is_regular_key (m : TMapper) (forSer : Bool) (fs : List Mappers.Fld) (f : String)
    (hf : fs.any (fun fl => fl.name == f) = true) :
    Mappers.lookupR (.fld f) (Mappers.aggregate Mappers.asciiFns forSer (toMappers m) fs none false)
      = some (.key (mapKey m f)) := by
  have := mapKey_is_keyOf m f
  unfold Mappers.keyOf at this
  unfold Mappers.aggregate
  rw [Mappers.lookupR_foldAdd_fld, Mappers.lookupR_baseFields, hf]
  simp only [if_true, Option.map_some, Mappers.effList, Bool.false_eq_true, if_false, List.append_nil]
  rw [this]

/-- a mapper declared only by a parent class is collected twice by the regular path
    (`_get_all_values_of_attribute` sees the inherited attribute again): for a rename dict the second
    application changes nothing, so the regular path reads the keys of `MapperDecl.resolved` -/
theorem mapper_inherited_twice_rename (d : List (String × String)) (f : String) :
    Mappers.keyOf Mappers.asciiFns
        (Mappers.collect none [some (.single (.dict (d.map fun p => (Mappers.MKey.fld p.1, Mappers.MV.key p.2)))), none]) f
      = .key (mapKey ({ baseSer := some (.rename d) } : MapperDecl).resolved f) := by
  have h1 := mapKey_is_keyOf (.rename d) f
  simp only [toMappers, Mappers.keyOf, List.foldl_cons, List.foldl_nil] at h1
  simp only [Mappers.collect, Mappers.ClassAttr.toList, List.append_nil, List.cons_append, List.nil_append,
    Mappers.keyOf, List.foldl_cons, List.foldl_nil, h1]
  show Mappers.stepKey _ _ f (.key (mapKey (.rename d) f)) = _
  simp only [Mappers.stepKey, Mappers.mapsTo, c10_lookupR_rename, mapKey]
  cases h : lookupLast f d with
  | none => simp [Mappers.applyKey, c10_lookupR_rename, MapperDecl.resolved, h]
  | some t => simp [MapperDecl.resolved, h]

/-- **a class's mapper renames that class's own keys only** (at every class level of a tree, for
    every class, instance and flag): the entries the installed serializer builds with mapper `m` are
    the entries it builds without a mapper, with the keys renamed by `m` — nothing reaches the nested
    classes (the regular path lets TO_CAMELCASE / TO_LOWERCASE reach them: finding `fast:mapper-cascade`) -/
theorem fast_mapper_own_keys (Mp : MapEnv) (NF JK : List String) (sn : Bool) (m : TMapper)
    (ds attrs : List (String × PyVal)) (fields : List (String × FieldDecl)) :
    fFields Mp NF JK sn m ds attrs fields
      = bindE (fFields Mp NF JK sn .none ds attrs fields) fun r => .ok (relabelPairs m r) := by
  induction fields with
  | nil => simp [fFields, relabelPairs]
  | cons p rest ih =>
    obtain ⟨n, f⟩ := p
    simp only [fFields_cons]
    rw [ih]
    cases fGet Mp NF JK f (getAttr ds attrs n) with
    | error e => rfl
    | ok j =>
      simp only [bindE_ok]
      cases fFields Mp NF JK sn .none ds attrs rest with
      | error e => rfl
      | ok r =>
        simp only [bindE_ok, c10_mapKey_none]
        split <;> simp [relabelPairs, relabelKey]

/-- a mapper that is injective on the class's fields loses no getter (`processed_mapper[mapped_key] =
    getter` never overwrites): the document has one entry per non-None field -/
theorem fast_mapper_injective_keeps_all (Mp : MapEnv) (NF JK : List String) (sn : Bool) (m : TMapper)
    (ds attrs : List (String × PyVal)) (fields : List (String × FieldDecl)) (r : List (PyVal × PyVal))
    (hn : strNodup (fields.map fun p => mapKey m p.1) = true)
    (h : fFields Mp NF JK sn m ds attrs fields = .ok r) : keyDedupe m r = r :=
  c10_keyDedupe_id Mp NF JK sn m ds attrs fields r hn h

/-- **C10 (fast serialization WITH a mapper), proved part**: for every class of the region
    `fsafeCls` with a simple mapper (NO_MAPPER / TO_CAMELCASE / TO_LOWERCASE / a rename dict) that is
    injective on its fields and whose nested classes have no mapper (`mfreeFields`), and every
    instance of the stored shape, the installed `serialize()` returns the regular document of the
    identically declared mapper-free class with this class's keys renamed by the mapper — the keys
    `aggregate_serialization_mappers` resolves (`trusted_key_is_regular_key` with `forSer := true`). -/
theorem fast_mapper_equiv_partial (O : Oracles) (JK : List String) (Mp : MapEnv) (c : ClassOpts)
    (fields : List (String × FieldDecl)) (ds : List (String × PyVal)) (x : PyVal)
    (hs : fsafeCls [] (.struct c fields ds) = true) (hw : fwf O (.struct c fields ds) x = true)
    (hfree : mfreeFields Mp fields = true)
    (hinj : strNodup (fields.map fun p => mapKey (Mp c.name) p.1) = true) :
    fastSerialize Mp [] JK false false (.struct c fields ds) x
      = bindE (serialize O (.struct c fields ds) (canonV (.struct c fields ds) x)) (relabelDoc (Mp c.name)) := by
  rw [← fast_equiv_partial O JK (.struct c fields ds) x hs hw]
  simp only [fastSerialize, Bool.false_and, Bool.false_eq_true, if_false, noMappers_apply]
  rw [c10_fFields_free Mp [] JK false (Mp c.name) ds (attrsOf x) fields hfree,
    c10_keyDedupe_bind noMappers [] JK false (Mp c.name) ds (attrsOf x) fields .ok hinj, fast_mapper_own_keys]
  cases fFields noMappers [] JK false .none ds (attrsOf x) fields with
  | error e => rfl
  | ok r0 => simp only [bindE_ok, c10_keyDedupe_none, relabelDoc]

/-- non-vacuity: TO_CAMELCASE on a class with a nested mapper-free class and an Array of them -/
def exFastMapInner : FieldDecl := mkCls "In" ["first_name"] [("first_name", str0), ("age", .integer {})]
def exFastMapOuter : FieldDecl :=
  mkCls "Out" ["the_one"] [("the_one", exFastMapInner), ("all_of", .seqOf .list exFastMapInner {}), ("n_n", .integer {})]
def exFastMapEnv : MapEnv := fun n => if n == "Out" then .camel else .none
def exFastMapX : PyVal :=
  .inst "Out" [("the_one", .inst "In" [("first_name", .str "a")]), ("all_of", .list [.inst "In" [("first_name", .str "b"), ("age", .int 1)]]),
               ("n_n", .int 2)]
theorem fast_mapper_example :
    fsafeCls [] exFastMapOuter = true ∧ fwf exO exFastMapOuter exFastMapX = true
    ∧ (match exFastMapOuter with | .struct _ fs _ => mfreeFields exFastMapEnv fs | _ => false) = true
    ∧ docHas "theOne" (fun _ => true) (fastSerialize exFastMapEnv [] [] false false exFastMapOuter exFastMapX) = true
    ∧ docHas "allOf" (fun _ => true) (fastSerialize exFastMapEnv [] [] false false exFastMapOuter exFastMapX) = true
    ∧ docHas "nN" (fun _ => true) (fastSerialize exFastMapEnv [] [] false false exFastMapOuter exFastMapX) = true
    ∧ docHas "n_n" (fun _ => true) (fastSerialize exFastMapEnv [] [] false false exFastMapOuter exFastMapX) = false := by
  decide +kernel

/-- **C10 (fast serialization WITH one simple mapper per class, at any depth), proved part**: for
    every class tree of the region `fsafeCls` in which every class has a simple mapper that is injective
    on its fields (`fmsafeD`: classes with mappers directly in fields, in Array / Deque / Set / Tuple[X]
    items and in Optionals; mapper-free inside Map values and positional items) and every instance of
    the stored shape, the installed `serialize()` returns the regular document of the identically
    declared mapper-free class tree with the keys of every class-level object renamed by that
    class's own mapper (`relV`) -/
theorem fast_mapper_full_equiv_partial (O : Oracles) (JK : List String) (Mp : MapEnv) (cls : FieldDecl) (x : PyVal)
    (hs : fsafeCls [] cls = true) (hw : fwf O cls x = true) (hm : fmsafeD Mp cls = true) :
    fastSerialize Mp [] JK false false cls x
      = bindE (serialize O cls (canonV cls x)) fun j => .ok (relV Mp cls j) := by
  cases cls with
  | struct c fields ds =>
    have hinl : c.inline = false := by
      unfold fmsafeD at hm
      simp only [Bool.and_eq_true_iff, Bool.not_eq_true'] at hm
      exact hm.1.1.1
    rw [← fast_equiv_partial O JK (.struct c fields ds) x hs hw,
      c10_fastSerialize_eq_fser Mp JK c fields ds c.name x hinl,
      c10_fastSerialize_eq_fser noMappers JK c fields ds c.name x hinl]
    exact c10_fser_rel Mp JK (.struct c fields ds) _ hm
  | _ => simp [fsafeCls] at hs

/-- non-vacuity: a rename dict on the outer class, TO_CAMELCASE on the nested one (also inside an
    Array and an Optional): each level is written with its own keys -/
def exFastFullInner : FieldDecl := mkCls "In" ["first_name"] [("first_name", str0), ("age", .integer {})]
def exFastFullOuter : FieldDecl :=
  mkCls "Out" ["the_one"] [("the_one", exFastFullInner), ("all_of", .seqOf .list exFastFullInner {}),
                           ("maybe", .anyOf [exFastFullInner, .noneF]), ("n_n", .integer {})]
def exFastFullEnv : MapEnv := fun n =>
  if n == "Out" then .rename [("the_one", "one"), ("n_n", "count")] else if n == "In" then .camel else .none
def exFastFullX : PyVal :=
  .inst "Out" [("the_one", .inst "In" [("first_name", .str "a")]),
               ("all_of", .list [.inst "In" [("first_name", .str "b"), ("age", .int 1)]]), ("n_n", .int 2)]
def innerHas (k inner : String) (r : R PyVal) : Bool :=
  match r with
  | .ok (.dict kvs) => kvs.any fun kv => (match kv.1, kv.2 with
      | .str s, .dict ikvs => s == k && ikvs.any (fun p => match p.1 with | .str t => t == inner | _ => false)
      | _, _ => false)
  | _ => false
theorem fast_mapper_full_example :
    fsafeCls [] exFastFullOuter = true ∧ fwf exO exFastFullOuter exFastFullX = true
    ∧ fmsafeD exFastFullEnv exFastFullOuter = true
    ∧ docHas "count" (fun _ => true) (fastSerialize exFastFullEnv [] [] false false exFastFullOuter exFastFullX) = true
    ∧ innerHas "one" "firstName" (fastSerialize exFastFullEnv [] [] false false exFastFullOuter exFastFullX) = true
    ∧ innerHas "one" "first_name" (fastSerialize exFastFullEnv [] [] false false exFastFullOuter exFastFullX) = false := by
  decide +kernel

/-- every class declaration lies inside the proved region of trusted deserialization (`tsafeCls`) or
    carries at least one named tag of `declDefects` (a known finding, an "…:unproved" shape, or
    "ineligible-shape"): the check can never meet a class outside the region without a name for it -/
theorem trusted_region_exhaustive (c : ClassOpts) (fields : List (String × FieldDecl)) (ds : List (String × PyVal)) :
    tsafeCls (.struct c fields ds) = true ∨ declDefects (.struct c fields ds) ≠ [] := by
  rcases c10_exh_D (.struct c fields ds) with h | h
  · exact Or.inl h
  · exact Or.inr (c10_eraseDups_ne_nil _ h)

/-- … and every document lies inside `plainDoc` or at least one named issue of `docIssues` -/
theorem trusted_partition_exhaustive (opts : DeserOpts) (c : ClassOpts) (fields : List (String × FieldDecl))
    (ds : List (String × PyVal)) (d : PyVal) :
    (tsafeCls (.struct c fields ds) = true ∧ plainDoc opts (.struct c fields ds) d = true)
      ∨ declDefects (.struct c fields ds) ≠ [] ∨ docIssues opts (.struct c fields ds) d ≠ [] := by
  rcases trusted_region_exhaustive c fields ds with h1 | h1
  · rcases c10_doc_exhaustive opts (.struct c fields ds) d with h2 | h2
    · exact Or.inl ⟨h1, h2⟩
    · exact Or.inr (Or.inr h2)
  · exact Or.inr (Or.inl h1)

/-- the same for fast serialization at declaration level: inside `fsafeCls` or a named tag of `fdefD`
    (instance-level causes — undeclared attributes, compact conditions, mapper cascade — are named by
    `fastDefects` on top of these) -/
theorem fast_region_exhaustive (NF : List String) (c : ClassOpts) (fields : List (String × FieldDecl))
    (ds : List (String × PyVal)) :
    fsafeCls NF (.struct c fields ds) = true ∨ fdefD NF (.struct c fields ds) ≠ [] :=
  c10_fexh_D NF (.struct c fields ds)

example : tsafeCls cxOptImmSet = false ∧ declDefects cxOptImmSet = ["unnormalised:optional-immutable-set"] := by decide +kernel

end Typedpy.C10
