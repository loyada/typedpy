/-
  Sem/Entry.lean — the validating entry points that produce an instance from an existing one
  (structures.py: __copy__, __deepcopy__, pickling via __getstate__, shallow_clone_with_overrides,
  from_other_class, cast_to).  On the value level copy / deepcopy / unpickle return an equal
  instance; the others rebuild the keyword arguments from the declared fields and go through the
  constructor again.
-/
import TypedpyModel.Sem.Validate
namespace Typedpy

inductive EntryOp where
  | copy | deepcopy | pickle
  /-- `x.shallow_clone_with_overrides(**kw)` -/
  | shallowClone (kw : List (String × PyVal))
  /-- `cls.from_other_class(x, ignore_props=ignore, **kw)` with the instance itself as source -/
  | fromOtherClass (ignore : List String) (kw : List (String × PyVal))
  /-- `cls.from_other_class(m, ignore_props=ignore, **kw)` with a MAPPING of the instance's set attributes
      as source: a missing key reads as None (a mapping has no defaults) -/
  | fromMapping (ignore : List String) (kw : List (String × PyVal))
  /-- `x.cast_to(cls)` for the instance's own class -/
  | castTo
deriving Repr, Inhabited

def fieldNames : FieldDecl → List String
  | .struct _ fields _ => fields.map (·.1)
  | _ => []

def classDefaults : FieldDecl → List (String × PyVal)
  | .struct _ _ defaults => defaults
  | _ => []

def instAttrs : PyVal → List (String × PyVal)
  | .inst _ attrs => attrs
  | _ => []

/-- declared fields that currently hold a non-None value -/
def setFields (cls : FieldDecl) (x : PyVal) : List (String × PyVal) :=
  (fieldNames cls).filterMap fun n =>
    match lookup n (instAttrs x) with
    | some v => if v.isNone then none else some (n, v)
    | none => none

/-- `{**base, **kw}` -/
def overrideKw (base kw : List (String × PyVal)) : List (String × PyVal) :=
  base.filter (fun a => (lookup a.1 kw).isNone) ++ kw

def applyEntry (O : Oracles) (cls : FieldDecl) (x : PyVal) : EntryOp → R PyVal
  | .copy => .ok x
  | .deepcopy => .ok x
  | .pickle => .ok x
  | .shallowClone kw => construct O cls (overrideKw (setFields cls x) kw)
  | .fromOtherClass ignore kw =>
    -- every declared field is read with getattr (an unset field reads as its default, else None)
    -- and passed explicitly
    construct O cls
      (((fieldNames cls).filter (fun n => !ignore.contains n && (lookup n kw).isNone)).map
          (fun n => (n, (lookup n (instAttrs x)).getD ((lookup n (classDefaults cls)).getD .none))) ++ kw)
  | .fromMapping ignore kw =>
    construct O cls
      (((fieldNames cls).filter (fun n => !ignore.contains n && (lookup n kw).isNone)).map
          (fun n => (n, (lookup n (instAttrs x)).getD .none)) ++ kw)
  | .castTo => construct O cls (setFields cls x)

/-- the keyword arguments a rebuilding entry point hands to the constructor (`none` for the copying ones) -/
def entryKw (cls : FieldDecl) (x : PyVal) : EntryOp → Option (List (String × PyVal))
  | .copy => none
  | .deepcopy => none
  | .pickle => none
  | .shallowClone kw => some (overrideKw (setFields cls x) kw)
  | .fromOtherClass ignore kw =>
    some (((fieldNames cls).filter (fun n => !ignore.contains n && (lookup n kw).isNone)).map
          (fun n => (n, (lookup n (instAttrs x)).getD ((lookup n (classDefaults cls)).getD .none))) ++ kw)
  | .fromMapping ignore kw =>
    some (((fieldNames cls).filter (fun n => !ignore.contains n && (lookup n kw).isNone)).map
          (fun n => (n, (lookup n (instAttrs x)).getD .none)) ++ kw)
  | .castTo => some (setFields cls x)

theorem applyEntry_eq (O : Oracles) (cls : FieldDecl) (x : PyVal) (op : EntryOp) :
    applyEntry O cls x op = match entryKw cls x op with
      | none => .ok x
      | some kw => construct O cls kw := by
  cases op <;> rfl

theorem applyEntry_eq_construct (O : Oracles) (cls : FieldDecl) (x : PyVal) (op : EntryOp)
    (kw : List (String × PyVal)) (h : entryKw cls x op = some kw) :
    applyEntry O cls x op = construct O cls kw := by
  rw [applyEntry_eq, h]

/-- apply a chain of entry points; the first failure aborts -/
def runChain (O : Oracles) (cls : FieldDecl) : PyVal → List EntryOp → R PyVal
  | x, [] => .ok x
  | x, op :: rest => bindE (applyEntry O cls x op) fun y => runChain O cls y rest

/-! ### the class's own `__validate__` hook

`Structure.__init__` calls `self.__validate__()` after all fields are set.  The hook is an oracle of the
model (`Oracles.hookOk`, a verdict on the attribute list), universally quantified in the theorems; with the
default oracle (no hook) the hooked functions coincide with the plain ones. -/

/-- keyword construction followed by the class's `__validate__` hook (its exceptions surface as ValueError
    in the correspondence suites) -/
def constructH (O : Oracles) (cls : FieldDecl) (kw : List (String × PyVal)) : R PyVal :=
  bindE (construct O cls kw) fun x => if O.hookOk (instAttrs x) then .ok x else .error .valueErr

/-- the entry points with the hook: copies keep the instance, the rebuilding ones go through the hooked
    constructor -/
def applyEntryH (O : Oracles) (cls : FieldDecl) (x : PyVal) (op : EntryOp) : R PyVal :=
  match op with
  | .copy | .deepcopy | .pickle => .ok x
  | _ => bindE (applyEntry O cls x op) fun y => if O.hookOk (instAttrs y) then .ok y else .error .valueErr

def runChainH (O : Oracles) (cls : FieldDecl) : PyVal → List EntryOp → R PyVal
  | x, [] => .ok x
  | x, op :: rest => bindE (applyEntryH O cls x op) fun y => runChainH O cls y rest

theorem applyEntryH_eq (O : Oracles) (cls : FieldDecl) (x : PyVal) (op : EntryOp) :
    applyEntryH O cls x op = match entryKw cls x op with
      | none => .ok x
      | some kw => constructH O cls kw := by
  cases op <;> rfl

end Typedpy
