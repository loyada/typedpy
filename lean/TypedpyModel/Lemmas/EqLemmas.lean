/-
  Python `==` on the value fragment (`PyVal.pyEq`) is an equivalence on values that satisfy the representation
  invariants `okVal`.  Reflexivity is unconditional; transitivity needs `okVal` of the middle value only (numbers:
  `0/0` equals every number); symmetry needs it of both, because a dict comparison is "same length and every left
  entry has a right partner": the converse is a pigeonhole argument and needs the keys pairwise `!=`.  Both side
  conditions are necessary (`pyEq_symm_needs_ok`, `pyEq_trans_needs_ok`).

  The three unordered comparisons are stated through `Total` (every member has a partner): sets and instances both
  ways — instances as `Structure.__eq__` compares them over the merged `__dict__`s, an attribute holding `None`
  reading like an absent one (`pyEq_inst_iff`), hence over the attributes that do not hold `None` (`pyEq_inst_live`) —
  dicts one way and by length.  `exists_matching` is the pigeonhole that joins "every member has a partner" to
  "position by position" (`Pointwise`, Lemmas/ListBasic.lean).  Inductions over values go through `PyVal.induct_seq`
  (list, tuple and deque as the one case of sequences).

  Last, what `instEq` reads of an instance: `namesEq` is equality of sets of names, and the value `getA` reads back is
  a stored one, a default, `None` or `Undefined` (`getA_cases`).
-/
import TypedpyModel.Sem.EqHash
import TypedpyModel.Lemmas.Basic
set_option linter.unusedSectionVars false
namespace Typedpy
open PyVal (pyEq pyEqList subsetBy anyEqL dictSub attrsSubN anyAttr pyNodup)

def PyVal.isAtom : PyVal → Bool
  | .list _ | .tuple _ | .deque _ | .set _ _ | .dict _ | .inst _ _ => false
  | _ => true

section Induct
variable (P : PyVal → Prop)
  (atom : ∀ v, v.isAtom = true → P v)
  (list : ∀ xs, (∀ x ∈ xs, P x) → P (.list xs))
  (tuple : ∀ xs, (∀ x ∈ xs, P x) → P (.tuple xs))
  (deque : ∀ xs, (∀ x ∈ xs, P x) → P (.deque xs))
  (set : ∀ f xs, (∀ x ∈ xs, P x) → P (.set f xs))
  (dict : ∀ kvs, (∀ p ∈ kvs, P p.1 ∧ P p.2) → P (.dict kvs))
  (inst : ∀ c attrs, (∀ p ∈ attrs, P p.2) → P (.inst c attrs))
include atom list tuple deque set dict inst

mutual
theorem PyVal.induct : ∀ v, P v
  | .none => atom _ rfl
  | .bool _ => atom _ rfl
  | .int _ => atom _ rfl
  | .float _ => atom _ rfl
  | .dec _ => atom _ rfl
  | .str _ => atom _ rfl
  | .enumv _ _ => atom _ rfl
  | .opaque _ => atom _ rfl
  | .list xs => list xs (PyVal.inductL xs)
  | .tuple xs => tuple xs (PyVal.inductL xs)
  | .deque xs => deque xs (PyVal.inductL xs)
  | .set f xs => set f xs (PyVal.inductL xs)
  | .dict kvs => dict kvs (PyVal.inductD kvs)
  | .inst c attrs => inst c attrs (PyVal.inductA attrs)
termination_by structural v => v
theorem PyVal.inductL : ∀ xs : List PyVal, ∀ x ∈ xs, P x
  | [] => fun _ h => nomatch h
  | y :: ys => List.forall_mem_cons.2 ⟨PyVal.induct y, PyVal.inductL ys⟩
termination_by structural xs => xs
theorem PyVal.inductD : ∀ kvs : List (PyVal × PyVal), ∀ p ∈ kvs, P p.1 ∧ P p.2
  | [] => fun _ h => nomatch h
  | (k, v) :: rest => List.forall_mem_cons.2 ⟨⟨PyVal.induct k, PyVal.induct v⟩, PyVal.inductD rest⟩
termination_by structural kvs => kvs
theorem PyVal.inductA : ∀ attrs : List (String × PyVal), ∀ p ∈ attrs, P p.2
  | [] => fun _ h => nomatch h
  | (_, v) :: rest => List.forall_mem_cons.2 ⟨PyVal.induct v, PyVal.inductA rest⟩
termination_by structural attrs => attrs
end
end Induct

/-- list, tuple and deque: the sequences, which `==`, the invariants, the canonical hash and the
    rebuild by deepcopy / pickle all treat alike, element by element -/
inductive SeqCtor where
  | list | tuple | deque

def SeqCtor.mk : SeqCtor → List PyVal → PyVal
  | .list => .list
  | .tuple => .tuple
  | .deque => .deque

theorem PyVal.induct_seq (P : PyVal → Prop) (atom : ∀ v, v.isAtom = true → P v)
    (seq : ∀ k xs, (∀ x ∈ xs, P x) → P (SeqCtor.mk k xs))
    (set : ∀ f xs, (∀ x ∈ xs, P x) → P (.set f xs))
    (dict : ∀ kvs, (∀ p ∈ kvs, P p.1 ∧ P p.2) → P (.dict kvs))
    (inst : ∀ c attrs, (∀ p ∈ attrs, P p.2) → P (.inst c attrs)) : ∀ v, P v :=
  PyVal.induct P atom (seq .list) (seq .tuple) (seq .deque) set dict inst

def keysDistinct : List String → Bool
  | [] => true
  | k :: ks => !ks.contains k && keysDistinct ks

theorem keysDistinct_iff : ∀ ks : List String, keysDistinct ks = true ↔ ks.Nodup
  | [] => ⟨fun _ => .nil, fun _ => rfl⟩
  | _ :: ks => nodupBool_cons (keysDistinct_iff ks)

theorem keys_pairwise_ne {α : Type} {l : List (String × α)} (hd : keysDistinct (l.map (·.1)) = true) :
    l.Pairwise (fun p q => p.1 ≠ q.1) :=
  List.pairwise_map.1 ((keysDistinct_iff _).1 hd)

mutual
/-- representation invariants of values read back from Python: denominators are non-zero, the keys
    of a dict are pairwise `!=`, the attribute names of an instance are distinct -/
def okVal : PyVal → Bool
  | .float q => q.den != 0
  | .dec q => q.den != 0
  | .list xs => okVals xs
  | .tuple xs => okVals xs
  | .deque xs => okVals xs
  | .set _ xs => okVals xs
  | .dict kvs => okKvs kvs && pyNodup (kvs.map (·.1))
  | .inst _ attrs => okAttrs attrs && keysDistinct (attrs.map (·.1))
  | .none => true
  | .bool _ => true
  | .int _ => true
  | .str _ => true
  | .enumv _ _ => true
  | .opaque _ => true
termination_by structural v => v
def okVals : List PyVal → Bool
  | [] => true
  | x :: xs => okVal x && okVals xs
termination_by structural xs => xs
def okKvs : List (PyVal × PyVal) → Bool
  | [] => true
  | (k, v) :: rest => okVal k && okVal v && okKvs rest
termination_by structural kvs => kvs
def okAttrs : List (String × PyVal) → Bool
  | [] => true
  | (_, v) :: rest => okVal v && okAttrs rest
termination_by structural kvs => kvs
end

theorem okVals_iff (xs : List PyVal) : okVals xs = true ↔ ∀ x ∈ xs, okVal x = true :=
  allB_iff (by rw [okVals]) (fun _ _ => by rw [okVals]) xs

theorem okKvs_iff (kvs : List (PyVal × PyVal)) :
    okKvs kvs = true ↔ ∀ p ∈ kvs, okVal p.1 = true ∧ okVal p.2 = true :=
  (allB_iff (p := fun p : PyVal × PyVal => okVal p.1 && okVal p.2) (by rw [okKvs])
    (fun (_, _) _ => by rw [okKvs]) kvs).trans (by simp only [Bool.and_eq_true])

theorem okAttrs_iff (kvs : List (String × PyVal)) :
    okAttrs kvs = true ↔ ∀ p ∈ kvs, okVal p.2 = true :=
  allB_iff (p := fun p : String × PyVal => okVal p.2) (by rw [okAttrs]) (fun (_, _) _ => by rw [okAttrs]) kvs

theorem okVal_seq (k : SeqCtor) (xs : List PyVal) : okVal (k.mk xs) = okVals xs := by
  cases k <;> rfl

theorem Q.eq_refl (a : Q) : Q.eq a a = true := by simp [Q.eq]
theorem Q.eq_symm (a b : Q) : Q.eq a b = Q.eq b a := by
  simp only [Q.eq]; exact decide_eq_decide.mpr ⟨fun h => h.symm, fun h => h.symm⟩
theorem Q.eq_trans (a b c : Q) (hb : b.den ≠ 0) (h1 : Q.eq a b = true) (h2 : Q.eq b c = true) :
    Q.eq a c = true := by
  simp only [Q.eq, decide_eq_true_eq] at *
  have hb' : (b.den : Int) ≠ 0 := by exact_mod_cast hb
  apply Int.eq_of_mul_eq_mul_right hb'
  calc a.num * ↑c.den * ↑b.den = a.num * ↑b.den * ↑c.den := Int.mul_right_comm ..
    _ = b.num * ↑a.den * ↑c.den := by rw [h1]
    _ = b.num * ↑c.den * ↑a.den := Int.mul_right_comm ..
    _ = c.num * ↑b.den * ↑a.den := by rw [h2]
    _ = c.num * ↑a.den * ↑b.den := Int.mul_right_comm ..

theorem pyEq_num {v : PyVal} {p : Q} (hv : v.asNum = some p) (w : PyVal) :
    pyEq v w = true ↔ ∃ q, w.asNum = some q ∧ Q.eq p q = true := by
  have e : pyEq v w = (match w.asNum with | some q => Q.eq p q | Option.none => false) := by
    cases v <;> cases hv <;> rfl
  rw [e]
  cases w.asNum <;> simp

theorem pyEq_atom {v w : PyVal} (ha : v.isAtom = true) (hn : v.asNum = Option.none)
    (h : pyEq v w = true) : w = v := by
  cases v <;> cases ha <;> cases hn
  all_goals
    unfold pyEq at h
    split at h
    · simp_all
    · cases h

theorem asNum_isAtom {v : PyVal} {p : Q} (hv : v.asNum = some p) : v.isAtom = true := by
  cases v <;> cases hv <;> rfl

theorem okVal_num {v : PyVal} {p : Q} (hv : v.asNum = some p) (ok : okVal v = true) : p.den ≠ 0 := by
  cases v <;> cases hv
  · exact Nat.one_ne_zero
  · exact Nat.one_ne_zero
  · exact bne_iff_ne.1 ok
  · exact bne_iff_ne.1 ok

theorem pyEq_none_right {v : PyVal} (h : pyEq v .none = true) : v = .none := by
  cases v <;> first | rfl | (unfold pyEq at h; cases h)

theorem pyEq_none_left {v : PyVal} (h : pyEq .none v = true) : v = .none := pyEq_atom rfl rfl h

theorem isNone_eq_of_pyEq {v w : PyVal} (h : pyEq v w = true) : v.isNone = w.isNone := by
  rw [Bool.eq_iff_iff, isNone_iff, isNone_iff]
  exact ⟨fun e => pyEq_none_left (e ▸ h), fun e => pyEq_none_right (e ▸ h)⟩

theorem anyEqL_iff (a : List PyVal) (y : PyVal) : anyEqL a y = true ↔ ∃ x ∈ a, pyEq x y = true := by
  induction a with
  | nil => simp [anyEqL]
  | cons h t ih =>
    simp only [anyEqL, Bool.or_eq_true, ih, List.mem_cons, or_and_right, exists_or, exists_eq_left]

theorem subsetBy_iff (a b : List PyVal) :
    subsetBy a b = true ↔ ∀ x ∈ a, ∃ y ∈ b, pyEq x y = true := by
  induction a with
  | nil => simp [subsetBy]
  | cons h t ih => simp only [subsetBy, Bool.and_eq_true, List.any_eq_true, ih, List.forall_mem_cons]

theorem dictSub_iff (a b : List (PyVal × PyVal)) :
    dictSub a b = true ↔ ∀ p ∈ a, ∃ q ∈ b, pyEq p.1 q.1 = true ∧ pyEq p.2 q.2 = true := by
  induction a with
  | nil => simp [dictSub]
  | cons h t ih =>
    simp only [dictSub, Bool.and_eq_true, List.any_eq_true, ih, List.forall_mem_cons]

theorem attrsSubN_iff (a b : List (String × PyVal)) :
    attrsSubN a b = true ↔
      ∀ p ∈ a, p.2.isNone = true ∨ ∃ q ∈ b, p.1 = q.1 ∧ pyEq p.2 q.2 = true := by
  induction a with
  | nil => simp [attrsSubN]
  | cons h t ih =>
    simp only [attrsSubN, Bool.and_eq_true, Bool.or_eq_true, List.any_eq_true, beq_iff_eq, ih,
      List.forall_mem_cons]

theorem anyAttr_iff (a : List (String × PyVal)) (q : String × PyVal) :
    anyAttr a q = true ↔ ∃ p ∈ a, p.1 = q.1 ∧ pyEq p.2 q.2 = true := by
  induction a with
  | nil => simp [anyAttr]
  | cons h t ih =>
    simp only [anyAttr, Bool.or_eq_true, Bool.and_eq_true, beq_iff_eq, ih, List.mem_cons, or_and_right,
      exists_or, exists_eq_left]

/-- one direction of the comparison of two unordered containers: every member of `a` has a partner in `b` -/
def Total {α β : Type} (R : α → β → Prop) (a : List α) (b : List β) : Prop := ∀ x ∈ a, ∃ y ∈ b, R x y

section
variable {α β γ : Type} {R : α → β → Prop} {S : β → γ → Prop} {T : α → γ → Prop}
  {a : List α} {b : List β} {c : List γ}

theorem Total.refl {R : α → α → Prop} (h : ∀ x ∈ a, R x x) : Total R a a :=
  fun x hx => ⟨x, hx, h x hx⟩

theorem Total.trans (h1 : Total R a b) (h2 : Total S b c)
    (h : ∀ x ∈ a, ∀ y ∈ b, ∀ z ∈ c, R x y → S y z → T x z) : Total T a c := fun x hx =>
  let ⟨y, hy, r⟩ := h1 x hx
  let ⟨z, hz, s⟩ := h2 y hy
  ⟨z, hz, h x hx y hy z hz r s⟩

theorem Total.mono {S : α → β → Prop} (h1 : Total R a b) (h : ∀ x ∈ a, ∀ y ∈ b, R x y → S x y) :
    Total S a b := fun x hx =>
  let ⟨y, hy, r⟩ := h1 x hx
  ⟨y, hy, h x hx y hy r⟩
end

theorem pyEq_set_iff (f f' : Bool) (a b : List PyVal) :
    pyEq (.set f a) (.set f' b) = true ↔
      Total (pyEq · · = true) a b ∧ Total (fun y x => pyEq x y = true) b a := by
  show (subsetBy a b && b.all (fun y => anyEqL a y)) = true ↔ _
  simp only [Bool.and_eq_true, List.all_eq_true, subsetBy_iff, anyEqL_iff, Total]

theorem pyEq_dict_iff (a b : List (PyVal × PyVal)) :
    pyEq (.dict a) (.dict b) = true ↔
      a.length = b.length ∧ Total (fun p q => pyEq p.1 q.1 = true ∧ pyEq p.2 q.2 = true) a b := by
  show (a.length == b.length && dictSub a b) = true ↔ _
  simp only [Bool.and_eq_true, beq_iff_eq, dictSub_iff, Total]

theorem pyEq_inst_iff (c c' : String) (a b : List (String × PyVal)) :
    pyEq (.inst c a) (.inst c' b) = true ↔
      c = c' ∧ (∀ p ∈ a, p.2.isNone = true ∨ ∃ q ∈ b, p.1 = q.1 ∧ pyEq p.2 q.2 = true)
        ∧ (∀ q ∈ b, q.2.isNone = true ∨ ∃ p ∈ a, p.1 = q.1 ∧ pyEq p.2 q.2 = true) := by
  show (c == c' && attrsSubN a b && b.all (fun kv' => kv'.2.isNone || anyAttr a kv')) = true ↔ _
  simp only [Bool.and_eq_true, beq_iff_eq, attrsSubN_iff, List.all_eq_true, Bool.or_eq_true,
    anyAttr_iff, and_assoc]

/-- the attributes `Structure.__eq__` and the canonical hash look at: those that do not hold `None` -/
def live (a : List (String × PyVal)) : List (String × PyVal) := a.filter (fun p => !p.2.isNone)

theorem mem_live {a : List (String × PyVal)} {p : String × PyVal} :
    p ∈ live a ↔ p ∈ a ∧ p.2.isNone = false := by
  simp [live, List.mem_filter]

theorem live_sublist (a : List (String × PyVal)) : (live a).Sublist a := List.filter_sublist

def AttrEq (p q : String × PyVal) : Prop := p.1 = q.1 ∧ pyEq p.2 q.2 = true

theorem total_live {R : String × PyVal → String × PyVal → Prop} {a b : List (String × PyVal)}
    (hR : ∀ p q, R p q → p.2.isNone = q.2.isNone) :
    (∀ p ∈ a, p.2.isNone = true ∨ ∃ q ∈ b, R p q) ↔ Total R (live a) (live b) := by
  constructor
  · intro h p hp
    obtain ⟨hp, hn⟩ := mem_live.1 hp
    rcases h p hp with h' | ⟨q, hq, e⟩
    · rw [hn] at h'; cases h'
    · exact ⟨q, mem_live.2 ⟨hq, by rw [← hR p q e]; exact hn⟩, e⟩
  · intro h p hp
    cases hn : p.2.isNone with
    | true => exact .inl rfl
    | false =>
      obtain ⟨q, hq, e⟩ := h p (mem_live.2 ⟨hp, hn⟩)
      exact .inr ⟨q, (mem_live.1 hq).1, e⟩

theorem pyEq_inst_live (c c' : String) (a b : List (String × PyVal)) :
    pyEq (.inst c a) (.inst c' b) = true ↔
      c = c' ∧ Total AttrEq (live a) (live b) ∧ Total (fun q p => AttrEq p q) (live b) (live a) :=
  (pyEq_inst_iff c c' a b).trans <| and_congr_right fun _ => and_congr
    (total_live (R := AttrEq) fun _ _ e => isNone_eq_of_pyEq e.2)
    (total_live (R := fun q p => AttrEq p q) fun _ _ e => (isNone_eq_of_pyEq e.2).symm)

theorem pyEq_seq_left {k : SeqCtor} {a : List PyVal} {w : PyVal} (h : pyEq (k.mk a) w = true) :
    ∃ b, w = k.mk b := by
  cases k
  all_goals
    unfold SeqCtor.mk pyEq at h
    split at h
    · exact ⟨_, rfl⟩
    · cases h

theorem pyEq_seq (k : SeqCtor) (a b : List PyVal) : pyEq (k.mk a) (k.mk b) = pyEqList a b := by
  cases k <;> rfl

theorem pyEq_set_left {f : Bool} {a : List PyVal} {w : PyVal} (h : pyEq (.set f a) w = true) :
    ∃ f' b, w = .set f' b := by
  unfold pyEq at h
  split at h
  · exact ⟨_, _, rfl⟩
  · cases h

theorem pyEq_dict_left {a : List (PyVal × PyVal)} {w : PyVal} (h : pyEq (.dict a) w = true) :
    ∃ b, w = .dict b := by
  unfold pyEq at h
  split at h
  · exact ⟨_, rfl⟩
  · cases h

theorem pyEq_inst_left {c : String} {a : List (String × PyVal)} {w : PyVal}
    (h : pyEq (.inst c a) w = true) : ∃ c' b, w = .inst c' b := by
  unfold pyEq at h
  split at h
  · exact ⟨_, _, rfl⟩
  · cases h

theorem pyEqList_iff : ∀ a b : List PyVal, pyEqList a b = true ↔ Pointwise (pyEq · · = true) a b
  | [], [] => ⟨fun _ => .nil, fun _ => rfl⟩
  | [], _ :: _ => ⟨nofun, nofun⟩
  | _ :: _, [] => ⟨nofun, nofun⟩
  | x :: a, y :: b => by
    rw [pyEqList, Bool.and_eq_true, pyEqList_iff a b]
    exact ⟨fun h => .cons h.1 h.2, fun | .cons h t => ⟨h, t⟩⟩

theorem pyEq_refl : ∀ v : PyVal, pyEq v v = true := by
  intro v
  induction v using PyVal.induct_seq with
  | atom v ha =>
    cases hv : v.asNum with
    | some p => exact (pyEq_num hv v).2 ⟨p, hv, Q.eq_refl p⟩
    | none => cases v <;> cases ha <;> cases hv <;> (unfold pyEq; simp)
  | seq k xs ih => rw [pyEq_seq, pyEqList_iff]; exact .refl ih
  | set f xs ih => exact (pyEq_set_iff ..).2 ⟨.refl ih, .refl ih⟩
  | dict kvs ih => exact (pyEq_dict_iff ..).2 ⟨rfl, .refl ih⟩
  | inst c attrs ih =>
    exact (pyEq_inst_live ..).2 ⟨rfl, .refl fun p hp => ⟨rfl, ih p (mem_live.1 hp).1⟩,
      .refl fun p hp => ⟨rfl, ih p (mem_live.1 hp).1⟩⟩

theorem pyEq_trans : ∀ v w u : PyVal, okVal w = true → pyEq v w = true → pyEq w u = true →
    pyEq v u = true := by
  intro v
  induction v using PyVal.induct_seq with
  | atom v ha =>
    -- the three are the same value, or three numbers
    intro w u ok h1 h2
    cases hv : v.asNum with
    | none => rw [pyEq_atom ha hv h1] at h2; exact h2
    | some p =>
      obtain ⟨q, hw, h1⟩ := (pyEq_num hv w).1 h1
      obtain ⟨r, hu, h2⟩ := (pyEq_num hw u).1 h2
      exact (pyEq_num hv u).2 ⟨r, hu, Q.eq_trans p q r (okVal_num hw ok) h1 h2⟩
  | seq k a ih =>
    intro w u ok h1 h2
    obtain ⟨b, rfl⟩ := pyEq_seq_left h1
    obtain ⟨c, rfl⟩ := pyEq_seq_left h2
    rw [pyEq_seq, pyEqList_iff] at h1 h2 ⊢
    rw [okVal_seq, okVals_iff] at ok
    -- the middle member takes its invariant along into the composed relation
    exact (Pointwise.comp_iff.1 ⟨b, h1.imp fun _ _ y hy e => And.intro (ok y hy) e, h2⟩).imp
      fun x hx z _ ⟨y, e, e'⟩ => ih x hx y z e.1 e.2 e'
  | set f a ih =>
    intro w u ok h1 h2
    obtain ⟨f', b, rfl⟩ := pyEq_set_left h1
    obtain ⟨f'', c, rfl⟩ := pyEq_set_left h2
    rw [pyEq_set_iff] at h1 h2 ⊢
    simp only [okVal, okVals_iff] at ok
    exact ⟨h1.1.trans h2.1 fun x hx y hy z _ => ih x hx y z (ok y hy),
      h2.2.trans h1.2 fun z _ y hy x hx hyz hxy => ih x hx y z (ok y hy) hxy hyz⟩
  | dict a ih =>
    intro w u ok h1 h2
    obtain ⟨b, rfl⟩ := pyEq_dict_left h1
    obtain ⟨c, rfl⟩ := pyEq_dict_left h2
    rw [pyEq_dict_iff] at h1 h2 ⊢
    simp only [okVal, Bool.and_eq_true, okKvs_iff] at ok
    exact ⟨h1.1.trans h2.1, h1.2.trans h2.2 fun p hp q hq r _ e e' =>
      ⟨(ih p hp).1 q.1 r.1 (ok.1 q hq).1 e.1 e'.1, (ih p hp).2 q.2 r.2 (ok.1 q hq).2 e.2 e'.2⟩⟩
  | inst cn a ih =>
    intro w u ok h1 h2
    obtain ⟨cn', b, rfl⟩ := pyEq_inst_left h1
    obtain ⟨cn'', c, rfl⟩ := pyEq_inst_left h2
    rw [pyEq_inst_live] at h1 h2 ⊢
    simp only [okVal, Bool.and_eq_true, okAttrs_iff] at ok
    have step : ∀ p ∈ live a, ∀ q ∈ live b, ∀ r : String × PyVal, AttrEq p q → AttrEq q r → AttrEq p r :=
      fun p hp q hq r e e' =>
        ⟨e.1.trans e'.1, ih p (mem_live.1 hp).1 q.2 r.2 (ok.1 q (mem_live.1 hq).1) e.2 e'.2⟩
    exact ⟨h1.1.trans h2.1, h1.2.1.trans h2.2.1 fun p hp q hq r _ => step p hp q hq r,
      h2.2.2.trans h1.2.2 fun r _ q hq p hp e' e => step p hp q hq r e e'⟩

/-- a total relation under which no two members of `a` share a partner pairs the members of `a` off,
    one after the other, with distinct members of `b`: `b` is at least as long as `a`, and when it is
    no longer it can be re-ordered so that the two correspond position by position -/
theorem exists_matching {α β : Type} (R : α → β → Prop) :
    ∀ (a : List α) (b : List β), Total R a b →
      a.Pairwise (fun x x' => ∀ y ∈ b, R x y → R x' y → False) →
      a.length ≤ b.length ∧ (b.length ≤ a.length → ∃ b', b'.Perm b ∧ Pointwise R a b') := by
  intro a
  induction a with
  | nil =>
    intro b _ _
    refine ⟨Nat.zero_le _, fun hl => ⟨[], ?_, .nil⟩⟩
    rw [List.eq_nil_of_length_eq_zero (Nat.le_zero.1 hl)]
  | cons x a ih =>
    intro b htot hinj
    obtain ⟨y, hy, hxy⟩ := htot x (List.mem_cons_self ..)
    obtain ⟨s, t, rfl⟩ := List.append_of_mem hy
    have hp := List.pairwise_cons.1 hinj
    -- once `x` has taken `y`, the others, none of which shares a partner with `x`, find theirs in what is left
    obtain ⟨hle, hm⟩ := ih (s ++ t) (fun x' hx' => by
      obtain ⟨y', hy', hr⟩ := htot x' (List.mem_cons_of_mem _ hx')
      rcases List.mem_cons.1 (List.perm_middle.mem_iff.1 hy') with rfl | h
      · exact absurd hr (hp.1 x' hx' _ hy hxy)
      · exact ⟨y', h, hr⟩)
      (hp.2.imp fun h z hz => h z (List.perm_middle.mem_iff.2 (List.mem_cons_of_mem y hz)))
    rw [List.perm_middle.length_eq]
    refine ⟨Nat.succ_le_succ hle, fun hl => ?_⟩
    obtain ⟨b', hperm, hpw⟩ := hm (Nat.le_of_succ_le_succ hl)
    exact ⟨y :: b', (hperm.cons y).trans List.perm_middle.symm, .cons hxy hpw⟩

theorem surj_of_total_inj {α β : Type} (R : α → β → Prop) :
    ∀ (a : List α) (b : List β), b.length ≤ a.length →
      (∀ x ∈ a, ∃ y ∈ b, R x y) →
      a.Pairwise (fun x x' => ∀ y, R x y → R x' y → False) →
      ∀ y ∈ b, ∃ x ∈ a, R x y := by
  intro a b hl htot hinj y hy
  obtain ⟨b', hperm, hpw⟩ := (exists_matching R a b htot (hinj.imp fun h y _ => h y)).2 hl
  exact hpw.mem_right y (hperm.mem_iff.2 hy)

/-- two members of `a` that shared a partner `q` would have `==` keys, by transitivity through `key q`.  `hR` asks for
    `==` of the keys both ways: symmetry is not to be had where this serves to prove it (`pyEq_symm`, dicts). -/
theorem no_shared_partner {α : Type} (key : α → PyVal) (R : α → α → Prop) (a b : List α)
    (nd : pyNodup (a.map key) = true) (okb : ∀ q ∈ b, okVal (key q) = true)
    (hR : ∀ p ∈ a, ∀ q ∈ b, R p q → pyEq (key p) (key q) = true ∧ pyEq (key q) (key p) = true) :
    a.Pairwise (fun p p' => ∀ q ∈ b, R p q → R p' q → False) := by
  have pw := (pyNodup_iff _).1 nd
  rw [List.pairwise_map] at pw
  refine pw.imp_of_mem fun hp hp' hne q hq r r' => ?_
  have h := pyEq_trans _ _ _ (okb q hq) (hR _ hp q hq r).1 (hR _ hp' q hq r').2
  rw [hne] at h; cases h

theorem pyEq_symm : ∀ v : PyVal, okVal v = true → ∀ w, okVal w = true → pyEq v w = true →
    pyEq w v = true := by
  intro v
  induction v using PyVal.induct_seq with
  | atom v ha =>
    intro okv w okw h
    cases hv : v.asNum with
    | none => rw [pyEq_atom ha hv h]; exact pyEq_refl v
    | some p =>
      obtain ⟨q, hw, h⟩ := (pyEq_num hv w).1 h
      exact (pyEq_num hw v).2 ⟨p, hv, by rw [Q.eq_symm]; exact h⟩
  | seq k a ih =>
    intro okv w okw h
    obtain ⟨b, rfl⟩ := pyEq_seq_left h
    rw [pyEq_seq, pyEqList_iff] at h ⊢
    rw [okVal_seq, okVals_iff] at okv okw
    exact h.flip.imp fun y hy x hx => ih x hx (okv x hx) y (okw y hy)
  | set f a ih =>
    intro okv w okw h
    obtain ⟨f', b, rfl⟩ := pyEq_set_left h
    rw [pyEq_set_iff] at h ⊢
    simp only [okVal, okVals_iff] at okv okw
    exact ⟨h.2.mono fun y hy x hx => ih x hx (okv x hx) y (okw y hy),
      h.1.mono fun x hx y hy => ih x hx (okv x hx) y (okw y hy)⟩
  | dict a ih =>
    intro okv w okw h
    obtain ⟨b, rfl⟩ := pyEq_dict_left h
    rw [pyEq_dict_iff] at h ⊢
    simp only [okVal, Bool.and_eq_true, okKvs_iff] at okv okw
    refine ⟨h.1.symm, ?_⟩
    -- the entries of `a` find partners with `==` keys, and no two of them the same: every entry of `b` is taken
    obtain ⟨b', hperm, hpw⟩ := (exists_matching _ a b h.2
      (no_shared_partner Prod.fst _ a b okv.2 (fun q hq => (okw.1 q hq).1)
        fun p hp q hq e => ⟨e.1, (ih p hp).1 (okv.1 p hp).1 q.1 (okw.1 q hq).1 e.1⟩)).2
      (Nat.le_of_eq h.1.symm)
    intro q hq
    obtain ⟨p, hp, h1, h2⟩ := hpw.mem_right q (hperm.mem_iff.2 hq)
    exact ⟨p, hp, (ih p hp).1 (okv.1 p hp).1 q.1 (okw.1 q hq).1 h1,
      (ih p hp).2 (okv.1 p hp).2 q.2 (okw.1 q hq).2 h2⟩
  | inst cn a ih =>
    intro okv w okw h
    obtain ⟨cn', b, rfl⟩ := pyEq_inst_left h
    rw [pyEq_inst_live] at h ⊢
    simp only [okVal, Bool.and_eq_true, okAttrs_iff] at okv okw
    have step : ∀ p ∈ live a, ∀ q ∈ live b, AttrEq p q → AttrEq q p := fun p hp q hq e =>
      ⟨e.1.symm, ih p (mem_live.1 hp).1 (okv.1 p (mem_live.1 hp).1) q.2 (okw.1 q (mem_live.1 hq).1) e.2⟩
    exact ⟨h.1.symm, h.2.2.mono fun q hq p hp => step p hp q hq, h.2.1.mono step⟩

/-- without the invariant `==` on the model's dicts is not symmetric (duplicate keys) -/
theorem pyEq_symm_needs_ok :
    pyEq (.dict [(.int 1, .int 1), (.int 1, .int 1)]) (.dict [(.int 1, .int 1), (.int 2, .int 2)]) = true
    ∧ pyEq (.dict [(.int 1, .int 1), (.int 2, .int 2)]) (.dict [(.int 1, .int 1), (.int 1, .int 1)]) = false := by
  decide +kernel

/-- without non-zero denominators `==` is not transitive (`0/0` equals every number) -/
theorem pyEq_trans_needs_ok :
    pyEq (.int 1) (.float ⟨0, 0⟩) = true ∧ pyEq (.float ⟨0, 0⟩) (.int 2) = true
    ∧ pyEq (.int 1) (.int 2) = false := by
  decide +kernel

theorem namesEq_iff {a b : List String} : namesEq a b = true ↔ ∀ k, k ∈ a ↔ k ∈ b := by
  simp only [namesEq, Bool.and_eq_true, List.all_eq_true, List.contains_eq_mem, decide_eq_true_eq]
  exact ⟨fun h k => ⟨h.1 k, h.2 k⟩, fun h => ⟨fun k => (h k).1, fun k => (h k).2⟩⟩

theorem namesEq_refl (a : List String) : namesEq a a = true := namesEq_iff.2 fun _ => Iff.rfl

theorem namesEq_symm (a b : List String) : namesEq a b = namesEq b a := by
  simp only [namesEq, Bool.and_comm]

theorem namesEq_trans (a b c : List String) (h1 : namesEq a b = true) (h2 : namesEq b c = true) :
    namesEq a c = true :=
  namesEq_iff.2 fun k => (namesEq_iff.1 h1 k).trans (namesEq_iff.1 h2 k)

theorem namesEq_contains (a b : List String) (h : namesEq a b = true) (k : String) :
    a.contains k = b.contains k := by
  rw [List.contains_eq_mem, List.contains_eq_mem, decide_eq_decide]
  exact namesEq_iff.1 h k

theorem getA_absent (d : EqCtx) (a b : Inst) (k : String) (hu : a.undef = b.undef)
    (hn : namesEq a.nones b.nones = true)
    (ha : lookup k a.attrs = none) (hb : lookup k b.attrs = none) : getA d a k = getA d b k := by
  simp only [getA, ha, hb, hu, namesEq_contains _ _ hn k]

theorem getA_cases (P : PyVal → Prop) (d : EqCtx) (a : Inst) (k : String)
    (hattrs : ∀ p ∈ a.attrs, P p.2) (hdef : ∀ p ∈ d.defaults, P p.2) (hnone : P .none)
    (hundef : P undefinedV) : P (getA d a k) := by
  unfold getA
  cases ha : lookup k a.attrs with
  | some v => exact hattrs (k, v) (lookup_mem ha)
  | none =>
    simp only
    split
    · split
      · exact hnone
      · exact hundef
    · cases hd : lookup k d.defaults with
      | some v => exact hdef (k, v) (lookup_mem hd)
      | none => exact hnone

end Typedpy
