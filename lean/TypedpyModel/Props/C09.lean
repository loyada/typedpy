/-
  Props/C09.lean — C09: schema→code output executes and is equivalent to the schema (partial).

  The theorems are about the Lean models of `json_schema_mapping.py`, schema → code direction
  (`Sem/SchemaToCode.lean`: the declaration the generated code evaluates to; `Sem/SchemaEmit.lean`: its
  text), of CPython's lexing of one string literal (`Sem/PyLex.lean`) and of the Python subset the
  generator emits (`Sem/PyGram.lean`, a recogniser); the `schemacode` suite ties them to the working tree
  and to CPython's `compile` on every run.  "Executes" is proved as: the recogniser accepts the module, and
  every definition is emitted after the definitions it refers to.  That the recogniser agrees with
  CPython's parser on the subset is corresponded, not proved (the partial residue).
  A full statement that fails is kept as `def … : Prop` with its refutation; the `_inverse` / `_partial`
  theorems hold on explicit fragments, with kernel-checked counterexamples outside them.
-/
import TypedpyModel.Lemmas.SchemaToCode
import TypedpyModel.Lemmas.SchemaEmit
import TypedpyModel.Lemmas.DefOrder
import TypedpyModel.Lemmas.Nesting
import TypedpyModel.Lemmas.CodeExact
import TypedpyModel.Lemmas.SchemaExact
import TypedpyModel.Lemmas.PyLex
import TypedpyModel.Lemmas.TextClean
namespace Typedpy.C09
open Typedpy Typedpy.PyLex

/-- `repr(str)` — `_str_literal` for patterns and `str` defaults, and what list formatting applies
    to enum values, `_required` names and list/dict defaults — is faithful for EVERY string (all
    characters, whatever `str.isprintable` answers) -/
theorem repr_safe (pr : Char → Bool) (s : String) : pyLexStr (pyRepr pr s) = some s := by
  simp only [pyLexStr, pyRepr, String.toList_ofList, lexSrc_pyReprL, Option.map_some,
    String.ofList_toList]

theorem reprSite_faithful (pr : Char → Bool) (site s : String) :
    (⟨site, pyRepr pr s, s⟩ : StringSite).faithful = true := by
  simp [StringSite.faithful, repr_safe]

-- The proofs below follow the equations of the site functions: a value without strings has no site
-- (`List.forall_mem_nil`), a string has the one site of `reprSite_faithful`, and the sites of a composite are the
-- concatenation of the sites of its parts (`List.forall_mem_append`).
mutual
theorem reprSites_faithful (pr : Char → Bool) (site : String) :
    ∀ (v : PyVal) (x : StringSite), x ∈ reprSites pr site v → x.faithful = true
  | .str s => List.forall_mem_singleton.2 (reprSite_faithful pr site s)
  | .list xs => reprSitesL_faithful pr site xs
  | .dict kvs => reprSitesKV_faithful pr site kvs
  | .none | .bool _ | .int _ | .float _ | .dec _ | .tuple _ | .set _ _ | .deque _ | .enumv _ _ | .inst _ _
  | .opaque _ => List.forall_mem_nil _
theorem reprSitesL_faithful (pr : Char → Bool) (site : String) :
    ∀ (xs : List PyVal) (x : StringSite), x ∈ reprSitesL pr site xs → x.faithful = true
  | [] => List.forall_mem_nil _
  | v :: vs => List.forall_mem_append.2 ⟨reprSites_faithful pr site v, reprSitesL_faithful pr site vs⟩
theorem reprSitesKV_faithful (pr : Char → Bool) (site : String) :
    ∀ (kvs : List (PyVal × PyVal)) (x : StringSite), x ∈ reprSitesKV pr site kvs → x.faithful = true
  | [] => List.forall_mem_nil _
  | (k, v) :: rest => List.forall_mem_append.2 ⟨List.forall_mem_append.2
      ⟨reprSites_faithful pr site k, reprSites_faithful pr site v⟩, reprSitesKV_faithful pr site rest⟩
end

/-- enum members of any type and nesting never produce a broken literal (so there is no
    `unescaped:enum` finding: the expected defect does not exist for this site) -/
theorem enum_site_faithful (pr : Char → Bool) (vs : List PyVal) :
    ∀ x ∈ stringSites pr (.enum vs), x.faithful = true :=
  reprSitesL_faithful pr "enum" vs

/-- the `_required = [...]` list never produces a broken literal -/
theorem required_site_faithful (pr : Char → Bool) (names : List String) :
    ∀ x ∈ namesSites pr names, x.faithful = true := by
  induction names with
  | nil => exact List.forall_mem_nil _
  | cons n r ih => exact List.forall_mem_cons.2 ⟨reprSite_faithful pr _ n, ih⟩

/-- the literal emitted for a `pattern` denotes the pattern — all strings -/
theorem pattern_site_faithful (pr : Char → Bool) (lo hi : Option Nat) (p : String) :
    ∀ site ∈ stringSites pr (.str lo hi (some p)), site.faithful = true :=
  List.forall_mem_singleton.2 (reprSite_faithful pr _ p)

/-- the literal emitted for any default (`str` through `repr`, list/dict through `repr` inside a
    lambda) denotes the default — all values -/
theorem default_site_faithful (pr : Char → Bool) (v : PyVal) :
    ∀ site ∈ defaultSites pr v, site.faithful = true := by
  cases v with
  | str d => exact List.forall_mem_singleton.2 (reprSite_faithful pr _ d)
  | _ => exact reprSites_faithful pr "default-repr" _

/-- full statement (true since the repair of `unescaped:description-nul`): every description becomes
    the docstring it was meant to be -/
def description_statement : Prop := ∀ d : String, pyLexStr (docWrap d) = some (docValue d)

/-- the docstring template with `_docstring_text` escaping is faithful for EVERY description (quotes,
    `"""`, backslashes, CR, NUL, newlines, non-ASCII all included) -/
theorem description_safe (d : String) :
    pyLexStr (docWrap d) = some (docValue d) := by
  simp only [pyLexStr, docWrap, docValue, String.toList_ofList, lexSrc_docWrapL d.toList,
    Option.map_some]

theorem description_site_faithful (d : String) :
    (descriptionSite d).faithful = true := by
  simp [StringSite.faithful, descriptionSite, description_safe d]

/-- repaired finding `unescaped:description-nul`: a NUL in the description is written `\x00` and comes
    back as NUL -/
theorem fixed_description_nul :
    (descriptionSite (String.ofList ['a', cNUL, 'b'])).faithful = true := description_site_faithful _

theorem description_statement_holds : description_statement := description_safe

theorem defaultsSites_faithful (pr : Char → Bool) :
    ∀ (ds : List (String × PyVal)) (x : StringSite), x ∈ defaultsSites pr ds → x.faithful = true
  | [] => List.forall_mem_nil _
  | (_, v) :: rest => List.forall_mem_append.2 ⟨default_site_faithful pr v, defaultsSites_faithful pr rest⟩

mutual
/-- every string-bearing site of every schema (patterns, enum members, `_required`, defaults, at
    any nesting depth) is emitted as a literal that denotes exactly the schema's string -/
theorem all_sites_faithful (pr : Char → Bool) :
    ∀ (s : Schema) (x : StringSite), x ∈ stringSites pr s → x.faithful = true
  | .str lo hi (some p) => pattern_site_faithful pr lo hi p
  | .enum vs => enum_site_faithful pr vs
  | .arrOf s _ | .mapOf s _ _ => all_sites_faithful pr s
  | .obj props defaults required _ => List.forall_mem_append.2 ⟨List.forall_mem_append.2
      ⟨required_site_faithful pr (required.getD []), defaultsSites_faithful pr defaults⟩,
      all_sites_faithfulP pr props⟩
  | .arrPos ss _ _ | .allOf ss | .anyOf ss | .oneOf ss | .notS ss => all_sites_faithfulL pr ss
  | .str _ _ none | .num _ _ _ _ _ | .bool | .arrAny _ | .mapAny _ _ _ | .ref _ | .unsupported _ =>
    List.forall_mem_nil _
theorem all_sites_faithfulL (pr : Char → Bool) :
    ∀ (ss : List Schema) (x : StringSite), x ∈ stringSitesL pr ss → x.faithful = true
  | [] => List.forall_mem_nil _
  | s :: ss => List.forall_mem_append.2 ⟨all_sites_faithful pr s, all_sites_faithfulL pr ss⟩
theorem all_sites_faithfulP (pr : Char → Bool) :
    ∀ (ps : List (String × Schema)) (x : StringSite), x ∈ stringSitesP pr ps → x.faithful = true
  | [] => List.forall_mem_nil _
  | (_, s) :: ps => List.forall_mem_append.2 ⟨all_sites_faithful pr s, all_sites_faithfulP pr ps⟩
end

theorem hostile_examples :
    (stringSites (fun c => c.toNat < 256)
      (.obj [("p", .str none none (some "^it's\\b\n\"\"\"")), ("e", .enum [.str "a\\b", .str "x\ny", .str "q\"'z​"])]
        [("p", .str "it's\\n")] (some ["p"]) true)).all (·.faithful) = true
    ∧ (descriptionSite "say \"\"\"hi\"\"\"\" \\ \r end\\").faithful = true :=
  ⟨List.all_eq_true.2 (all_sites_faithful _ _), description_site_faithful _⟩

/-- full statement (false, `roundtrip_statement_false`): mapping the generated declaration back gives the schema -/
def roundtrip_statement : Prop :=
  ∀ (ρ : String → FieldDecl), RefsAreClasses ρ → ∀ s : Schema,
    normReq (toSchemaF (schemaToDecl ρ s)) = normReq s

/-- on the code fragment (`issues s = []`, i.e. outside the listed finding regions) the round trip
    schema → `convert_to_field_code`+eval → `convert_to_schema` is the identity up to the order
    of every `required` list; all schemas, any nesting depth -/
theorem schemaToDecl_inverse (ρ : String → FieldDecl) (hρ : RefsAreClasses ρ) (s : Schema)
    (h : inCodeFragment s = true) : normReq (toSchemaF (schemaToDecl ρ s)) = normReq s :=
  inverse_core ρ hρ s (by simpa [inCodeFragment] using h)

/-- top-level fragment: additionally the class must not be in the field-wrapper form
    (one property, required, no additional properties), which exists at top level only -/
def inCodeFragmentTop (s : Schema) : Bool := (topIssues s).isEmpty

/-- the generated top-level class: `structure_to_schema (exec (schema_to_struct_code name s))` -/
theorem schemaToClass_inverse (ρ : String → FieldDecl) (hρ : RefsAreClasses ρ) (name : String)
    (props : List (String × Schema)) (defaults : List (String × PyVal))
    (required : Option (List String)) (addl : Bool)
    (h : inCodeFragmentTop (.obj props defaults required addl) = true) :
    normReq (toSchemaClass (schemaToClass ρ name (.obj props defaults required addl)))
      = normReq (.obj props defaults required addl) := by
  have h : topIssues (.obj props defaults required addl) = [] := by simpa [inCodeFragmentTop] using h
  obtain ⟨hcol, h⟩ := List.append_eq_nil_iff.1 h
  exact shape_roundtrip ρ props defaults required addl true _ rfl rfl (by simpa using hcol) h
    (inverse_coreP ρ hρ props)

/-- a generated definition class, as `_map_class_reference` maps it back into `definitions`
    (never the field-wrapper form): the plain fragment suffices -/
theorem schemaToDef_inverse (ρ : String → FieldDecl) (hρ : RefsAreClasses ρ) (name : String)
    (props : List (String × Schema)) (defaults : List (String × PyVal))
    (required : Option (List String)) (addl : Bool)
    (h : inCodeFragment (.obj props defaults required addl) = true) :
    normReq (toSchemaDef (schemaToClass ρ name (.obj props defaults required addl)))
      = normReq (.obj props defaults required addl) :=
  shape_roundtrip ρ props defaults required addl false _ rfl rfl rfl (by simpa [inCodeFragment] using h)
    (inverse_coreP ρ hρ props)

/-- `normReq` only reorders: of the property names, the canonical `required` holds those of `req` -/
theorem canonReq_mem (names req : List String) (n : String) (h : n ∈ names) :
    n ∈ canonReq names req ↔ n ∈ req := by
  simp [canonReq, List.mem_filter, h]

def rho0 : String → FieldDecl := envResolver []
theorem rho0_classes : RefsAreClasses rho0 := fun _ => ⟨_, _, _, rfl, rfl, rfl⟩

/-- a defaulted property comes back as required (finding `roundtrip:default-forces-required`) -/
theorem roundtrip_counterexample_default_required :
    normReq (toSchemaF (schemaToDecl rho0
      (.obj [("a", .bool), ("b", .bool)] [("a", .bool true)] (some ["b"]) true)))
    ≠ normReq (.obj [("a", .bool), ("b", .bool)] [("a", .bool true)] (some ["b"]) true) := by
  simp [schemaToDecl, schemaToDeclP, toSchemaF, toSchemaP, structShape, collapses, sameSet, declRequired,
    inlineOpts, schemaRequired, normReq, normReqP, canonReq]
/-- absent `required` comes back as "all required" (finding `roundtrip:required-absent`) -/
theorem roundtrip_counterexample_required_absent :
    normReq (toSchemaF (schemaToDecl rho0 (.obj [("a", .bool), ("b", .bool)] [] none true)))
    ≠ normReq (.obj [("a", .bool), ("b", .bool)] [] none true) := by
  simp [schemaToDecl, schemaToDeclP, toSchemaF, toSchemaP, structShape, collapses, sameSet, declRequired,
    inlineOpts, schemaRequired, normReq, normReqP]
/-- at top level an object with one required property and no additional properties comes back as
    the schema of that property (finding `roundtrip:single-field-collapse`); nested, and as a
    definition, the same object comes back as itself -/
theorem roundtrip_counterexample_single_field :
    toSchemaClass (schemaToClass rho0 "Foo" (.obj [("a", .bool)] [] (some ["a"]) false)) = .bool
    ∧ inCodeFragment (.obj [("a", .bool)] [] (some ["a"]) false) = true
    ∧ inCodeFragmentTop (.obj [("a", .bool)] [] (some ["a"]) false) = false := by
  refine ⟨?_, by decide, by decide⟩
  simp [schemaToClass, schemaToDeclP, schemaToDecl, toSchemaClass, toSchemaP, toSchemaF, structShape,
    collapses, sameSet, declRequired]

theorem roundtrip_statement_false : ¬ roundtrip_statement := fun h =>
  roundtrip_counterexample_required_absent (h rho0 rho0_classes _)

/-- the class name emitted for the `$ref` of a definition is that definition's name — every name,
    whatever its first characters (in particular the letters of "#/definitions/" itself) -/
theorem refName_refOf (n : String) : refName (refOf n) = n := by
  simp only [refName, refOf, String.toList_append, List.drop_left, String.ofList_toList]

theorem ref_roundtrip (ρ : String → FieldDecl) (hρ : RefsAreClasses ρ) (n : String) :
    toSchemaF (schemaToDecl ρ (.ref (refName (refOf n)))) = .ref n := by
  rw [refName_refOf]
  obtain ⟨c, fs, ds, h, hin, hn⟩ := hρ n
  simp [schemaToDecl, h, toSchemaF, hin, hn]

theorem refName_examples :
    refName "#/definitions/item" = "item" ∧ refName "#/definitions/definitions" = "definitions"
      ∧ refName "#/definitions/s_1" = "s_1" ∧ refName "#/definitions/Node" = "Node" := by
  -- the literals are turned into character lists by rewriting: taking a `String` literal apart
  -- is what makes evaluation dear
  simp only [refName, refPrefix]
  repeat rw [String.toList_ofList]
  decide +kernel

/-- `schema_to_struct_code` never writes to the caller's `required` list: every schema -/
theorem required_not_mutated (s : Schema) : requiredAfter s = requiredBefore s := by
  cases s with
  | obj props defaults req addl => cases req <;> rfl
  | _ => rfl

/-- … while the emitted `_required` does drop the defaulted names (non-vacuity of the model) -/
theorem emitted_required_example :
    emittedRequired (.obj [("a", .bool), ("b", .bool)] [("a", .bool true)] (some ["a", "b"]) true)
      = some ["b"] ∧
    requiredAfter (.obj [("a", .bool), ("b", .bool)] [("a", .bool true)] (some ["a", "b"]) true)
      = some ["a", "b"] := by decide +kernel

/-! ## "always executes", syntactic part: the emitted module is Python

  `Emit.moduleText` is the module as the harness assembles it from `schema_definitions_to_code` +
  `schema_to_struct_code`, or as `write_code_from_schema` writes it (the suite compares it character by
  character with the real generator's output on every case); `PyGram.recognise` stands for CPython's
  `compile` on the emitted subset (corresponded on the generated and on mutated sources). -/

open Typedpy.Emit Typedpy.PyGram

theorem expr_tokens (X : Ora) (pr : Char → Bool) (e : PyExpr) (h : wf X e = true) (rest : List Char)
    (hr : DelimHead rest) (d : Nat) (ind : List Nat) :
    lex X ⟨d, ind⟩ .mid (render pr e ++ rest) = prepend (toks e) (lex X ⟨d, ind⟩ .mid rest) :=
  lex_expr X pr e h d ind rest hr

theorem expr_parses (X : Ora) (e : PyExpr) (h : wf X e = true) (σ : List Frame) (c : Bool) (φ : Phase) (rest : List Tok)
    (hφ : φ ≠ .expr) :
    parse ⟨σ, .operand c false, φ, false⟩ (toks e ++ rest) = parse ⟨σ, .afterOp (endsStr e), φ, false⟩ rest :=
  parse_expr X e h σ c φ rest hφ

/-- the expression `convert_to_field_code` emits for ANY schema whose `$ref` / property names are
    identifiers (property names distinct as keyword arguments and not `__debug__`) and whose enum
    members / defaults are JSON values is well-formed — every keyword combination, any depth -/
theorem field_code_wf (X : Ora) (O : EOra) (hO : OraOk O) (s : Schema) (d : Option PyVal) (h : emitOk X s d = true) :
    wf X (schemaExpr O s d) = true :=
  schemaExpr_wf X O hO s d h

theorem nat_literal (n : Nat) : isNumText (natText n) = true := natText_num n

theorem emitted_module_tokens (X : Ora) (O : EOra) (hO : OraOk O) (write : Bool) (defs : List ClassSrc)
    (main : ClassSrc) (hd : ∀ c ∈ defs, classSrcOk X c = true) (hm : classSrcOk X main = true) :
    lex X lctx0 (.bol 0) (moduleText O write defs main) = .ok (modToks O defs main) :=
  lex_module X O write defs main (fun c hc => classOk_of_src X O hO c (hd c hc)) (classOk_of_src X O hO main hm)

/-- the full statement: the module emitted for ANY definitions and main schema compiles -/
def always_compiles_statement : Prop :=
  ∀ (X : Ora) (O : EOra) (write : Bool) (defs : List ClassSrc) (main : ClassSrc),
    OraOk O → recognise X (moduleText O write defs main) = .accept

/-- under the side conditions of the acceptance theorem the emitted text contains no NUL and no carriage
    return: `repr` and `_docstring_text` escape both, and no identifier holds either -/
theorem emitted_module_clean (X : Ora) (O : EOra) (hO : OraOk O) (write : Bool) (defs : List ClassSrc) (main : ClassSrc)
    (hd : ∀ c ∈ defs, classSrcOk X c = true) (hm : classSrcOk X main = true) :
    textClean (moduleText O write defs main) = true :=
  moduleText_clean X O write defs main (fun c hc => classOk_of_src X O hO c (hd c hc)) (classOk_of_src X O hO main hm)

theorem emitted_module_nesting (O : EOra) (defs : List ClassSrc) (main : ClassSrc) :
    maxNest 0 0 (modToks O defs main) = modDepth O (defs ++ [main]) :=
  maxNest_module O defs main

theorem field_code_nesting (O : EOra) (s : Schema) (d : Option PyVal) : edepth (schemaExpr O s d) ≤ sdepth s d :=
  edepth_schemaExpr O s d

/-- PARTIAL: the emitted module is accepted by the recogniser for ALL definition lists and main
    schemas (any strings in patterns / enums / defaults / required / descriptions) with the decidable,
    schema-level exclusions `classSrcOk` (class, `$ref` and property names are identifiers (ASCII letters /
    digits / `_`, and non-ASCII characters for which the oracle `X` = `str.isidentifier` says so) that are not
    keywords — property names also not `__debug__` and distinct as keyword arguments; enum members and
    defaults are JSON values) and `schemaDepthOk` (the schemas and their JSON values nest shallowly enough for
    CPython's limit of 200 open brackets); `OraOk`: `repr(float)` answers with decimal literals -/
theorem emitted_module_accepted_partial (X : Ora) (O : EOra) (hO : OraOk O) (write : Bool)
    (defs : List ClassSrc) (main : ClassSrc)
    (hd : ∀ c ∈ defs, classSrcOk X c = true) (hm : classSrcOk X main = true)
    (hdep : schemaDepthOk defs main = true) :
    recognise X (moduleText O write defs main) = .accept :=
  recognise_of_depth X O write defs main (fun c hc => classOk_of_src X O hO c (hd c hc))
    (classOk_of_src X O hO main hm) (depthOk_of_schema O defs main hdep)

/-- a concrete oracle for the examples: every non-ASCII character printable, every float `1.5` -/
def exOra : EOra := ⟨fun _ => true, fun _ => ['1', '.', '5']⟩
theorem exOra_ok : OraOk exOra := fun X _ => by
  show wf X (.num ['1', '.', '5']) = true
  simp only [wf]
  decide

def objOf (name : String) : Schema := .obj [(name, .num true none none none false)] [] (some []) true

/-- finding `compile:name-not-identifier`, kernel-checked: a property called `my-prop`, `class`
    (at top level or in a nested object) or `__debug__`, or a definition called `my-def`, is pasted
    into the source and the module is not Python -/
theorem counterexample_name_not_identifier :
    recognise Ora.ascii (moduleText exOra false [] ⟨"Foo", none, objOf "my-prop"⟩) = .reject ∧
    recognise Ora.ascii (moduleText exOra false [] ⟨"Foo", none, objOf "class"⟩) = .reject ∧
    recognise Ora.ascii (moduleText exOra false [] ⟨"Foo", none, objOf "__debug__"⟩) = .reject ∧
    recognise Ora.ascii (moduleText exOra false [] ⟨"Foo", none,
      .obj [("p", objOf "class")] [] (some []) true⟩) = .reject ∧
    recognise Ora.ascii (moduleText exOra false [⟨"my-def", none, objOf "x"⟩] ⟨"Foo", none, objOf "y"⟩)
      = .reject := by decide +kernel

/-- repaired finding `unescaped:description-nul`, at module level: a NUL in the description is escaped
    and the module is accepted -/
theorem fixed_description_nul_module :
    recognise Ora.ascii (moduleText exOra false [] ⟨"Foo", some (String.singleton cNUL), objOf "p"⟩)
      = .accept :=
  emitted_module_accepted_partial _ _ exOra_ok _ _ _ (by simp) (by decide +kernel) (by decide +kernel)

theorem always_compiles_statement_false : ¬ always_compiles_statement := fun h =>
  absurd (h Ora.ascii exOra false [] ⟨"Foo", none, objOf "my-prop"⟩ exOra_ok)
    (by rw [counterexample_name_not_identifier.1]; decide)

def exDef : ClassSrc :=
  ⟨"D_1", some "a \"\"\"doc\"\"\" \\ with\rhostile text",
   .obj [("u", .num true none (some ⟨0, 1⟩) (some ⟨15, 2⟩) true), ("v", .str none (some 3) (some "^it's\\d\n"))]
     [("v", .str "a'b")] (some ["u"]) false⟩

def exMain : ClassSrc :=
  ⟨"Foo", none,
   .obj [("p", .ref "D_1"),
         ("q", .arrPos [.enum [.str "x\"y", .int (-3), .none, .bool true, .list [.int 1]], .bool] false
                  { min := some 1, max := none, uniq := true }),
         ("r", .obj [("type", .mapOf (.anyOf [.ref "D_1", .notS [.bool]]) (some 1) (some 2))]
                  [] (some ["type"]) false),
         ("d", .arrAny {})]
     [("d", .list [.int 1, .dict [(.str "k", .float ⟨3, 2⟩)]])] (some ["p", "d"]) true⟩

/-- non-vacuity: a module with a definition (hostile docstring, pattern, default), nested object,
    positional array, enum with string / negative int / None / bool / nested list, map, combinators,
    list/dict default behind `lambda:` satisfies the side conditions (by evaluation) and hence is clean
    and accepted -/
theorem accepted_example :
    classSrcOk Ora.ascii exDef = true ∧ classSrcOk Ora.ascii exMain = true ∧
    textClean (moduleText exOra true [exDef] exMain) = true ∧
    schemaDepthOk [exDef] exMain = true ∧
    recognise Ora.ascii (moduleText exOra true [exDef] exMain) = .accept := by
  have hD : classSrcOk Ora.ascii exDef = true := by decide +kernel
  have hM : classSrcOk Ora.ascii exMain = true := by decide +kernel
  have hdep : schemaDepthOk [exDef] exMain = true := by decide +kernel
  have hd : ∀ c ∈ [exDef], classSrcOk Ora.ascii c = true := by simpa using hD
  exact ⟨hD, hM, emitted_module_clean _ _ exOra_ok _ _ _ hd hM, hdep,
    emitted_module_accepted_partial _ _ exOra_ok _ _ _ hd hM hdep⟩

/-! ## order of the definitions (`exec:forward-ref`) -/

/-- emission in depth-first dependency order (`topoOrder`: `_definitions_in_dependency_order`): for
    EVERY definitions table whose references have no cycle, every definition is emitted, and each
    one after all the definitions it refers to (the class body is evaluated when the class
    statement runs, so no `$ref` is a NameError) -/
theorem definitions_defined_before_use (defs : Defs) (hac : Acyclic defs) :
    definedBeforeUse defs (topoOrder defs).reverse ∧ ∀ n ∈ defs.map (·.1), n ∈ topoOrder defs := by
  obtain ⟨rk, hbound, hrk⟩ := hac
  -- the roots are visited like the references of a definition that ranks above every name
  obtain ⟨p, q⟩ := visitRefs_ok defs rk (defs.length + 1) (visit_ok defs rk hrk _) (defs.length + 1) (Nat.le_refl _)
    (defs.map (·.1)) [] [] (fun r _ _ => Nat.lt_succ_of_le (hbound r)) trivial (by simp) (by simp)
  exact ⟨p.good, fun n hn => q n hn ((lookup_isSome_iff n defs).mpr hn)⟩

/-- emission in the order of the `definitions` dict has the counterexample (`A` refers to the later
    `B`); the depth-first order emits `B` first -/
theorem counterexample_dict_order_forward_ref :
    refsOrdered [] [("A", .obj [("x", .ref "B")] [] (some ["x"]) true),
                    ("B", .obj [("y", .num true none none none false)] [] (some ["y"]) true)] = false ∧
    topoOrder [("A", .obj [("x", .ref "B")] [] (some ["x"]) true),
               ("B", .obj [("y", .num true none none none false)] [] (some ["y"]) true)] = ["B", "A"] := by
  decide +kernel

/-- finding `exec:cyclic-ref`: for two definitions that refer to each other no emission order defines
    every name before its use (the depth-first order emits `B` first, whose body names `A`) -/
theorem counterexample_cyclic_refs :
    topoOrder [("A", .obj [("x", .ref "B")] [] (some []) true), ("B", .obj [("y", .ref "A")] [] (some []) true)]
      = ["B", "A"] ∧
    refsOrdered [] [("A", .obj [("x", .ref "B")] [] (some []) true), ("B", .obj [("y", .ref "A")] [] (some []) true)]
      = false ∧
    refsOrdered [] [("B", .obj [("y", .ref "A")] [] (some []) true), ("A", .obj [("x", .ref "B")] [] (some []) true)]
      = false := by decide +kernel

/-! ## exactness: the generated field accepts what the schema admits

  `CodeExact.scalarDoc` is the JSON document of a scalar schema, `jsV` the draft-4 validator model of
  C08 (`Spec/JsValid.lean`), `deser` / `validate` the Deserializer and constructor models of C06 / C01
  applied to the generated declaration `schemaToDecl`. -/

open Typedpy.CodeExact Typedpy.Sch in
/-- on the exact scalar sub-fragment the schema that `structure_to_schema` exports for the generated
    field is the source schema itself (document level, both spellings of `multipleOf`) -/
theorem exported_schema_is_source (fx : Bool) (ρ : String → FieldDecl) (s : Schema)
    (h : exactSchema s = true) : emit fx (schemaToDecl ρ s) = scalarDoc fx s := by
  cases s with
  | num i mult mn mx ex =>
    simp only [exactSchema, Bool.and_eq_true, Bool.or_eq_true, Bool.not_eq_true'] at h
    obtain ⟨⟨hm, _⟩, hex⟩ := h
    -- the four places where `numKws` and `scalarDoc` are written differently: a positive `multipleOf` is its
    -- own absolute value, without a sign the effective bounds are the declared ones, and
    -- `exclusiveMaximum` stands next to a `maximum`
    have habs : mult.map absJ = mult.map PyVal.int := by
      cases mult with
      | none => rfl
      | some m =>
        simp only [CodeExact.multOk, decide_eq_true_eq] at hm
        simp [absJ, Int.natAbs_of_nonneg (Int.le_of_lt hm)]
    have hmin : ∀ b, effMin b ⟨mult, mn, mx, ex, .any⟩ = mn := fun _ => by cases mn <;> rfl
    have hmax : ∀ b, effMax b ⟨mult, mn, mx, ex, .any⟩ = mx := fun _ => by cases mx <;> rfl
    have hexc : (ex && mx.isSome) = ex := by rcases hex with h | h <;> simp [h]
    cases i <;> simp [schemaToDecl, numDecl, Sch.emit, numKws, scalarDoc, hmin, hmax, exclEff, habs, hexc]
  | str | bool | enum => simp [schemaToDecl, Sch.emit, scalarDoc]
  | _ => simp [exactSchema] at h

open Typedpy.CodeExact Typedpy.Sch in
/-- PARTIAL (one direction, scalars): for EVERY schema of the exact scalar sub-fragment (integer with
    bounds / positive multiplesOf, number with bounds, `exclusiveMaximum` next to `maximum`, string with
    lengths and a start-anchored pattern, boolean, non-empty enum of literals) and EVERY document value:
    if the draft-4 validator admits the value against the source schema, the generated field accepts it
    (deserialization succeeds and the constructor's validation accepts the result).  `hS`: the
    validator's regex oracle agrees with `re.match` on start-anchored patterns. -/
theorem admitted_is_accepted_partial (O : Oracles) (R : String → PyVal → Bool) (S : String → String → Bool)
    (hS : ∀ p t, startAnchored p = true → S p t = true → O.reMatch p t = true)
    (opts : DeserOpts) (ign : Bool) (ρ : String → FieldDecl) (s : Schema) (v : PyVal)
    (hs : exactSchema s = true) (h : jsV R S (scalarDoc true s) v = true) :
    ∃ y y', deser O opts ign (schemaToDecl ρ s) v = .ok y ∧ validate O (schemaToDecl ρ s) y = .ok y' := by
  rw [← exported_schema_is_source true ρ s hs] at h
  exact exact_scalar O R S hS opts ign _ v (exactScalar_of ρ s hs) h

open Typedpy.CodeExact Typedpy.Sch in
/-- the full statement: the generated field accepts a document iff the schema admits it -/
def exactness_statement : Prop :=
  ∀ (s : Schema) (v : PyVal), exactSchema s = true →
    (acceptsB (schemaToDecl CodeExact.rho0 s) v = true ↔ jsV R0 S0 (scalarDoc true s) v = true)

open Typedpy.CodeExact Typedpy.Sch in
/-- finding `exact:bool-as-number`, kernel-checked: an integer field accepts JSON `true` -/
theorem counterexample_bool_as_number :
    jsV R0 S0 (scalarDoc true (.num true none none none false)) (.bool true) = false ∧
    acceptsB (schemaToDecl CodeExact.rho0 (.num true none none none false)) (.bool true) = true := by decide +kernel

open Typedpy.CodeExact Typedpy.Sch in
/-- finding `exact:bool-string`: a boolean field accepts the string `'True'` -/
theorem counterexample_bool_string :
    jsV R0 S0 (scalarDoc true .bool) (.str "True") = false ∧
    acceptsB (schemaToDecl CodeExact.rho0 .bool) (.str "True") = true := by decide +kernel

open Typedpy.CodeExact Typedpy.Sch in
/-- finding `exact:short-positional-array`: draft-4 admits an array shorter than the positional
    `items`, the generated `Array(items=[...])` rejects it -/
theorem counterexample_short_positional_array :
    jsV R0 S0 (emit true (schemaToDecl CodeExact.rho0
        (.arrPos [.num true none none none false, .str none none none] true {}))) (.list [.int 1]) = true ∧
    acceptsB (schemaToDecl CodeExact.rho0
        (.arrPos [.num true none none none false, .str none none none] true {})) (.list [.int 1]) = false := by
  decide +kernel

open Typedpy.CodeExact Typedpy.Sch in
/-- finding `exact:null`: `null` for a non-required property of a nested object is accepted (dropped),
    the validator rejects it -/
theorem counterexample_null_optional :
    jsV R0 S0 (emit true (schemaToDecl CodeExact.rho0
        (.obj [("b", .num true none none none false), ("t", .num false none none none false)] [] (some ["b"]) true)))
      (.dict [(.str "b", .int 5), (.str "t", .none)]) = false ∧
    acceptsB (schemaToDecl CodeExact.rho0
        (.obj [("b", .num true none none none false), ("t", .num false none none none false)] [] (some ["b"]) true))
      (.dict [(.str "b", .int 5), (.str "t", .none)]) = true := by
  decide +kernel

open Typedpy.CodeExact Typedpy.Sch in
/-- finding `exact:accepts-invalid:extra`: with `additionalProperties: false` the Deserializer drops an
    undeclared top-level key, the validator rejects the document -/
theorem counterexample_extra_key_dropped :
    (match deserialize O0 {} (schemaToClass CodeExact.rho0 "Foo"
        (.obj [("p", .num true none none none false)] [] (some []) false))
        (.dict [(.str "p", .int 1), (.str "zz", .int 1)]) with | .ok _ => true | .error _ => false) = true ∧
    jsV R0 S0 (classSchema true (schemaToClass CodeExact.rho0 "Foo"
        (.obj [("p", .num true none none none false)] [] (some []) false)))
      (.dict [(.str "p", .int 1), (.str "zz", .int 1)]) = false := by decide +kernel

open Typedpy.CodeExact Typedpy.Sch in
/-- finding `exact:rejects-valid:unique:bool-vs-int`: `[[true], [1]]` is unique for draft 4, not for
    Python's `==` -/
theorem counterexample_unique_bool_vs_int :
    jsV R0 S0 (emit true (schemaToDecl CodeExact.rho0 (.arrAny { uniq := true })))
      (.list [.list [.bool true], .list [.int 1]]) = true ∧
    acceptsB (schemaToDecl CodeExact.rho0 (.arrAny { uniq := true }))
      (.list [.list [.bool true], .list [.int 1]]) = false := by decide +kernel

theorem exactness_statement_false : ¬ exactness_statement := fun h =>
  absurd ((h (.num true none none none false) (.bool true) (by decide)).1 counterexample_bool_as_number.2)
    (by rw [counterexample_bool_as_number.1]; decide)

open Typedpy.CodeExact Typedpy.Sch in
/-- non-vacuity: an integer schema with bounds and multiplesOf admits 6, and the generated field
    accepts it -/
theorem admitted_is_accepted_example :
    exactSchema (.num true (some 3) (some ⟨0, 1⟩) (some ⟨10, 1⟩) true) = true ∧
    jsV R0 S0 (scalarDoc true (.num true (some 3) (some ⟨0, 1⟩) (some ⟨10, 1⟩) true)) (.int 6) = true ∧
    acceptsB (schemaToDecl CodeExact.rho0 (.num true (some 3) (some ⟨0, 1⟩) (some ⟨10, 1⟩) true)) (.int 6) = true ∧
    jsV R0 S0 (scalarDoc true (.num true (some 3) (some ⟨0, 1⟩) (some ⟨10, 1⟩) true)) (.int 10) = false := by
  decide +kernel

def exampleSchema : Schema :=
  .obj [("name", .str (some 1) (some 8) (some "^[A-Za-z]+$")),
        ("tags", .arrOf (.enum [.str "a", .int 2]) { min := some 1, max := some 4, uniq := true }),
        ("pos", .arrPos [.num true (some 5) none (some ⟨10, 1⟩) true, .num false none none none false] false {}),
        ("inner", .obj [("x", .num true none none none false), ("y", .bool)] [("y", .bool false)]
                     (some ["y", "x"]) false),
        ("choice", .anyOf [.ref "D", .notS [.str none none none]]),
        ("m", .mapOf (.num true none none none false) (some 1) none)]
       [("name", .str "bob")] (some ["tags", "name"]) true

theorem roundtrip_example :
    inCodeFragment exampleSchema = true ∧
    normReq (toSchemaClass (schemaToClass rho0 "Foo" exampleSchema)) = normReq exampleSchema :=
  ⟨by decide, schemaToClass_inverse rho0 rho0_classes "Foo" _ _ _ _ (by decide)⟩

end Typedpy.C09
