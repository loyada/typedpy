/-
  Lemmas/SchemaEmit.lean — every schema whose names are identifiers and whose values are JSON values
  is printed as a well-formed expression tree / class body (`schemaExpr_wf`, `classItems_ok`,
  `classOk_of_src`): the schema-level side conditions of `recognise_of_depth`.
-/
import TypedpyModel.Lemmas.PyGram
import TypedpyModel.Lemmas.ListBasic
namespace Typedpy.Emit
open Typedpy.PyGram Typedpy.PyLex

/-- the oracle-free version of `targetName` for the generator's own (ASCII) keyword names -/
def targetNameA (n : List Char) : Bool := asciiIdent n && !forbiddenTarget n

theorem identOk_of_ascii (X : Ora) {n : List Char} (h : asciiIdent n = true) : identOk X n = true := by
  match n, h with
  | c :: r, h =>
    -- `asciiIdent` is `isWord` and `identOk X` is `isWordX X`, each with "no keyword"
    have h := Bool.and_eq_true_iff.1 h
    exact Bool.and_eq_true_iff.2 ⟨isWordX_of_ascii X (w := c :: r) h.1, h.2⟩

theorem targetName_of_ascii (X : Ora) {n : List Char} (h : targetNameA n = true) : targetName X n = true := by
  simp only [targetNameA, Bool.and_eq_true] at h
  simp [targetName, identOk_of_ascii X h.1, h.2]

theorem wf_cTrue (X : Ora) : wf X (.const cTrue) = true := by simp only [wf]; decide
theorem wf_cFalse (X : Ora) : wf X (.const cFalse) = true := by simp only [wf]; decide
theorem wf_cNone (X : Ora) : wf X (.const cNone) = true := by simp only [wf]; decide

theorem isDigit_of_core {c : Char} (h : c.isDigit = true) : isDigit c = true := by
  simp only [Char.isDigit, Bool.and_eq_true, decide_eq_true_eq, UInt32.le_iff_toNat_le] at h
  simpa [isDigit] using h

theorem numScan_digits : ∀ (t : List Char), (∀ c ∈ t, isDigit c = true) → numScan .int t = true
  | [], _ => rfl
  | c :: t, h => by
    have hc := h c (by simp)
    simp [numScan, numNext, hc, numScan_digits t (fun d hd => h d (by simp [hd]))]

theorem toDigits_head : ∀ (n : Nat), 0 < n → ∃ c t, Nat.toDigits 10 n = c :: t ∧ c ≠ '0' := by
  intro n
  induction n using Nat.strongRecOn with
  | _ n ih =>
    intro hn
    by_cases h : n < 10
    · have hdig : ∀ k, k < 10 → 0 < k → Nat.digitChar k ≠ '0' := by decide
      exact ⟨_, [], Nat.toDigits_of_lt_base h, hdig n h hn⟩
    · have hb : 10 ≤ n := by omega
      obtain ⟨c, t, e, hc⟩ := ih (n / 10) (Nat.div_lt_self hn (by decide)) (Nat.div_pos hb (by decide))
      refine ⟨c, t ++ [Nat.digitChar (n % 10)], ?_, hc⟩
      rw [Nat.toDigits_of_base_le (by decide) hb, e]; rfl

theorem natText_num (n : Nat) : isNumText (natText n) = true := by
  have hd : ∀ c ∈ natText n, isDigit c = true := fun c hc =>
    isDigit_of_core (Nat.isDigit_of_mem_toDigits (by decide) (by decide) hc)
  by_cases hn : n = 0
  · subst hn; decide
  · obtain ⟨c, t, e, hc⟩ := toDigits_head n (by omega)
    simp only [natText] at hd ⊢
    rw [e] at hd ⊢
    have : numStart c = .int := by simp [numStart, hc]
    simp [isNumText, hd c (by simp), this, numScan_digits t (fun d h => hd d (by simp [h]))]

theorem natExpr_wf (X : Ora) (n : Nat) : wf X (natExpr n) = true := by simp [natExpr, wf, natText_num]
theorem intExpr_wf (X : Ora) (i : Int) : wf X (intExpr i) = true := by
  unfold intExpr; split <;> simp [wf, natText_num]

/-- the `repr(float)` oracle answers with decimal literals -/
def OraOk (O : EOra) : Prop := ∀ (X : Ora) q, wf X (floatExpr (O.fl q)) = true

theorem qExpr_wf (X : Ora) (O : EOra) (hO : OraOk O) (q : Q) : wf X (qExpr O q) = true := by
  unfold qExpr; split
  · exact intExpr_wf X _
  · exact hO X q

theorem boolExpr_wf (X : Ora) (b : Bool) : wf X (boolExpr b) = true := by
  cases b
  · exact wf_cFalse X
  · exact wf_cTrue X

mutual
theorem valExpr_wf (X : Ora) (O : EOra) (hO : OraOk O) : ∀ (v : PyVal), jsonVal v = true → wf X (valExpr O v) = true
  | .none, _ => wf_cNone X
  | .bool b, _ => boolExpr_wf X b
  | .int i, _ => intExpr_wf X i
  | .float q, _ => hO X q
  | .str _, _ => rfl
  | .list xs, h => valExprL_wf X O hO xs h
  | .dict kvs, h => valExprKV_wf X O hO kvs h
  | .dec _, h | .tuple _, h | .set _ _, h | .deque _, h | .enumv _ _, h | .inst _ _, h | .opaque _, h => by
    simp [jsonVal] at h
theorem valExprL_wf (X : Ora) (O : EOra) (hO : OraOk O) : ∀ (xs : List PyVal), jsonValL xs = true → wfL X (valExprL O xs) = true
  | [], _ => rfl
  | x :: xs, h => by
    simp only [jsonValL, Bool.and_eq_true] at h
    simp [valExprL, wfL, valExpr_wf X O hO x h.1, valExprL_wf X O hO xs h.2]
theorem valExprKV_wf (X : Ora) (O : EOra) (hO : OraOk O) : ∀ (kvs : List (PyVal × PyVal)), jsonValKV kvs = true →
    wfKVs X (valExprKV O kvs) = true
  | [], _ => rfl
  | (k, v) :: r, h => by
    simp only [jsonValKV, Bool.and_eq_true] at h
    simp [valExprKV, wfKVs, valExpr_wf X O hO k h.1.1, valExpr_wf X O hO v h.1.2, valExprKV_wf X O hO r h.2]
end

theorem defaultExpr_wf (X : Ora) (O : EOra) (hO : OraOk O) (v : PyVal) (h : jsonVal v = true) :
    wf X (defaultExpr O v) = true := by
  have := valExpr_wf X O hO v h
  unfold defaultExpr
  split <;> exact this

theorem nodupL_iff : ∀ l : List (List Char), nodupL l = true ↔ l.Nodup
  | [] => ⟨fun _ => .nil, fun _ => rfl⟩
  | _ :: xs => nodupBool_cons (nodupL_iff xs)

theorem wfKws_append (X : Ora) : ∀ (a b : List (List Char × PyExpr)), wfKws X (a ++ b) = (wfKws X a && wfKws X b)
  | [], b => by simp [wfKws]
  | (k, v) :: a, b => by simp [wfKws, wfKws_append X a b, Bool.and_assoc]

theorem wfKws_iff (X : Ora) : ∀ kws : List (List Char × PyExpr),
    wfKws X kws = true ↔ ∀ p ∈ kws, targetName X p.1 = true ∧ wf X p.2 = true
  | [] => by simp [wfKws]
  | (k, v) :: r => by simp [wfKws, wfKws_iff X r, and_assoc]

theorem schemaKws_names (O : EOra) (defaults : List (String × PyVal)) :
    ∀ ps : List (String × Schema), (schemaKws O defaults ps).map (·.1) = (ps.map (·.1)).map String.toList
  | [] => rfl
  | (n, s) :: ps => by simp [schemaKws, schemaKws_names O defaults ps]

theorem wf_call_default (X : Ora) (O : EOra) (hO : OraOk O) (f : List Char) (kws : List (List Char × PyExpr))
    (d : Option PyVal) (hf : identOk X f = true) (hd : dOk d = true)
    (hn : nodupL (kws.map (·.1) ++ dName d) = true) (hk : wfKws X kws = true) :
    wf X (callS f (withDefault O d kws)) = true := by
  have h1 : (withDefault O d kws).map (·.1) = kws.map (·.1) ++ dName d := by
    cases d <;> simp [withDefault, optKw, dName]
  have h2 : wfKws X (withDefault O d kws) = true := by
    rw [withDefault, wfKws_append X, hk]
    cases d with
    | none => rfl
    | some v =>
      have t : targetName X chars!"default" = true := targetName_of_ascii X (by decide)
      simp only [optKw, wfKws, t, defaultExpr_wf X O hO v hd, Bool.and_self]
  simp [callS, wf, hf, h1, hn, h2]

/-- Keyword arguments of one of the generator's own calls: the names that are present are, in this
    order, among the fixed names `full`, and the values are well-formed.  Which optional keywords are
    present then does not matter for the names being distinct and assignable. -/
def KwsIn (X : Ora) (full : List (List Char)) (kws : List (List Char × PyExpr)) : Prop :=
  (kws.map (·.1)).Sublist full ∧ ∀ p ∈ kws, wf X p.2 = true

theorem KwsIn.nil {X : Ora} {full : List (List Char)} : KwsIn X full [] := ⟨List.nil_sublist _, by simp⟩

theorem KwsIn.kw {X : Ora} {k : List Char} {e : PyExpr} (he : wf X e = true) : KwsIn X [k] (kw k e) :=
  ⟨List.Sublist.refl _, by simpa [Emit.kw] using he⟩

theorem KwsIn.optKw {X : Ora} {α} {k : List Char} {f : α → PyExpr} (hf : ∀ x, wf X (f x) = true) {o : Option α} :
    KwsIn X [k] (optKw k f o) := by
  cases o with
  | none => exact .nil
  | some x => exact .kw (hf x)

theorem KwsIn.ite {X : Ora} {full : List (List Char)} {a b : List (List Char × PyExpr)} {c : Bool}
    (ha : KwsIn X full a) (hb : KwsIn X full b) : KwsIn X full (if c then a else b) := by
  cases c <;> assumption

theorem KwsIn.append {X : Ora} {f₁ f₂ : List (List Char)} {a b : List (List Char × PyExpr)}
    (ha : KwsIn X f₁ a) (hb : KwsIn X f₂ b) : KwsIn X (f₁ ++ f₂) (a ++ b) := by
  refine ⟨by rw [List.map_append]; exact ha.1.append hb.1, fun p hp => ?_⟩
  rcases List.mem_append.1 hp with hp | hp
  · exact ha.2 p hp
  · exact hb.2 p hp

theorem KwsIn.wfKws {X : Ora} {full : List (List Char)} {kws : List (List Char × PyExpr)}
    (hk : KwsIn X full kws) (hfull : full.all targetNameA = true) : wfKws X kws = true := by
  rw [List.all_eq_true] at hfull
  exact (wfKws_iff X kws).2 fun p hp =>
    ⟨targetName_of_ascii X (hfull _ (hk.1.subset (List.mem_map_of_mem hp))), hk.2 p hp⟩

/-- a call of the generator's own: the function name and the fixed keyword names (with `default`)
    are checked once, by evaluation -/
theorem wf_call_fixed (X : Ora) (O : EOra) (hO : OraOk O) {f : List Char} {full : List (List Char)}
    {kws : List (List Char × PyExpr)} (d : Option PyVal) (hd : dOk d = true) (hk : KwsIn X full kws)
    (hfix : (asciiIdent f && nodupL (full ++ [chars!"default"]) && full.all targetNameA) = true) :
    wf X (callS f (withDefault O d kws)) = true := by
  simp only [Bool.and_eq_true, nodupL_iff] at hfix
  refine wf_call_default X O hO f kws d (identOk_of_ascii X hfix.1.1) hd ?_ (hk.wfKws hfix.2)
  refine (nodupL_iff _).2 (hfix.1.2.sublist (hk.1.append ?_))
  cases d
  · exact List.nil_sublist _
  · exact List.Sublist.refl _

theorem strList_wf (X : Ora) (xs : List String) : wf X (strList xs) = true := by
  simp only [strList, wf]
  induction xs with
  | nil => rfl
  | cons x xs ih => simp [wfL, wf, ih]

theorem arrKws_in (X : Ora) (sz : SizeOpts) (addl : Bool) :
    KwsIn X [chars!"uniqueItems", chars!"additionalItems", chars!"minItems", chars!"maxItems"] (arrKws sz addl) :=
  (((KwsIn.ite (.kw (wf_cTrue X)) .nil).append (.ite .nil (.kw (wf_cFalse X)))).append
    (.optKw (natExpr_wf X))).append (.optKw (natExpr_wf X))

mutual
theorem schemaExpr_wf (X : Ora) (O : EOra) (hO : OraOk O) : ∀ (s : Schema) (d : Option PyVal), emitOk X s d = true →
    wf X (schemaExpr O s d) = true
  | .ref n, d, h => h
  | .num i mult mn mx ex, d, h =>
    wf_call_fixed X O hO d h
      ((((KwsIn.optKw (intExpr_wf X)).append (.optKw (qExpr_wf X O hO))).append
        (.optKw (qExpr_wf X O hO))).append (.ite (.kw (wf_cTrue X)) .nil))
      (by cases i <;> decide +kernel)
  | .str lo hi p, d, h =>
    wf_call_fixed X O hO d h
      (((KwsIn.optKw (natExpr_wf X)).append (.optKw (natExpr_wf X))).append
        (.optKw (fun _ => by simp [wf])))
      (by decide +kernel)
  | .bool, d, h =>
    wf_call_fixed X O hO d h (.nil (full := [])) (by decide +kernel)
  | .enum vs, d, h => by
    have h := Bool.and_eq_true_iff.1 h
    exact wf_call_fixed X O hO d h.2
      (.kw (valExprL_wf X O hO vs h.1)) (by decide +kernel)
  | .arrAny sz, d, h =>
    wf_call_fixed X O hO d h (arrKws_in X sz true) (by decide +kernel)
  | .arrOf s sz, d, h => by
    have h := Bool.and_eq_true_iff.1 h
    exact wf_call_fixed X O hO d h.2
      ((arrKws_in X sz true).append (.kw (schemaExpr_wf X O hO s none h.1))) (by decide +kernel)
  | .arrPos ss addl sz, d, h => by
    have h := Bool.and_eq_true_iff.1 h
    exact wf_call_fixed X O hO d h.2
      ((arrKws_in X sz addl).append (.kw (schemaExprL_wf X O hO ss h.1))) (by decide +kernel)
  | .mapAny a mn mx, d, h =>
    wf_call_fixed X O hO d h
      ((KwsIn.optKw (natExpr_wf X)).append (.optKw (natExpr_wf X))) (by decide +kernel)
  | .mapOf v mn mx, d, h => by
    simp only [emitOk, Bool.and_eq_true] at h
    have hs : wf X (callS chars!"String" []) = true := by
      simp [callS, wf, wfKws, nodupL, identOk_of_ascii X (show asciiIdent chars!"String" = true by decide)]
    exact wf_call_fixed X O hO d h.2
      (((KwsIn.kw (by simp [wf, wfL, hs, schemaExpr_wf X O hO v none h.1])).append
        (.optKw (natExpr_wf X))).append (.optKw (natExpr_wf X))) (by decide +kernel)
  | .obj props defaults req addl, d, h => by
    simp only [emitOk, Bool.and_eq_true] at h
    obtain ⟨⟨⟨hnames, hnd⟩, hp⟩, hd⟩ := h
    simp only [schemaExpr]
    apply wf_call_default X O hO _ _ d (identOk_of_ascii X (by decide +kernel)) hd
    · rw [List.map_append, List.map_append, schemaKws_names]
      cases addl <;> cases req <;> exact hnd
    · rw [wfKws_append X, schemaKws_wf X O hO defaults props hnames hp,
        ((KwsIn.ite .nil (.kw (wf_cFalse X))).append
          (.optKw (strList_wf X))).wfKws (by decide +kernel)]
      rfl
  | .allOf ss, d, h | .anyOf ss, d, h | .oneOf ss, d, h | .notS ss, d, h => by
    have h := Bool.and_eq_true_iff.1 h
    exact wf_call_fixed X O hO d h.2
      (.kw (schemaExprL_wf X O hO ss h.1)) (by decide +kernel)
  | .unsupported _, _, h => by simp [emitOk] at h
theorem schemaExprL_wf (X : Ora) (O : EOra) (hO : OraOk O) : ∀ (ss : List Schema), emitOkL X ss = true →
    wfL X (schemaExprL O ss) = true
  | [], _ => rfl
  | s :: ss, h => by
    simp only [emitOkL, Bool.and_eq_true] at h
    simp [schemaExprL, wfL, schemaExpr_wf X O hO s none h.1, schemaExprL_wf X O hO ss h.2]
theorem schemaKws_wf (X : Ora) (O : EOra) (hO : OraOk O) (defaults : List (String × PyVal)) :
    ∀ (ps : List (String × Schema)), (ps.all fun p => targetName X p.1.toList) = true →
    emitOkP X defaults ps = true → wfKws X (schemaKws O defaults ps) = true
  | [], _, _ => rfl
  | (n, s) :: ps, hn, h => by
    simp only [List.all_cons, Bool.and_eq_true] at hn
    simp only [emitOkP, Bool.and_eq_true] at h
    simp [schemaKws, wfKws, hn.1, schemaExpr_wf X O hO s _ h.1, schemaKws_wf X O hO defaults ps hn.2 h.2]
end

/-- the condition on body lines that is closed under `++` (`BodyOk.append`): a part of a body may be
    empty, which `any nonBlank` does not allow -/
def BodyOk (X : Ora) (l : List Item) : Prop := l.all (wfItem X) = true ∧ (l = [] ∨ l.any nonBlank = true)

theorem BodyOk.nil {X : Ora} : BodyOk X [] := ⟨rfl, Or.inl rfl⟩

theorem BodyOk.append {X : Ora} {a b : List Item} (ha : BodyOk X a) (hb : BodyOk X b) : BodyOk X (a ++ b) := by
  refine ⟨by simp [List.all_append, ha.1, hb.1], ?_⟩
  rcases ha.2 with rfl | h
  · simpa using hb.2
  · exact Or.inr (by simp [List.any_append, h])

theorem propItems_ok (X : Ora) (O : EOra) (hO : OraOk O) (defaults : List (String × PyVal)) :
    ∀ (ps : List (String × Schema)), (ps.all fun p => targetName X p.1.toList) = true → emitOkP X defaults ps = true →
    BodyOk X (propItems O defaults ps)
  | [], _, _ => .nil
  | (n, s) :: ps, hn, h => by
    simp only [List.all_cons, Bool.and_eq_true] at hn
    simp only [emitOkP, Bool.and_eq_true] at h
    have ih := propItems_ok X O hO defaults ps hn.2 h.2
    exact ⟨by simp [propItems, wfItem, hn.1, schemaExpr_wf X O hO s _ h.1, ih.1], Or.inr (by simp [propItems, nonBlank])⟩

theorem reqItems_ok (X : Ora) (r : Option (List String)) : BodyOk X (reqItems r) := by
  cases r with
  | none => exact .nil
  | some r =>
    have t : targetName X nRequired = true := targetName_of_ascii X (by decide)
    exact ⟨by simp [reqItems, wfItem, t, strList_wf X], Or.inr (by simp [reqItems, nonBlank])⟩

theorem docItems_ok (X : Ora) (desc : Option String) : BodyOk X (docItems desc) := by
  cases desc with
  | none => exact .nil
  | some d => exact ⟨by simp [docItems, wfItem], Or.inr (by simp [docItems, nonBlank])⟩

theorem finish_ok (X : Ora) (all : List Item) (h : BodyOk X all) :
    (if all.isEmpty then [Item.pass] else all).all (wfItem X) = true
      ∧ (if all.isEmpty then [Item.pass] else all).any nonBlank = true := by
  obtain ⟨h1, rfl | h2⟩ := h
  · simp [wfItem, nonBlank]
  · cases all with
    | nil => simp at h2
    | cons x xs => simp only [List.isEmpty_cons, Bool.false_eq_true, if_false]; exact ⟨h1, h2⟩

theorem classItems_ok (X : Ora) (O : EOra) (hO : OraOk O) (desc : Option String) (s : Schema)
    (hs : classSchemaOk X s = true) :
    (classItems O desc s).all (wfItem X) = true ∧ (classItems O desc s).any nonBlank = true := by
  have addl : BodyOk X [Item.assign nAddl (.const cFalse)] :=
    ⟨by simp [wfItem, targetName_of_ascii X (show targetNameA nAddl = true by decide),
      wf_cFalse X], Or.inr (by simp [nonBlank])⟩
  have wrapped : ∀ s : Schema, emitOk X s none = true → BodyOk X (Item.assign nWrapped (schemaExpr O s none)
      :: (if typedWrapped s then reqItems (some ["wrapped"]) else [])) := by
    intro s hs
    refine ⟨?_, Or.inr (by simp [nonBlank])⟩
    have tW : targetName X nWrapped = true := targetName_of_ascii X (by decide)
    have := (reqItems_ok X (some ["wrapped"])).1
    cases typedWrapped s <;> simp [wfItem, tW, schemaExpr_wf X O hO s none hs, this]
  simp only [classItems]
  refine finish_ok X _ ((docItems_ok X desc).append ?_)
  cases s with
  | obj props defaults req addl' =>
    simp only [classSchemaOk, Bool.and_eq_true] at hs
    have ha : BodyOk X (if addl' then [] else [Item.assign nAddl (.const cFalse)]) := by
      cases addl'
      · exact addl
      · exact .nil
    exact (ha.append (propItems_ok X O hO defaults props hs.1 hs.2)).append (reqItems_ok X _)
  | mapAny a mn mx =>
    show BodyOk X (if a = some false then _ else _)
    split
    · exact addl
    · exact .nil
  | mapOf v mn mx => exact .nil
  -- every other schema is emitted as `wrapped = <field>`; `hs` then says `emitOk X s none`
  | _ => exact wrapped _ hs

theorem classOk_of_src (X : Ora) (O : EOra) (hO : OraOk O) (c : ClassSrc) (h : classSrcOk X c = true) : classOk X O c = true := by
  simp only [classSrcOk, Bool.and_eq_true] at h
  have := classItems_ok X O hO c.desc c.schema h.2
  simp [classOk, h.1.1, this.1, this.2]

end Typedpy.Emit
