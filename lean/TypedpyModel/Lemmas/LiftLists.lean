/-
  Lemmas/LiftLists.lean — C06 for the list-like documents: Array / Deque / Tuple (homogeneous or positional) and Set.
  The two sides agree on the items after validation (`mapE_then_eq`, item by item; `zip_then_eq`, positional), and one
  lemma takes that to the field for any builder and validator of the built value (`list_assemble`): the validator
  runs the item validator and, apart from that, sees the same of the items read on both sides — their number
  (`seq_assemble`, `tuple_assemble`: no uniqueItems), or the items themselves, where both sides read them as they are
  (`idScalar`; `list_id_assemble`: Array / Deque / Tuple with uniqueItems, Set of strings).
-/
import TypedpyModel.Lemmas.LiftScalars
import TypedpyModel.Lemmas.RoundTrip
namespace Typedpy
open PyVal (pyEq pyMem pyNodup)

theorem strictJsonList_mem : ∀ (xs : List PyVal), strictJsonList xs = true → ∀ x ∈ xs, strictJson x = true :=
  fun xs => (allB_iff (by rw [strictJsonList]) (fun _ _ => by rw [strictJsonList]) xs).1

theorem exactAll_mem : ∀ (fs : List FieldDecl), exactAll fs = true → ∀ f ∈ fs, exactDecl f = true :=
  fun fs => (allB_iff (by rw [exactAll]) (fun _ _ => by rw [exactAll]) fs).1

theorem mapO_eq_some_iff {α β} {g : α → Option β} : ∀ {xs : List α} {ys : List β},
    mapO g xs = some ys ↔ Pointwise (fun x y => g x = some y) xs ys
  | [], ys => ⟨fun h => by cases h; exact .nil, fun h => by cases h; rfl⟩
  | x :: xs, ys => by
    rw [mapO_cons]
    simp only [Option.bind_eq_some_iff, Option.some.injEq]
    constructor
    · rintro ⟨y, hy, ys', hys, rfl⟩; exact .cons hy (mapO_eq_some_iff.1 hys)
    · intro h; cases h with | cons hr h' => exact ⟨_, hr, _, mapO_eq_some_iff.2 h', rfl⟩

theorem mapO_length {α β} (g : α → Option β) : ∀ (xs : List α) (ys : List β), mapO g xs = some ys → ys.length = xs.length :=
  fun _ _ h => (mapO_eq_some_iff.1 h).length_eq

theorem isJsonList_mem : ∀ (xs : List PyVal), isJsonList xs = true → ∀ x ∈ xs, isJson x = true :=
  fun xs => (isJsonList_iff xs).1

theorem mapE_then_eq {α β γ} (D : α → R β) (L : α → Option β) (V : β → R γ) (xs : List α)
    (h : ∀ x ∈ xs, (okOf (D x)).bind (fun y => okOf (V y)) = (L x).bind fun w => okOf (V w)) :
    (okOf (mapE D xs)).bind (fun ys => okOf (mapE V ys)) = (mapO L xs).bind fun ws => okOf (mapE V ws) := by
  simp only [okOf_mapE, mapO_bind_mapO]
  exact mapO_congr xs h

theorem lf_list_equiv (O : Oracles) (opts : DeserOpts) (f : FieldDecl) :
    ∀ (xs : List PyVal), (∀ x ∈ xs, OkEq (deserThen O opts f x) (liftThen O opts f x)) →
    ∀ zs, (∃ ys, mapE (deser O opts false f) xs = .ok ys ∧ mapE (validate O f) ys = .ok zs)
        ↔ (∃ ws, mapO (lift O opts f) xs = some ws ∧ mapE (validate O f) ws = .ok zs) :=
  fun xs h => bind_okOf_eq_iff.mp (mapE_then_eq _ _ _ xs fun x hx => okEq_then (h x hx))

theorem deserZip_length (O : Oracles) (opts : DeserOpts) : ∀ (fs : List FieldDecl) (xs ys : List PyVal),
    deserZip O opts fs xs = .ok ys → ys.length = xs.length
  | [], xs, ys, h => by simp [deserZip] at h; subst h; rfl
  | _ :: _, [], ys, h => by simp [deserZip] at h
  | f :: fs, x :: xs, ys, h => by
    simp only [deserZip] at h
    rcases bindE_eq_ok h with ⟨y, _, h2⟩
    rcases bindE_eq_ok h2 with ⟨ys', hys, h3⟩
    cases h3
    simp [deserZip_length O opts fs xs ys' hys]

theorem liftZip_cons (O : Oracles) (opts : DeserOpts) (f : FieldDecl) (fs : List FieldDecl) (x : PyVal) (xs : List PyVal) :
    liftZip O opts (f :: fs) (x :: xs)
      = (lift O opts f x).bind fun y => (liftZip O opts fs xs).bind fun ys => some (y :: ys) := by
  simp only [liftZip]
  cases lift O opts f x <;> cases liftZip O opts fs xs <;> rfl

theorem liftZip_length (O : Oracles) (opts : DeserOpts) : ∀ (fs : List FieldDecl) (xs ws : List PyVal),
    liftZip O opts fs xs = some ws → ws.length = xs.length
  | [], xs, ws, h => by simp [liftZip] at h; subst h; rfl
  | _ :: _, [], ws, h => by simp [liftZip] at h
  | f :: fs, x :: xs, ws, h => by
    rw [liftZip_cons] at h
    obtain ⟨y, _, h⟩ := Option.bind_eq_some_iff.mp h
    obtain ⟨ys, hys, h⟩ := Option.bind_eq_some_iff.mp h
    cases h
    simp [liftZip_length O opts fs xs ys hys]

theorem zip_then_eq (O : Oracles) (opts : DeserOpts) : ∀ (fs : List FieldDecl) (xs : List PyVal),
    (∀ f ∈ fs, ∀ d ∈ xs, OkEq (deserThen O opts f d) (liftThen O opts f d)) →
    (okOf (deserZip O opts fs xs)).bind (fun ys => okOf (validateZip O fs ys))
      = (liftZip O opts fs xs).bind fun ws => okOf (validateZip O fs ws)
  | [], _, _ => rfl
  | _ :: _, [], _ => rfl
  | f :: fs, x :: xs, h => by
    have hx := okEq_then (h f (List.mem_cons_self ..) x (List.mem_cons_self ..))
    have ih := zip_then_eq O opts fs xs fun g hg d hd => h g (List.mem_cons_of_mem _ hg) d (List.mem_cons_of_mem _ hd)
    simp only [deserZip, liftZip_cons, validateZip, okOf_bindE, okOf_ok, Option.bind_assoc, Option.bind_some]
    rw [bind_bind_comm, bind_bind_comm, hx, ih]

theorem zip_equiv_of (O : Oracles) (opts : DeserOpts) (fs : List FieldDecl)
    (ihf : ∀ f ∈ fs, ∀ d, exactDecl f = true → strictJson d = true →
      OkEq (deserThen O opts f d) (liftThen O opts f d))
    (xs : List PyVal) (hex : exactAll fs = true) (hj : strictJsonList xs = true) :
    ∀ zs, (∃ ys, deserZip O opts fs xs = .ok ys ∧ validateZip O fs ys = .ok zs)
        ↔ (∃ ws, liftZip O opts fs xs = some ws ∧ validateZip O fs ws = .ok zs) :=
  bind_okOf_eq_iff.mp (zip_then_eq O opts fs xs fun f hf d hd =>
    ihf f hf d (exactAll_mem fs hex f hf) (strictJsonList_mem xs hj d hd))

theorem vSeq_mkSeq_ok (k : SeqKind) (sz : SizeOpts) (p : Nat → Bool) (g : List PyVal → R (List PyVal))
    (ys : List PyVal) (hu : sz.uniq = false) (r : PyVal) :
    vSeq k sz (fun xs => p xs.length) g (mkSeq k ys) = .ok r
      ↔ sizeOk sz ys.length = true ∧ p ys.length = true ∧ ∃ zs, g ys = .ok zs ∧ r = mkSeq k zs := by
  rw [vSeq_eq_ok_iff]
  simp only [hu, uniqOk, Bool.not_false, Bool.true_or, true_and]
  constructor
  · rintro ⟨xs, zs, hv, hs, hp, hg, rfl⟩
    cases (seqElems_mkSeq k ys).symm.trans (seqElems_eq_some.2 hv)
    exact ⟨hs, hp, zs, hg, rfl⟩
  · rintro ⟨hs, hp, zs, hg, rfl⟩
    exact ⟨ys, zs, rfl, hs, hp, hg, rfl⟩

theorem okOf_vSeq_mkSeq (k : SeqKind) (sz : SizeOpts) (pre : List PyVal → Bool) (g : List PyVal → R (List PyVal))
    (ys : List PyVal) :
    okOf (vSeq k sz pre g (mkSeq k ys))
      = if uniqOk sz.uniq ys = true then if sizeOk sz ys.length = true then if pre ys = true then
          (okOf (g ys)).bind fun zs => if uniqOk sz.uniq zs = true then some (mkSeq k zs) else none
        else none else none else none := by
  unfold vSeq
  simp only [seqElems_mkSeq, okOf_guard, okOf_bindE, okOf_ok]

theorem okOf_vTuple (uniq : Bool) (pre : List PyVal → Bool) (g : List PyVal → R (List PyVal)) (ys : List PyVal) :
    okOf (vTuple uniq pre g (.tuple ys))
      = if uniqOk uniq ys = true then if pre ys = true then
          (okOf (g ys)).bind fun zs => if uniqOk uniq zs = true then some (.tuple zs) else none
        else none else none := by
  unfold vTuple
  simp only [okOf_guard, okOf_bindE, okOf_ok]

/-- a list-like document, read by `dg` on the one side and `lg` on the other, which agree on the items after
    validation (`hequiv`); `mk` builds the value from the items read and `V` validates it.  `V` runs the item
    validator `vg` (`h0`), and apart from that sees the same of the items read on both sides (`h1`: their number, or
    the items themselves where both sides read them as they are) -/
theorem list_assemble (mk : List PyVal → R PyVal) (V : PyVal → R PyVal)
    (dg vg : List PyVal → R (List PyVal)) (lg : List PyVal → Option (List PyVal)) (xs : List PyVal)
    (h0 : ∀ ys, okOf (vg ys) = none → okOf (bindE (mk ys) V) = none)
    (h1 : ∀ ys ws, dg xs = .ok ys → lg xs = some ws → okOf (vg ys) = okOf (vg ws) →
      okOf (bindE (mk ys) V) = okOf (bindE (mk ws) V))
    (hequiv : (okOf (dg xs)).bind (fun ys => okOf (vg ys)) = (lg xs).bind fun ws => okOf (vg ws)) :
    okOf (bindE (dSeq mk (fun xs => toValueErr (dg xs)) (.list xs)) V)
      = (lg xs).bind fun ws => okOf (bindE (mk ws) V) := by
  have hD : okOf (bindE (dSeq mk (fun xs => toValueErr (dg xs)) (.list xs)) V)
      = (okOf (dg xs)).bind fun ys => okOf (bindE (mk ys) V) := by
    simp only [dSeq, docSeq, okOf_bindE, okOf_toValueErr, Option.bind_assoc]
  rw [hD]
  exact bind_eq_of_bind_eq hequiv (fun ys _ => h0 ys) fun ys ws hy hw => h1 ys ws (okOf_eq_some.mp hy) hw

theorem seq_assemble (k : SeqKind) (sz : SizeOpts) (p : Nat → Bool)
    (dg vg : List PyVal → R (List PyVal)) (lg : List PyVal → Option (List PyVal))
    (hu : sz.uniq = false)
    (hlenD : ∀ xs ys, dg xs = .ok ys → ys.length = xs.length)
    (hlenL : ∀ xs ws, lg xs = some ws → ws.length = xs.length)
    (xs : List PyVal)
    (hequiv : ∀ zs, (∃ ys, dg xs = .ok ys ∧ vg ys = .ok zs) ↔ (∃ ws, lg xs = some ws ∧ vg ws = .ok zs)) :
    OkEq (bindE (dSeq (fun ys => .ok (mkSeq k ys)) (fun xs => toValueErr (dg xs)) (.list xs))
            (vSeq k sz (fun xs => p xs.length) vg))
         (match (lg xs).map (mkSeq k) with
          | some w => vSeq k sz (fun xs => p xs.length) vg w
          | none => .error .valueErr) := by
  rw [okEq_iff, list_assemble (fun ys => .ok (mkSeq k ys)) _ dg vg lg xs
    (fun ys h => by rw [bindE_ok, okOf_vSeq_mkSeq, h]; simp only [Option.bind_none, ite_self])
    (fun ys ws hy hw hv => by
      rw [bindE_ok, bindE_ok, okOf_vSeq_mkSeq, okOf_vSeq_mkSeq, hv, hlenD _ _ hy, hlenL _ _ hw]
      simp only [hu, uniqOk, Bool.not_false, Bool.true_or])
    (bind_okOf_eq_iff.mpr hequiv)]
  cases lg xs <;> rfl

theorem tuple_assemble (uniq : Bool) (p : Nat → Bool)
    (dg vg : List PyVal → R (List PyVal)) (lg : List PyVal → Option (List PyVal))
    (hu : uniq = false)
    (hlenD : ∀ xs ys, dg xs = .ok ys → ys.length = xs.length)
    (hlenL : ∀ xs ws, lg xs = some ws → ws.length = xs.length)
    (xs : List PyVal)
    (hequiv : ∀ zs, (∃ ys, dg xs = .ok ys ∧ vg ys = .ok zs) ↔ (∃ ws, lg xs = some ws ∧ vg ws = .ok zs)) :
    OkEq (bindE (dSeq (fun ys => .ok (.tuple ys)) (fun xs => toValueErr (dg xs)) (.list xs))
            (vTuple uniq (fun xs => p xs.length) vg))
         (match (lg xs).map PyVal.tuple with
          | some w => vTuple uniq (fun xs => p xs.length) vg w
          | none => .error .valueErr) := by
  rw [okEq_iff, list_assemble (fun ys => .ok (.tuple ys)) _ dg vg lg xs
    (fun ys h => by rw [bindE_ok, okOf_vTuple, h]; simp only [Option.bind_none, ite_self])
    (fun ys ws hy hw hv => by
      rw [bindE_ok, bindE_ok, okOf_vTuple, okOf_vTuple, hv, hlenD _ _ hy, hlenL _ _ hw]
      simp only [hu, uniqOk, Bool.not_false, Bool.true_or])
    (bind_okOf_eq_iff.mpr hequiv)]
  cases lg xs <;> rfl

theorem idScalar_deser (O : Oracles) (opts : DeserOpts) (f : FieldDecl) (x y : PyVal)
    (hid : idScalar f = true) (h : deser O opts false f x = .ok y) : y = x := by
  cases f <;> first | (cases hid; done) | skip
  all_goals
    simp only [deser_number, deser_integer, deser_float, deser_string, deser_boolean, deser_enumLit,
      Bool.and_false, Bool.false_eq_true, if_false] at h
    exact (dValidated_eq_ok.mp h).2

theorem idScalar_lift (O : Oracles) (opts : DeserOpts) (f : FieldDecl) (x : PyVal)
    (hid : idScalar f = true) : lift O opts f x = some x := by
  cases f <;> first | (cases hid; done) | rfl

theorem idScalar_exact (f : FieldDecl) (hid : idScalar f = true) : exactDecl f = true := by
  cases f <;> first | (cases hid; done) | rfl

theorem mapE_deser_id (O : Oracles) (opts : DeserOpts) (f : FieldDecl) (hid : idScalar f = true) :
    ∀ (xs ys : List PyVal), mapE (deser O opts false f) xs = .ok ys → ys = xs :=
  fun _ _ h => Pointwise.eq_self.1 ((mapE_eq_ok_iff.1 h).imp fun x _ y _ => idScalar_deser O opts f x y hid)

theorem mapO_lift_id (O : Oracles) (opts : DeserOpts) (f : FieldDecl) (hid : idScalar f = true) :
    ∀ (xs : List PyVal), mapO (lift O opts f) xs = some xs
  | [] => rfl
  | x :: xs => by simp [mapO, idScalar_lift O opts f x hid, mapO_lift_id O opts f hid xs]

/-- a list-like of identity scalars under any builder `mk` and validator `V` that runs the items' validators
    (`h0`): both sides read the items as they are, so `V` sees the very same value `mk xs` -/
theorem list_id_assemble (O : Oracles) (opts : DeserOpts) (f : FieldDecl) (hid : idScalar f = true)
    (mk : List PyVal → R PyVal) (V : PyVal → R PyVal) (xs : List PyVal)
    (hel : ∀ x ∈ xs, OkEq (deserThen O opts f x) (liftThen O opts f x))
    (h0 : ∀ ys, okOf (mapE (validate O f) ys) = none → okOf (bindE (mk ys) V) = none) :
    okOf (bindE (dSeq mk (fun xs => toValueErr (mapE (deser O opts false f) xs)) (.list xs)) V)
      = okOf (bindE (mk xs) V) := by
  rw [list_assemble mk V _ (mapE (validate O f)) (mapO (lift O opts f)) xs h0
    (fun ys ws hy hw _ => by
      rw [mapE_deser_id O opts f hid xs ys hy, Option.some.inj ((mapO_lift_id O opts f hid xs).symm.trans hw)])
    (mapE_then_eq _ _ _ xs fun x hx => okEq_then (hel x hx)), mapO_lift_id O opts f hid xs]
  rfl

theorem seq_id_okEq (O : Oracles) (opts : DeserOpts) (k : SeqKind) (sz : SizeOpts) (f : FieldDecl)
    (hid : idScalar f = true) (xs : List PyVal)
    (hel : ∀ x ∈ xs, OkEq (deserThen O opts f x) (liftThen O opts f x)) :
    OkEq (deserThen O opts (.seqOf k f sz) (.list xs)) (liftThen O opts (.seqOf k f sz) (.list xs)) := by
  rw [okEq_iff]
  refine (list_id_assemble O opts f hid (fun ys => .ok (mkSeq k ys)) (validate O (.seqOf k f sz)) xs hel
    fun ys h => ?_).trans ?_
  · rw [bindE_ok, validate_seqOf, okOf_vSeq_mkSeq, h]; simp only [Option.bind_none, ite_self]
  · rw [okOf_liftThen]; unfold lift
    simp only [listDoc, Option.bind_some, mapO_lift_id O opts f hid xs, Option.map_some, bindE_ok]

theorem tuple_id_okEq (O : Oracles) (opts : DeserOpts) (u : Bool) (f : FieldDecl)
    (hid : idScalar f = true) (xs : List PyVal)
    (hel : ∀ x ∈ xs, OkEq (deserThen O opts f x) (liftThen O opts f x)) :
    OkEq (deserThen O opts (.tupleOf f u) (.list xs)) (liftThen O opts (.tupleOf f u) (.list xs)) := by
  rw [okEq_iff]
  refine (list_id_assemble O opts f hid (fun ys => .ok (.tuple ys)) (validate O (.tupleOf f u)) xs hel
    fun ys h => ?_).trans ?_
  · rw [bindE_ok, validate_tupleOf, okOf_vTuple, h]; simp only [Option.bind_none, ite_self]
  · rw [okOf_liftThen]; unfold lift
    simp only [listDoc, Option.bind_some, mapO_lift_id O opts f hid xs, Option.map_some, bindE_ok]

theorem isStringDecl_id (f : FieldDecl) (h : isStringDecl f = true) : idScalar f = true := by
  cases f <;> first | (cases h; done) | rfl

theorem string_validate_ok (O : Oracles) (f : FieldDecl) (hs : isStringDecl f = true) (x z : PyVal)
    (h : validate O f x = .ok z) : ∃ s, x = .str s := by
  cases f <;> first | (cases hs; done) | skip
  simp only [validate_string] at h
  unfold vString at h
  cases x <;> simp at h
  exact ⟨_, rfl⟩

theorem pyEq_str_left (s : String) (y : PyVal) (h : pyEq (.str s) y = true) : y = .str s := by
  cases y <;> simp [pyEq] at h
  subst h; rfl

/-- if every representative kept by `set(...)` is an accepted string, every element is: an element
    equal to an accepted string is that string -/
theorem validate_all_of_dedup (O : Oracles) (f : FieldDecl) (hs : isStringDecl f = true) :
    ∀ (xs : List PyVal), (∀ r ∈ dedup xs, ∃ z, validate O f r = .ok z) →
      ∀ x ∈ xs, ∃ z, validate O f x = .ok z
  | [], _, x, hx => by simp at hx
  | a :: as, h, x, hx => by
    simp only [dedup] at h
    have ha : ∃ z, validate O f a = .ok z := h a (by simp)
    have hrest : ∀ r ∈ dedup as, ∃ z, validate O f r = .ok z := by
      intro r hr
      by_cases he : pyEq a r = true
      · rcases ha with ⟨z, hz⟩
        rcases string_validate_ok O f hs a z hz with ⟨s, rfl⟩
        have := pyEq_str_left s r he
        subst this
        exact ⟨z, hz⟩
      · exact h r (by simp [List.mem_filter, hr, he])
    rcases List.mem_cons.mp hx with rfl | hx'
    · exact ha
    · exact validate_all_of_dedup O f hs as hrest x hx'

/-- Set of strings: both sides read the items as they are, so both validate the very same set; a document one of
    whose elements the String field rejects is rejected by both -/
theorem set_str_okEq (O : Oracles) (opts : DeserOpts) (imm : Bool) (sz : SizeOpts) (f : FieldDecl)
    (hs : isStringDecl f = true) (xs : List PyVal) :
    OkEq (deserThen O opts (.setOf imm f sz) (.list xs)) (liftThen O opts (.setOf imm f sz) (.list xs)) := by
  have hid := isStringDecl_id f hs
  have hel : ∀ x ∈ xs, OkEq (deserThen O opts f x) (liftThen O opts f x) := by
    cases f <;> first | (cases hs; done) | exact fun x _ => okEq_string O opts _ _ _ x
  rw [okEq_iff]
  refine (list_id_assemble O opts f hid mkSet (validate O (.setOf imm f sz)) xs hel fun ys h => ?_).trans ?_
  · cases hr : bindE (mkSet ys) (validate O (.setOf imm f sz)) with
    | error _ => rfl
    | ok r =>
      obtain ⟨w, hw, hv⟩ := bindE_eq_ok hr
      obtain ⟨_, rfl⟩ := mkSet_eq_ok_iff.1 hw
      obtain ⟨_, _, zs, hv', hzs, _⟩ := vSet_eq_ok hv
      cases hv'
      obtain ⟨zs', hz'⟩ := Pointwise.of_forall_exists (validate_all_of_dedup O f hs ys fun r hr =>
        let ⟨z, _, hz⟩ := (mapE_eq_ok_iff.1 hzs).mem_left r hr; ⟨z, hz⟩)
      rw [mapE_eq_ok_iff.2 hz'] at h; cases h
  · rw [okOf_liftThen]; unfold lift
    simp only [listDoc, Option.bind_some, mapO_lift_id O opts f hid xs, okOf_bindE, mkSet]
    split <;> rfl

end Typedpy
