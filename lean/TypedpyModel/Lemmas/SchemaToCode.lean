/-
  Lemmas/SchemaToCode.lean — schema → declaration → schema is the identity (up to the order of
  `required`) on the code fragment, by mutual structural induction over the `Schema` AST.
-/
import TypedpyModel.Sem.SchemaToCode
namespace Typedpy

/-- every `$ref` name resolves to the (non-inline) class generated under that name -/
def RefsAreClasses (ρ : String → FieldDecl) : Prop :=
  ∀ n, ∃ c fs ds, ρ n = .struct c fs ds ∧ c.inline = false ∧ c.name = n

theorem num_roundtrip (i : Bool) (mult : Option Int) (mn mx : Option Q) (ex : Bool) :
    toSchemaF (numDecl i mult mn mx ex) = .num i mult mn mx ex := by
  cases i <;> cases mn <;> cases mx <;> simp [numDecl, toSchemaF, numSchema, signMin, signMax]

theorem names_schemaToDeclP (ρ : String → FieldDecl) :
    ∀ ps : List (String × Schema), (schemaToDeclP ρ ps).map (·.1) = ps.map (·.1)
  | [] => by simp [schemaToDeclP]
  | (n, s) :: ps => by simp [schemaToDeclP, names_schemaToDeclP ρ ps]

theorem names_toSchemaP : ∀ ps : List (String × FieldDecl), (toSchemaP ps).map (·.1) = ps.map (·.1)
  | [] => by simp [toSchemaP]
  | (n, s) :: ps => by simp [toSchemaP, names_toSchemaP ps]

theorem names_normReqP : ∀ ps : List (String × Schema), (normReqP ps).map (·.1) = ps.map (·.1)
  | [] => by simp [normReqP]
  | (n, s) :: ps => by simp [normReqP, names_normReqP ps]

theorem canonReq_roundtrip (names dn req : List String) (h : dn.all req.contains = true) :
    canonReq names (schemaRequired (declRequired names dn (some req)) dn) = canonReq names req := by
  rw [List.all_eq_true] at h
  refine List.filter_congr fun n _ => ?_
  -- a name with a default is listed again because it has one, any other name iff it was listed
  by_cases hd : n ∈ dn
  · simpa [schemaRequired, declRequired, hd] using h n hd
  · simp [schemaRequired, declRequired, hd]

theorem schemaToDecl_ne_noneF (ρ : String → FieldDecl) (hρ : RefsAreClasses ρ) (s : Schema) :
    schemaToDecl ρ s ≠ .noneF := by
  cases s with
  | num i m a b e => cases i <;> simp [schemaToDecl, numDecl]
  | ref n =>
    obtain ⟨c, fs, ds, h, _, _⟩ := hρ n
    simp [schemaToDecl, h]
  | _ => simp [schemaToDecl]

theorem anyOfShape_image (ρ : String → FieldDecl) (hρ : RefsAreClasses ρ) (ss : List Schema)
    (ts : List Schema) : anyOfShape (schemaToDeclL ρ ss) ts = .anyOf ts := by
  unfold anyOfShape
  split
  · -- `AnyOf[X, None]`: no schema is emitted as `NoneField`
    rename_i hfs
    match ss, hfs with
    | [a, b], hfs =>
      simp only [schemaToDeclL, List.cons.injEq, and_true] at hfs
      exact absurd hfs.2 (schemaToDecl_ne_noneF ρ hρ b)
    | [], hfs => simp [schemaToDeclL] at hfs
    | [a], hfs => simp [schemaToDeclL] at hfs
    | a :: b :: c :: r, hfs => simp [schemaToDeclL] at hfs
  · rfl

theorem objIssues_nil {names dn : List String} {required : Option (List String)} {addl : Bool}
    (h : objIssues names dn required addl = []) : ∃ req, required = some req ∧ dn.all req.contains = true := by
  cases required with
  | none => cases h
  | some req =>
    refine ⟨req, rfl, Decidable.byContradiction fun hd => ?_⟩
    have h2 := (List.append_eq_nil_iff.1 h).2
    rw [if_neg hd] at h2
    cases h2

/-- `structShape` of the generated class, when the field-wrapper form does not apply, is the source
    object; the nested, definition and top-level round trips are instances -/
theorem shape_roundtrip (ρ : String → FieldDecl) (props : List (String × Schema))
    (defaults : List (String × PyVal)) (required : Option (List String)) (addl w : Bool) (c : ClassOpts)
    (hc : c.required = declRequired (props.map (·.1)) (defaults.map (·.1)) required) (ha : c.addl = addl)
    (hw : (w && collapses c.required (props.map (·.1)) c.addl) = false)
    (h : issues (.obj props defaults required addl) = [])
    (ih : issuesP props = [] → normReqP (toSchemaP (schemaToDeclP ρ props)) = normReqP props) :
    normReq (structShape w c (toSchemaP (schemaToDeclP ρ props)) defaults)
      = normReq (.obj props defaults required addl) := by
  simp only [issues] at h
  obtain ⟨h1, h2⟩ := List.append_eq_nil_iff.1 h
  obtain ⟨req, rfl, hdn⟩ := objIssues_nil h1
  rw [hc, ha] at hw
  simp only [structShape, names_toSchemaP, names_schemaToDeclP, hc, ha, hw, Bool.false_eq_true, if_false, normReq,
    ih h2]
  rw [canonReq_roundtrip _ _ _ hdn]

mutual
theorem inverse_core (ρ : String → FieldDecl) (hρ : RefsAreClasses ρ) :
    ∀ s : Schema, issues s = [] → normReq (toSchemaF (schemaToDecl ρ s)) = normReq s
  | .num i m a b e, _ => by simp only [schemaToDecl, num_roundtrip]
  | .str _ _ _, _ | .bool, _ | .arrAny _, _ => by simp [schemaToDecl, toSchemaF]
  | .enum vs, h => by
    have hv : vs.all enumValOk = true := by simpa [issues] using h
    simp [schemaToDecl, toSchemaF, hv]
  | .arrOf s sz, h => by
    simp [schemaToDecl, toSchemaF, normReq, inverse_core ρ hρ s h]
  | .arrPos ss addl sz, h => by
    simp [schemaToDecl, toSchemaF, normReq, inverse_coreL ρ hρ ss h]
  | .mapAny addlKw mn mx, h => by
    cases addlKw with
    | some b => simp [issues] at h
    | none => simp [schemaToDecl, toSchemaF, mapSize, normReq]
  | .mapOf v mn mx, h => by
    simp [schemaToDecl, toSchemaF, plainStringKey, mapSize, normReq, inverse_core ρ hρ v h]
  | .obj props defaults required addl, h => by
    -- nested objects are never in the field-wrapper form
    simp only [schemaToDecl, toSchemaF, inlineOpts, if_true]
    exact shape_roundtrip ρ props defaults required addl false _ rfl rfl rfl h (inverse_coreP ρ hρ props)
  | .ref n, _ => by
    obtain ⟨c, fs, ds, h, hin, hn⟩ := hρ n
    simp [schemaToDecl, h, toSchemaF, hin, hn]
  | .anyOf ss, h => by
    simp [schemaToDecl, toSchemaF, anyOfShape_image ρ hρ, normReq, inverse_coreL ρ hρ ss h]
  | .allOf ss, h | .oneOf ss, h | .notS ss, h => by
    simp [schemaToDecl, toSchemaF, normReq, inverse_coreL ρ hρ ss h]
  | .unsupported w, h => by simp [issues] at h
theorem inverse_coreL (ρ : String → FieldDecl) (hρ : RefsAreClasses ρ) :
    ∀ ss : List Schema, issuesL ss = [] →
      normReqL (toSchemaL (schemaToDeclL ρ ss)) = normReqL ss
  | [], _ => by simp [schemaToDeclL, toSchemaL]
  | s :: ss, h => by
    simp only [issuesL] at h
    obtain ⟨h1, h2⟩ := List.append_eq_nil_iff.1 h
    simp [schemaToDeclL, toSchemaL, normReqL, inverse_core ρ hρ s h1, inverse_coreL ρ hρ ss h2]
theorem inverse_coreP (ρ : String → FieldDecl) (hρ : RefsAreClasses ρ) :
    ∀ ps : List (String × Schema), issuesP ps = [] →
      normReqP (toSchemaP (schemaToDeclP ρ ps)) = normReqP ps
  | [], _ => by simp [schemaToDeclP, toSchemaP]
  | (n, s) :: ps, h => by
    simp only [issuesP] at h
    obtain ⟨h1, h2⟩ := List.append_eq_nil_iff.1 h
    simp [schemaToDeclP, toSchemaP, normReqP, inverse_core ρ hρ s h1, inverse_coreP ρ hρ ps h2]
end

end Typedpy
