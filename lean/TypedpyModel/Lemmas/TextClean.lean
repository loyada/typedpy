/-
  Lemmas/TextClean.lean — the emitted module contains no NUL and no carriage return whenever its
  classes are well-formed (names are identifiers, numbers are decimal literals, `repr` escapes
  control characters, the docstring escaping rewrites CR and NUL).
-/
import TypedpyModel.Lemmas.PyGram
namespace Typedpy.Emit
open Typedpy.PyGram Typedpy.PyLex

def cleanC (c : Char) : Prop := c ≠ cNUL ∧ c ≠ cCR
def Clean (l : List Char) : Prop := ∀ c ∈ l, cleanC c
instance : DecidablePred cleanC := fun c => by unfold cleanC; infer_instance

theorem clean_nil : Clean [] := fun _ h => by cases h
theorem clean_append {a b : List Char} (ha : Clean a) (hb : Clean b) : Clean (a ++ b) := by
  intro c hc
  rcases List.mem_append.1 hc with h | h
  · exact ha c h
  · exact hb c h
theorem clean_cons {c : Char} {l : List Char} (hc : cleanC c) (hl : Clean l) : Clean (c :: l) := by
  intro d hd
  rcases List.mem_cons.1 hd with rfl | h
  · exact hc
  · exact hl d h

/-- NUL and CR are ASCII, where the oracle has no say, and no identifier characters -/
theorem idCont_clean (X : Ora) {c : Char} (h : idCont X c = true) : cleanC c := by
  constructor <;> (rintro rfl; revert h; rw [idCont_ascii X _ (by decide)]; decide)

theorem idStart_clean (X : Ora) {c : Char} (h : idStart X c = true) : cleanC c := by
  constructor <;> (rintro rfl; revert h; rw [idStart_ascii X _ (by decide)]; decide)

theorem wordX_clean (X : Ora) {w : List Char} (h : isWordX X w = true) : Clean w := by
  match w, h with
  | c :: r, h =>
    simp only [isWordX, Bool.and_eq_true, List.all_eq_true] at h
    exact clean_cons (idStart_clean X h.1) fun d hd => idCont_clean X (h.2 d hd)

theorem numNext_clean {p p' : NumPhase} {c : Char} (h : numNext p c = .cont p') : cleanC c := by
  constructor <;> (rintro rfl; cases p <;> cases h)

theorem numScan_clean : ∀ (t : List Char) (p : NumPhase), numScan p t = true → Clean t
  | [], _, _ => clean_nil
  | c :: t, p, h => by
    simp only [numScan] at h
    cases hn : numNext p c with
    | cont p' =>
      simp only [hn] at h
      exact clean_cons (numNext_clean hn) (numScan_clean t p' h)
    | fin => simp [hn] at h
    | bad => simp [hn] at h

theorem num_clean {t : List Char} (h : isNumText t = true) : Clean t := by
  match t, h with
  | c :: r, h =>
    simp only [isNumText, Bool.and_eq_true] at h
    refine clean_cons ?_ (numScan_clean r _ h.2)
    constructor <;> (rintro rfl; exact absurd h.1 (by decide))

theorem clean_lit {l : List Char} (h : l.all (fun c => decide (cleanC c)) = true) : Clean l := by
  intro c hc
  have := List.all_eq_true.1 h c hc
  simpa using this

theorem sepFirst_clean (first : Bool) : Clean (if first then [] else sep) := by
  cases first
  · exact clean_lit (by decide)
  · exact clean_nil

theorem identOk_clean (X : Ora) {n : List Char} (h : identOk X n = true) : Clean n :=
  wordX_clean X (identOk_word X h).1

theorem targetName_clean (X : Ora) {n : List Char} (h : targetName X n = true) : Clean n :=
  wordX_clean X (targetName_word X h).1

mutual
theorem render_clean (X : Ora) (pr : Char → Bool) : ∀ (e : PyExpr), wf X e = true → Clean (render pr e)
  | .name n, h => identOk_clean X h
  | .const w, h => by
    have h := Bool.and_eq_true_iff.1 h
    exact wordX_clean X (isWordX_of_ascii X (constKw_word h.1 h.2).1)
  | .num t, h => num_clean h
  | .negNum t, h => clean_cons (by decide) (num_clean h)
  | .strLit cs, _ => pyReprL_clean pr cs
  | .call f kws, h => by
    simp only [wf, Bool.and_eq_true] at h
    exact clean_append (identOk_clean X h.1.1) (clean_cons (by decide)
      (clean_append (renderKws_clean X pr kws h.2 true) (clean_lit (by decide))))
  | .list xs, h =>
    clean_cons (by decide) (clean_append (renderL_clean X pr xs h true) (clean_lit (by decide)))
  | .dict kvs, h =>
    clean_cons (by decide) (clean_append (renderKVs_clean X pr kvs h true) (clean_lit (by decide)))
  | .lam b, h =>
    clean_append (clean_lit (by decide)) (clean_cons (by decide)
      (clean_cons (by decide) (render_clean X pr b h)))
  | .bad, h => by simp [wf] at h
theorem renderL_clean (X : Ora) (pr : Char → Bool) : ∀ (xs : List PyExpr), wfL X xs = true → ∀ first, Clean (renderL pr first xs)
  | [], _, _ => clean_nil
  | x :: xs, h, first => by
    simp only [wfL, Bool.and_eq_true] at h
    exact clean_append (sepFirst_clean first)
      (clean_append (render_clean X pr x h.1) (renderL_clean X pr xs h.2 false))
theorem renderKws_clean (X : Ora) (pr : Char → Bool) : ∀ (kws : List (List Char × PyExpr)), wfKws X kws = true →
    ∀ first, Clean (renderKws pr first kws)
  | [], _, _ => clean_nil
  | (k, v) :: r, h, first => by
    simp only [wfKws, Bool.and_eq_true] at h
    exact clean_append (sepFirst_clean first) (clean_append (targetName_clean X h.1.1)
      (clean_cons (by decide) (clean_append (render_clean X pr v h.1.2) (renderKws_clean X pr r h.2 false))))
theorem renderKVs_clean (X : Ora) (pr : Char → Bool) : ∀ (kvs : List (PyExpr × PyExpr)), wfKVs X kvs = true →
    ∀ first, Clean (renderKVs pr first kvs)
  | [], _, _ => clean_nil
  | (k, v) :: r, h, first => by
    simp only [wfKVs, Bool.and_eq_true] at h
    exact clean_append (sepFirst_clean first) (clean_append (render_clean X pr k h.1.1) (clean_cons (by decide)
      (clean_cons (by decide) (clean_append (render_clean X pr v h.1.2) (renderKVs_clean X pr r h.2 false)))))
end

theorem renderItem_clean (X : Ora) (pr : Char → Bool) (it : Item) (h : wfItem X it = true) : Clean (renderItem pr it) := by
  have hi : Clean indent4 := clean_lit (by decide)
  cases it with
  | blank => exact clean_nil
  | pass => exact clean_append hi (clean_lit (by decide))
  | doc d =>
    exact clean_append hi (clean_append (docWrapL_clean d) (clean_lit (by decide)))
  | ann n e =>
    simp only [wfItem, Bool.and_eq_true] at h
    exact clean_append hi (clean_append (targetName_clean X h.1)
      (clean_cons (by decide) (clean_cons (by decide) (render_clean X pr e h.2))))
  | assign n e =>
    simp only [wfItem, Bool.and_eq_true] at h
    exact clean_append hi (clean_append (targetName_clean X h.1)
      (clean_cons (by decide) (clean_cons (by decide) (clean_cons (by decide)
        (render_clean X pr e h.2)))))

theorem renderItems_clean (X : Ora) (pr : Char → Bool) : ∀ (items : List Item), items.all (wfItem X) = true →
    Clean (renderItems pr items)
  | [], _ => clean_nil
  | it :: r, h => by
    simp only [List.all_cons, Bool.and_eq_true] at h
    exact clean_cons (by decide) (clean_append (renderItem_clean X pr it h.1) (renderItems_clean X pr r h.2))

theorem classText_clean (X : Ora) (O : EOra) (c : ClassSrc) (h : classOk X O c = true) :
    Clean (classText O c.name c.desc c.schema) := by
  simp only [classOk, Bool.and_eq_true] at h
  exact clean_append (clean_append (clean_lit (by decide)) (clean_cons (by decide)
    (clean_append (identOk_clean X h.1.1) (clean_lit (by decide))))) (renderItems_clean X O.pr _ h.1.2)

theorem joinClasses_clean (X : Ora) (O : EOra) : ∀ (defs : List ClassSrc), (∀ c ∈ defs, classOk X O c = true) →
    Clean (joinClasses O defs)
  | [], _ => clean_nil
  | [c], h => classText_clean X O c (h c (by simp))
  | c :: c' :: r, h =>
    clean_append (classText_clean X O c (h c (by simp))) (clean_append (clean_lit (by decide))
      (joinClasses_clean X O (c' :: r) (fun x hx => h x (by simp [hx]))))

theorem moduleText_clean (X : Ora) (O : EOra) (write : Bool) (defs : List ClassSrc) (main : ClassSrc)
    (hd : ∀ c ∈ defs, classOk X O c = true) (hm : classOk X O main = true) :
    textClean (moduleText O write defs main) = true := by
  have hc : Clean (moduleText O write defs main) := by
    refine clean_append (clean_lit (by decide)) (clean_append (clean_lit (by decide)) (clean_append ?_
      (clean_append (classText_clean X O main hm) (clean_lit (by decide)))))
    split
    · exact clean_nil
    · refine clean_append (joinClasses_clean X O defs hd) ?_
      cases write <;> exact clean_lit (by decide)
  simp only [textClean, Bool.and_eq_true, Bool.not_eq_true', List.contains_eq_mem, decide_eq_false_iff_not]
  exact ⟨fun h => (hc _ h).1 rfl, fun h => (hc _ h).2 rfl⟩

end Typedpy.Emit
