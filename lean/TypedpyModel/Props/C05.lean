/-
  C05: serialize then deserialize returns an equal value; the output is pure JSON.

  `ser` / `deser` (Sem/Serde.lean, Sem/Deser.lean) mirror serialize_val / deserialize_single_field;
  `validate` is what the constructor then does with the deserialized value.  The theorems hold on the fragment
  `inFrag` (Spec/SerFrag.lean; as class attributes also ImmutableSet and StructureReference, `attrSpecial`), and on
  `xFrag` (Spec/FragX.lean) for the extension kinds of Sem/SerdeX.lean.

  `_partial`: untyped collections, Anything, OneOf / AllOf / NotField, AnyOf over indistinguishable options, Map
  with other keys than String or Integer, and ImmutableSet / StructureReference elsewhere than as a class attribute
  are mirrored by the executable model and decided by the correspondence harness + round-trip oracle on the real
  code, but are not covered by these theorems.
-/
import TypedpyModel.Lemmas.RoundTripX
import TypedpyModel.Lemmas.TextStable
import TypedpyModel.Lemmas.RoundTrip
namespace Typedpy.C05
open Typedpy

/-- **C05 (field level)**: serialize → pure JSON → deserialize → the constructor's validation
    returns exactly the stored value -/
theorem field_round_trip_partial (O : Oracles) (opts : DeserOpts) (f : FieldDecl) (v : PyVal)
    (hc : conforms O f v = true) (hf : inFrag O f v = true) :
    ∃ j, ser O f v = .ok j ∧ isJson j = true
      ∧ deser O opts false f j = .ok v ∧ validate O f v = .ok v := by
  rcases round_trip O opts f v hc hf with ⟨j, h1, h2, _, h4, h5⟩
  exact ⟨j, h1, h2, h4, h5⟩

theorem serialize_pure_json_partial (O : Oracles) (f : FieldDecl) (v : PyVal)
    (hc : conforms O f v = true) (hf : inFrag O f v = true) :
    ∃ j, ser O f v = .ok j ∧ isJson j = true := by
  rcases round_trip O {} f v hc hf with ⟨j, h1, h2, _⟩
  exact ⟨j, h1, h2⟩

theorem attrs_pure (O : Oracles) (fields : List (String × FieldDecl)) :
    ∀ attrs : List (String × PyVal),
      (∀ a ∈ attrs, ∃ f, lookup a.1 fields = some f ∧ conforms O f a.2 = true ∧ inFrag O f a.2 = true) →
      ∃ r, mapE (fun (a : String × PyVal) =>
            bindE (serField O fields a.1 a.2) fun j => .ok (PyVal.str a.1, j)) attrs = .ok r
        ∧ isJsonPairs r = true ∧ r.map (·.1) = attrs.map (fun a => PyVal.str a.1)
  | [], _ => ⟨[], rfl, rfl, rfl⟩
  | a :: rest, h => by
    rcases h a (by simp) with ⟨f, hl, hc, hf⟩
    rcases serialize_pure_json_partial O f a.2 hc hf with ⟨j, h1, h2⟩
    rcases attrs_pure O fields rest (fun b hb => h b (by simp [hb])) with ⟨r, g1, g2, g3⟩
    refine ⟨(.str a.1, j) :: r, ?_, ?_, ?_⟩
    · simp [mapE, serField_lookup O a.1 a.2 f fields hl, h1, g1]
    · simp [isJsonPairs, isJsonKey, h2, g2]
    · simp [g3]

/-- **C05 (class level, purity)**: the keys of `Serializer(x).serialize()` are exactly the populated attribute names -/
theorem class_serialize_pure_json (O : Oracles) (c : ClassOpts) (fields : List (String × FieldDecl))
    (defaults : List (String × PyVal)) (attrs : List (String × PyVal))
    (hnn : attrs.all (fun a => !a.2.isNone) = true)
    (h : ∀ a ∈ attrs, ∃ f, lookup a.1 fields = some f ∧ conforms O f a.2 = true ∧ inFrag O f a.2 = true) :
    ∃ r, serialize O (.struct c fields defaults) (.inst c.name attrs) = .ok (.dict r)
      ∧ isJson (.dict r) = true ∧ r.map (·.1) = attrs.map (fun a => PyVal.str a.1) := by
  rcases attrs_pure O fields attrs h with ⟨r, g1, g2, g3⟩
  exact ⟨r, sInst_inst c (fun a ha => by simpa using List.all_eq_true.mp hnn a ha) g1, by simp [isJson, g2], g3⟩

/-- **C05 (class level)**: `Deserializer(cls).deserialize(Serializer(x).serialize())` is exactly `x`, for every
    setting of the deserialization flags.  The fragment includes unset optional fields and — as attributes of a class
    at any level — ImmutableSet and StructureReference fields, whose stored form (frozenset, instance of the inline
    class) differs from what the deserializer hands to the constructor (`attrSpecial`, `attr_special_rt2`) -/
theorem class_round_trip_partial (O : Oracles) (opts : DeserOpts) (c : ClassOpts)
    (fields : List (String × FieldDecl)) (defaults : List (String × PyVal)) (x : PyVal)
    (hf : inFrag O (.struct c fields defaults) x = true) :
    ∃ j, serialize O (.struct c fields defaults) x = .ok j ∧ isJson j = true
      ∧ deserialize O opts (.struct c fields defaults) j = .ok x := by
  have hf' := hf
  unfold inFrag at hf
  simp only [Bool.and_eq_true_iff] at hf
  obtain ⟨⟨⟨hinl, hacc⟩, _⟩, hv⟩ := hf
  obtain ⟨attrs, rfl, _⟩ := instShape_inv hv
  have hinl' : c.inline = false := by simpa using hinl
  have hc : conforms O (.struct c fields defaults) (.inst c.name attrs) = true := by
    simp [conforms, hinl', aClassRef]
    simpa using hacc
  obtain ⟨j, h1, h2, _, h4, _⟩ := round_trip O opts (.struct c fields defaults) (.inst c.name attrs) hc hf'
  -- `deserialize` is the class-reference branch of `deser`, which a JSON document passes only as an object
  rw [deser_struct, noneGuard_false, if_neg (by simp [hinl'])] at h4
  obtain ⟨r, rfl⟩ := dClassRef_json_dict h2 h4
  exact ⟨.dict r, h1, h2, h4⟩

theorem optional_survives (O : Oracles) (opts : DeserOpts) (g : FieldDecl) (v : PyVal)
    (hn : v.isNone = false) (hc : conforms O g v = true) (hf : inFrag O g v = true) :
    ∃ j, ser O (.anyOf [.noneF, g]) v = .ok j ∧ isJson j = true
      ∧ deser O opts false (.anyOf [.noneF, g]) j = .ok v := by
  obtain ⟨j, a, b, _, d, _⟩ := rt_optional O opts g v hn (shallowOk_of_frag O g v hc hf) (round_trip O opts g v hc hf)
  exact ⟨j, a, b, d⟩

/-- **AnyOf over distinguishable options** (`Optional[X]` in either order, `AnyOf[A, B, None]`, unions of
    scalars with collections or classes, at any depth since `inFrag` carries the same clause): the value is
    serialized by the option it belongs to, the document is read back by that option and the constructor
    stores it unchanged — provided every option listed before it fails its shallow check and its
    validation on the value and cannot accept a document of the JSON type produced (`inFragAny`) -/
theorem anyof_round_trip_partial (O : Oracles) (opts : DeserOpts) (fs : List FieldDecl) (v : PyVal)
    (hf : inFragAny O fs v = true) :
    ∃ j, ser O (.anyOf fs) v = .ok j ∧ isJson j = true
      ∧ deser O opts false (.anyOf fs) j = .ok v ∧ validate O (.anyOf fs) v = .ok v := by
  rcases round_trip_any O opts fs v hf with ⟨j, h1, h2, _, h4, h5⟩
  exact ⟨j, by simpa [ser_anyOf] using h1, h2, by simp [deser_anyOf, h4], by simpa [validate_anyOf] using h5⟩

def exO : Oracles := { reMatch := fun _ _ => true }

theorem falsy_survive :
    (∃ j, ser exO (.integer {}) (.int 0) = .ok j ∧ deser exO {} false (.integer {}) j = .ok (.int 0))
    ∧ (∃ j, ser exO (.string none none none) (.str "") = .ok j
          ∧ deser exO {} false (.string none none none) j = .ok (.str ""))
    ∧ (∃ j, ser exO .boolean (.bool false) = .ok j ∧ deser exO {} false .boolean j = .ok (.bool false))
    ∧ (∃ j, ser exO (.seqOf .list (.integer {}) {}) (.list []) = .ok j
          ∧ deser exO {} false (.seqOf .list (.integer {}) {}) j = .ok (.list [])) := by
  have rt (f : FieldDecl) (v : PyVal) (hc : conforms exO f v = true) (hf : inFrag exO f v = true) :
      ∃ j, ser exO f v = .ok j ∧ deser exO {} false f j = .ok v :=
    let ⟨j, a, _, b, _⟩ := field_round_trip_partial exO {} f v hc hf
    ⟨j, a, b⟩
  exact ⟨rt _ _ (by decide) (by decide), rt _ _ (by decide) (by decide), rt _ _ (by decide) (by decide),
    rt _ _ (by decide) (by decide)⟩

def exDecl : FieldDecl :=
  .seqOf .deque (.tuplePos [.enumCls "Color" ["RED", "BLUE"], .float { min := some ⟨0, 1⟩ },
                            .seqOf .list (.string (some 1) none none) { uniq := true }] true) { max := some 3 }
def exVal : PyVal :=
  .deque [.tuple [.enumv "Color" "BLUE", .float ⟨3, 2⟩, .list [.str "a", .str "b"]], .tuple [.enumv "Color" "RED", .float ⟨0, 1⟩, .list []]]

theorem round_trip_example :
    conforms exO exDecl exVal = true ∧ inFrag exO exDecl exVal = true
    ∧ (match ser exO exDecl exVal with
        | .ok j => isJson j && (match deser exO {} false exDecl j with
            | .ok (.deque [.tuple [.enumv "Color" "BLUE", _, _], .tuple [.enumv "Color" "RED", _, .list []]]) => true
            | _ => false)
        | .error _ => false) = true := by
  decide +kernel

def exInner : FieldDecl :=
  .struct { name := "Inner", required := ["a"], accepts := ["Inner"] }
    [("a", .integer {}), ("b", .anyOf [.noneF, .string none none none])] []
/-- `Outer(n: Inner, tag: Optional[String], xs: Array[Integer])`, the optional field of the nested instance unset -/
def exOuter : FieldDecl :=
  .struct { name := "Outer", required := ["n"], accepts := ["Outer"], addl := false }
    [("n", exInner), ("tag", .anyOf [.noneF, .string none none none]), ("xs", .seqOf .list (.integer {}) {})] []
def exInst : PyVal :=
  .inst "Outer" [("n", .inst "Inner" [("a", .int 0)]), ("tag", .str ""), ("xs", .list [])]

def exColl : FieldDecl :=
  .struct { name := "Coll", required := ["s"], accepts := ["Coll"] }
    [("s", .setOf false (.integer {}) { max := some 3 }),
     ("m", .mapOf (.string none none none) (.seqOf .list (.boolean) {}) {}),
     ("o", .anyOf [.noneF, .mapOf (.string (some 1) none none) (.integer {}) {}])] []
def exCollInst : PyVal :=
  .inst "Coll" [("s", .set false [.int 0, .int 2]), ("m", .dict [(.str "", .list []), (.str "k", .list [.bool false])])]

theorem set_map_round_trip_example :
    inFrag exO exColl exCollInst = true
    ∧ (match serialize exO exColl exCollInst with
        | .ok j => isJson j && (match deserialize exO {} exColl j with
            | .ok (.inst "Coll" [("s", .set false [.int 0, .int 2]), ("m", .dict [(.str "", .list []), (.str "k", .list [.bool false])])]) => true
            | _ => false)
        | .error _ => false) = true := by
  decide +kernel

/-- `U(f: AnyOf[Enum[Color], Integer, None], xs: Array[Optional[String]], m: AnyOf[Array[Integer], String])`:
    the enum member is serialized by the FIRST option although two non-None options and None are listed, a
    None element of the array survives, and a string is told from an array -/
def exUnion : FieldDecl :=
  .struct { name := "U", required := [], accepts := ["U"], addl := false }
    [("f", .anyOf [.enumCls "Color" ["RED", "BLUE"], .integer {}, .noneF]),
     ("xs", .seqOf .list (.anyOf [.string none none none, .noneF]) {}),
     ("m", .anyOf [.seqOf .list (.integer {}) {}, .string none none none])] []
def exUnionInst : PyVal :=
  .inst "U" [("f", .enumv "Color" "RED"), ("xs", .list [.str "a", .none]), ("m", .str "")]

theorem anyof_round_trip_example :
    inFrag exO exUnion exUnionInst = true
    ∧ (match serialize exO exUnion exUnionInst with
        | .ok (.dict [(.str "f", .str "RED"), (.str "xs", .list [.str "a", .none]), (.str "m", .str "")]) => true
        | _ => false) = true
    ∧ (match serialize exO exUnion exUnionInst with
        | .ok j => (match deserialize exO {} exUnion j with
            | .ok (.inst "U" [("f", .enumv "Color" "RED"), ("xs", .list [.str "a", .none]), ("m", .str "")]) => true
            | _ => false)
        | .error _ => false) = true
    -- an AnyOf of indistinguishable options is outside the fragment: a set under AnyOf[Array, Set]
    ∧ inFragAny exO [.seqOf .list (.integer {}) {}, .setOf false (.integer {}) {}] (.set false [.int 1]) = false := by
  decide +kernel

/-- a class with an ImmutableSet attribute and a StructureReference attribute (its inline class holding an
    ImmutableSet itself), nested in another class: the stored forms (frozenset, instance of the inline
    class) are not what the deserializer hands to the constructor (set, dict), and still the round trip
    returns exactly the instance -/
def exSpecial : FieldDecl :=
  .struct { name := "Sp", required := ["tags"], accepts := ["Sp"], addl := false }
    [("tags", .setOf true (.string none none none) { max := some 3 }),
     ("pos", .struct { name := "StructureReference_1", required := ["x"], addl := false, inline := true }
        [("x", .integer {}), ("marks", .setOf true (.integer {}) {})] [])] []
def exSpecialOuter : FieldDecl :=
  .struct { name := "SpO", required := ["sp"], accepts := ["SpO"] } [("sp", exSpecial), ("n", .integer {})] []
def exSpecialInst : PyVal :=
  .inst "SpO" [("sp", .inst "Sp" [("tags", .set true [.str "a", .str ""]),
      ("pos", .inst "StructureReference_1" [("x", .int 0), ("marks", .set true [.int 2])])]), ("n", .int 1)]

theorem immutable_set_and_reference_example :
    inFrag exO exSpecialOuter exSpecialInst = true
    ∧ (match serialize exO exSpecialOuter exSpecialInst with
        | .ok (.dict [(.str "sp", .dict [(.str "tags", .list [.str "a", .str ""]),
              (.str "pos", .dict [(.str "x", .int 0), (.str "marks", .list [.int 2])])]), (.str "n", .int 1)]) => true
        | _ => false) = true
    ∧ (match serialize exO exSpecialOuter exSpecialInst with
        | .ok j => (match deserialize exO {} exSpecialOuter j with
            | .ok (.inst "SpO" [("sp", .inst "Sp" [("tags", .set true [.str "a", .str ""]),
                ("pos", .inst "StructureReference_1" [("x", .int 0), ("marks", .set true [.int 2])])]), ("n", .int 1)]) => true
            | _ => false)
        | .error _ => false) = true := by
  decide +kernel

theorem class_round_trip_example :
    inFrag exO exOuter exInst = true
    ∧ (match serialize exO exOuter exInst with
        | .ok j => isJson j && (match deserialize exO {} exOuter j with
            | .ok (.inst "Outer" [("n", .inst "Inner" [("a", .int 0)]), ("tag", .str ""), ("xs", .list [])]) => true
            | _ => false)
        | .error _ => false) = true := by
  decide +kernel

/-- undeclared attributes that survive: names that are not fields, values that are non-None JSON scalars -/
def plainExtras (names : List String) (ex : List (String × PyVal)) : Bool :=
  ex.all fun a => !names.contains a.1 && !a.2.isNone && jsonScalar a.2

theorem plainExtras_mem {names : List String} {ex : List (String × PyVal)} (h : plainExtras names ex = true)
    {a : String × PyVal} (ha : a ∈ ex) : a.1 ∉ names ∧ a.2.isNone = false ∧ jsonScalar a.2 = true := by
  simpa [and_assoc] using List.all_eq_true.mp h a ha

theorem c05_serField_extra (O : Oracles) (k : String) (v : PyVal) (fields : List (String × FieldDecl))
    (h : (fields.map (·.1)).contains k = false) : serField O fields k v = serAny v := by
  rw [serField_eq_lookup, lookup_none_of_not_mem (by simpa using h)]

theorem c05_serAny_scalar (v : PyVal) (h : jsonScalar v = true) : serAny v = .ok v ∧ isJson v = true := by
  cases v <;> simp [jsonScalar] at h <;> simp [serAny, isJson]

/-- undeclared attributes in front of an attribute list are written as they are, in front of what the list is
    written to -/
theorem c05_ser_extras (O : Oracles) (fields : List (String × FieldDecl)) {attrs : List (String × PyVal)}
    {r : List (PyVal × PyVal)}
    (h1 : mapE (fun (a : String × PyVal) =>
      bindE (serField O fields a.1 a.2) fun j => .ok (PyVal.str a.1, j)) attrs = .ok r)
    (h2 : isJsonPairs r = true) :
    ∀ ex : List (String × PyVal), plainExtras (fields.map (·.1)) ex = true →
      mapE (fun (a : String × PyVal) =>
        bindE (serField O fields a.1 a.2) fun j => .ok (PyVal.str a.1, j)) (ex ++ attrs) = .ok (ex.map rt_toPair ++ r)
      ∧ isJsonPairs (ex.map rt_toPair ++ r) = true
  | [], _ => ⟨h1, h2⟩
  | a :: ex, h => by
    simp only [plainExtras, List.all_cons, Bool.and_eq_true_iff, Bool.not_eq_true'] at h
    obtain ⟨⟨⟨hn, _⟩, hs⟩, hrest⟩ := h
    rcases c05_ser_extras O fields h1 h2 ex (by simpa [plainExtras] using hrest) with ⟨g1, g2⟩
    rcases c05_serAny_scalar a.2 hs with ⟨s1, s2⟩
    constructor
    · simp only [List.cons_append, mapE, g1, c05_serField_extra O a.1 a.2 fields hn, s1]
      simp [rt_toPair]
    · simp [isJsonPairs, isJsonKey, rt_toPair, s2]; simpa [rt_toPair] using g2

/-- undeclared entries in front of entries under declared names: a filter that drops the declared names keeps
    exactly the former, if they pass the rest of its test -/
theorem c05_filter_extras (P : String × PyVal → Bool) (names : List String) (ex l : List (String × PyVal))
    (hex : ∀ a ∈ ex, a.1 ∉ names ∧ P a = true) (hl : ∀ a ∈ l, a.1 ∈ names) :
    (ex ++ l).filter (fun a => !names.contains a.1 && P a) = ex := by
  rw [List.filter_append, rt_filter_names_nil P names l hl, List.append_nil]
  exact List.filter_eq_self.mpr fun a ha => by simp [(hex a ha).1, (hex a ha).2]

/-- **C05 with additional properties**: a class that allows additional properties, an instance of the
    fragment that also carries undeclared attributes holding non-None JSON scalars (they come first in the
    instance, as the constructor stores them): with `keep_undefined` on, `Deserializer(cls).deserialize(
    Serializer(x).serialize())` gives back exactly `x`, the undeclared attributes included -/
theorem class_round_trip_extras_partial (O : Oracles) (opts : DeserOpts) (c : ClassOpts)
    (fields : List (String × FieldDecl)) (defaults ex attrs : List (String × PyVal))
    (hadd : c.addl = true) (hku : opts.keepUndefined = true)
    (hex : plainExtras (fields.map (·.1)) ex = true)
    (hf : inFrag O (.struct c fields defaults) (.inst c.name attrs) = true) :
    ∃ j, serialize O (.struct c fields defaults) (.inst c.name (ex ++ attrs)) = .ok j ∧ isJson j = true
      ∧ deserialize O opts (.struct c fields defaults) j = .ok (.inst c.name (ex ++ attrs)) := by
  unfold inFrag at hf
  simp only [Bool.and_eq_true_iff] at hf
  obtain ⟨⟨_, hnd⟩, ⟨_, hreq⟩, hcan⟩ := hf
  rcases rt_fields_of O opts c defaults fields (fun nf _ => round_trip_both O opts nf.2) attrs
    (of_decide_eq_true hnd) hcan with ⟨hnames, hnn, kw, args, g1, g2, g3, ga, g4, g5⟩
  obtain ⟨hser, hjs⟩ := c05_ser_extras O fields g1 g2 ex hex
  rw [← List.map_append] at hser hjs
  have hdisj : ∀ m ∈ fields.map (·.1), m ∉ ex.map (·.1) := fun m hm hmex =>
    let ⟨_, ha, e⟩ := List.mem_map.mp hmex
    (plainExtras_mem hex ha).1 (e ▸ hm)
  have hkwnames := names_of_keys _ kw attrs g3 hnames
  have hnn' : ∀ a ∈ ex ++ attrs, a.2.isNone = false := fun a ha =>
    (List.mem_append.mp ha).elim (fun h => (plainExtras_mem hex h).2.1) (hnn a)
  refine ⟨.dict ((ex ++ kw).map rt_toPair), sInst_inst c hnn' hser, by simp only [isJson]; exact hjs, ?_⟩
  have hargnames := names_of_keys _ args attrs ga hnames
  have hdf := g4 (ex ++ kw) fun m hm => lookup_append_of_not_mem (hdisj m hm) kw
  have hde : deserExtras opts c (fields.map (·.1)) (ex ++ kw) = ex := by
    unfold deserExtras
    simpa [Bool.and_assoc] using c05_filter_extras (fun _ => opts.keepUndefined && (c.addl || !opts.ignoreInvalidAddl))
      _ ex kw (fun a ha => ⟨(plainExtras_mem hex ha).1, by simp [hku, hadd]⟩) hkwnames
  have hvf := g5 (ex ++ args) fun m hm => lookup_append_of_not_mem (hdisj m hm) args
  have hxo : extrasOf c (fields.map (·.1)) (ex ++ args) = ex :=
    c05_filter_extras (fun a => !(a.2.isNone && c.ignoreNone)) _ ex args
      (fun a ha => ⟨(plainExtras_mem hex ha).1, by simp [(plainExtras_mem hex ha).2.1]⟩) hargnames
  -- a required name is found among the arguments, whatever stands in front of them
  have hbind : bindOk c (fields.map (·.1)) (ex ++ args) = true := by
    rw [bindOk_eq, kwShapeOk, hadd, Bool.true_or, Bool.and_true]
    refine List.all_eq_true.2 fun r hr => ?_
    rw [lookup_append, Option.isSome_or, rt_lookup_isSome_names r args attrs ga, List.all_eq_true.1 hreq r hr,
      Bool.or_true]
  have hk : kwOfDict ((ex ++ kw).map rt_toPair) = some (ex ++ kw) := rt_kwOfDict_map _
  simp only [deserialize, dClassRef, hk]
  simp [hdf, hde, vConstruct, hbind, hvf, hxo]

/-- non-vacuity: an open class with an undeclared attribute whose value is falsy -/
theorem class_round_trip_extras_example :
    plainExtras ["a", "b"] [("zz", .int 0), ("note", .str "")] = true
    ∧ inFrag exO exInner (.inst "Inner" [("a", .int 5)]) = true
    ∧ (match serialize exO exInner (.inst "Inner" [("zz", .int 0), ("note", .str ""), ("a", .int 5)]) with
        | .ok j => isJson j && (match deserialize exO { keepUndefined := true } exInner j with
            | .ok (.inst "Inner" [("zz", .int 0), ("note", .str ""), ("a", .int 5)]) => true
            | _ => false)
        | .error _ => false) = true
    -- with keep_undefined off the undeclared attributes are dropped: the hypothesis is needed
    ∧ (match serialize exO exInner (.inst "Inner" [("zz", .int 0), ("a", .int 5)]) with
        | .ok j => (match deserialize exO { keepUndefined := false } exInner j with
            | .ok (.inst "Inner" [("a", .int 5)]) => true
            | _ => false)
        | .error _ => false) = true := by
  decide +kernel

/-- **attributes holding None** (an Optional field given None explicitly, with or without `_ignore_none`):
    they are not serialized, and the round trip gives back the instance with those attributes unset — which
    reads the same (`x.f is None` either way).  `attrsN` = the instance's attributes, `attrs` = the ones that
    are not None. -/
theorem class_round_trip_none_attrs_partial (O : Oracles) (opts : DeserOpts) (c : ClassOpts)
    (fields : List (String × FieldDecl)) (defaults attrsN attrs : List (String × PyVal))
    (hN : attrsN.filter (fun a => !a.2.isNone) = attrs)
    (hf : inFrag O (.struct c fields defaults) (.inst c.name attrs) = true) :
    ∃ j, serialize O (.struct c fields defaults) (.inst c.name attrsN) = .ok j ∧ isJson j = true
      ∧ deserialize O opts (.struct c fields defaults) j = .ok (.inst c.name attrs) := by
  rcases class_round_trip_partial O opts c fields defaults (.inst c.name attrs) hf with ⟨j, h1, h2, h3⟩
  refine ⟨j, ?_, h2, h3⟩
  -- the serializer drops the None attributes, and dropping them twice is dropping them once
  subst hN
  simpa only [serialize, ser_struct, sInst, List.filter_filter, Bool.and_self] using h1

theorem class_round_trip_none_attrs_example :
    (match serialize exO exInner (.inst "Inner" [("a", .int 5), ("b", .none)]) with
      | .ok (.dict [(.str "a", .int 5)]) => true | _ => false) = true
    ∧ (match deserialize exO {} exInner (.dict [(.str "a", .int 5)]) with
      | .ok (.inst "Inner" [("a", .int 5)]) => true | _ => false) = true := by
  decide +kernel

/-- **C05 through JSON TEXT (partial: documents whose object keys are strings)**: for every class and instance of the
    fragment, if the serialized document is a JSON document in the strict sense (`docStable`: every object key
    is a string - the case unless a Map with Integer keys is involved, see `map_int_keys_text_counterexample`), then
    `json.loads(json.dumps(·))` returns it unchanged and `Deserializer(cls).deserialize(json.loads(json.dumps(
    Serializer(x).serialize())))` gives back exactly `x` -/
theorem class_text_round_trip_partial (O : Oracles) (opts : DeserOpts) (c : ClassOpts)
    (fields : List (String × FieldDecl)) (defaults : List (String × PyVal)) (x : PyVal)
    (hf : inFrag O (.struct c fields defaults) x = true) :
    ∃ j, serialize O (.struct c fields defaults) x = .ok j ∧ isJson j = true
      ∧ (docStable j = true →
          jsonRound j = some j
          ∧ (jsonRound j).map (deserialize O opts (.struct c fields defaults)) = some (.ok x)) := by
  rcases class_round_trip_partial O opts c fields defaults x hf with ⟨j, h1, h2, h3⟩
  refine ⟨j, h1, h2, fun hs => ?_⟩
  have := c05_jsonRound_stable j hs
  exact ⟨this, by rw [this]; simp [h3]⟩

theorem class_text_round_trip_example :
    (match serialize exO exOuter exInst with
      | .ok j => docStable j && (match (jsonRound j).map (deserialize exO {} exOuter) with
          | some (.ok (.inst "Outer" [("n", .inst "Inner" [("a", .int 0)]), ("tag", .str ""), ("xs", .list [])])) => true
          | _ => false)
      | .error _ => false) = true := by
  decide +kernel

/-- **Known finding (`text-roundtrip-fails:map-key:integer`), kernel-checked on the model.**  The round-trip
    theorems above are about the Python document `Serializer(x).serialize()` returns.  A Map with Integer keys
    serializes to an object whose keys are ints; it lies inside `inFrag` (String or Integer keys), so the round
    trip of the PYTHON document is proved; but `json.loads(json.dumps(doc))` (`jsonRound`) turns the keys into
    strings, which the Integer key field then refuses — the round trip through JSON TEXT fails. -/
theorem map_int_keys_text_counterexample :
    let cls : FieldDecl := .struct { name := "A", required := ["m"], accepts := ["A"] }
      [("m", .mapOf (.integer {}) (.string none none none) {})] []
    let x : PyVal := .inst "A" [("m", .dict [(.int 1, .str "a")])]
    inFrag exO cls x = true
    ∧ (match serialize exO cls x with
        | .ok j => (match deserialize exO {} cls j with
            | .ok (.inst "A" [("m", .dict [(.int 1, .str "a")])]) => true
            | _ => false)
          && (match jsonRound j with
            | some (.dict [(.str "m", .dict [(.str "1", .str "a")])]) => true
            | _ => false)
          && (match (jsonRound j).map (deserialize exO {} cls) with
            | some (.error .typeErr) => true
            | _ => false)
        | .error _ => false) = true := by
  decide +kernel

theorem xfield_round_trip_partial (XO : XOracles) (opts : DeserOpts) (x : XDecl) (v : PyVal)
    (hf : xFrag XO x v = true) :
    ∃ j, serX XO x v = .ok j ∧ isJson j = true
      ∧ deserX XO opts false x j = .ok v ∧ validateX XO x v = .ok v := by
  rcases xround_trip XO opts x v hf with ⟨j, h1, h2, _, h4, h5⟩
  exact ⟨j, h1, h2, h4, h5⟩

theorem xclass_round_trip_partial (XO : XOracles) (opts : DeserOpts) (c : ClassOpts)
    (fields : List (String × XDecl)) (x : PyVal)
    (hf : xFrag XO (.struct c fields) x = true) :
    ∃ j, serializeX XO (.struct c fields) x = .ok j ∧ isJson j = true
      ∧ deserializeX XO opts (.struct c fields) j = .ok x := by
  obtain ⟨j, h1, h2, _, h4, _⟩ := xround_trip XO opts (.struct c fields) x hf
  obtain ⟨r, rfl⟩ := dClassRef_json_dict h2 (noneGuard_false.symm.trans h4)
  exact ⟨.dict r, h1, h2, h4⟩

/-- the serialized form of a Decimal is `float(d)` and comes back as the Decimal of that float: the
    round trip returns an equal value exactly when the Decimal is a double (the lossy clause) -/
theorem decimal_round_trip_lossy (XO : XOracles) (opts : DeserOpts) (o : NumOpts) (q : Q) :
    serX XO (.decimal o) (.dec q) = .ok (.float (XO.toFloat q))
    ∧ deserX XO opts false (.decimal o) (.float (XO.toFloat q)) = .ok (.dec (XO.toFloat q)) := by
  constructor
  · unfold serX; simp [sDecimal]
  · unfold deserX; simp [PyVal.isNone, dDecimal, xConvDecimal, PyVal.asNum]

def exXO : XOracles :=
  { base := exO, toFloat := fun q => q,
    parse := fun _ _ s => if s == "2020-01-31" then some "date:2020-01-31" else none,
    format := fun _ _ _ => "2020-01-31",
    typeOf := fun t => if t == "date:2020-01-31" then "date" else "?" }

def exLevel : XDecl := .enumVal "Level" [("OFF", .int 0), ("LOW", .int 1), ("HIGH", .int 2)] true

/-- `Task(priority: Enum[Level] by value, due: Optional[DateField], amounts: Array[DecimalNumber(min 0)],
    tags: Map[String, Optional[Enum by value]])` -/
def exTask : XDecl :=
  .struct { name := "Task", required := ["priority"], accepts := ["Task"] }
    [("priority", exLevel), ("due", .opt (.temporal "date" "%Y-%m-%d" false)),
     ("amounts", .seqOf .list (.decimal { min := some ⟨0, 1⟩ })),
     ("tags", .mapStr (.opt exLevel))]
def exTaskInst : PyVal :=
  .inst "Task" [("priority", .enumv "Level" "OFF"), ("due", .opaque "date:2020-01-31"),
                ("amounts", .list [.dec ⟨0, 1⟩, .dec ⟨3, 2⟩]),
                ("tags", .dict [(.str "a", .enumv "Level" "OFF"), (.str "", .none)])]

/-- non-vacuity: a falsy member (IntEnum 0), a date, Decimals and an Optional enum inside a Map -/
theorem xclass_round_trip_example :
    xFrag exXO exTask exTaskInst = true
    ∧ (match serializeX exXO exTask exTaskInst with
        | .ok (.dict [(.str "priority", .int 0), (.str "due", .str "2020-01-31"),
                      (.str "amounts", .list [.float ⟨0, 1⟩, .float ⟨3, 2⟩]),
                      (.str "tags", .dict [(.str "a", .int 0), (.str "", .none)])]) => true
        | _ => false) = true
    ∧ (match serializeX exXO exTask exTaskInst with
        | .ok j => (match deserializeX exXO {} exTask j with
            | .ok (.inst "Task" [("priority", .enumv "Level" "OFF"), ("due", .opaque "date:2020-01-31"),
                ("amounts", .list [.dec _, .dec _]), ("tags", .dict [(.str "a", .enumv "Level" "OFF"), (.str "", .none)])]) => true
            | _ => false)
        | .error _ => false) = true := by
  decide +kernel

/-- **AnyOf over extension kinds** (`AnyOf[DateField, Integer, None]`, `AnyOf[Enum by value, Integer]`, …): the value
    is written by the option that owns it - not by the last non-None option -, read back by that option and stored
    unchanged, provided the options listed before it are skipped by the serializer, the constructor and the
    deserializer alike (`xFragAny`) -/
theorem xanyof_round_trip_partial (XO : XOracles) (opts : DeserOpts) (xs : List XDecl) (v : PyVal)
    (hf : xFragAny XO xs v = true) :
    ∃ j, serX XO (.anyOf xs) v = .ok j ∧ isJson j = true
      ∧ deserX XO opts false (.anyOf xs) j = .ok v ∧ validateX XO (.anyOf xs) v = .ok v := by
  rcases xround_trip_any XO opts xs v hf with ⟨j, h1, h2, _, h4, h5⟩
  exact ⟨j, by unfold serX; simpa using h1, h2, by unfold deserX; simp [h4], by unfold validateX; simpa using h5⟩

/-- non-vacuity, on the shape of the defect where an Optional union is serialized through its LAST non-None option:
    `when: AnyOf[DateField, Integer, None]` holding a date is written as the date's text, holding 3 as 3; both come back -/
theorem xanyof_round_trip_example :
    let u : XDecl := .anyOf [.temporal "date" "%Y-%m-%d" false, .base (.integer {}), .base .noneF]
    let cls : XDecl := .struct { name := "Ev", required := [], accepts := ["Ev"], addl := false } [("when", u)]
    xFrag exXO cls (.inst "Ev" [("when", .opaque "date:2020-01-31")]) = true
    ∧ xFrag exXO cls (.inst "Ev" [("when", .int 3)]) = true
    ∧ (match serializeX exXO cls (.inst "Ev" [("when", .opaque "date:2020-01-31")]) with
        | .ok (.dict [(.str "when", .str "2020-01-31")]) => true | _ => false) = true
    ∧ (match deserializeX exXO {} cls (.dict [(.str "when", .str "2020-01-31")]) with
        | .ok (.inst "Ev" [("when", .opaque "date:2020-01-31")]) => true | _ => false) = true
    ∧ (match serializeX exXO cls (.inst "Ev" [("when", .int 3)]) with
        | .ok (.dict [(.str "when", .int 3)]) => true | _ => false) = true
    ∧ (match deserializeX exXO {} cls (.dict [(.str "when", .int 3)]) with
        | .ok (.inst "Ev" [("when", .int 3)]) => true | _ => false) = true := by
  decide +kernel

/-- **C05 for `_enable_undefined_value` classes**: an Optional attribute is in one of THREE states - set, explicitly
    None, left out (Undefined).  The serialized object tells them apart (value / null / no key) and
    `Deserializer(cls).deserialize(Serializer(x).serialize())` gives back exactly `x`, None attributes included -/
theorem xclass_undefined_round_trip_partial (XO : XOracles) (opts : DeserOpts) (c : ClassOpts)
    (fields : List (String × XDecl)) (x : PyVal)
    (hf : xFrag XO (.structU c fields) x = true) :
    ∃ j, serializeX XO (.structU c fields) x = .ok j ∧ isJson j = true
      ∧ deserializeX XO opts (.structU c fields) j = .ok x := by
  obtain ⟨j, h1, h2, _, h4, _⟩ := xround_trip XO opts (.structU c fields) x hf
  obtain ⟨r, rfl⟩ := dClassRef_json_dict h2 (noneGuard_false.symm.trans h4)
  exact ⟨.dict r, h1, h2, h4⟩

theorem xclass_undefined_round_trip_example :
    let cls : XDecl := .structU { name := "U", required := ["d"], accepts := ["U"] }
      [("a", .opt (.base (.integer {}))), ("b", .opt exLevel), ("d", .base (.integer {}))]
    let x : PyVal := .inst "U" [("a", .none), ("d", .int 0)]          -- a: explicitly None, b: Undefined
    xFrag exXO cls x = true
    ∧ (match serializeX exXO cls x with
        | .ok (.dict [(.str "a", .none), (.str "d", .int 0)]) => true | _ => false) = true
    ∧ (match deserializeX exXO {} cls (.dict [(.str "a", .none), (.str "d", .int 0)]) with
        | .ok (.inst "U" [("a", .none), ("d", .int 0)]) => true | _ => false) = true
    ∧ (match deserializeX exXO {} cls (.dict [(.str "d", .int 0)]) with
        | .ok (.inst "U" [("d", .int 0)]) => true | _ => false) = true := by
  decide +kernel

/-- **C05, compact single-field wrappers**: a class with exactly one field, required, additional properties off,
    serialized with `compact=True`, is written as the serialized form of that field alone; with compact
    deserialization on, a document that is not an object (an object would be read as the regular form: a compact
    wrapper around a Map or a class is ambiguous by design) is read back by the field and handed to the constructor,
    which gives back exactly the instance -/
theorem xcompact_round_trip_partial (XO : XOracles) (opts : DeserOpts) (c : ClassOpts) (n : String) (x : XDecl)
    (v : PyVal) (hreq : c.required = [n]) (hadd : c.addl = false)
    (hf : xFrag XO (.struct c [(n, x)]) (.inst c.name [(n, v)]) = true) :
    ∃ j, serializeCompactX XO (.struct c [(n, x)]) (.inst c.name [(n, v)]) = .ok j ∧ isJson j = true
      ∧ ((∀ kvs, j ≠ .dict kvs) →
          deserializeCompactX XO opts (.struct c [(n, x)]) j = .ok (.inst c.name [(n, v)])) := by
  unfold xFrag at hf
  simp only [xCanonAttrs, Bool.and_eq_true_iff, beq_self_eq_true, if_true, List.isEmpty_nil] at hf
  obtain ⟨_, _, ⟨hvn, hfx⟩, _⟩ := hf
  have hvn' : v.isNone = false := by simpa using hvn
  obtain ⟨j, h1, h2, _, h4, h5⟩ := rtx_member XO opts c.ignoreNone x v (xround_trip XO opts x v hfx) (.inl hvn')
  have hcf : xCompactField (.struct c [(n, x)]) = some (n, x) := by simp [xCompactField, hreq, hadd]
  refine ⟨j, ?_, h2, fun hnd => ?_⟩
  · simp [serializeCompactX, hcf, lookup, h1]
  · have hcon : constructX XO (.struct c [(n, x)]) [(n, v)] = .ok (.inst c.name [(n, v)]) := by
      simp [constructX, vConstruct, bindOk, hreq, hadd, lookup, validateFieldsX, argFor, hvn', h5, extrasOf]
    cases j with
    | dict kvs => exact absurd rfl (hnd kvs)
    | _ => simp [deserializeCompactX, hcf, h4, hcon]

/-- non-vacuity: a compact wrapper around an Enum serialized by value whose values
    are strings that READ like JSON ("0", "true"): the compact form is the bare string "0", and it comes back as
    the member, not as the number 0 -/
theorem xcompact_round_trip_example :
    let cls : XDecl := .struct { name := "Status", required := ["value"], addl := false, accepts := ["Status"] }
      [("value", .enumVal "Code" [("OK", .str "0"), ("WARN", .str "1"), ("YES", .str "true")] false)]
    xFrag exXO cls (.inst "Status" [("value", .enumv "Code" "OK")]) = true
    ∧ (match serializeCompactX exXO cls (.inst "Status" [("value", .enumv "Code" "OK")]) with
        | .ok (.str "0") => true | _ => false) = true
    ∧ (match deserializeCompactX exXO {} cls (.str "0") with
        | .ok (.inst "Status" [("value", .enumv "Code" "OK")]) => true | _ => false) = true
    ∧ (match deserializeCompactX exXO {} cls (.int 0) with
        | .error .valueErr => true | _ => false) = true := by
  decide +kernel

end Typedpy.C05
