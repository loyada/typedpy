/-
  Lemmas/DefineWorld.lean — invariants of every class object in every world reachable by class
  statements: `_field_by_name` is the MRO merge of the own fields, the MRO is duplicate-free and
  closed, and every ancestor's MRO is a subsequence (C3).  Proved by induction over histories;
  `Reachable.all_classes` is that induction for any further invariant.  From the invariants: what
  `_field_by_name` holds for a name (the own field of its first owner along the MRO); the class a
  statement builds described in the world it is built in, through its direct bases (its linearisation
  is made of theirs, each member is declared in the body or is the identical member of a base); what
  the bases' signatures contribute by name, and `_required` and the constructor signature by name.
-/
import TypedpyModel.Lemmas.Faults
namespace Typedpy

theorem findCls_eq_find? (n : String) : ∀ l : List ClassDef, findCls n l = l.find? fun d => d.name == n
  | [] => rfl
  | d :: ds => by
    rw [findCls, List.find?_cons, findCls_eq_find? n ds]
    cases d.name == n <;> rfl

theorem findCls_some {n : String} {c : ClassDef} {l : List ClassDef} (h : findCls n l = some c) :
    c ∈ l ∧ c.name = n := by
  rw [findCls_eq_find?] at h
  exact ⟨List.mem_of_find?_eq_some h, eq_of_beq (List.find?_some (p := fun d : ClassDef => d.name == n) h)⟩

theorem findCls_append (n : String) (d : ClassDef) (l : List ClassDef) :
    findCls n (l ++ [d]) = (findCls n l).orElse fun _ => if d.name == n then some d else none := by
  rw [findCls_eq_find?, findCls_eq_find?, List.find?_append]
  cases l.find? fun d : ClassDef => d.name == n with
  | some c => rfl
  | none => rw [Option.none_or, Option.orElse_none, List.find?_singleton]

theorem find_add_of_some {w : World} {d c : ClassDef} {n : String} (h : w.find n = some c) :
    (w.add d).find n = some c := by
  rw [World.find] at h
  rw [World.find, World.add, findCls_append, h]; rfl

theorem find_add_fresh {w : World} {d : ClassDef} (h : w.find d.name = none) :
    (w.add d).find d.name = some d := by
  rw [World.find] at h
  rw [World.find, World.add, findCls_append, h, Option.orElse_none, beq_self_eq_true, if_pos rfl]

theorem find_add_inv {w : World} {d c : ClassDef} {n : String} (h : (w.add d).find n = some c) :
    w.find n = some c ∨ (w.find n = none ∧ c = d ∧ d.name = n) := by
  rw [World.find, World.add, findCls_append] at h
  rw [World.find]
  cases hf : findCls n w.classes with
  | some c' => rw [hf] at h; exact Or.inl h
  | none =>
    rw [hf, Option.orElse_none] at h
    split at h
    · rename_i hd; cases h; exact Or.inr ⟨rfl, rfl, eq_of_beq hd⟩
    · cases h

theorem ownOf_add {w : World} {d : ClassDef} {k : String} {c : ClassDef} (h : w.find k = some c) :
    ownOf (w.add d) k = ownOf w k := by
  rw [ownOf, ownOf, h, find_add_of_some h]

structure ClassOk (w : World) (c : ClassDef) : Prop where
  self : w.find c.name = some c
  head : ∃ t, c.mro = c.name :: t
  /-- `_field_by_name` is the MRO merge of the own `_fields` -/
  fields : c.allFields = updateAll [] ((c.mro.reverse.map (ownOf w)).flatten)
  nodup : c.mro.Nodup
  closed : ∀ a ∈ c.mro, ∃ ad, w.find a = some ad ∧ ad.mro.Sublist c.mro

def WorldOk (w : World) : Prop := ∀ n c, w.find n = some c → ClassOk w c

theorem classOk_add {w : World} {c d : ClassDef} (h : ClassOk w c) : ClassOk (w.add d) c where
  self := find_add_of_some h.self
  head := h.head
  fields := by
    rw [h.fields]
    congr 2
    apply List.map_congr_left
    intro k hk
    rcases h.closed k (List.mem_reverse.mp hk) with ⟨ad, had, _⟩
    exact (ownOf_add had).symm
  nodup := h.nodup
  closed := fun a ha => by
    rcases h.closed a ha with ⟨ad, had, hs⟩
    exact ⟨ad, find_add_of_some had, hs⟩

theorem classOk_keysNodup {w : World} {c : ClassDef} (h : ClassOk w c) : KeysNodup c.allFields := by
  rw [h.fields]; exact updateAll_keysNodup _ [] List.nodup_nil

theorem mem_baseDefs {w : World} {src : ClassSrc} {bd : ClassDef} :
    bd ∈ baseDefs w src ↔ ∃ b ∈ src.bases, w.find b = some bd := by
  simp [baseDefs, List.mem_filterMap]

structure DefFacts (w : World) (src : ClassSrc) : Prop where
  basesFound : ∀ b ∈ src.bases, (w.find b).isSome = true
  c3ok : c3 (mroSeqs w src) = some (mroTail w src)

theorem defFacts {O : Oracles} {w : World} {src : ClassSrc}
    (h : runChecks (checks O w src) = .ok ()) : DefFacts w src := by
  have hb := runChecks_ok_iff.mp h _ (mem_checks_base (O := O))
  have hm := mroCheck_ok (runChecks_ok_iff.mp h _ (mem_checks_mro (O := O)))
  exact ⟨List.all_eq_true.mp ((Bool.and_eq_true _ _).mp (raiseUnless_ok.mp hb)).1, hm⟩

theorem mroTail_origin {w : World} {src : ClassSrc} (hw : WorldOk w) (hf : DefFacts w src) {k : String}
    (hk : k ∈ mroTail w src) : ∃ b ∈ src.bases, ∃ bd, w.find b = some bd ∧ k ∈ bd.mro := by
  rcases c3merge_origin _ _ _ hf.c3ok k hk with ⟨s, hs, hks⟩
  simp only [mroSeqs, List.mem_append, List.mem_map, List.mem_singleton] at hs
  rcases hs with ⟨bd, hbd, rfl⟩ | rfl
  · rcases mem_baseDefs.mp hbd with ⟨b, hb, hfb⟩
    exact ⟨b, hb, bd, hfb, hks⟩
  · -- a base heads its own MRO
    cases hfk : w.find k with
    | none => have := hf.basesFound k hks; rw [hfk] at this; cases this
    | some kd =>
      rcases (hw k kd hfk).head with ⟨t, ht⟩
      exact ⟨k, hks, kd, hfk, by rw [ht, (findCls_some hfk).2]; exact List.mem_cons_self⟩

theorem mroTail_closed {w : World} {src : ClassSrc} (hw : WorldOk w) (hf : DefFacts w src) :
    ∀ k ∈ mroTail w src, ∃ kd, w.find k = some kd ∧ kd.mro.Sublist (mroTail w src) := by
  intro k hk
  rcases mroTail_origin hw hf hk with ⟨b, hb, bd, hfb, hkb⟩
  rcases (hw b bd hfb).closed k hkb with ⟨kd, hkd, hs⟩
  exact ⟨kd, hkd, hs.trans (baseMro_sublist_mroTail hf.c3ok hb hfb)⟩

theorem mroTail_nodup {w : World} {src : ClassSrc} (hf : DefFacts w src) : (mroTail w src).Nodup :=
  c3merge_nodup _ _ _ hf.c3ok

theorem worldOk_add {w : World} {c : ClassDef} {t : List String} (hw : WorldOk w)
    (hfresh : w.find c.name = none) (hm : c.mro = c.name :: t) (hnd : t.Nodup)
    (ht : ∀ k ∈ t, ∃ kd, w.find k = some kd ∧ kd.mro.Sublist t)
    (hall : c.allFields = updateAll [] ((t.reverse.map (ownOf w)).flatten ++ c.own)) :
    WorldOk (w.add c) := by
  intro n d hn
  rcases find_add_inv hn with h1 | ⟨_, rfl, _⟩
  · exact classOk_add (hw n d h1)
  refine { self := find_add_fresh hfresh, head := ⟨t, hm⟩, fields := ?_, nodup := ?_, closed := ?_ }
  · rw [hall, hm, List.reverse_cons, List.map_append, List.flatten_append]
    congr 2
    · congr 1
      apply List.map_congr_left
      intro k hk
      rcases ht k (List.mem_reverse.mp hk) with ⟨kd, hkd, _⟩
      exact (ownOf_add hkd).symm
    · simp [ownOf, find_add_fresh hfresh]
  · rw [hm]
    refine List.nodup_cons.mpr ⟨fun hmem => ?_, hnd⟩
    rcases ht _ hmem with ⟨kd, hkd, _⟩
    rw [hfresh] at hkd; cases hkd
  · intro a ha
    rw [hm] at ha ⊢
    rcases List.mem_cons.mp ha with rfl | ha
    · exact ⟨d, find_add_fresh hfresh, by rw [hm]; exact List.Sublist.refl _⟩
    · rcases ht a ha with ⟨ad, had, hs⟩
      exact ⟨ad, find_add_of_some had, List.Sublist.cons _ hs⟩

theorem worldOk_add_build {O : Oracles} {w : World} {src : ClassSrc} (hw : WorldOk w)
    (hc : runChecks (checks O w src) = .ok ()) (hfresh : w.find src.name = none) :
    WorldOk (w.add (build w src)) :=
  have hf := defFacts hc
  worldOk_add (c := build w src) hw hfresh rfl (mroTail_nodup hf) (mroTail_closed hw hf)
    (by rw [← List.flatten_concat]; exact mergeAll_eq _ _)

theorem worldOk_add_mixin {w : World} {n : String} (hw : WorldOk w) (hfresh : w.find n = none) :
    WorldOk (w.add (mixinDef n)) :=
  worldOk_add (t := []) hw hfresh rfl List.nodup_nil (fun _ h => by cases h) rfl

/-- the initial world (typedpy's own base classes), with any guard setting -/
def initWorld (bc bn : Bool) : World := { World.init with blockConsts := bc, blockNonTypedpy := bn }

theorem worldOk_init (bc bn : Bool) : WorldOk (initWorld bc bn) := by
  -- built up class by class from the empty world: `Structure`, then its three field-less subclasses
  let S := World.builtin "Structure" [] false
  let w0 : World := { classes := [], blockConsts := bc, blockNonTypedpy := bn }
  have h1 : WorldOk (w0.add S) :=
    worldOk_add (t := []) (fun _ _ h => by cases h) rfl rfl List.nodup_nil (fun _ h => by cases h) rfl
  have sub : ∀ (w : World) (nm : String) (imm : Bool), WorldOk w → w.find "Structure" = some S →
      w.find nm = none → WorldOk (w.add (World.builtin nm ["Structure"] imm)) := by
    intro w nm imm hw hS hf
    refine worldOk_add (t := ["Structure"]) hw hf rfl (by simp) (fun k hk => ?_) ?_
    · rw [List.mem_singleton.mp hk]
      exact ⟨S, hS, List.Sublist.refl _⟩
    · show [] = updateAll [] ((ownOf w "Structure" ++ []) ++ [])
      rw [ownOf, hS]; rfl
  exact sub _ "AbstractStructure" false
    (sub _ "FinalStructure" false (sub _ "ImmutableStructure" true h1 rfl rfl) rfl rfl) rfl rfl

/-- worlds reachable from the initial one by successful class-creating statements with fresh
    names (all histories of definitions, mixins and derivations) -/
inductive Reachable (O : Oracles) : World → Prop where
  | init (bc bn : Bool) : Reachable O (initWorld bc bn)
  | step {w : World} {s : Step} {c : ClassDef} : Reachable O w → stepClass O w s = .ok c →
      w.find c.name = none → Reachable O (w.add c)

/-- a class-creating statement that succeeds is a mixin or ends in a successful class statement
    (an operator's `type(name, (Structure,), dict)`) -/
theorem stepClass_ok {O : Oracles} {w : World} {s : Step} {c : ClassDef} (h : stepClass O w s = .ok c) :
    (∃ n, c = mixinDef n) ∨ ∃ src, runChecks (checks O w src) = .ok () ∧ c = build w src := by
  cases s with
  | define src => exact Or.inr ⟨src, defineClass_ok h⟩
  | mixin n => cases h; exact Or.inl ⟨n, rfl⟩
  | derive op source newName =>
    simp only [stepClass] at h
    split at h
    · rcases bindE_eq_ok h with ⟨src, _, hd⟩
      exact Or.inr ⟨src, defineClass_ok hd⟩
    · cases h

theorem reachable_ok {O : Oracles} {w : World} (h : Reachable O w) : WorldOk w := by
  induction h with
  | init bc bn => exact worldOk_init bc bn
  | step _ hs hf ih =>
    rcases stepClass_ok hs with ⟨n, rfl⟩ | ⟨src, hc, rfl⟩
    · exact worldOk_add_mixin ih hf
    · exact worldOk_add_build ih hc hf

/-- typedpy's own classes: `Structure` and its three field-less direct subclasses -/
theorem mem_init_classes {c : ClassDef} (h : c ∈ World.init.classes) :
    ∃ nm imm, c = World.builtin nm [] imm ∨ c = World.builtin nm ["Structure"] imm := by
  simp only [World.init, List.mem_cons, List.not_mem_nil, or_false] at h
  rcases h with rfl | rfl | rfl | rfl
  · exact ⟨_, _, Or.inl rfl⟩
  all_goals exact ⟨_, _, Or.inr rfl⟩

theorem Reachable.all_classes {O : Oracles} {P : World → ClassDef → Prop}
    (init : ∀ bc bn, ∀ c ∈ World.init.classes, P (initWorld bc bn) c)
    (mixin : ∀ (w : World) n, P (w.add (mixinDef n)) (mixinDef n))
    (define : ∀ {w src}, Reachable O w → (∀ n c, w.find n = some c → P w c) →
      runChecks (checks O w src) = .ok () → w.find src.name = none →
      P (w.add (build w src)) (build w src))
    (add : ∀ {w c} d, ClassOk w c → P w c → P (w.add d) c)
    {w : World} (h : Reachable O w) : ∀ n c, w.find n = some c → P w c := by
  induction h with
  | init bc bn => exact fun n c hc => init bc bn c (findCls_some hc).1
  | @step w s d hr hs hf ih =>
    intro n c hc
    rcases find_add_inv hc with h1 | ⟨_, rfl, _⟩
    · exact add d (reachable_ok hr n c h1) (ih n c h1)
    · rcases stepClass_ok hs with ⟨m, rfl⟩ | ⟨src, hck, rfl⟩
      · exact mixin w m
      · exact define hr ih hck hf

/-- own fields of class `k`, last assignment first -/
def ownRev (w : World) (k : String) : List (String × Member) := (ownOf w k).reverse

theorem lookup_mroMerge (w : World) (n : String) (mro : List String) :
    lookup n (updateAll [] ((mro.reverse.map (ownOf w)).flatten)) =
      (firstOwner (ownRev w) n mro).bind fun k => lookup n (ownRev w k) := by
  have : ((mro.reverse.map (ownOf w)).flatten).reverse = (mro.map (ownRev w)).flatten := by
    rw [List.reverse_flatten, List.map_reverse, ← List.map_reverse, List.reverse_reverse,
      List.map_map]
    rfl
  rw [lookup_updateAll_nil, this, lookup_flatten_map]

theorem lookup_allFields {w : World} {c : ClassDef} (hc : ClassOk w c) (n : String) :
    lookup n c.allFields = (firstOwner (ownRev w) n c.mro).bind fun k => lookup n (ownRev w k) := by
  rw [hc.fields, lookup_mroMerge]

theorem fieldName_iff_owner {w : World} {c : ClassDef} (hc : ClassOk w c) (n : String) :
    n ∈ c.fieldNames ↔ (firstOwner (ownRev w) n c.mro).isSome = true := by
  rw [ClassDef.fieldNames, ← lookup_isSome_iff, lookup_allFields hc]
  cases h : firstOwner (ownRev w) n c.mro with
  | none => simp
  | some k => simpa using (firstOwner_some h).2

theorem lookup_allFieldsOf (w : World) (src : ClassSrc) (n : String) :
    lookup n (allFieldsOf w src) = (lookup n (ownMembers src.entries).reverse).orElse fun _ =>
      (firstOwner (ownRev w) n (mroTail w src)).bind fun k => lookup n (ownRev w k) := by
  rw [allFieldsOf, mergeAll_eq, lookup_updateAll_nil, List.flatten_concat, List.reverse_append,
    lookup_append_orElse, ← lookup_mroMerge, lookup_updateAll_nil]

theorem mem_build_fieldNames (w : World) (src : ClassSrc) (n : String) :
    n ∈ (build w src).fieldNames ↔
      n ∈ (ownMembers src.entries).map (·.1) ∨ (firstOwner (ownRev w) n (mroTail w src)).isSome = true := by
  rw [ClassDef.fieldNames, build_allFields, ← lookup_isSome_iff, lookup_allFieldsOf, ← List.mem_reverse,
    ← List.map_reverse, ← lookup_isSome_iff]
  cases lookup n (ownMembers src.entries).reverse with
  | some m => simp
  | none =>
    cases hk : firstOwner (ownRev w) n (mroTail w src) with
    | none => simp
    | some k => simpa using (firstOwner_some hk).2

theorem build_fields_of_base {w : World} {src : ClassSrc} (hw : WorldOk w) (hf : DefFacts w src) {b : String}
    {bd : ClassDef} (hb : b ∈ src.bases) (hbd : w.find b = some bd) {n : String}
    (hn : n ∈ bd.fieldNames) : n ∈ (build w src).fieldNames := by
  rw [fieldName_iff_owner (hw b bd hbd)] at hn
  -- the owner along the base's MRO is in the new linearisation
  exact (mem_build_fieldNames w src n).mpr
    (.inr (firstOwner_isSome_mono (baseMro_sublist_mroTail hf.c3ok hb hbd).subset hn))

theorem allFieldsOf_keysNodup (w : World) (src : ClassSrc) : KeysNodup (allFieldsOf w src) := by
  rw [allFieldsOf, mergeAll_eq]; exact updateAll_keysNodup _ [] List.nodup_nil

theorem build_keysNodup (w : World) (src : ClassSrc) : KeysNodup (build w src).allFields := by
  rw [build_allFields]; exact allFieldsOf_keysNodup w src

/-- a name the class body does not declare is looked up in the direct base through whose MRO its first
    owner comes: the new class holds the identical member (`ancestor_field_same` for the class being built,
    stated in the world it is built in) -/
theorem lookup_allFieldsOf_base {w : World} {src : ClassSrc} (hw : WorldOk w) (hf : DefFacts w src)
    {n k b : String} {bd : ClassDef} (hn : lookup n (ownMembers src.entries).reverse = none)
    (hk : firstOwner (ownRev w) n (mroTail w src) = some k) (hb : b ∈ src.bases) (hbd : w.find b = some bd)
    (hkb : k ∈ bd.mro) : lookup n (allFieldsOf w src) = lookup n bd.allFields := by
  rw [lookup_allFieldsOf, hn, Option.orElse_none, lookup_allFields (hw b bd hbd), hk,
    firstOwner_sublist (baseMro_sublist_mroTail hf.c3ok hb hbd) (mroTail_nodup hf) hk hkb]

theorem allFieldsOf_own_or_base {w : World} {src : ClassSrc} (hw : WorldOk w) (hf : DefFacts w src)
    {n : String} {m : Member} (h : lookup n (allFieldsOf w src) = some m) :
    lookup n (ownMembers src.entries).reverse = some m
      ∨ ∃ b ∈ src.bases, ∃ bd, w.find b = some bd ∧ lookup n bd.allFields = some m := by
  cases hown : lookup n (ownMembers src.entries).reverse with
  | some m' => rw [lookup_allFieldsOf, hown] at h; exact Or.inl h
  | none =>
    cases hk : firstOwner (ownRev w) n (mroTail w src) with
    | none => rw [lookup_allFieldsOf, hown, hk] at h; cases h
    | some k =>
      rcases mroTail_origin hw hf (firstOwner_some hk).1 with ⟨b, hb, bd, hbd, hkb⟩
      exact Or.inr ⟨b, hb, bd, hbd, by rw [← lookup_allFieldsOf_base hw hf hown hk hb hbd hkb, h]⟩

theorem allSigParams_append : ∀ (l1 l2 : List ClassDef),
    allSigParams (l1 ++ l2) = allSigParams l1 ++ allSigParams l2
  | [], _ => rfl
  | b :: bs, l2 => by simp [allSigParams, allSigParams_append bs l2]

theorem mem_allSigParams {p : String × Bool} : ∀ {l : List ClassDef},
    p ∈ allSigParams l ↔ ∃ bd ∈ l, p ∈ sigParams bd.sig
  | [] => by simp [allSigParams]
  | x :: xs => by simp [allSigParams, mem_allSigParams (l := xs)]

theorem lookup_basesParams (w : World) (src : ClassSrc) (n : String) :
    lookup n (basesParams w src) = (lookup n (allSigParams (structBases w src))).map fun _ =>
      (allSigParams (structBases w src)).any fun q => q.1 == n && q.2 := by
  rw [basesParams, lookup_map_key (fun k => (allSigParams (structBases w src)).any fun q => q.1 == k && q.2),
    lookup_dedupKeys]

theorem mem_basesParams_names {w : World} {src : ClassSrc} {n : String} :
    n ∈ (basesParams w src).map (·.1) ↔ ∃ bd ∈ structBases w src, n ∈ bd.sig.req ∨ n ∈ bd.sig.opt := by
  rw [← lookup_isSome_iff, lookup_basesParams, Option.isSome_map, lookup_isSome_iff]
  simp only [List.mem_map, mem_allSigParams, sigParams, List.mem_append]
  constructor
  · rintro ⟨p, ⟨bd, hbd, ⟨a, ha, rfl⟩ | ⟨a, ha, rfl⟩⟩, rfl⟩
    · exact ⟨bd, hbd, Or.inl ha⟩
    · exact ⟨bd, hbd, Or.inr ha⟩
  · rintro ⟨bd, hbd, h | h⟩
    · exact ⟨(n, true), ⟨bd, hbd, Or.inl ⟨n, h, rfl⟩⟩, rfl⟩
    · exact ⟨(n, false), ⟨bd, hbd, Or.inr ⟨n, h, rfl⟩⟩, rfl⟩

theorem basesRequired_of_req {w : World} {src : ClassSrc} {bd : ClassDef} {n : String}
    (hb : bd ∈ structBases w src) (hn : n ∈ bd.sig.req) : n ∈ basesRequired w src := by
  have hin : (n, true) ∈ allSigParams (structBases w src) :=
    mem_allSigParams.mpr ⟨bd, hb, List.mem_append_left _ (List.mem_map_of_mem hn)⟩
  have hl : lookup n (basesParams w src) = some true := by
    rw [lookup_basesParams, List.any_eq_true.mpr ⟨(n, true), hin, by simp⟩, Option.map_eq_some_iff]
    exact (mem_keys_iff_lookup.mp (List.mem_map_of_mem (f := (·.1)) hin)).imp fun _ h => ⟨h, rfl⟩
  exact List.mem_map.mpr ⟨(n, true), List.mem_filter.mpr ⟨lookup_mem hl, rfl⟩, rfl⟩

section
variable {w : World} {src : ClassSrc} {n : String}

theorem mem_requiredOf : n ∈ requiredOf w src ↔
    n ∈ basesRequired w src ∨ n ∈ requiredEff w src ∨ n ∈ inheritedRequiredConsts w src := by
  simp only [requiredOf, mem_dedupStr, List.mem_append, or_assoc]

theorem basesRequired_sub_basesParams (h : n ∈ basesRequired w src) : n ∈ (basesParams w src).map (·.1) := by
  obtain ⟨p, hp, rfl⟩ := List.mem_map.mp h
  exact List.mem_map_of_mem (List.mem_filter.mp hp).1

theorem mem_sigOf_req : n ∈ (sigOf w src).req ↔
    n ∉ (constantsOf (resolvedFields w src)).map (·.1)
    ∧ (n ∈ (ownMembers src.entries).map (·.1) ∨ n ∈ (basesParams w src).map (·.1))
    ∧ n ∈ requiredOf w src := by
  rw [mem_requiredOf]
  simp only [sigOf, mem_dedupStr, List.mem_append, List.mem_filter, Bool.and_eq_true, Bool.or_eq_true,
    Bool.not_eq_true', List.contains_eq_mem, decide_eq_true_eq, decide_eq_false_iff_not]
  constructor
  · rintro (⟨hB, hRQ, hC⟩ | ⟨hAB, hC, hR⟩)
    · exact ⟨hC, .inr hB, hRQ.elim (fun hR => .inr (.inl hR)) .inl⟩
    · exact ⟨hC, hAB, .inr (.inl hR)⟩
  · rintro ⟨hC, hAB, hQ | hR | hI⟩
    · exact .inl ⟨basesRequired_sub_basesParams hQ, .inr hQ, hC⟩
    · exact .inr ⟨hAB, hC, hR⟩
    · exact absurd (List.mem_filter.mp hI).1 hC

/-- `opt` is not the complement of `req`: an own name that only a base requires is in both parts (such a class
    statement fails `sigCheck`) -/
theorem mem_sigOf_opt : n ∈ (sigOf w src).opt ↔
    n ∉ (constantsOf (resolvedFields w src)).map (·.1) ∧ n ∉ requiredEff w src
    ∧ ((n ∈ (basesParams w src).map (·.1) ∧ n ∉ basesRequired w src) ∨ n ∈ (ownMembers src.entries).map (·.1)) := by
  simp only [sigOf, mem_dedupStr, List.mem_append, List.mem_filter, Bool.and_eq_true,
    Bool.not_eq_true', List.contains_eq_mem, decide_eq_false_iff_not]
  constructor
  · rintro (⟨hB, ⟨hR, hQ⟩, hC⟩ | ⟨hA, hR, hC⟩)
    · exact ⟨hC, hR, .inl ⟨hB, hQ⟩⟩
    · exact ⟨hC, hR, .inr hA⟩
  · rintro ⟨hC, hR, ⟨hB, hQ⟩ | hA⟩
    · exact .inl ⟨hB, ⟨hR, hQ⟩, hC⟩
    · exact .inr ⟨hA, hR, hC⟩

/-- the parameters of the signature are the names `make_signature` draws from — the class body and the bases'
    signatures — that are not Constants -/
theorem mem_sigOf : n ∈ (sigOf w src).req ∨ n ∈ (sigOf w src).opt ↔
    (n ∈ (ownMembers src.entries).map (·.1) ∨ n ∈ (basesParams w src).map (·.1))
      ∧ n ∉ (constantsOf (resolvedFields w src)).map (·.1) := by
  rw [mem_sigOf_req, mem_sigOf_opt, mem_requiredOf]
  constructor
  · rintro (⟨hC, hAB, _⟩ | ⟨hC, _, ⟨hB, _⟩ | hA⟩)
    · exact ⟨hAB, hC⟩
    · exact ⟨.inr hB, hC⟩
    · exact ⟨.inl hA, hC⟩
  · rintro ⟨hAB, hC⟩
    by_cases hR : n ∈ requiredEff w src
    · exact .inl ⟨hC, hAB, .inr (.inl hR)⟩
    by_cases hQ : n ∈ basesRequired w src
    · exact .inl ⟨hC, hAB, .inl hQ⟩
    · exact .inr ⟨hC, hR, hAB.elim .inr (fun hB => .inl ⟨hB, hQ⟩)⟩

end

theorem lookup_sigParams (s : Sig) (n : String) (rest : List (String × Bool)) :
    lookup n (sigParams s ++ rest) = if n ∈ s.req then some true else if n ∈ s.opt then some false
      else lookup n rest := by
  simp only [sigParams, List.append_assoc, lookup_append_orElse, lookup_mapConst,
    List.contains_eq_mem, decide_eq_true_eq]
  split
  · rfl
  · split <;> rfl

/-- a name whose first declaration in `rest` is as a required parameter stays required when bases are
    listed before, none of which declares it optional without requiring it -/
theorem lookup_pre {n : String} {rest : List (String × Bool)} (hr : lookup n rest = some true) :
    ∀ (pre : List ClassDef), (∀ p ∈ pre, n ∈ p.sig.opt → n ∈ p.sig.req) →
      lookup n (allSigParams pre ++ rest) = some true
  | [], _ => hr
  | p :: ps, h => by
    rw [allSigParams, List.append_assoc, lookup_sigParams]
    split
    · rfl
    · rename_i hq
      rw [if_neg fun ho => hq (h p List.mem_cons_self ho)]
      exact lookup_pre hr ps fun q hq' => h q (List.mem_cons_of_mem _ hq')

end Typedpy
