/-
  Lemmas/StubLex.lean — the character level: printing a token sequence (one blank after every token) and lexing the
  characters with `lexPy` gives the tokens back, for every sequence whose names are identifier-shaped (`tokLexOk`,
  Lemmas/StubText.lean).  So a header that `Accepts` its parameter table is accepted as TEXT (`c16_accepts_text`).
-/
import TypedpyModel.Lemmas.StubText
namespace Typedpy.StubText
open Typedpy.Stub

def tokCs : Tok → List Char
  | .name s => s.toList
  | .lit => ['0']
  | .lpar => ['('] | .rpar => [')'] | .lsq => ['['] | .rsq => [']'] | .comma => [','] | .colon => [':']
  | .eq => ['='] | .star => ['*'] | .dstar => ['*', '*'] | .slash => ['/'] | .dot => ['.']
  | .arrow => ['-', '>'] | .ellipsis => ['.', '.', '.']

def toksCs : List Tok → List Char
  | [] => []
  | t :: rest => tokCs t ++ ' ' :: toksCs rest

/-- the text of a token sequence.  Unlike `toksText` it ends with a blank, so that the lexer closes the last token the
    way it closes every other one. -/
def renderText (ts : List Tok) : String := String.ofList (toksCs ts)

theorem c16_space_not_idStart {c : Char} (h : isIdStart c = true) : isSpace c = false := by
  cases hs : isSpace c with
  | false => rfl
  | true =>
    simp only [isSpace, Bool.or_eq_true, beq_iff_eq] at hs
    rcases hs with ((rfl | rfl) | rfl) | rfl <;> exact absurd h (by decide)

theorem c16_startTok_space (acc : List Tok) : startTok ' ' acc = some (.idle, acc) := by
  simp [startTok, isSpace]

theorem c16_lex_ident (cs rest : List Char) (rev : List Char) (acc : List Tok) (h : cs.all isIdChar = true) :
    lexGo (cs ++ ' ' :: rest) (.ident rev) acc =
      lexGo rest .idle (.name (String.ofList (cs.reverse ++ rev).reverse) :: acc) := by
  induction cs generalizing rev with
  | nil =>
    have h1 : isIdChar ' ' = false := by decide
    simp [lexGo, h1, c16_startTok_space]
  | cons c cs ih =>
    simp only [List.all_cons, Bool.and_eq_true] at h
    simp only [List.cons_append, lexGo, h.1, if_true]
    rw [ih _ h.2]
    simp

theorem c16_lex_tok (t : Tok) (rest : List Char) (acc : List Tok) (h : tokLexOk t = true) :
    lexGo (tokCs t ++ ' ' :: rest) .idle acc = lexGo rest .idle (t :: acc) := by
  cases t with
  | name s =>
    simp only [tokLexOk] at h
    cases hs : s.toList with
    | nil => simp [hs, identChars] at h
    | cons c cs =>
      simp only [hs, identChars, Bool.and_eq_true] at h
      have hsp := c16_space_not_idStart h.1
      have hst : startTok c acc = some (.ident [c], acc) := by simp [startTok, hsp, h.1]
      simp only [tokCs, hs, List.cons_append, lexGo, hst]
      rw [c16_lex_ident cs rest [c] acc h.2]
      have : String.ofList (cs.reverse ++ [c]).reverse = s := by
        rw [List.reverse_append, List.reverse_reverse]
        show String.ofList (c :: cs) = s
        rw [← hs, String.ofList_toList]
      rw [this]
  -- every other token has fixed characters, on which the lexer runs
  | _ => rfl

theorem c16_lex_toks (ts : List Tok) (acc : List Tok) (h : ∀ t ∈ ts, tokLexOk t = true) :
    lexGo (toksCs ts) .idle acc = some (acc.reverse ++ ts) := by
  induction ts generalizing acc with
  | nil => simp [toksCs, lexGo, flush]
  | cons t rest ih =>
    simp only [toksCs]
    rw [c16_lex_tok t _ acc (h t List.mem_cons_self), ih _ (fun u hu => h u (List.mem_cons_of_mem _ hu))]
    simp

/-- the lexer on a literal text runs on its characters without decoding them (as `c16_identOk_ofList`) -/
theorem c16_lexPy_ofList (cs : List Char) : lexPy (String.ofList cs) = lexGo cs .idle [] := by
  rw [lexPy, String.toList_ofList]

theorem c16_lexPy_render (ts : List Tok) (h : ∀ t ∈ ts, tokLexOk t = true) : lexPy (renderText ts) = some ts := by
  rw [renderText, c16_lexPy_ofList, c16_lex_toks ts [] h]
  rfl

theorem c16_accepts_text {ts : List Tok} {d : DefInfo} (h : Accepts ts d) :
    (lexPy (renderText ts)).bind parseDef = some d := by
  rw [c16_lexPy_render ts h.lexable, Option.bind_some, h.parses]

end Typedpy.StubText
