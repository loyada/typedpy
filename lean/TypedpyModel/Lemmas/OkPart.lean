/-
  Lemmas/OkPart.lean — the success part of a computation, `okOf : R α → Option α`.  Two computations that succeed on
  the same inputs with the same result (`OkEq`) are those with the same success part (`okEq_iff`).  Success parts
  live in `Option`, where two steps that do not depend on each other may be swapped (`bind_bind_comm`); so "read all
  items, then validate all items" is "read and validate item by item" (`mapO_bind_mapO`), as an equation, whichever
  reader produced the items.  And two readers whose results agree after validation agree after any step that looks at
  a result only through its validation and through what the two have in common (`bind_eq_of_bind_eq`): this is how
  every collection and class of C06 gets from its parts to the whole.
-/
import TypedpyModel.Spec.Lift
namespace Typedpy

def okOf {α} : R α → Option α
  | .ok a => some a
  | .error _ => none

@[simp] theorem okOf_ok {α} (a : α) : okOf (.ok a : R α) = some a := rfl
@[simp] theorem okOf_error {α} (e : ErrCls) : okOf (.error e : R α) = none := rfl

theorem okOf_eq_some {α} {r : R α} {a : α} : okOf r = some a ↔ r = .ok a := by
  cases r <;> simp [okOf]

/-- two computations succeed on the same inputs with the same result (the error class of a
    rejection may differ: the deserializer finds a bad element before the constructor would) -/
def OkEq {α} (r1 r2 : R α) : Prop := ∀ z, r1 = .ok z ↔ r2 = .ok z

theorem OkEq.refl {α} (r : R α) : OkEq r r := fun _ => Iff.rfl
theorem OkEq.of_eq {α} {r1 r2 : R α} (h : r1 = r2) : OkEq r1 r2 := h ▸ OkEq.refl _
theorem OkEq.symm {α} {r1 r2 : R α} (h : OkEq r1 r2) : OkEq r2 r1 := fun z => (h z).symm
theorem OkEq.trans {α} {r1 r2 r3 : R α} (h1 : OkEq r1 r2) (h2 : OkEq r2 r3) : OkEq r1 r3 :=
  fun z => (h1 z).trans (h2 z)
theorem OkEq.errors {α} {r1 r2 : R α} (h1 : ∀ z, r1 ≠ .ok z) (h2 : ∀ z, r2 ≠ .ok z) : OkEq r1 r2 :=
  fun z => ⟨fun h => absurd h (h1 z), fun h => absurd h (h2 z)⟩

theorem okEq_iff {α} {r1 r2 : R α} : OkEq r1 r2 ↔ okOf r1 = okOf r2 := by
  constructor
  · intro h
    cases h1 : r1 with
    | ok a => rw [(h a).mp h1]
    | error e =>
      cases h2 : r2 with
      | ok b => rw [(h b).mpr h2] at h1; cases h1
      | error _ => rfl
  · intro h z
    rw [← okOf_eq_some, ← okOf_eq_some, h]

theorem okOf_bindE {α β} (r : R α) (k : α → R β) : okOf (bindE r k) = (okOf r).bind fun a => okOf (k a) := by
  cases r <;> rfl

theorem okOf_toValueErr {α} (r : R α) : okOf (toValueErr r) = okOf r := by
  cases r with
  | ok _ => rfl
  | error e => cases e <;> rfl

/-- a guard of the model: `if !c then .error e else r` -/
theorem okOf_guard {α} (c : Bool) (e : ErrCls) (r : R α) :
    okOf (if (!c) = true then .error e else r) = if c = true then okOf r else none := by
  cases c <;> rfl

theorem mapO_cons {α β} (g : α → Option β) (x : α) (xs : List α) :
    mapO g (x :: xs) = (g x).bind fun y => (mapO g xs).bind fun ys => some (y :: ys) := by
  simp only [mapO]
  cases g x <;> cases mapO g xs <;> rfl

theorem okOf_mapE {α β} (g : α → R β) : ∀ xs : List α, okOf (mapE g xs) = mapO (fun x => okOf (g x)) xs
  | [] => rfl
  | x :: xs => by simp only [mapE, mapO_cons, okOf_bindE, okOf_mapE g xs, okOf_ok]

theorem mapO_congr {α β} {g g' : α → Option β} : ∀ xs : List α, (∀ x ∈ xs, g x = g' x) → mapO g xs = mapO g' xs
  | [], _ => rfl
  | x :: xs, h => by
    rw [mapO_cons, mapO_cons, h x (List.mem_cons_self ..), mapO_congr xs fun y hy => h y (List.mem_cons_of_mem _ hy)]

/-- two steps of `Option` that do not depend on each other may be swapped: reading two things and then checking
    each is reading-and-checking the one and then the other (`K` combines the two results) -/
theorem bind_bind_comm {α α' β β' γ} (a : Option α) (b : Option α') (V : α → Option β) (W : α' → Option β')
    (K : β → β' → Option γ) :
    (a.bind fun y => b.bind fun ys => (V y).bind fun z => (W ys).bind fun zs => K z zs)
      = (a.bind V).bind fun z => (b.bind W).bind fun zs => K z zs := by
  cases a with
  | none => rfl
  | some y => cases b <;> cases h : V y <;> simp [h]

theorem mapO_bind_mapO {α β γ} (A : α → Option β) (B : β → Option γ) :
    ∀ xs : List α, (mapO A xs).bind (mapO B) = mapO (fun x => (A x).bind B) xs
  | [] => rfl
  | x :: xs => by
    rw [mapO_cons, mapO_cons, ← mapO_bind_mapO A B xs, ← bind_bind_comm]
    simp only [Option.bind_assoc, Option.bind_some, mapO_cons]

/-- a continuation `G` that looks at the intermediate value itself, not only at what `VF` makes of it, may be applied
    on both sides as long as it fails where `VF` fails and sees the same on both sides where both succeed (the
    constructor looks at the names of its arguments, `vSeq` at the number of items) -/
theorem bind_eq_of_bind_eq {α β γ} {X X' : Option α} {VF : α → Option β} (h : X.bind VF = X'.bind VF)
    {G : α → Option γ} (h0 : ∀ a, X = some a ∨ X' = some a → VF a = none → G a = none)
    (h1 : ∀ a a', X = some a → X' = some a' → VF a = VF a' → G a = G a') : X.bind G = X'.bind G := by
  cases X with
  | none =>
    cases X' with
    | none => rfl
    | some a' => exact (h0 a' (.inr rfl) h.symm).symm
  | some a =>
    cases X' with
    | none => exact h0 a (.inl rfl) h
    | some a' => exact h1 a a' rfl rfl h

/-- an equation between two success parts, with the intermediate values named: the form in which `lf_list_equiv`,
    `zip_equiv` and `fields_equiv` state it -/
theorem bind_okOf_eq_iff {α β} {r : R α} {l : Option α} {V V' : α → R β} :
    ((okOf r).bind (fun y => okOf (V y)) = l.bind fun w => okOf (V' w))
      ↔ ∀ z, (∃ y, r = .ok y ∧ V y = .ok z) ↔ (∃ w, l = some w ∧ V' w = .ok z) := by
  have key : ∀ (o : Option α) (U : α → R β) (z : β),
      (o.bind fun y => okOf (U y)) = some z ↔ ∃ y, o = some y ∧ U y = .ok z := by
    intro o U z; cases o <;> simp [okOf_eq_some]
  constructor
  · intro h z
    rw [← key l V' z, ← h, key]
    simp only [okOf_eq_some]
  · intro h
    refine Option.ext fun z => ?_
    rw [key, key, ← h z]
    simp only [okOf_eq_some]

end Typedpy
