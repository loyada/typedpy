/-
  Lemmas/LiftScalars.lean — C06 on the exact fragment `exactDecl` (Spec/Lift.lean).  What is proved of every
  declaration `f` of the fragment and every JSON document `d` is `OkEq (deserThen O opts f d) (liftThen O opts f d)`:
  deserializing and then validating succeeds exactly when validating the documented lifting does, with the same
  value, i.e. the two have the same success part (`OkEq`, `okEq_iff`, `okOf`: Lemmas/OkPart.lean; `okEq_then` is the form
  the list lemmas rewrite with).  Here: the two sides, and the scalar kinds.  Each of the other Lift* files derives the
  statement for one kind of declaration from the statement for its parts (list-like documents: LiftLists; Map:
  LiftMap; Optional: LiftOpt; classes: LiftStruct), every time in the same way: the parts read by the two sides agree
  after validation, and what follows looks at the parts read only through their validation and through something
  both sides read alike (`bind_eq_of_bind_eq`, Lemmas/OkPart.lean).  Lemmas/LiftEquiv.lean is the induction over the
  declaration that joins them.
-/
import TypedpyModel.Lemmas.OkPart
import TypedpyModel.Lemmas.SerdeBasic
namespace Typedpy

def deserThen (O : Oracles) (opts : DeserOpts) (f : FieldDecl) (d : PyVal) : R PyVal :=
  bindE (deser O opts false f d) (validate O f)

def liftThen (O : Oracles) (opts : DeserOpts) (f : FieldDecl) (d : PyVal) : R PyVal :=
  match lift O opts f d with
  | some w => validate O f w
  | none => .error .valueErr

theorem okOf_deserThen (O : Oracles) (opts : DeserOpts) (f : FieldDecl) (d : PyVal) :
    okOf (deserThen O opts f d) = (okOf (deser O opts false f d)).bind fun y => okOf (validate O f y) :=
  okOf_bindE _ _

theorem okOf_liftThen (O : Oracles) (opts : DeserOpts) (f : FieldDecl) (d : PyVal) :
    okOf (liftThen O opts f d) = (lift O opts f d).bind fun w => okOf (validate O f w) := by
  unfold liftThen
  cases lift O opts f d <;> rfl

/-- the statement for one field, in the form the list lemmas rewrite with -/
theorem okEq_then {O : Oracles} {opts : DeserOpts} {f : FieldDecl} {d : PyVal}
    (h : OkEq (deserThen O opts f d) (liftThen O opts f d)) :
    (okOf (deser O opts false f d)).bind (fun y => okOf (validate O f y))
      = (lift O opts f d).bind fun w => okOf (validate O f w) := by
  rw [← okOf_deserThen, ← okOf_liftThen]; exact okEq_iff.mp h

/-- the pre-check `field._validate(v)` with the field's own validator changes nothing -/
theorem dValidated_same (g : PyVal → R PyVal) (d : PyVal) : bindE (dValidated (g d) d) g = g d := by
  unfold dValidated
  cases h : g d <;> simp [h]

/-- the pre-check without the sign mixin rejects only what the full validator rejects too -/
theorem dValidated_weaker (g g' : PyVal → R PyVal) (d : PyVal)
    (h : ∀ y, g d = .ok y → g' d = .ok y) : OkEq (bindE (dValidated (g' d) d) g) (g d) := by
  unfold dValidated
  cases h' : g' d with
  | ok y => simp; exact OkEq.refl _
  | error e =>
    simp only [bindE]
    exact OkEq.errors (fun z hz => by cases hz) (fun z hz => by rw [h z hz] at h'; cases h')

theorem okEq_number (O : Oracles) (opts : DeserOpts) (o : NumOpts) (d : PyVal) :
    OkEq (deserThen O opts (.number o) d) (liftThen O opts (.number o) d) := by
  unfold liftThen lift
  simp only [deserThen, deser_number, validate_number, PyVal.isNone, Bool.and_false, Bool.false_eq_true, if_false]
  exact dValidated_weaker (vNumber o) (vNumber (noSign o)) d fun _ => vNumber_noSign

theorem okEq_integer (O : Oracles) (opts : DeserOpts) (o : NumOpts) (d : PyVal) :
    OkEq (deserThen O opts (.integer o) d) (liftThen O opts (.integer o) d) := by
  unfold liftThen lift
  simp only [deserThen, deser_integer, validate_integer, PyVal.isNone, Bool.and_false, Bool.false_eq_true, if_false]
  exact dValidated_weaker (vInteger o) (vInteger (noSign o)) d fun _ => vInteger_noSign

theorem okEq_float (O : Oracles) (opts : DeserOpts) (o : NumOpts) (d : PyVal) :
    OkEq (deserThen O opts (.float o) d) (liftThen O opts (.float o) d) := by
  unfold liftThen lift
  simp only [deserThen, deser_float, validate_float, PyVal.isNone, Bool.and_false, Bool.false_eq_true, if_false]
  exact dValidated_weaker (vFloat o) (vFloat (noSign o)) d fun _ => vFloat_noSign

theorem okEq_string (O : Oracles) (opts : DeserOpts) (lo hi : Option Nat) (pat : Option String) (d : PyVal) :
    OkEq (deserThen O opts (.string lo hi pat) d) (liftThen O opts (.string lo hi pat) d) := by
  unfold liftThen lift
  simp only [deserThen, deser_string, validate_string, PyVal.isNone, Bool.and_false, Bool.false_eq_true, if_false]
  exact OkEq.of_eq (dValidated_same (vString O lo hi pat) d)

theorem okEq_boolean (O : Oracles) (opts : DeserOpts) (d : PyVal) :
    OkEq (deserThen O opts .boolean d) (liftThen O opts .boolean d) := by
  unfold liftThen lift
  simp only [deserThen, deser_boolean, validate_boolean, PyVal.isNone, Bool.and_false, Bool.false_eq_true, if_false]
  exact OkEq.of_eq (dValidated_same vBoolean d)

theorem okEq_enumLit (O : Oracles) (opts : DeserOpts) (vals : List PyVal) (d : PyVal) :
    OkEq (deserThen O opts (.enumLit vals) d) (liftThen O opts (.enumLit vals) d) := by
  unfold liftThen lift
  simp only [deserThen, deser_enumLit, validate_enumLit, PyVal.isNone, Bool.and_false, Bool.false_eq_true, if_false]
  exact OkEq.of_eq (dValidated_same (vEnumLit vals) d)

theorem okEq_enumCls (O : Oracles) (opts : DeserOpts) (cls : String) (names : List String) (d : PyVal) :
    OkEq (deserThen O opts (.enumCls cls names) d) (liftThen O opts (.enumCls cls names) d) := by
  unfold liftThen lift
  simp only [deserThen, deser_enumCls, validate_enumCls, PyVal.isNone, Bool.and_false, Bool.false_eq_true, if_false]
  cases d with
  | str n => exact OkEq.of_eq (by by_cases hm : n ∈ names <;> simp [dEnumCls, vEnumCls, validate_enumCls, hm, bindE])
  | _ =>
    simp only [dEnumCls]
    exact OkEq.of_eq (dValidated_same (vEnumCls cls names) _)

end Typedpy
