/-
  Spec/FastSafe.lean — the region on which C10's fast-serialization claim is PROVED
  (Props/C10.lean: `fast_equiv_partial`), as decidable predicates, and the names of the known
  defects outside it (driver only).

  * `fsafeCls cls`   — declaration level: scalars, Enum, Array / Deque / Set / Map / fixed-length
                       Tuple over safe fields, nested (fast) classes, Optional of a safe field;
  * `noDecV f v`     — value level: no `Decimal` held by a Number field (the regular path turns it
                       into a string the model does not render).
-/
import TypedpyModel.Sem.Fast
import TypedpyModel.Spec.WfDecl
import TypedpyModel.Spec.Conforms
import TypedpyModel.Spec.SerFrag
namespace Typedpy

def isAnyOfD : FieldDecl → Bool
  | .anyOf _ => true
  | _ => false

mutual
def fsafeD (NF : List String) : FieldDecl → Bool
  | .number _ => true
  | .integer _ => true
  | .float _ => true
  | .string _ _ _ => true
  | .boolean => true
  | .noneF => true
  | .enumLit _ => true
  | .enumCls _ _ => true
  | .seqOf _ item _ => fsafeD NF item
  | .setOf _ item _ => fsafeD NF item
  | .tuplePos items _ => fsafeL NF items
  | .tupleOf item _ => fsafeD NF item
  | .seqPos .list items _ _ => fsafeL NF items     -- (instances without surplus elements: `fwf`)
  | .seqPos .deque _ _ _ => false
  | .mapOf kf vf _ => fsafeD NF kf && fsafeD NF vf
  | .struct c fields _ =>
    !c.inline && !NF.contains c.name && strNodup (fields.map (·.1)) && fsafeFields NF fields
  | .anyOf fs => fsafeOpt NF fs
  | .seqAny _ _ => false
  | .setAny _ _ => false
  | .mapAny _ => false
  | .oneOf _ => false
  | .allOf _ => false
  | .notF _ => false
  | .anything => false
termination_by structural f => f

def fsafeL (NF : List String) : List FieldDecl → Bool
  | [] => true
  | f :: fs => fsafeD NF f && fsafeL NF fs
termination_by structural fs => fs

/-- `[X, NoneField]` or `[NoneField, X]`, `X` safe and not itself an `AnyOf` -/
def fsafeOpt (NF : List String) : List FieldDecl → Bool
  | [] => false
  | x :: rest =>
    (match rest with
      | [y] => (isNoneF y && !isNoneF x && fsafeD NF x && !isAnyOfD x)
               || (isNoneF x && !isNoneF y && fsafeOptTail NF rest)
      | _ => false)
termination_by structural fs => fs

def fsafeOptTail (NF : List String) : List FieldDecl → Bool
  | [] => false
  | y :: _ => fsafeD NF y && !isAnyOfD y
termination_by structural fs => fs

def fsafeFields (NF : List String) : List (String × FieldDecl) → Bool
  | [] => true
  | (_, f) :: rest => fsafeD NF f && fsafeFields NF rest
termination_by structural fs => fs
end

def fsafeCls (NF : List String) (cls : FieldDecl) : Bool :=
  match cls with
  | .struct _ _ _ => fsafeD NF cls
  | _ => false

def hasDec : PyVal → Bool
  | .dec _ => true
  | _ => false

mutual
/-- no Number field holds a Decimal and no instance holds an attribute that is not a declared
    field, at any depth -/
def noDecV : FieldDecl → PyVal → Bool
  | .number _, v => !hasDec v
  | .seqOf _ item _, v => (match seqLike v with | some xs => xs.all (noDecV item) | none => true)
  | .setOf _ item _, v => (match seqLike v with | some xs => xs.all (noDecV item) | none => true)
  | .tuplePos items _, v => (match seqLike v with | some xs => noDecZip items xs | none => true)
  | .tupleOf item _, v => (match seqLike v with | some xs => xs.all (noDecV item) | none => true)
  | .mapOf kf vf _, v =>
    (match v with | .dict kvs => kvs.all (fun kv => noDecV kf kv.1 && noDecV vf kv.2) | _ => true)
  | .struct _ fields _, v =>
    (match v with
      | .inst _ attrs => attrs.all (fun a => (fields.map (·.1)).contains a.1) && noDecFields attrs fields
      | _ => true)
  | .anyOf fs, v => noDecAll fs v
  | .integer _, _ => true
  | .float _, _ => true
  | .string _ _ _, _ => true
  | .boolean, _ => true
  | .noneF, _ => true
  | .enumLit _, _ => true
  | .enumCls _ _, _ => true
  | .seqPos _ _ _ _, _ => true
  | .seqAny _ _, _ => true
  | .setAny _ _, _ => true
  | .mapAny _, _ => true
  | .oneOf _, _ => true
  | .allOf _, _ => true
  | .notF _, _ => true
  | .anything, _ => true
termination_by structural f _ => f
def noDecZip : List FieldDecl → List PyVal → Bool
  | [], _ => true
  | _ :: _, [] => true
  | f :: fs, x :: xs => noDecV f x && noDecZip fs xs
termination_by structural fs _ => fs
def noDecAll : List FieldDecl → PyVal → Bool
  | [], _ => true
  | f :: fs, v => noDecV f v && noDecAll fs v
termination_by structural fs _ => fs
def noDecFields (attrs : List (String × PyVal)) : List (String × FieldDecl) → Bool
  | [] => true
  | (n, f) :: rest =>
    (match lookup n attrs with | some v => noDecV f v | none => true) && noDecFields attrs rest
termination_by structural fs => fs
end

/-- instance level: no Decimal, and no attribute that is not a declared field -/
def fplainInst (cls : FieldDecl) (x : PyVal) : Bool :=
  match cls, x with
  | .struct _ _ _, .inst _ _ => noDecV cls x
  | _, _ => false

/-! ### names of the known defects (driver only) -/

mutual
def fdefD (NF : List String) : FieldDecl → List String
  | .tupleOf item _ => fdefD NF item
  | .seqPos .list items _ _ => "fast:untyped-raw" :: fdefL NF items     -- surplus elements are copied raw
  | .seqPos .deque items _ _ => "positional-deque:unproved" :: fdefL NF items
  | .seqAny _ _ => ["fast:untyped-raw"]
  | .setAny _ _ => ["fast:untyped-raw"]
  | .mapAny _ => ["fast:untyped-raw"]
  | .anything => ["fast:json-dumps"]
  | .oneOf fs => "fast:multi-wrapper" :: fdefL NF fs
  | .allOf fs => "fast:multi-wrapper" :: fdefL NF fs
  | .notF fs => "fast:multi-wrapper" :: fdefL NF fs
  | .anyOf fs =>
    (if fs.length == 2 && fs.any isNoneF then
       -- an Optional: the non-None option must not be an AnyOf again (and must exist)
       (if fs.all (fun g => isNoneF g || isAnyOfD g) then ["optional-shape:unproved"] else [])
     else ["fast:multi-wrapper"]) ++ fdefL NF fs
  | .seqOf _ item _ => fdefD NF item
  | .setOf _ item _ => fdefD NF item
  | .tuplePos items _ => fdefL NF items
  | .mapOf kf vf _ => fdefD NF kf ++ fdefD NF vf
  | .struct c fields _ =>
    (if c.inline then ["fast:inline-none-keys"] else [])
    ++ (if NF.contains c.name then ["fast:nonfast-nested"] else [])
    ++ (if strNodup (fields.map (·.1)) then [] else ["duplicate-field-names"])
    ++ fdefFields NF fields
  | .number _ => []
  | .integer _ => []
  | .float _ => []
  | .string _ _ _ => []
  | .boolean => []
  | .noneF => []
  | .enumLit _ => []
  | .enumCls _ _ => []
termination_by structural f => f
def fdefL (NF : List String) : List FieldDecl → List String
  | [] => []
  | f :: fs => fdefD NF f ++ fdefL NF fs
termination_by structural fs => fs
def fdefFields (NF : List String) : List (String × FieldDecl) → List String
  | [] => []
  | (_, f) :: rest => fdefD NF f ++ fdefFields NF rest
termination_by structural fs => fs
end

mutual
/-- some nested class's key changes under an enum mapper of an enclosing class -/
def cascades (Mp : MapEnv) (outer : List TMapper) : FieldDecl → Bool
  | .struct c fields _ =>
    (!c.inline && fields.any (fun p =>
        outer.any fun m => mapKey m (mapKey (Mp c.name) p.1) != mapKey (Mp c.name) p.1))
    || cascadesFields Mp (match Mp c.name with
                           | .camel => .camel :: outer | .lower => .lower :: outer | _ => outer) fields
  | .seqOf _ item _ => cascades Mp outer item
  | .setOf _ item _ => cascades Mp outer item
  | .tupleOf item _ => cascades Mp outer item
  | .mapOf _ vf _ => cascades Mp outer vf
  | .anyOf fs => cascadesL Mp outer fs
  | .tuplePos fs _ => cascadesL Mp outer fs
  | .seqPos _ fs _ _ => cascadesL Mp outer fs
  | .oneOf fs => cascadesL Mp outer fs
  | .allOf fs => cascadesL Mp outer fs
  | .notF fs => cascadesL Mp outer fs
  | .number _ => false
  | .integer _ => false
  | .float _ => false
  | .string _ _ _ => false
  | .boolean => false
  | .noneF => false
  | .enumLit _ => false
  | .enumCls _ _ => false
  | .seqAny _ _ => false
  | .setAny _ _ => false
  | .mapAny _ => false
  | .anything => false
termination_by structural f => f
def cascadesL (Mp : MapEnv) (outer : List TMapper) : List FieldDecl → Bool
  | [] => false
  | f :: fs => cascades Mp outer f || cascadesL Mp outer fs
termination_by structural fs => fs
def cascadesFields (Mp : MapEnv) (outer : List TMapper) : List (String × FieldDecl) → Bool
  | [] => false
  | (_, f) :: rest => cascades Mp outer f || cascadesFields Mp outer rest
termination_by structural fs => fs
end

/-- the known defects a fast-serialization case runs into -/
def fastDefects (Mp : MapEnv) (NF : List String) (compact sn : Bool) (cls : FieldDecl)
    (x : PyVal) : List String :=
  match cls with
  | .struct c fields defaults =>
    let names := fields.map (·.1)
    let attrs := attrsOf x
    ((fdefFields NF fields)
      ++ (if strNodup names then [] else ["duplicate-field-names"])
      ++ (if noDecV cls x then [] else ["fast:extras-dropped"])
      ++ (if sn && fields.any (fun p => (getAttr defaults attrs p.1).isNone) then ["fast:serialize-none"] else [])
      ++ (if compact && fields.length == 1
            && !(c.required == names && !c.addl
                 && !fields.any (fun p => (getAttr defaults attrs p.1).isNone)) then ["fast:compact-conditions"] else [])
      ++ (if cascades Mp [] cls then ["fast:mapper-cascade"] else [])).eraseDups
  | _ => ["not-a-class"]


/-! ### instances in canonical attribute order -/

mutual
/-- the same value with the attributes of every (nested) instance listed in field order: the
    order of `__dict__` is not part of the model's claim -/
def canonV : FieldDecl → PyVal → PyVal
  | .seqOf _ item _, v =>
    (match v with
      | .list xs => .list (xs.map (canonV item))
      | .deque xs => .deque (xs.map (canonV item))
      | w => w)
  | .setOf _ item _, v => (match v with | .set fr xs => .set fr (xs.map (canonV item)) | w => w)
  | .tuplePos items _, v => (match v with | .tuple xs => .tuple (canonZip items xs) | w => w)
  | .tupleOf item _, v => (match v with | .tuple xs => .tuple (xs.map (canonV item)) | w => w)
  | .seqPos .list items _ _, v => (match v with | .list xs => .list (canonZip items xs) | w => w)
  | .seqPos .deque _ _ _, v => v
  | .mapOf kf vf _, v =>
    (match v with | .dict kvs => .dict (kvs.map fun kv => (canonV kf kv.1, canonV vf kv.2)) | w => w)
  | .struct _ fields _, v => (match v with | .inst cn attrs => .inst cn (canonFields attrs fields) | w => w)
  | .anyOf fs, v => canonAny fs v
  | .number _, v => v
  | .integer _, v => v
  | .float _, v => v
  | .string _ _ _, v => v
  | .boolean, v => v
  | .noneF, v => v
  | .enumLit _, v => v
  | .enumCls _ _, v => v
  | .seqAny _ _, v => v
  | .setAny _ _, v => v
  | .mapAny _, v => v
  | .oneOf _, v => v
  | .allOf _, v => v
  | .notF _, v => v
  | .anything, v => v
termination_by structural f _ => f
def canonZip : List FieldDecl → List PyVal → List PyVal
  | [], xs => xs
  | _ :: _, [] => []
  | f :: fs, x :: xs => canonV f x :: canonZip fs xs
termination_by structural fs _ => fs
/-- through the option that is not `NoneField` (an Optional has exactly one) -/
def canonAny : List FieldDecl → PyVal → PyVal
  | [], v => v
  | f :: fs, v => if isNoneF f then canonAny fs v else canonV f v
termination_by structural fs _ => fs
def canonFields (attrs : List (String × PyVal)) : List (String × FieldDecl) → List (String × PyVal)
  | [] => []
  | (n, f) :: rest =>
    (match lookup n attrs with
      | some v => [(n, canonV f v)]
      | none => []) ++ canonFields attrs rest
termination_by structural fs => fs
end


/-! ### valid instances, as far as serialization looks at them -/

mutual
/-- the stored value `v` has the shape field `f` stores (JSON scalars for the scalar fields, the
    right container, nested instances of the declared class holding only declared attributes, an
    absent attribute only where the field has no default) -/
def fwf (O : Oracles) : FieldDecl → PyVal → Bool
  | .number _, v => numJson v
  | .integer _, v => (match v with | .int _ => true | .bool _ => true | _ => false)
  | .float _, v => (match v with | .float _ => true | _ => false)
  | .string _ _ _, v => (match v with | .str _ => true | _ => false)
  | .boolean, v => (match v with | .bool _ => true | _ => false)
  | .noneF, v => v.isNone
  | .enumLit _, _ => true
  | .enumCls _ _, v => (match v with | .enumv _ _ => true | _ => false)
  | .seqOf k item _, v => (match seqElems k v with | some xs => xs.all (fwf O item) | none => false)
  | .setOf _ item _, v => (match v with | .set _ xs => xs.all (fwf O item) | _ => false)
  | .tuplePos items _, v =>
    (match v with | .tuple xs => xs.length == items.length && fwfZip O items xs | _ => false)
  | .tupleOf item _, v => (match v with | .tuple xs => xs.all (fwf O item) | _ => false)
  | .seqPos .list items _ _, v =>
    (match v with | .list xs => xs.length == items.length && fwfZip O items xs | _ => false)
  | .seqPos .deque _ _ _, _ => false
  | .mapOf kf vf _, v =>
    (match v with | .dict kvs => kvs.all (fun kv => fwf O kf kv.1 && fwf O vf kv.2) | _ => false)
  | .struct c fields defaults, v =>
    (match v with
      | .inst cn attrs =>
        cn == c.name && attrs.all (fun a => (fields.map (·.1)).contains a.1)
          && fwfFields O defaults attrs fields
      | _ => false)
  | .anyOf fs, v => !v.isNone && fwfAny O fs v
  | .seqAny _ _, _ => false
  | .setAny _ _, _ => false
  | .mapAny _, _ => false
  | .oneOf _, _ => false
  | .allOf _, _ => false
  | .notF _, _ => false
  | .anything, _ => false
termination_by structural f _ => f
def fwfZip (O : Oracles) : List FieldDecl → List PyVal → Bool
  | [], _ => true
  | _ :: _, [] => true
  | f :: fs, x :: xs => fwf O f x && fwfZip O fs xs
termination_by structural fs _ => fs
/-- the value fits an option that is not `NoneField`, also as `serialize_multifield_wrapper`
    sees it (the option's `_validate` passes and its serialization succeeds) -/
def fwfAny (O : Oracles) : List FieldDecl → PyVal → Bool
  | [], _ => false
  | f :: fs, v =>
    (!isNoneF f && fwf O f v && shallowOk O f (canonV f v) && !(canonV f v).isNone
      && (match ser O f (canonV f v) with | .ok _ => true | .error _ => false))
    || fwfAny O fs v
termination_by structural fs _ => fs
def fwfFields (O : Oracles) (defaults attrs : List (String × PyVal)) : List (String × FieldDecl) → Bool
  | [] => true
  | (n, f) :: rest =>
    (match lookup n attrs with
      | some v => v.isNone || fwf O f v
      | none => (lookup n defaults).all (·.isNone))
    && fwfFields O defaults attrs rest
termination_by structural fs => fs
end


/-! ### key-renaming mappers (Props/C10, `fast_mapper_equiv_partial`) -/

def relabelKey (m : TMapper) : PyVal → PyVal
  | .str n => .str (mapKey m n)
  | k => k

def relabelPairs (m : TMapper) (r : List (PyVal × PyVal)) : List (PyVal × PyVal) :=
  r.map fun kv => (relabelKey m kv.1, kv.2)

/-- the document of a class-level object with its keys renamed by the class's mapper -/
def relabelDoc (m : TMapper) (d : PyVal) : R PyVal :=
  match d with
  | .dict r => .ok (.dict (relabelPairs m r))
  | v => .ok v


mutual
/-- no class inside `f` has a mapper -/
def mfreeD (Mp : MapEnv) : FieldDecl → Bool
  | .struct c fields _ => (c.inline || (Mp c.name).isNone) && mfreeFields Mp fields
  | .seqOf _ item _ => mfreeD Mp item
  | .setOf _ item _ => mfreeD Mp item
  | .tupleOf item _ => mfreeD Mp item
  | .tuplePos items _ => mfreeL Mp items
  | .seqPos _ items _ _ => mfreeL Mp items
  | .mapOf kf vf _ => mfreeD Mp kf && mfreeD Mp vf
  | .anyOf fs => mfreeL Mp fs
  | .oneOf fs => mfreeL Mp fs
  | .allOf fs => mfreeL Mp fs
  | .notF fs => mfreeL Mp fs
  | .number _ => true
  | .integer _ => true
  | .float _ => true
  | .string _ _ _ => true
  | .boolean => true
  | .noneF => true
  | .enumLit _ => true
  | .enumCls _ _ => true
  | .seqAny _ _ => true
  | .setAny _ _ => true
  | .mapAny _ => true
  | .anything => true
termination_by structural f => f
def mfreeL (Mp : MapEnv) : List FieldDecl → Bool
  | [] => true
  | f :: fs => mfreeD Mp f && mfreeL Mp fs
termination_by structural fs => fs
def mfreeFields (Mp : MapEnv) : List (String × FieldDecl) → Bool
  | [] => true
  | (_, f) :: rest => mfreeD Mp f && mfreeFields Mp rest
termination_by structural fs => fs
end


/-! ### the document of a class tree with every class's keys renamed by its own mapper -/

mutual
/-- `relV Mp f j`: the mapper-free document `j` of a value of field `f` with the keys of every
    class-level object renamed by that class's own mapper (classes directly in a field, in an
    Array / Deque / Set / Tuple[X], in an Optional) -/
def relV (Mp : MapEnv) : FieldDecl → PyVal → PyVal
  | .struct c fields _, j =>
    (match j with
      | .dict r => if c.inline then .dict r else .dict (relFields Mp (Mp c.name) fields r)
      | other => other)
  | .seqOf _ item _, j => (match j with | .list js => .list (js.map (relV Mp item)) | other => other)
  | .setOf _ item _, j => (match j with | .list js => .list (js.map (relV Mp item)) | other => other)
  | .tupleOf item _, j => (match j with | .list js => .list (js.map (relV Mp item)) | other => other)
  | .anyOf fs, j => relLast Mp fs j
  | .number _, j => j
  | .integer _, j => j
  | .float _, j => j
  | .string _ _ _, j => j
  | .boolean, j => j
  | .noneF, j => j
  | .enumLit _, j => j
  | .enumCls _ _, j => j
  | .seqAny _ _, j => j
  | .seqPos _ _ _ _, j => j
  | .setAny _ _, j => j
  | .tuplePos _ _, j => j
  | .mapAny _, j => j
  | .mapOf _ _ _, j => j
  | .oneOf _, j => j
  | .allOf _, j => j
  | .notF _, j => j
  | .anything, j => j
termination_by structural f _ => f
/-- through the option `AnyOf.serialize` uses: the last one that is not `NoneField` -/
def relLast (Mp : MapEnv) : List FieldDecl → PyVal → PyVal
  | [], j => j
  | f :: rest, j => if rest.all isNoneF && !isNoneF f then relV Mp f j else relLast Mp rest j
termination_by structural fs _ => fs
/-- the entries of a class-level object (field order, absent fields skipped) -/
def relFields (Mp : MapEnv) (m : TMapper) : List (String × FieldDecl) → List (PyVal × PyVal) → List (PyVal × PyVal)
  | [], r => r
  | (n, f) :: rest, r =>
    (match r with
      | [] => []
      | (k, j) :: r' =>
        if (match k with | .str s => s == n | _ => false)
        then (PyVal.str (mapKey m n), relV Mp f j) :: relFields Mp m rest r'
        else relFields Mp m rest ((k, j) :: r'))
termination_by structural fs _ => fs
end

mutual
/-- mappers may sit on classes in fields, Array / Deque / Set / Tuple[X] items and Optionals; inside
    Map values and positional items the classes are mapper-free; every mapper is simple and injective
    on its class's fields -/
def fmsafeD (Mp : MapEnv) : FieldDecl → Bool
  | .struct c fields _ =>
    !c.inline && !(Mp c.name).isComplex && strNodup (fields.map fun p => mapKey (Mp c.name) p.1)
      && fmsafeFields Mp fields
  | .seqOf _ item _ => fmsafeD Mp item
  | .setOf _ item _ => fmsafeD Mp item
  | .tupleOf item _ => fmsafeD Mp item
  | .anyOf fs => fmsafeL Mp fs
  | .tuplePos items _ => mfreeL Mp items
  | .seqPos _ items _ _ => mfreeL Mp items
  | .mapOf kf vf _ => mfreeD Mp kf && mfreeD Mp vf
  | .number _ => true
  | .integer _ => true
  | .float _ => true
  | .string _ _ _ => true
  | .boolean => true
  | .noneF => true
  | .enumLit _ => true
  | .enumCls _ _ => true
  | .seqAny _ _ => true
  | .setAny _ _ => true
  | .mapAny _ => true
  | .oneOf _ => false
  | .allOf _ => false
  | .notF _ => false
  | .anything => true
termination_by structural f => f
def fmsafeL (Mp : MapEnv) : List FieldDecl → Bool
  | [] => true
  | f :: fs => fmsafeD Mp f && fmsafeL Mp fs
termination_by structural fs => fs
def fmsafeFields (Mp : MapEnv) : List (String × FieldDecl) → Bool
  | [] => true
  | (_, f) :: rest => fmsafeD Mp f && fmsafeFields Mp rest
termination_by structural fs => fs
end


end Typedpy
