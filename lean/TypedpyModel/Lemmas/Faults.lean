/-
  Lemmas/Faults.lean — every check of `defineClass` as a membership fact, and what the cases of C14's
  `fault_rejected_partial` rest on: which check an injected item of Spec/Faults.lean trips.
-/
import TypedpyModel.Lemmas.Define
import TypedpyModel.Spec.Faults
namespace Typedpy

theorem isError_iff {α} {r : R α} : isError r = true ↔ ∃ e, r = .error e := by
  cases r <;> simp [isError]

theorem asCheck_error {r : R PyVal} (h : isError r = true) : ∃ e, asCheck r = .error e := by
  rcases isError_iff.mp h with ⟨e, rfl⟩
  exact ⟨e, rfl⟩

section
variable {O : Oracles} {w : World} {src : ClassSrc}

theorem mem_checks_kw {p : String × SrcEntry} (hp : p ∈ src.entries) :
    kwDefaultCheck O p.2 ∈ checks O w src :=
  mem_checks.mpr (.inl ⟨p, hp, rfl⟩)

theorem mem_checks_base : unknownBaseCheck w src ∈ checks O w src :=
  mem_checks.mpr (.inr (.inl rfl))

theorem mem_checks_name {p : String × SrcEntry} (hp : p ∈ src.entries) :
    nameCheck p ∈ checks O w src :=
  mem_checks.mpr (.inr (.inr (.inl ⟨p, hp, rfl⟩)))

theorem mem_checks_nonTypedpy {p : String × SrcEntry} (hp : p ∈ src.entries) :
    nonTypedpyCheck w p ∈ checks O w src :=
  mem_checks.mpr (.inr (.inr (.inr (.inl ⟨p, hp, rfl⟩))))

theorem mem_checks_eq {p : String × SrcEntry} (hp : p ∈ src.entries) :
    eqDefaultCheck O p.2 ∈ checks O w src :=
  mem_checks.mpr (.inr (.inr (.inr (.inr (.inl ⟨p, hp, rfl⟩)))))

theorem mem_checks_mro : mroCheck w src ∈ checks O w src :=
  mem_checks.mpr (.inr (.inr (.inr (.inr (.inr (.inl rfl))))))

theorem mem_checks_final : finalCheck w src ∈ checks O w src :=
  mem_checks.mpr (.inr (.inr (.inr (.inr (.inr (.inr (.inl rfl)))))))

theorem mem_checks_const {p : String × Member} (hp : p ∈ resolvedFields w src) :
    constCheck p ∈ checks O w src :=
  mem_checks.mpr (.inr (.inr (.inr (.inr (.inr (.inr (.inr (.inl ⟨p, hp, rfl⟩))))))))

theorem mem_checks_optional : optionalCheck w src ∈ checks O w src :=
  mem_checks.mpr (.inr (.inr (.inr (.inr (.inr (.inr (.inr (.inr (.inl rfl)))))))))

theorem mem_checks_block {p : String × SrcEntry} (hp : p ∈ src.entries) :
    blockConstCheck w p ∈ checks O w src :=
  mem_checks.mpr (.inr (.inr (.inr (.inr (.inr (.inr (.inr (.inr (.inr (.inl ⟨p, hp, rfl⟩))))))))))

theorem mem_checks_keysOf : keysOfCheck w src ∈ checks O w src :=
  mem_checks.mpr (.inr (.inr (.inr (.inr (.inr (.inr (.inr (.inr (.inr (.inr (.inr rfl)))))))))))

end

theorem mem_checks_sig {O w src} : sigCheck w src ∈ checks O w src :=
  mem_checks.mpr (.inr (.inr (.inr (.inr (.inr (.inr (.inr (.inr (.inr (.inr (.inl rfl)))))))))))

theorem distinctStr_iff : ∀ l : List String, distinctStr l = true ↔ l.Nodup
  | [] => ⟨fun _ => .nil, fun _ => rfl⟩
  | _ :: xs => nodupBool_cons (distinctStr_iff xs)

/-- `type.__new__` went through: the bases have a C3 linearisation -/
theorem mroCheck_ok {w : World} {src : ClassSrc} (h : mroCheck w src = .ok ()) :
    c3 (mroSeqs w src) = some (mroTail w src) := by
  have hc := raiseUnless_ok.mp h
  rw [Bool.and_eq_true, mroOf, Option.isSome_map] at hc
  cases hc3 : c3 (mroSeqs w src) with
  | none => rw [hc3] at hc; cases hc.2
  | some t => rw [mroTail, hc3]; rfl

theorem bases_sublist_mroTail {w : World} {src : ClassSrc}
    (h : c3 (mroSeqs w src) = some (mroTail w src)) : src.bases.Sublist (mroTail w src) :=
  c3merge_sublist _ _ _ h _ (List.mem_append_right _ List.mem_cons_self)

/-- the MRO of a base is one of the sequences the linearisation merges, so it keeps its order -/
theorem baseMro_sublist_mroTail {w : World} {src : ClassSrc}
    (h : c3 (mroSeqs w src) = some (mroTail w src)) {b : String} {bd : ClassDef} (hb : b ∈ src.bases)
    (hbd : w.find b = some bd) : bd.mro.Sublist (mroTail w src) :=
  c3merge_sublist _ _ _ h _ (List.mem_append_left _ (List.mem_map_of_mem
    (List.mem_filterMap.mpr ⟨b, hb, hbd⟩)))

/-- `_check_for_final_violations`: a class statement with a sealed class anywhere in what would be its
    linearisation raises (if `type.__new__` has not raised before) -/
theorem sealed_in_tail_rejected (O : Oracles) {w : World} {src : ClassSrc} {k : String}
    (hk : c3 (mroSeqs w src) = some (mroTail w src) → k ∈ mroTail w src) (hs : sealedCls w k = true) :
    ∃ e, defineClass O w src = .error e := by
  cases hm : mroCheck w src with
  | error e => exact defineClass_error_of_check mem_checks_mro hm
  | ok u =>
    exact defineClass_error_of_check mem_checks_final (e := .typeErr)
      (if_pos (List.any_eq_true.mpr ⟨k, hk (mroCheck_ok hm), hs⟩))

theorem kw_default_rejected {O : Oracles} {w : World} {src : ClassSrc} {n : String} {d : FieldDecl}
    {kw : Dflt} {eq : Option Dflt} (hp : (n, .field d (some kw) eq) ∈ src.entries)
    (ht : kw.truthy = true) (hv : isError (validate O d kw.value) = true) :
    ∃ e, defineClass O w src = .error e := by
  rcases asCheck_error hv with ⟨e, he⟩
  refine defineClass_error_of_check (mem_checks_kw hp) (e := e) ?_
  rw [kwDefaultCheck, if_pos ht, he]

theorem eq_default_rejected {O : Oracles} {w : World} {src : ClassSrc} {n : String} {d : FieldDecl}
    {kw : Option Dflt} {eq : Dflt} (hp : (n, .field d kw (some eq)) ∈ src.entries)
    (ht : optTruthy kw = false)
    (h : eq.isMutableLit = true ∨ isError (validate O d eq.value) = true) :
    ∃ e, defineClass O w src = .error e := by
  have : ∃ e, eqDefaultCheck O (.field d kw (some eq)) = .error e := by
    rw [eqDefaultCheck, if_neg (by rw [ht]; exact Bool.false_ne_true)]
    split
    · exact ⟨_, rfl⟩
    · exact asCheck_error (h.resolve_left ‹_›)
  exact this.elim fun e he => defineClass_error_of_check (mem_checks_eq hp) he

/-- `_optional` is only read when `_required` is not written -/
theorem requiredEff_optional {w : World} {src : ClassSrc} (o : List String)
    (hs : src.required.isSome = true) : requiredEff w { src with optional := o } = requiredEff w src := by
  obtain ⟨r, hr⟩ := Option.isSome_iff_exists.mp hs
  have hall : allFieldsOf w { src with optional := o } = allFieldsOf w src := rfl
  have hown : requiredOwn { src with optional := o } = requiredOwn src := by
    simp only [requiredOwn, hr, Option.isNone_some, Bool.false_eq_true, if_false]
  rw [requiredEff, requiredEff, hall, hown]

theorem mem_entries_addEntry (src : ClassSrc) (n : String) (e : SrcEntry) :
    (n, e) ∈ (addEntry src n e).entries :=
  List.mem_append_right _ List.mem_cons_self

theorem mem_resolvedFields_last (w : World) (src : ClassSrc) (n : String) (m : Member) :
    (n, m) ∈ resolvedFields w (addEntry src n (.obj m)) := by
  -- the merge is `dict.update` in order, own entries after the bases': the entry added last wins
  apply lookup_mem
  simp only [resolvedFields, allFieldsOf, addEntry, mergeAll_eq, ownMembers_append,
    List.flatten_append, lookup_updateAll, List.reverse_append, lookup_append_orElse]
  simp [ownMembers, entryMember, lookup]

end Typedpy
