/-
  Props/C17.lean — C17: versioned conversion composes, reaches the latest version, leaves its input intact.

  Model: Sem/Convert.lean (`convert` = `_convert`, `convertDict` = `convert_dict`, `deserVersioned` = the
  `Versioned` prologue of `deserialize_structure_internal`, `versionedInitKw` = `Versioned.__init__`), typedpy as of
  commits f017e49 (version counted from the start version, Constant values copied,
  `getattr(cls, "_versions_mapping", None)`) and e6a2398 (a start version below 1 is rejected).
  Spec: Spec/ConvertSpec.lean (`upgrade`: the documented "apply mapping number v while v ≤ len" process, driven
  by the document's own version).

  The theorems about versions and composition quantify over every history `ms : List Mapping` (any length, any nesting
  of `._mapper` entries, any Constant / Deleted / move / FunctionCall entries — including entries for the `version`
  key itself), every JSON document and every split point.  Their only hypothesis about the document is that its
  *effective* start version (`version` key holding an integer, or no `version` key = version 1, as `convert_dict`
  reads it) is an integer `v ≥ 1` (`v ≤ len ms + 1` where the conclusion says "len ms + 1" rather than
  `max v (len ms + 1)`); there is no well-formedness restriction on the history.
  The step contract assumes in addition that every mapping is a Python dict (`wfMapping`); the heap theorems, that the
  copy sites of `convert_dict` copy and that the user functions obey `FnOk`.
  The `fixed_*` examples are the inputs on which typedpy before these commits violated the statements (findings
  `version-off-by-one:*`, `version-clobbered:*`, `compose-broken:*`, `deser-crash:*`, `invalid-version-accepted:*`).
-/
import TypedpyModel.Lemmas.ConvertStep
import TypedpyModel.Lemmas.AliasC17
import TypedpyModel.Generated.AliasingC17
namespace Typedpy.C17
open Typedpy.Convert

theorem convert_version_max (ms : List Mapping) (d r : Json) (v : Int)
    (hv : effectiveVersion d = some v) (h1 : 1 ≤ v) (h : convertDict d ms = .ok r) :
    effectiveVersion r = some (max v ((ms.length : Int) + 1)) := by
  obtain ⟨i, rfl⟩ := version_eq_succ h1
  rw [convertDict_drop ms hv] at h
  rw [runSteps_effVersion _ d r _ hv h, List.length_drop, version_after]

theorem convert_version_max_keyed (ms : List Mapping) (d r : Json) (v : Int)
    (hv : docVersion d = some v) (h1 : 1 ≤ v) (h : convertDict d ms = .ok r) :
    docVersion r = some (max v ((ms.length : Int) + 1)) := by
  obtain ⟨i, rfl⟩ := version_eq_succ h1
  rw [convertDict_drop ms (effectiveVersion_of_docVersion hv)] at h
  rw [runSteps_version _ d r _ hv h, List.length_drop, version_after]

/-- C17's "reaches the latest version" -/
theorem convert_version (ms : List Mapping) (d r : Json) (v : Int)
    (hv : effectiveVersion d = some v) (h1 : 1 ≤ v) (h2 : v ≤ (ms.length : Int) + 1)
    (h : convertDict d ms = .ok r) : effectiveVersion r = some ((ms.length : Int) + 1) := by
  rw [convert_version_max ms d r v hv h1 h, Int.max_eq_right h2]

theorem convert_version_keyed (ms : List Mapping) (d r : Json) (v : Int)
    (hv : docVersion d = some v) (h1 : 1 ≤ v) (h2 : v ≤ (ms.length : Int) + 1)
    (h : convertDict d ms = .ok r) : docVersion r = some ((ms.length : Int) + 1) := by
  rw [convert_version_max_keyed ms d r v hv h1 h, Int.max_eq_right h2]

/-- a document *without* `version` key gets the key from the first step on (finding
    `version-off-by-one:versionless-document`: it came out one short); with an empty history nothing writes it -/
theorem convert_version_versionless (m : Mapping) (ms : List Mapping) (kvs : Obj) (r : Json)
    (hn : get "version" kvs = none) (h : convertDict (.obj kvs) (m :: ms) = .ok r) :
    docVersion r = some (((m :: ms).length : Int) + 1) := by
  have hv : effectiveVersion (.obj kvs) = some (((0 : Nat) : Int) + 1) := by simp [effectiveVersion, hn]
  rw [convertDict_drop _ hv] at h
  rw [runSteps_version_cons m ms _ r _ h, Int.add_comm]
  rfl

/-- the executable law the driver evaluates on the real code's result is the theorem's conclusion -/
theorem convert_version_law (ms : List Mapping) (d r : Json)
    (hd : inDomain ms d = true) (h : convertDict d ms = .ok r) : versionLaw ms r = true := by
  simp only [inDomain] at hd
  cases hv : effectiveVersion d with
  | none => simp [hv] at hd
  | some v =>
    simp only [hv, Bool.and_eq_true, decide_eq_true_eq] at hd
    simp [versionLaw, convert_version ms d r v hv hd.1 hd.2 h]

/-- `convert_dict` (one slice by the start version, version counted from the start
    version) is the documented upgrade process (look at the document's current version, apply that version's
    mapping, repeat): it applies exactly the mappings `v, v+1, …, len` in order — for every history -/
theorem convert_is_upgrade (ms : List Mapping) (d : Json) (v : Int)
    (hv : effectiveVersion d = some v) (h1 : 1 ≤ v) :
    convertDict d ms = upgrade ms ((ms.length : Int) + 1 - v).toNat d := by
  obtain ⟨i, rfl⟩ := version_eq_succ h1
  rw [convertDict_drop ms hv]
  exact upgrade_eq_runSteps ms _ i d hv (by rw [Int.add_sub_add_right, Int.toNat_sub])

/-- converting with the first `k` mappings and then onward with the full list is
    converting at once — every history, every effective start version `v ≥ 1` (also a document without
    `version` key), every split point `k` (also `k` beyond the list or before the start version) -/
theorem convert_compose (ms : List Mapping) (d d1 : Json) (v : Int) (k : Nat)
    (hv : effectiveVersion d = some v) (h1 : 1 ≤ v) (hs : convertDict d (ms.take k) = .ok d1) :
    convertDict d1 ms = convertDict d ms := by
  rw [convertDict_take ms d v k hv h1, hs, bindE_ok]

theorem convert_compose_error (ms : List Mapping) (d : Json) (v : Int) (k : Nat) (e : Err)
    (hv : effectiveVersion d = some v) (h1 : 1 ≤ v) (hs : convertDict d (ms.take k) = .error e) :
    convertDict d ms = .error e := by
  rw [convertDict_take ms d v k hv h1, hs, bindE_error]

theorem convert_latest_id (ms : List Mapping) (d : Json) (v : Int) (hv : effectiveVersion d = some v)
    (h : (ms.length : Int) + 1 ≤ v) : convertDict d ms = .ok d := by
  obtain ⟨i, rfl⟩ := version_eq_succ (v := v) (by omega)
  rw [convertDict_drop ms hv, List.drop_eq_nil_of_le (by omega)]; rfl

theorem convert_idempotent (ms : List Mapping) (d r : Json) (v : Int)
    (hv : effectiveVersion d = some v) (h1 : 1 ≤ v) (h : convertDict d ms = .ok r) : convertDict r ms = .ok r :=
  convert_latest_id ms r _ (convert_version_max ms d r v hv h1 h) (Int.le_max_right _ _)

/-- the post-states of the document and of the mapping list are the arguments (the model
    threads them Aeneas-style; that the code indeed never writes through them is what the harness's deep
    snapshots and alias probe check on every case) -/
theorem convert_pure (d : Json) (ms : List Mapping) :
    (convertDictSt d ms).2 = (d, ms) ∧ (convertDictSt d ms).1 = convertDict d ms := ⟨rfl, rfl⟩

theorem convert_empty_mapping (d : Json) : convert [] d = .ok d := by
  cases d <;> rfl

theorem convert_frame (q : String) (m : Mapping) (kvs : Obj) (r : Json) (hw : writesKey q m = false)
    (h : convert m (.obj kvs) = .ok r) : ∃ kvs', r = .obj kvs' ∧ get q kvs' = get q kvs :=
  Typedpy.Convert.convert_frame m kvs r hw h

/-- the `Deleted` clause of the step contract -/
theorem convert_deleted_absent (k : String) (m : Mapping) (kvs : Obj) (r : Json)
    (hm : (k, Entry.deleted) ∈ m) (h : convert m (.obj kvs) = .ok r) :
    ∃ kvs', r = .obj kvs' ∧ get k kvs' = none := by
  rcases convert_obj_eq h with ⟨o1, _, rfl⟩
  exact ⟨_, rfl, loop3_deleted _ _ (.inl hm)⟩

/-- the `Constant` clause of the step contract -/
theorem convert_constant_set (k : String) (v : Json) (m : Mapping) (kvs : Obj) (r : Json)
    (hm : (k, Entry.const v) ∈ m) (hu : ∀ e, (k, e) ∈ m → e = Entry.const v)
    (h : convert m (.obj kvs) = .ok r) : ∃ kvs', r = .obj kvs' ∧ get k kvs' = some v := by
  rcases convert_obj_eq h with ⟨o1, h1, rfl⟩
  refine ⟨_, rfl, ?_⟩
  rw [get_loop3_loop2 o1 (fun e he => by rw [hu e he]; rfl) (fun e he => by rw [hu e he]; rfl)]
  exact loop1_const m kvs kvs o1 (fun e he _ => hu e he) h1 (.inl hm)

/-! ### the documented single-step contract (docs/versioning.rst)

  `stepViolations m before after` (Spec/ConvertSpec.lean) lists the clauses of the documented contract of one mapping
  application that a pair of documents violates; the driver evaluates it on what the real code returned.  Here: the
  model of `_convert` satisfies all of it, for every mapping that is a Python dict (`wfMapping`: a key occurs once per
  nesting level), whatever user functions its `FunctionCall` entries carry, and every JSON value. -/

theorem step_contract_holds (m : Mapping) (hwf : wfMapping m = true) (before after : Json)
    (h : convert m before = .ok after) : stepViolations m before after = [] :=
  -- `wfMapping m` unfolds to `(Entry.sub m).wfDeep`: the top-level mapping is the nested case of the recursion
  c17_contract_entry (.sub m) hwf m rfl before after h

/-- one iteration of `convert_dict` (`_convert`, then `version` is set by the caller) satisfies the contract -/
theorem step_contract_top_holds (m : Mapping) (hwf : wfMapping m = true) (b : Obj) (d' d'' : Json) (v : Int)
    (h : convert m (.obj b) = .ok d') (hs : setVersion v d' = .ok d'') : stepViolationsTop m (.obj b) d'' = [] :=
  c17_step_contract_top m hwf (v := v - 1) (by rw [← hs, stepSpec, h, Int.sub_add_cancel]; rfl)

/-- the conversions with the prefixes `ms[:k]` and `ms[:k+1]` (what the driver's
    `modelSteps` / `implSteps` look at) are one contract-satisfying application of `ms[k]` apart — so
    `convert_dict` from version `v` to the latest is the fold of documented single steps `v, v+1, …, len` -/
theorem convert_steps_contract (ms : List Mapping) (hwf : ∀ m, m ∈ ms → wfMapping m = true) (d b a : Json) (v : Int)
    (k : Nat) (m : Mapping) (hv : effectiveVersion d = some v) (h1 : 1 ≤ v) (hk : v ≤ (k : Int) + 1)
    (hm : ms[k]? = some m) (hb : convertDict d (ms.take k) = .ok b) (ha : convertDict d (ms.take (k + 1)) = .ok a) :
    stepViolationsTop m b a = [] := by
  have hklt : k < ms.length := (List.getElem?_eq_some_iff.mp hm).1
  obtain ⟨i, rfl⟩ := version_eq_succ h1
  rw [convertDict_drop _ hv] at hb ha
  rw [List.take_add_one, hm, Option.toList_some,
    List.drop_append_of_le_length (by rw [List.length_take]; omega), runSteps_append, hb, bindE_ok,
    runSteps_cons_step] at ha
  rcases bindE_eq_ok ha with ⟨d'', hs, h3⟩
  cases h3
  exact c17_step_contract_top m (hwf m (List.mem_of_getElem? hm)) hs

/-- whatever a user function raises on the arguments loop 1 hands it (the values
    the entries written before it left) is what `_convert` raises — for every user function, nothing is swallowed -/
theorem convert_fn_error_propagates (mp mr : Mapping) (k : String) (g : UserFn) (args : List String)
    (b op : Obj) (e : Err) (hp : loop1 (compileMap mp) b b = .ok op)
    (hg : g ((if args.isEmpty then [k] else args).map fun a => getD a op) = .error e) :
    convert (mp ++ (k, .fn g args) :: mr) (.obj b) = .error e := by
  simp only [convert, convShape, compileMap_append, loop1_append, hp, bindE_ok, compileMap_cons, Entry.compile_fn, loop1_cons,
    step1, hg, bindE_error]

/-- … and when it answers, the key holds the answer (no other entry for the key): the FunctionCall clause spelled
    out for an arbitrary user function `g` -/
theorem convert_fn_result (mp mr : Mapping) (k : String) (g : UserFn) (args : List String) (b : Obj) (r : Json)
    (hu1 : ∀ e', (k, e') ∉ mp) (hu2 : ∀ e', (k, e') ∉ mr)
    (h : convert (mp ++ (k, .fn g args) :: mr) (.obj b) = .ok r) :
    ∃ op a v, loop1 (compileMap mp) b b = .ok op ∧ r = .obj a
      ∧ g ((if args.isEmpty then [k] else args).map fun x => getD x op) = .ok v ∧ get k a = some v := by
  rcases convert_obj_eq h with ⟨o1, h1, rfl⟩
  rcases get_after_step1 rfl h1 (forall_keyed_at (fun e' h => absurd h (hu1 e')) ⟨rfl, rfl⟩ (fun e' h => absurd h (hu2 e')))
    (fun e' he' => absurd he' (hu2 e')) with ⟨op, o2, hp, hs2, hg⟩
  simp only [Entry.compile_fn, step1] at hs2
  rcases bindE_eq_ok hs2 with ⟨v, hv, hs3⟩
  cases hs3
  exact ⟨op, _, v, hp, rfl, hv, by rw [hg, get_set_same]⟩

/-- the contract is not vacuous: on a mapping with a rename, a Constant, a FunctionCall and a nested `._mapper` over a
    list the model's result passes, and tampering with any one of the moved key, the deleted key, the constant, the
    function result, a nested sub-document or an unmentioned key is reported -/
def exStepMapping : Mapping :=
  [("n", .move ["o", "i"]), ("o", .deleted), ("c", .const (.int 7)), ("f", .fn (applyFn .addOne) ["x"]),
   ("s", .sub [("t", .const (.str "q"))])]

def exStepBefore : Json :=
  .obj [("o", .obj [("i", .float 5 2)]), ("x", .int 4), ("s", .list [.obj [("u", .int 0)]]), ("z", .int 5)]

def exStepAfter (n c f t z : Json) (o : List (String × Json)) : Json :=
  .obj (o ++ [("x", .int 4), ("s", .list [.obj [("u", .int 0), ("t", t)]]), ("z", z), ("c", c), ("f", f), ("n", n)])

theorem step_contract_sensitive_example :
    wfMapping exStepMapping = true
    ∧ sameResult (convert exStepMapping exStepBefore)
        (.ok (exStepAfter (.float 5 2) (.int 7) (.int 5) (.str "q") (.int 5) [])) = true
    ∧ (stepViolations exStepMapping exStepBefore (exStepAfter (.float 5 2) (.int 7) (.int 5) (.str "q") (.int 5) [])).length = 0
    ∧ (stepViolations exStepMapping exStepBefore (exStepAfter (.int 5) (.int 7) (.int 5) (.str "q") (.int 5) [])).length = 1
    ∧ (stepViolations exStepMapping exStepBefore (exStepAfter (.float 5 2) (.int 8) (.int 5) (.str "q") (.int 5) [])).length = 1
    ∧ (stepViolations exStepMapping exStepBefore (exStepAfter (.float 5 2) (.int 7) (.int 4) (.str "q") (.int 5) [])).length = 1
    ∧ (stepViolations exStepMapping exStepBefore (exStepAfter (.float 5 2) (.int 7) (.int 5) (.str "r") (.int 5) [])).length = 1
    ∧ (stepViolations exStepMapping exStepBefore (exStepAfter (.float 5 2) (.int 7) (.int 5) (.str "q") (.int 6) [])).length = 2
    ∧ (stepViolations exStepMapping exStepBefore
        (exStepAfter (.float 5 2) (.int 7) (.int 5) (.str "q") (.int 5) [("o", .null)])).length = 1 := by
  decide +kernel

/-- precedence when a Constant and a `._mapper` entry share a key (entries act in the order written; the nested
    conversion reads the sub-document that was there BEFORE the step): `s`: Constant then `._mapper` → the converted
    sub-document wins; `p`: `._mapper` then Constant → the constant wins; `q`: Constant then `._mapper` on an absent
    sub-document → the constant stays.  Each wrong outcome is reported. -/
def exPrecMapping : Mapping :=
  [("s", .const (.int 0)), ("s", .sub [("t", .const (.int 1))]),
   ("p", .sub [("t", .const (.int 1))]), ("p", .const (.int 0)), ("q", .const (.int 9)), ("q", .sub [])]

def exPrecBefore : Json := .obj [("s", .obj [("u", .int 0)]), ("p", .obj [("u", .int 0)])]

theorem step_contract_precedence_example :
    wfMapping exPrecMapping = true
    ∧ sameResult (convert exPrecMapping exPrecBefore)
        (.ok (.obj [("s", .obj [("u", .int 0), ("t", .int 1)]), ("p", .int 0), ("q", .int 9)])) = true
    ∧ (stepViolations exPrecMapping exPrecBefore
        (.obj [("s", .obj [("u", .int 0), ("t", .int 1)]), ("p", .int 0), ("q", .int 9)])).length = 0
    ∧ (stepViolations exPrecMapping exPrecBefore (.obj [("s", .int 0), ("p", .int 0), ("q", .int 9)])).length = 1
    ∧ (stepViolations exPrecMapping exPrecBefore
        (.obj [("s", .obj [("u", .int 0), ("t", .int 1)]), ("p", .obj [("u", .int 0), ("t", .int 1)]), ("q", .int 9)])).length = 1
    ∧ (stepViolations exPrecMapping exPrecBefore
        (.obj [("s", .obj [("u", .int 0), ("t", .int 1)]), ("p", .int 0)])).length = 1 := by
  decide +kernel

/-! ### start versions that are no positive integer

  Below 1: the documentation ("The version is expected to start with 1", field `version: PositiveInt`) leaves no room
  for them; since typedpy commit e6a2398 `convert_dict` rejects them (before, it sliced the history with a negative
  index: findings `invalid-version-accepted:*`, now `fixed`). -/

def NonPositiveRejectedStatement : Prop :=
  ∀ (ms : List Mapping) (d : Json) (v : Int), docVersion d = some v → v < 1 → ∃ e, convertDict d ms = .error e

theorem convert_nonpositive_raises (ms : List Mapping) (kvs : Obj) (x : Json) (v : Int)
    (hv : get "version" kvs = some x) (hx : versionInt x = some v) (h : v < 1) :
    convertDict (.obj kvs) ms = .error (.other "ValueError") := by
  simp [convertDict, startVersion, hv, hx, h]

theorem nonpositive_rejected_holds : NonPositiveRejectedStatement := by
  intro ms d v hv h
  rcases docVersion_obj hv with ⟨kvs, rfl, hg⟩
  exact ⟨_, convert_nonpositive_raises ms kvs (.int v) v hg rfl h⟩

/-- the input of finding `invalid-version-accepted:convert_dict-nonpositive-start-version` (fixed):
    `convert_dict({"version": 0}, [{"a": Constant(1)}, {"b": Constant(2)}])` used to apply the LAST mapping only and
    answer `{"version": 1, "b": 2}`; now it raises ValueError -/
theorem fixed_nonpositive_example :
    sameResult (convertDict (.obj [("version", .int 0)]) [[("a", .const (.int 1))], [("b", .const (.int 2))]])
      (.error (.other "ValueError")) = true := by
  decide +kernel

/-- … and so does the `Versioned` prologue of deserialization, also for a class with an empty history or without
    `_versions_mapping` (finding `invalid-version-accepted:deserialize-nonpositive-start-version`, fixed) -/
theorem deser_nonpositive_raises {α} (rest : Json → α) (ms : Option (List Mapping)) (kvs : Obj) (x : Json) (v : Int)
    (hv : get "version" kvs = some x) (hx : versionInt x = some v) (h : v < 1) :
    deserVersioned rest ms (.obj kvs) = .error (.other "ValueError") := by
  simp [deserVersioned, hv, nonPositiveVersion, hx, h]

/-- a `version` that is no integer (str, None, float, list, dict) is rejected with TypeError before anything else
    happens (`start_version - 1`); a bool is an int in Python (`True` = 1, `False` = 0) -/
theorem convert_nonint_version_raises (ms : List Mapping) (kvs : Obj) (x : Json)
    (hv : get "version" kvs = some x) (hx : versionInt x = none) :
    convertDict (.obj kvs) ms = .error .typeErr := by
  simp [convertDict, startVersion, hv, hx]

/-- deserializing a `Versioned` class (with or without a `_versions_mapping`
    attribute) from a document at any version `v ≥ 1` is deserializing it from the converted
    latest-version document (`rest` = the remainder of `deserialize_structure_internal`, any function of the
    converted input) -/
theorem versioned_deser_equiv {α} (rest : Json → α) (ms : Option (List Mapping)) (d d' : Json) (v : Int)
    (hv : docVersion d = some v) (h1 : 1 ≤ v) (h : convertDict d (ms.getD []) = .ok d') :
    deserVersioned rest ms d' = deserVersioned rest ms d := by
  rw [deserVersioned_eq rest ms hv h1, h,
    deserVersioned_eq rest ms (convert_version_max_keyed _ d d' v hv h1 h) (Int.le_trans h1 (Int.le_max_left _ _)),
    convert_idempotent _ d d' v (effectiveVersion_of_docVersion hv) h1 h]

theorem versioned_deser_result {α} (rest : Json → α) (ms : Option (List Mapping)) (d d' : Json) (v : Int)
    (hv : docVersion d = some v) (h1 : 1 ≤ v) (h : convertDict d (ms.getD []) = .ok d') :
    deserVersioned rest ms d = .ok (rest d') := by
  rw [deserVersioned_eq rest ms hv h1, h, bindE_ok]

/-- the undeclared keys a `Versioned` class keeps (`keep_undefined`, additional
    properties) when deserializing an old document are exactly the undeclared keys of the *converted* document:
    legacy keys the history moved or deleted are gone, non-field keys the history added are there — for every
    setting of `keep_undefined` and of additional properties, every set of declared fields -/
theorem versioned_deser_extras (fields : List String) (keep : Option Bool) (addl : Bool)
    (ms : Option (List Mapping)) (d d' : Json) (v : Int)
    (hv : docVersion d = some v) (h1 : 1 ≤ v) (h : convertDict d (ms.getD []) = .ok d') :
    deserExtras fields keep addl ms d = .ok (undeclaredKept fields keep addl d')
    ∧ deserExtras fields keep addl ms d' = deserExtras fields keep addl ms d :=
  ⟨versioned_deser_result _ ms d d' v hv h1 h, versioned_deser_equiv _ ms d d' v hv h1 h⟩

/-- non-vacuity for the extras: history renames the non-field key `full` to the field `name`, deletes the legacy
    key, adds the non-field marker `migrated`; with `keep_undefined=True` on a class allowing additional
    properties the instance keeps `note` and `migrated` (not `full`); with the default nothing is kept -/
theorem deser_extras_example :
    (match deserExtras ["name", "version"] (some true) true
        (some [[("name", .move ["full"]), ("full", .deleted)], [("migrated", .const (.bool true))]])
        (.obj [("version", .int 1), ("full", .str "j"), ("note", .str "x")]) with
      | .ok ex => Json.beq (.obj ex) (.obj [("note", .str "x"), ("migrated", .bool true)])
      | .error _ => false) = true
    ∧ (match deserExtras ["name", "version"] none true
        (some [[("name", .move ["full"]), ("full", .deleted)], [("migrated", .const (.bool true))]])
        (.obj [("version", .int 1), ("full", .str "j"), ("note", .str "x")]) with
      | .ok ex => ex.isEmpty
      | .error _ => false) = true := by
  decide +kernel

/-- `Versioned.__init__` forces `version = len(_versions_mapping) + 1` (1 without the
    attribute), whatever the caller passed, and that value is a positive integer -/
theorem new_instance_latest (ms : Option (List Mapping)) (kw : Obj) :
    get "version" (versionedInitKw ms kw) = some (.int (((ms.getD []).length : Int) + 1))
    ∧ (0 : Int) < ((ms.getD []).length : Int) + 1 :=
  ⟨get_set_same _ _ _, by omega⟩

/-! ### the statements of the property as closed propositions (typedpy before commit f017e49 refuted each of them, on
    the inputs of the `fixed_*` examples below) -/

def VersionStatement : Prop :=
  ∀ (ms : List Mapping) (d r : Json) (v : Int), effectiveVersion d = some v → 1 ≤ v →
    v ≤ (ms.length : Int) + 1 → convertDict d ms = .ok r → effectiveVersion r = some ((ms.length : Int) + 1)

def ComposeStatement : Prop :=
  ∀ (ms : List Mapping) (d d1 : Json) (v : Int) (k : Nat), effectiveVersion d = some v → 1 ≤ v →
    convertDict d (ms.take k) = .ok d1 → convertDict d1 ms = convertDict d ms

/-- `none`: the class does not define `_versions_mapping` -/
def DeserDefaultHistoryStatement : Prop :=
  ∀ (rest : Json → Json) (d : Json) (v : Int), docVersion d = some v → 1 ≤ v →
    deserVersioned rest none d = .ok (rest d)

theorem version_statement_holds : VersionStatement := convert_version

theorem compose_statement_holds : ComposeStatement := convert_compose

theorem deser_default_history_holds : DeserDefaultHistoryStatement :=
  fun rest d v hv h1 =>
    versioned_deser_result rest none d d v hv h1 (convert_latest_id [] d v (effectiveVersion_of_docVersion hv) (by simpa using h1))

/-- the input of finding `version-off-by-one:versionless-document` (fixed):
    `convert_dict({"a": 1}, [{}])` is `{"a": 1, "version": 2}` -/
theorem fixed_versionless_example :
    sameResult (convertDict (.obj [("a", .int 1)]) [[]]) (.ok (.obj [("a", .int 1), ("version", .int 2)])) = true := by
  decide +kernel

/-- the input of finding `version-clobbered:mapping-writes-version` (fixed):
    `convert_dict({"version": 1}, [{"version": Constant(7)}, {}])` is `{"version": 3}` -/
theorem fixed_clobber_example :
    sameResult (convertDict (.obj [("version", .int 1)]) [[("version", .const (.int 7))], []])
      (.ok (.obj [("version", .int 3)])) = true := by
  decide +kernel

/-- the input of finding `compose-broken:versionless-document` (fixed): with `ms = [{"a": FunctionCall(add_one)}]`, `d = {"a": 1}` the
    two-stage and the one-stage result are both `{"a": 2, "version": 2}` -/
theorem fixed_compose_versionless_example :
    (match convertDict (.obj [("a", .int 1)]) ([[("a", .fn (applyFn .addOne) [])]].take 1) with
      | .ok d1 => sameResult (convertDict d1 [[("a", .fn (applyFn .addOne) [])]])
                    (.ok (.obj [("a", .int 2), ("version", .int 2)]))
                  && sameResult (convertDict (.obj [("a", .int 1)]) [[("a", .fn (applyFn .addOne) [])]])
                    (.ok (.obj [("a", .int 2), ("version", .int 2)]))
      | .error _ => false) = true := by
  decide +kernel

/-- the input of finding `compose-broken:mapping-writes-version` (fixed): `ms = [{"version": Constant(5)}, {"a": Constant(0)}]`,
    `d = {"version": 1}`, split after the first mapping: both ways give `{"version": 3, "a": 0}` -/
theorem fixed_compose_clobber_example :
    (match convertDict (.obj [("version", .int 1)])
        ([[("version", .const (.int 5))], [("a", .const (.int 0))]].take 1) with
      | .ok d1 => sameResult (convertDict d1 [[("version", .const (.int 5))], [("a", .const (.int 0))]])
                    (.ok (.obj [("version", .int 3), ("a", .int 0)]))
                  && sameResult (convertDict (.obj [("version", .int 1)])
                      [[("version", .const (.int 5))], [("a", .const (.int 0))]])
                    (.ok (.obj [("version", .int 3), ("a", .int 0)]))
      | .error _ => false) = true := by
  decide +kernel

/-- the input of finding `deser-crash:versions-mapping-attribute-absent` (fixed): a `Versioned` class without `_versions_mapping`
    deserializes `{"version": 1}` from the document itself -/
theorem fixed_deser_no_attribute_example :
    (match deserVersioned id none (.obj [("version", .int 1)]) with
      | .ok d => d.beq (.obj [("version", .int 1)])
      | .error _ => false) = true := by
  decide +kernel

/-- the `Bool` comparison of outcomes used by the driver-evaluated laws means equality -/
theorem beq_sound (a b : R Json) (h : sameResult a b = true) : a = b := by
  cases a <;> cases b <;> simp only [sameResult] at h
  · rw [eq_of_beq h]
  · cases h
  · cases h
  · rw [Json.beq_sound _ _ h]

def exHistory : List Mapping :=
  [ [("j", .const (.int 100)),
     ("items", .sub [("n", .fn (applyFn .addOne) []), ("tag", .const (.str "t"))])],
    [("bar", .move ["old", "inner"]), ("old", .deleted), ("w", .fn (applyFn .pair) ["i", "j"])],
    [("first", .move ["items", "n"]), ("i", .fn (applyFn .wrap) ["i"])] ]

def exDoc : Json :=
  .obj [("version", .int 1), ("i", .int 2),
        ("items", .list [.obj [("n", .int 1)], .obj [("n", .int 5), ("z", .null)]]),
        ("old", .obj [("inner", .list [.bool true])])]

def exLatest : Json :=
  .obj [("version", .int 4), ("i", .list [.int 2]),
        ("items", .list [.obj [("n", .int 2), ("tag", .str "t")],
                         .obj [("n", .int 6), ("z", .null), ("tag", .str "t")]]),
        ("j", .int 100), ("w", .list [.int 2, .int 100]), ("bar", .list [.bool true]),
        ("first", .list [.int 2, .int 6])]

theorem laws_example :
    wfHistory exHistory = true ∧ inDomain exHistory exDoc = true
    ∧ sameResult (convertDict exDoc exHistory) (.ok exLatest) = true
    ∧ versionLaw exHistory exLatest = true
    ∧ (match convertDict exDoc (exHistory.take 1) with
        | .ok d1 => sameResult (convertDict d1 exHistory) (convertDict exDoc exHistory)
                     && sameResult (.ok d1) (.ok exLatest) == false
        | .error _ => false) = true
    ∧ (match convertDict exDoc (exHistory.take 2) with
        | .ok d2 => sameResult (convertDict d2 exHistory) (convertDict exDoc exHistory)
        | .error _ => false) = true
    ∧ sameResult (convertDict exLatest exHistory) (.ok exLatest) = true
    ∧ sameResult (upgrade exHistory 3 exDoc) (.ok exLatest) = true
    ∧ sameResult (convertDict (.obj [("version", .int 1), ("items", .int 3)]) exHistory)
        (.error .attrErr) = true := by
  decide +kernel

/-! ### "leaves its input intact", proved on the heap

  `convert_pure` is true by construction of the value-level model.  The statements here are about a
  heap-level model of the same code (Sem/AliasC17.lean: `hConvertDict` / `hConvert` over the ownership model of C19,
  Sem/Alias.lean — cells with identity, `copy.deepcopy` as `deepCopy`, `out_dict[k] = …` / `del` as writes into the
  cell `out_dict` refers to, `deep_get` handing out references, user functions as arbitrary heap transformers).
  What the code does at its three copy sites (`convert_dict`: `copy.deepcopy(the_dict)`; `_convert`:
  `copy.deepcopy(mapped_dict)`; Constant: `copy.deepcopy(v())`) is a parameter `S : Sites` of that model; the value
  the source has TODAY is regenerated on every run by extract/aliasing_c17.py into Generated/AliasingC17.lean and the
  obligations `*_today` over `Gen.sites` and `Gen.docWrites` are re-decided (`Gen.paramWrites` and
  `Gen.nestedReadsInput` are regenerated too and enter no obligation).
  User functions are restricted by the capability discipline `FnOk` only: they write no cell that existed when they
  were called (so they mutate neither their arguments nor a global object) and return an atom, something they built
  or something reachable from their arguments. -/

/-- the two copy sites `convert_dict`'s intactness rests on — `copy.deepcopy(the_dict)` and
    `copy.deepcopy(v())` of a Constant's value — copy in the source as regenerated today.  (What `_convert` does with
    its own argument, deep / shallow / no copy, does not matter: it only ever sees `convert_dict`'s private copy.) -/
theorem sites_doc_const_copy_today :
    AliasC17.Gen.sites.doc.copies = true ∧ AliasC17.Gen.sites.const.copies = true := by decide

/-- no statement of `convert_dict` / `_convert` writes through an object of the caller (`the_dict`,
    `versions_mapping`, a mapping, a `FunctionCall`) or an un-copied alias of one -/
theorem no_doc_writes_today : AliasC17.Gen.docWrites = [] := by decide

/-- for every history (any nesting, any `FnOk` user functions), every heap and document,
    and EVERY way `_convert` may copy or not copy its own argument: `convert_dict` changes no cell that existed
    before the call (the caller's document, the mapping objects, the Constant values) — also when it raises midway;
    the result lives entirely in cells allocated by the call, so no cell reachable from it is reachable from any
    pre-existing root; whatever the caller later does to the result cannot change anything that existed before,
    and whatever it does to old objects cannot change the result -/
theorem convert_input_intact (A : AliasC17.Atoms) {S : AliasC17.Sites} (hd : S.doc.copies = true)
    (hc : S.const.copies = true) (fuel : Nat) (ver : Nat → Int) (ms : List AliasC17.HMapping)
    (hm : ∀ m, m ∈ ms → AliasC17.mapFnsOk m) :
    AliasC17.IntactFor (AliasC17.hConvertDict A S fuel ver ms) :=
  AliasC17.hConvertDict_intact_weak A hd hc fuel ver ms hm

theorem convert_input_intact_today (A : AliasC17.Atoms) (fuel : Nat) (ver : Nat → Int)
    (ms : List AliasC17.HMapping) (hm : ∀ m, m ∈ ms → AliasC17.mapFnsOk m) :
    AliasC17.IntactFor (AliasC17.hConvertDict A AliasC17.Gen.sites fuel ver ms) :=
  convert_input_intact A sites_doc_const_copy_today.1 sites_doc_const_copy_today.2 fuel ver ms hm

/-- the same for one `_convert` on its own (nested `._mapper` conversion included), when it deep-copies its
    argument and the Constant values (a statement about the private helper; no obligation of today's source) -/
theorem step_input_intact (A : AliasC17.Atoms) {S : AliasC17.Sites} (hst : S.step.copies = true)
    (hc : S.const.copies = true) (fuel : Nat) (m : AliasC17.HMapping)
    (hm : AliasC17.mapFnsOk m) : AliasC17.IntactFor (AliasC17.hConvert A S fuel m) :=
  (AliasC17.hConvert_ok A hst hc fuel m hm).intact

/-- unfolded: the converted document shares no cell with anything the caller held before -/
theorem convert_result_disjoint (A : AliasC17.Atoms) {S : AliasC17.Sites} (hd : S.doc.copies = true)
    (hc : S.const.copies = true) (fuel : Nat)
    (ver : Nat → Int) (ms : List AliasC17.HMapping) (hm : ∀ m, m ∈ ms → AliasC17.mapFnsOk m)
    (h : Alias.Heap) (doc : Alias.Item) (h' : Alias.Heap) (res : Alias.Item)
    (e : AliasC17.hConvertDict A S fuel ver ms h doc = (h', some res)) (cb : Alias.ClosedBelow h.next h)
    (K : List Nat) (hK : ∀ r, r ∈ K → r < h.next) :
    ∀ b, Alias.Held h' (AliasC17.roots res) b → (h.next ≤ b ∧ b < h'.next) ∧ ¬ Alias.Held h' K b :=
  ((AliasC17.hConvertDict_ok A hd hc fuel ver ms hm).isolated e).disjoint (AliasC17.roots_of res) cb K hK

/-- non-vacuity / the hypotheses are needed (kernel-evaluated on a small heap): with all three sites copying the
    call succeeds, leaves the old cells alone and shares nothing; a `_convert` WITHOUT its own `deepcopy`, called
    directly on a caller's document, writes into it (which is why `convert_dict`'s own copy matters) -/
theorem heap_examples :
    ((AliasC17.exRun AliasC17.allDeep).2.isSome = true
      ∧ Alias.sameBelow AliasC17.exHeap.next AliasC17.exHeap (AliasC17.exRun AliasC17.allDeep).1 = true
      ∧ Alias.sharedPaths 8 (AliasC17.exRun AliasC17.allDeep).1 AliasC17.exOld []
          (AliasC17.resOf (AliasC17.exRun AliasC17.allDeep)) = [])
    ∧ ¬ Alias.Frame AliasC17.exHeap
        (AliasC17.hConvert AliasC17.exAtoms { AliasC17.allDeep with step := .alias } 9
          [("k", .const (.atom 7)), ("name", .deleted)] AliasC17.exHeap (.ref 0)).1 :=
  ⟨⟨AliasC17.example_all_deep.1, AliasC17.example_all_deep.2.2.1, AliasC17.example_all_deep.2.2.2.1⟩,
    fun fr => Bool.false_ne_true (AliasC17.step_alias_writes_input.symm.trans (AliasC17.sameBelow_of_frame fr))⟩

end Typedpy.C17
