/-
  Lemmas/Nesting.lean — the bracket nesting of the emitted module (`PyGram.maxNest` over its tokens) is
  the nesting of its expression trees (`Emit.modDepth`): CPython's 200-level limit becomes a
  condition on the trees (`depthOk`), no lexing needed.  The tokens of every printed piece close the
  brackets they open (`Nests ts k`, `k` the deepest level inside), and pieces compose.  With it the
  acceptance theorem (`recognise_of_depth`): well-formed classes and shallow trees give an accepted module.
-/
import TypedpyModel.Lemmas.TextClean
namespace Typedpy.Emit
open Typedpy.PyGram Typedpy.PyLex

/-- a token that is no bracket: an operator of `opChars`, or no operator at all -/
def flat : Tok → Bool
  | .op c => opChars.contains c
  | _ => true

theorem maxNest_flat {t : Tok} (ht : flat t = true) (d m : Nat) (ts : List Tok) :
    maxNest d m (t :: ts) = maxNest d m ts := by
  cases t with
  | op c =>
    simp only [flat, opChars, List.contains_iff_mem, List.mem_cons, List.not_mem_nil, or_false] at ht
    rcases ht with rfl | rfl | rfl | rfl | rfl <;> rfl
  | _ => rfl

/-- `ts` closes every bracket it opens, and its deepest bracket lies `k` levels above its start -/
def Nests (ts : List Tok) (k : Nat) : Prop :=
  ∀ (d m : Nat) (rest : List Tok), d ≤ m → maxNest d m (ts ++ rest) = maxNest d (max m (d + k)) rest

theorem Nests.of_eq {ts : List Tok} {j k : Nat} (h : Nests ts j) (e : j = k) : Nests ts k := e ▸ h

theorem Nests.nil : Nests [] 0 := fun d m rest h => by rw [Nat.add_zero, Nat.max_eq_left h]; rfl

theorem Nests.cons {t : Tok} {ts : List Tok} {k : Nat} (ht : flat t = true) (h : Nests ts k) : Nests (t :: ts) k :=
  fun d m rest hm => by rw [List.cons_append, maxNest_flat ht, h d m rest hm]

theorem Nests.append {a b : List Tok} {j k : Nat} (ha : Nests a j) (hb : Nests b k) : Nests (a ++ b) (max j k) :=
  fun d m rest hm => by
    rw [List.append_assoc, ha d m _ hm, hb d _ rest (Nat.le_trans hm (Nat.le_max_left ..)), Nat.max_assoc,
      Nat.add_max_add_left]

/-- an optional leading separator -/
theorem Nests.opt {t : Tok} {ts : List Tok} {k : Nat} (b : Bool) (ht : flat t = true) (h : Nests ts k) :
    Nests ((if b then [] else [t]) ++ ts) k := by
  cases b
  · exact h.cons ht
  · exact h

theorem Nests.bracket {o c : Char} {ts : List Tok} {k : Nat} (ho : o = '(' ∨ o = '[' ∨ o = '{')
    (hc : c = ')' ∨ c = ']' ∨ c = '}') (h : Nests ts k) : Nests (.op o :: (ts ++ [.op c])) (1 + k) :=
  fun d m rest hm => by
    have e1 : ∀ r, maxNest d m (.op o :: r) = maxNest (d + 1) (max m (d + 1)) r := by
      rcases ho with rfl | rfl | rfl <;> exact fun _ => rfl
    have e2 : ∀ m' r, maxNest (d + 1) m' (.op c :: r) = maxNest d m' r := by
      rcases hc with rfl | rfl | rfl <;> exact fun _ _ => rfl
    rw [List.cons_append, List.append_assoc, e1, h (d + 1) _ _ (Nat.le_max_right ..), List.singleton_append, e2,
      Nat.max_assoc, Nat.max_eq_right (Nat.le_add_right _ _), Nat.add_assoc]

mutual
theorem maxNest_expr : ∀ e : PyExpr, Nests (toks e) (edepth e)
  | .name _ | .const _ | .num _ | .strLit _ => .cons rfl .nil
  | .negNum _ => .cons rfl (.cons rfl .nil)
  | .bad => .nil
  | .lam b => .cons rfl (.cons rfl (maxNest_expr b))
  | .call _ kws => .cons rfl (.bracket (.inl rfl) (.inl rfl) (maxNest_kws kws true))
  | .list xs => .bracket (.inr (.inl rfl)) (.inr (.inl rfl)) (maxNest_list xs true)
  | .dict kvs => .bracket (.inr (.inr rfl)) (.inr (.inr rfl)) (maxNest_kvs kvs true)
theorem maxNest_list : ∀ (xs : List PyExpr) (first : Bool) (d m : Nat) (rest : List Tok), d ≤ m →
    maxNest d m (toksL first xs ++ rest) = maxNest d (max m (d + listDepth xs)) rest
  | [], _ => Nests.nil
  | x :: xs, first => Nests.opt first rfl ((maxNest_expr x).append (maxNest_list xs false))
theorem maxNest_kws : ∀ (kws : List (List Char × PyExpr)) (first : Bool) (d m : Nat) (rest : List Tok), d ≤ m →
    maxNest d m (toksKws first kws ++ rest) = maxNest d (max m (d + kwsDepth kws)) rest
  | [], _ => Nests.nil
  | (_, v) :: r, first => Nests.opt first rfl (.cons rfl (.cons rfl ((maxNest_expr v).append (maxNest_kws r false))))
theorem maxNest_kvs : ∀ (kvs : List (PyExpr × PyExpr)) (first : Bool) (d m : Nat) (rest : List Tok), d ≤ m →
    maxNest d m (toksKVs first kvs ++ rest) = maxNest d (max m (d + kvsDepth kvs)) rest
  | [], _ => Nests.nil
  | (k, v) :: r, first =>
    Nests.opt first rfl ((maxNest_expr k).append (.cons rfl ((maxNest_expr v).append (maxNest_kvs r false))))
end

theorem maxNest_item : ∀ it : Item, Nests (itemToks it) (itemDepth it)
  | .doc _ | .pass => .cons rfl (.cons rfl .nil)
  | .blank => .nil
  | .ann _ e | .assign _ e =>
    .cons rfl (.cons rfl (((maxNest_expr e).append (.cons rfl .nil)).of_eq (Nat.max_zero _)))

theorem maxNest_items : ∀ (items : List Item) (opened : Bool), Nests (itemsToks opened items) (itemsDepth items)
  | [], _ => .nil
  | it :: r, opened => by
    cases it with
    | blank => exact (maxNest_items r opened).of_eq (Nat.zero_max _).symm
    | _ => exact .opt opened rfl ((maxNest_item _).append (maxNest_items r true))

theorem maxNest_class (opened : Bool) (name : List Char) (items : List Item) :
    Nests (classToks opened name items) (max 1 (itemsDepth items)) := by
  have hdr : Nests (headerToks name) 1 := fun d m rest _ => by simp [headerToks, maxNest]
  have h := hdr.append (maxNest_items items false)
  cases opened
  · exact h
  · exact h.cons rfl

theorem maxNest_classes (O : EOra) : ∀ (cs : List ClassSrc) (opened : Bool), Nests (classesToks O opened cs) (modDepth O cs)
  | [], _ => .nil
  | _ :: r, opened => (maxNest_class opened _ _).append (maxNest_classes O r true)

theorem maxNest_module (O : EOra) (defs : List ClassSrc) (main : ClassSrc) :
    maxNest 0 0 (modToks O defs main) = modDepth O (defs ++ [main]) := by
  have h := maxNest_classes O (defs ++ [main]) false 0 0 [.dedent] (Nat.le_refl 0)
  simpa [modToks, importToks, maxNest] using h

theorem nestOk_of_depth (X : Ora) (O : EOra) (write : Bool) (defs : List ClassSrc) (main : ClassSrc)
    (hd : ∀ c ∈ defs, classOk X O c = true) (hm : classOk X O main = true)
    (hdep : depthOk O defs main = true) :
    nestOk X (moduleText O write defs main) = true := by
  have htok := tokens_module X O write defs main hd hm (moduleText_clean X O write defs main hd hm)
  simp only [nestOk, htok, maxNest_module, decide_eq_true_eq]
  simpa [depthOk] using hdep

/-- the acceptance theorem at the level of the printed trees: well-formed classes whose trees nest
    within CPython's limit give a module that the recogniser accepts -/
theorem recognise_of_depth (X : Ora) (O : EOra) (write : Bool) (defs : List ClassSrc) (main : ClassSrc)
    (hd : ∀ c ∈ defs, classOk X O c = true) (hm : classOk X O main = true)
    (hdep : depthOk O defs main = true) :
    recognise X (moduleText O write defs main) = .accept := by
  have hclean := moduleText_clean X O write defs main hd hm
  have hnest := nestOk_of_depth X O write defs main hd hm hdep
  have htok := tokens_module X O write defs main hd hm hclean
  simp only [textClean, Bool.and_eq_true, Bool.not_eq_true'] at hclean
  simp only [nestOk, htok, decide_eq_true_eq] at hnest
  simp only [recognise, hclean.1, Bool.false_eq_true, if_false, htok]
  rw [if_neg (by omega), parse_module X O defs main hd hm]

/-! ### the nesting of the printed trees is bounded by the nesting of the schema -/

theorem edepth_intExpr (i : Int) : edepth (intExpr i) = 0 := by unfold intExpr; split <;> rfl
theorem edepth_natExpr (n : Nat) : edepth (natExpr n) = 0 := rfl
theorem edepth_floatExpr (t : List Char) : edepth (floatExpr t) = 0 := by unfold floatExpr; split <;> rfl
theorem edepth_qExpr (O : EOra) (q : Q) : edepth (qExpr O q) = 0 := by
  unfold qExpr; split
  · exact edepth_intExpr _
  · exact edepth_floatExpr _
theorem edepth_boolExpr (b : Bool) : edepth (boolExpr b) = 0 := by cases b <;> rfl

mutual
theorem edepth_valExpr (O : EOra) : ∀ v : PyVal, edepth (valExpr O v) = vdepth v
  | .none => rfl
  | .bool b => edepth_boolExpr b
  | .int i => edepth_intExpr i
  | .float _ => edepth_floatExpr _
  | .str _ => rfl
  | .list xs => congrArg (1 + ·) (edepth_valExprL O xs)
  | .dict kvs => congrArg (1 + ·) (edepth_valExprKV O kvs)
  | .dec _ | .tuple _ | .set _ _ | .deque _ | .enumv _ _ | .inst _ _ | .opaque _ => rfl
theorem edepth_valExprL (O : EOra) : ∀ xs : List PyVal, listDepth (valExprL O xs) = vdepthL xs
  | [] => rfl
  | x :: xs => by simp [valExprL, listDepth, vdepthL, edepth_valExpr O x, edepth_valExprL O xs]
theorem edepth_valExprKV (O : EOra) : ∀ kvs : List (PyVal × PyVal), kvsDepth (valExprKV O kvs) = vdepthKV kvs
  | [] => rfl
  | (k, v) :: r => by
    simp [valExprKV, kvsDepth, vdepthKV, edepth_valExpr O k, edepth_valExpr O v, edepth_valExprKV O r]
end

theorem edepth_defaultExpr (O : EOra) (v : PyVal) : edepth (defaultExpr O v) = vdepth v := by
  have := edepth_valExpr O v
  unfold defaultExpr
  split <;> exact this

theorem kwsDepth_append : ∀ (a b : List (List Char × PyExpr)), kwsDepth (a ++ b) = max (kwsDepth a) (kwsDepth b)
  | [], b => by simp [kwsDepth]
  | (k, v) :: a, b => by simp [kwsDepth, kwsDepth_append a b, Nat.max_assoc]

theorem kwsDepth_optKw0 {α} (k : List Char) (f : α → PyExpr) (o : Option α) (hf : ∀ x, edepth (f x) = 0) :
    kwsDepth (optKw k f o) = 0 := by
  cases o <;> simp [optKw, kwsDepth, hf]

theorem kwsDepth_withDefault (O : EOra) (d : Option PyVal) (kws : List (List Char × PyExpr)) :
    kwsDepth (withDefault O d kws) = max (kwsDepth kws) (ddepth d) := by
  cases d <;> simp [withDefault, optKw, kwsDepth_append, kwsDepth, ddepth, edepth_defaultExpr]

theorem edepth_call_default (O : EOra) (f : List Char) (d : Option PyVal) (kws : List (List Char × PyExpr)) :
    edepth (callS f (withDefault O d kws)) = 1 + max (kwsDepth kws) (ddepth d) := by
  simp [callS, edepth, kwsDepth_withDefault]

theorem arrKws_depth (sz : SizeOpts) (addl : Bool) : kwsDepth (arrKws sz addl) = 0 := by
  simp only [arrKws, kwsDepth_append, kwsDepth_optKw0 _ _ _ edepth_natExpr]
  cases sz.uniq <;> cases addl <;> simp [kw, kwsDepth, edepth]

theorem strList_depth (xs : List String) : edepth (strList xs) ≤ 1 := by
  simp only [strList, edepth]
  have : listDepth (xs.map fun s => PyExpr.strLit s.toList) = 0 := by
    induction xs with
    | nil => rfl
    | cons x xs ih => simp [listDepth, edepth, ih]
  omega

theorem max_le_max {a b c d : Nat} (h1 : a ≤ c) (h2 : b ≤ d) : max a b ≤ max c d :=
  Nat.max_le.2 ⟨Nat.le_trans h1 (Nat.le_max_left ..), Nat.le_trans h2 (Nat.le_max_right ..)⟩
theorem succ_max_le {a b : Nat} (c : Nat) (h : a ≤ b) : 1 + max a c ≤ 1 + max b c :=
  Nat.add_le_add_left (max_le_max h (Nat.le_refl c)) 1

mutual
theorem edepth_schemaExpr (O : EOra) : ∀ (s : Schema) (d : Option PyVal), edepth (schemaExpr O s d) ≤ sdepth s d
  | .ref n, d => by simp [schemaExpr, edepth, sdepth]
  | .num i mult mn mx ex, d => by
    simp only [schemaExpr, edepth_call_default, sdepth, kwsDepth_append,
      kwsDepth_optKw0 _ _ _ edepth_intExpr, kwsDepth_optKw0 _ _ _ (edepth_qExpr O)]
    cases ex <;> simp [kw, kwsDepth, edepth]
  | .str lo hi p, d => by
    simp only [schemaExpr, edepth_call_default, sdepth, kwsDepth_append,
      kwsDepth_optKw0 _ _ _ edepth_natExpr]
    rw [kwsDepth_optKw0 _ _ _ (fun _ => rfl)]
    simp
  | .bool, d => by simp [schemaExpr, edepth_call_default, sdepth, kwsDepth]
  | .enum vs, d => by
    simp [schemaExpr, edepth_call_default, sdepth, kw, kwsDepth, edepth, edepth_valExprL O vs]
  | .arrAny sz, d => by simp [schemaExpr, edepth_call_default, sdepth, arrKws_depth]
  | .arrOf s sz, d => by
    simp only [schemaExpr, edepth_call_default, sdepth, kwsDepth_append, arrKws_depth, kw, kwsDepth, Nat.max_zero,
      Nat.zero_max]
    exact succ_max_le _ (edepth_schemaExpr O s none)
  | .arrPos ss addl sz, d => by
    simp only [schemaExpr, edepth_call_default, sdepth, kwsDepth_append, arrKws_depth, kw, kwsDepth, edepth,
      Nat.max_zero, Nat.zero_max]
    exact succ_max_le _ (Nat.add_le_add_left (edepth_schemaExprL O ss) 1)
  | .mapAny a mn mx, d => by
    simp only [schemaExpr, edepth_call_default, sdepth, kwsDepth_append, kwsDepth_optKw0 _ _ _ edepth_natExpr]
    simp
  | .mapOf v mn mx, d => by
    have ih := edepth_schemaExpr O v none
    simp only [schemaExpr, edepth_call_default, sdepth, kwsDepth_append, kwsDepth_optKw0 _ _ _ edepth_natExpr,
      kw, kwsDepth]
    have hS : edepth (callS chars!"String" []) = 1 := rfl
    simp only [edepth, listDepth, hS, Nat.max_zero]
    omega
  | .obj props defaults req addl, d => by
    have ih := edepth_schemaKws O defaults props
    have hr : kwsDepth (optKw chars!"_required" strList req) ≤ 1 := by
      cases req with
      | none => simp [optKw, kwsDepth]
      | some r => have := strList_depth r; simp [optKw, kwsDepth]; omega
    have ha : kwsDepth (if addl then [] else kw chars!"_additional_properties" (.const cFalse)) = 0 := by
      cases addl <;> simp [kw, kwsDepth, edepth]
    simp only [schemaExpr, edepth_call_default, sdepth, kwsDepth_append, ha]
    omega
  | .allOf ss, d | .anyOf ss, d | .oneOf ss, d | .notS ss, d => by
    simp only [schemaExpr, edepth_call_default, sdepth, kw, kwsDepth, edepth, Nat.max_zero]
    exact succ_max_le _ (Nat.add_le_add_left (edepth_schemaExprL O ss) 1)
  | .unsupported _, d => by simp [schemaExpr, edepth, sdepth]
theorem edepth_schemaExprL (O : EOra) : ∀ (ss : List Schema), listDepth (schemaExprL O ss) ≤ sdepthL ss
  | [] => Nat.le_refl 0
  | s :: ss => max_le_max (edepth_schemaExpr O s none) (edepth_schemaExprL O ss)
theorem edepth_schemaKws (O : EOra) (defaults : List (String × PyVal)) :
    ∀ (ps : List (String × Schema)), kwsDepth (schemaKws O defaults ps) ≤ sdepthP defaults ps
  | [] => Nat.le_refl 0
  | (n, s) :: ps => max_le_max (edepth_schemaExpr O s (lookup n defaults)) (edepth_schemaKws O defaults ps)
end

theorem itemsDepth_append : ∀ (a b : List Item), itemsDepth (a ++ b) = max (itemsDepth a) (itemsDepth b)
  | [], b => by simp [itemsDepth]
  | x :: a, b => by simp [itemsDepth, itemsDepth_append a b, Nat.max_assoc]

theorem propItems_depth (O : EOra) (defaults : List (String × PyVal)) :
    ∀ ps : List (String × Schema), itemsDepth (propItems O defaults ps) ≤ sdepthP defaults ps
  | [] => Nat.le_refl 0
  | (n, s) :: ps => max_le_max (edepth_schemaExpr O s (lookup n defaults)) (propItems_depth O defaults ps)

theorem reqItems_depth (r : Option (List String)) : itemsDepth (reqItems r) ≤ 1 := by
  cases r with
  | none => simp [reqItems, itemsDepth]
  | some r => have := strList_depth r; simp [reqItems, itemsDepth, itemDepth]; omega

theorem docItems_depth (d : Option String) : itemsDepth (docItems d) = 0 := by
  cases d <;> simp [docItems, itemsDepth, itemDepth]

theorem finish_depth (all : List Item) : itemsDepth (if all.isEmpty then [Item.pass] else all) = itemsDepth all := by
  cases all <;> simp [itemsDepth, itemDepth]

theorem classDepth_le (O : EOra) (c : ClassSrc) : classDepth O c ≤ classNest c := by
  obtain ⟨name, desc, s⟩ := c
  have wrapped : ∀ s : Schema, max 1 (max 0 (itemsDepth (Item.assign nWrapped (schemaExpr O s none)
      :: (if typedWrapped s then reqItems (some ["wrapped"]) else [])))) ≤ max 1 (sdepth s none) := by
    intro s
    have h1 := edepth_schemaExpr O s none
    have h2 := reqItems_depth (some ["wrapped"])
    cases typedWrapped s <;> simp only [itemsDepth, itemDepth, if_true, if_false, Bool.false_eq_true] <;> omega
  simp only [classDepth, classNest, classItems, finish_depth, itemsDepth_append, docItems_depth]
  cases s with
  | obj props defaults req addl =>
    have h1 := propItems_depth O defaults props
    have h2 := reqItems_depth (emittedRequired (.obj props defaults req addl))
    have h3 : itemsDepth (if addl then [] else [Item.assign nAddl (.const cFalse)]) = 0 := by
      cases addl <;> simp [itemsDepth, itemDepth, edepth]
    simp only [itemsDepth_append, h3]
    omega
  | mapAny a mn mx =>
    simp only []
    split <;> simp [itemsDepth, itemDepth, edepth]
  | mapOf v mn mx => simp [itemsDepth]
  -- every other schema is emitted as `wrapped = <field>`
  | _ => exact wrapped _

theorem modDepth_le (O : EOra) {k : Nat} : ∀ cs : List ClassSrc, (∀ c ∈ cs, classNest c ≤ k) → modDepth O cs ≤ k
  | [], _ => Nat.zero_le _
  | c :: r, h =>
    Nat.max_le.2 ⟨Nat.le_trans (classDepth_le O c) (h c (by simp)), modDepth_le O r fun x hx => h x (by simp [hx])⟩

theorem depthOk_of_schema (O : EOra) (defs : List ClassSrc) (main : ClassSrc)
    (h : schemaDepthOk defs main = true) : depthOk O defs main = true := by
  simp only [schemaDepthOk, List.all_eq_true, decide_eq_true_eq] at h
  simp only [depthOk, decide_eq_true_eq]
  exact modDepth_le O _ h

end Typedpy.Emit
