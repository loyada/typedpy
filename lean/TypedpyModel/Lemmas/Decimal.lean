/-
  Lemmas/Decimal.lean — the Decimal conversion layer (Sem/Decimal.lean): `DecimalNumber` as one case split on the value
  `Decimal(v)` denotes (`vDecimal_eq`), and the error classes: whatever fails while the keyword arguments of a class
  with DecimalNumber fields are converted is of a documented class (`ErrIn OkErr`).
-/
import TypedpyModel.Sem.Decimal
import TypedpyModel.Lemmas.Basic
namespace Typedpy

theorem decErr_cases (v : PyVal) : decErr v = .typeErr ∨ decErr v = .valueErr := by
  unfold decErr
  split <;> first | exact Or.inl rfl | exact Or.inr rfl

theorem toDecimal_eq_error {parse : String → Option Q} {v : PyVal} {e : ErrCls}
    (h : toDecimal parse v = .error e) : decValue parse v = none ∧ e = decErr v := by
  unfold toDecimal at h
  cases hd : decValue parse v <;> rw [hd] at h
  · exact ⟨rfl, (Except.error.inj h).symm⟩
  · cases h

theorem vDecimal_eq (parse : String → Option Q) (o : NumOpts) (v : PyVal) :
    vDecimal parse o v = match decValue parse v with
      | some q => if numOk o q then .ok (.dec q) else .error .valueErr
      | none => .error (decErr v) := by
  unfold vDecimal toDecimal
  cases decValue parse v <;> rfl

theorem c02_toDecimal_err (parse : String → Option Q) (v : PyVal) : ErrIn OkErr (toDecimal parse v) :=
  fun _ h => (toDecimal_eq_error h).2 ▸ (decErr_cases v).elim Or.inl fun hv => Or.inr (Or.inl hv)

theorem c02_convertArg_err (parse : String → Option Q) (pos : DecPos) (v : PyVal) :
    ErrIn OkErr (convertArg parse pos v) := by
  have items : ∀ xs, ErrIn OkErr (mapE (toDecimal parse) xs) := fun _ => .mapE fun x _ => c02_toDecimal_err parse x
  unfold convertArg
  split
  · exact c02_toDecimal_err parse _
  · exact (items _).bindE fun _ => .ok _
  · exact (items _).bindE fun _ => .ok _
  · split <;> exact .ok _
  · exact (ErrIn.mapE fun kv _ => (c02_toDecimal_err parse kv.2).bindE fun _ => .ok _).bindE fun _ => .ok _
  · exact .ok _

theorem c02_convertKw_err (parse : String → Option Q) (decs : List (String × DecPos)) :
    ∀ kw : List (String × PyVal), ErrIn OkErr (convertKw parse decs kw)
  | [] => .ok _
  | (name, v) :: rest => by
    refine .bindE ?_ fun _ => (c02_convertKw_err parse decs rest).bindE fun _ => .ok _
    unfold convertAt
    split
    · exact .unless _ (c02_convertArg_err parse _ v)
    · exact .ok _

end Typedpy
