/-
  Lemmas about the interleaving semantics (C20).

  Every "thread `i` is where it is when run alone" theorem comes from `run_follows_alone`: the induction over the
  schedule is done once, for an arbitrary coupling between the real store and the store of the solo run; its instance
  `run_contended` only checks single thread steps.  The rest is what the property file needs in order to apply it to the
  programs of the model: a thread only holds values of its own program (`ownOnly`), the cells of `Call.prog` are those of
  `Call.usesCell` (`cellsIn`), and a program whose cells are renamed injectively does on `sh` what the original does on
  `sh ∘ f` (`rename_sequential`).
-/
import TypedpyModel.Sem.Sched
namespace Typedpy.Sched

theorem Nm.eval_congr (n : Nm) (sh1 sh2 : Shared) (h : ∀ c ∈ n.cells, sh1 c = sh2 c) : n.eval sh1 = n.eval sh2 := by
  cases n with
  | const s => rfl
  | cell c => exact h c (List.mem_singleton_self c)
  | cellSuf c suf => exact congrArg (· ++ suf) (h c (List.mem_singleton_self c))

theorem Step.local_prog (s : Step) (sh : Shared) (rest : List Step) (t : TState) :
    (s.local sh rest t).prog = rest := by
  cases s <;> simp only [Step.local] <;> first | rfl | (split <;> rfl)

theorem Step.shared_of_not_writes {s : Step} (h : s.writesShared = false) (sh : Shared) :
    s.shared sh = sh := by
  cases s <;> first | rfl | (simp [Step.writesShared] at h)

theorem writeCells_of_not_writes {p : List Step} (h : ∀ s ∈ p, s.writesShared = false) : writeCells p = [] :=
  List.flatMap_eq_nil_iff.mpr fun s hs => by
    cases s with
    | write c n => exact nomatch h _ hs
    | _ => rfl

theorem Step.shared_frame (s : Step) (sh : Shared) (c : Nat) (hc : c ∉ s.writeCells) :
    s.shared sh c = sh c := by
  cases s with
  | write c' n => exact if_neg fun h => hc (List.mem_singleton.mpr h)
  | _ => rfl

theorem Step.mem_writeCells {s : Step} {c : Nat} (h : c ∈ s.writeCells) : ∃ n, s = .write c n := by
  cases s with
  | write c' n => exact ⟨n, by rw [List.mem_singleton.mp h]⟩
  | _ => exact nomatch h

theorem mem_writeCells_of_write {p : List Step} {c : Nat} {n : Nm} (h : Step.write c n ∈ p) : c ∈ writeCells p :=
  List.mem_flatMap.mpr ⟨_, h, List.mem_singleton_self c⟩

theorem Step.shared_write (c : Nat) (n : Nm) (sh : Shared) : (Step.write c n).shared sh c = n.eval sh := if_pos rfl

theorem Step.local_congr (s : Step) (sh1 sh2 : Shared) (rest : List Step) (t : TState)
    (h : ∀ c ∈ s.readCells, sh1 c = sh2 c) : s.local sh1 rest t = s.local sh2 rest t := by
  have ev : ∀ n : Nm, (∀ c ∈ n.cells, c ∈ s.readCells) → n.eval sh1 = n.eval sh2 :=
    fun n hn => n.eval_congr sh1 sh2 fun c hc => h c (hn c hc)
  cases s with
  | store n v ok => simp only [Step.local, ev n fun _ hc => hc]
  | load n => simp only [Step.local, ev n fun _ hc => hc]
  | move a b =>
    simp only [Step.local, ev a fun _ hc => List.mem_append_left _ hc, ev b fun _ hc => List.mem_append_right _ hc]
  | check n ok =>
    cases ok with
    | true => rfl
    | false => simp only [Step.local, ev n fun _ hc => hc]
  | _ => rfl

theorem Step.shared_congr (s : Step) (sh1 sh2 : Shared) (c : Nat) (h : sh1 c = sh2 c)
    (hr : ∀ c' ∈ s.readCells, sh1 c' = sh2 c') : s.shared sh1 c = s.shared sh2 c := by
  cases s with
  | write c' n => simp only [Step.shared, Shared.set, n.eval_congr sh1 sh2 hr, h]
  | _ => exact h

theorem stepT_done {sh : Shared} {t : TState} (h : t.done = true) : stepT sh t = (sh, t) := by
  unfold stepT
  split
  · rfl
  · rfl
  · next s rest he hp => simp [TState.done, he, hp] at h

theorem stepT_cases (t : TState) :
    t.done = true ∨ ∃ s rest, t.prog = s :: rest ∧ ∀ sh, stepT sh t = (s.shared sh, s.local sh rest t) := by
  cases he : t.err with
  | some e => exact Or.inl (by simp [TState.done, he])
  | none =>
    cases hp : t.prog with
    | nil => exact Or.inl (by simp [TState.done, hp])
    | cons s rest => exact Or.inr ⟨s, rest, rfl, fun sh => by simp only [stepT, he, hp]⟩

theorem stepT_mem_prog {sh : Shared} {t : TState} {s : Step} (h : s ∈ (stepT sh t).2.prog) : s ∈ t.prog := by
  rcases stepT_cases t with hd | ⟨s', rest, hp, h'⟩
  · rwa [stepT_done hd] at h
  · rw [h', Step.local_prog] at h
    rw [hp]
    exact List.mem_cons_of_mem _ h

theorem stepT_mem_writeCells {sh : Shared} {t : TState} {c : Nat} (h : c ∈ writeCells (stepT sh t).2.prog) :
    c ∈ writeCells t.prog :=
  have ⟨s, hs, hcs⟩ := List.mem_flatMap.mp h
  List.mem_flatMap.mpr ⟨s, stepT_mem_prog hs, hcs⟩

theorem stepT_shared_cases (sh : Shared) (t : TState) (c : Nat) :
    (stepT sh t).1 c = sh c ∨ ∃ n, Step.write c n ∈ t.prog ∧ (stepT sh t).1 c = n.eval sh := by
  rcases stepT_cases t with hd | ⟨s, rest, hp, h⟩
  · rw [stepT_done hd]
    exact Or.inl rfl
  · rw [h, hp]
    by_cases hcw : c ∈ s.writeCells
    · obtain ⟨n, rfl⟩ := Step.mem_writeCells hcw
      exact Or.inr ⟨n, List.mem_cons_self, Step.shared_write c n sh⟩
    · exact Or.inl (s.shared_frame sh c hcw)

theorem stepT_shared_frame (sh : Shared) (t : TState) (c : Nat) (hc : c ∉ writeCells t.prog) :
    (stepT sh t).1 c = sh c :=
  (stepT_shared_cases sh t c).resolve_right fun ⟨_, hm, _⟩ => hc (mem_writeCells_of_write hm)

theorem stepT_congr_head (sh1 sh2 : Shared) (t : TState)
    (h : ∀ s rest, t.prog = s :: rest → ∀ c ∈ s.readCells, sh1 c = sh2 c) : (stepT sh1 t).2 = (stepT sh2 t).2 := by
  rcases stepT_cases t with hd | ⟨s, rest, hp, h'⟩
  · simp only [stepT_done hd]
  · simp only [h']
    exact s.local_congr sh1 sh2 rest t (h s rest hp)

theorem stepT_congr (sh1 sh2 : Shared) (t : TState) (h : ∀ c ∈ readCells t.prog, sh1 c = sh2 c) :
    (stepT sh1 t).2 = (stepT sh2 t).2 :=
  stepT_congr_head sh1 sh2 t fun s rest hp c hc => h c (by rw [hp]; exact List.mem_append_left _ hc)

theorem stepT_shared_congr (sh1 sh2 : Shared) (t : TState) (c : Nat) (h : sh1 c = sh2 c)
    (hr : ∀ c' ∈ readCells t.prog, sh1 c' = sh2 c') : (stepT sh1 t).1 c = (stepT sh2 t).1 c := by
  rcases stepT_cases t with hd | ⟨s, rest, hp, h'⟩
  · simp only [stepT_done hd]
    exact h
  · simp only [h']
    exact s.shared_congr sh1 sh2 c h fun c' hc' => hr c' (by rw [hp]; exact List.mem_append_left _ hc')

theorem alone_succ (sh : Shared) (t : TState) (n : Nat) :
    alone sh t (n + 1) = alone (stepT sh t).1 (stepT sh t).2 n := rfl

theorem alone_done {sh : Shared} {t : TState} (h : t.done = true) (n : Nat) : alone sh t n = (sh, t) := by
  induction n with
  | zero => rfl
  | succ n ih => rw [alone_succ, stepT_done h]; exact ih

theorem alone_length_done (sh : Shared) (t : TState) : ∀ n, t.prog.length ≤ n → (alone sh t n).2.done = true := by
  intro n
  induction n generalizing sh t with
  | zero =>
    intro h
    have : t.prog = [] := List.eq_nil_of_length_eq_zero (Nat.le_zero.mp h)
    simp [alone, TState.done, this]
  | succ n ih =>
    intro h
    rcases stepT_cases t with hd | ⟨s, rest, hp, h'⟩
    · rw [alone_done hd]
      exact hd
    · rw [alone_succ, h']
      apply ih
      rw [Step.local_prog]
      rw [hp] at h
      exact Nat.le_of_succ_le_succ h

theorem alone_stable (sh : Shared) (t : TState) (n m : Nat) (h : (alone sh t n).2.done = true) (hm : n ≤ m) :
    (alone sh t m).2 = (alone sh t n).2 := by
  induction n generalizing sh t m with
  | zero => rw [alone_done (t := t) h]; rfl
  | succ n ih =>
    cases m with
    | zero => exact absurd hm (Nat.not_succ_le_zero n)
    | succ m => exact ih _ _ m h (Nat.le_of_succ_le_succ hm)

theorem result_of_done (sh : Shared) (p : List Step) (n : Nat)
    (h : (alone sh (TState.init p) n).2.done = true) :
    (alone sh (TState.init p) n).2.result = sequentialResult sh p := by
  unfold sequentialResult
  have hl := alone_length_done sh (TState.init p) p.length (Nat.le_refl _)
  rcases Nat.le_total n p.length with hle | hle
  · rw [alone_stable sh _ n p.length h hle]
  · rw [alone_stable sh _ p.length n hl hle]

theorem TState.done_of_result {t : TState} {r : Outcome} (h : t.result = some r) : t.done = true := by
  cases he : t.err <;> cases hp : t.prog <;> simp_all [TState.result, TState.done]

theorem sequential_of_alone_result {sh : Shared} {p : List Step} {n : Nat} {r : Outcome}
    (h : (alone sh (TState.init p) n).2.result = some r) : sequentialResult sh p = some r :=
  result_of_done sh p n (TState.done_of_result h) ▸ h

theorem stepAt_none {cfg : Cfg} {i : Nat} (h : cfg.threads[i]? = none) : stepAt cfg i = cfg := by
  simp only [stepAt, h]

theorem stepAt_some {cfg : Cfg} {i : Nat} {t : TState} (h : cfg.threads[i]? = some t) :
    stepAt cfg i = { shared := (stepT cfg.shared t).1, threads := cfg.threads.set i (stepT cfg.shared t).2 } := by
  simp only [stepAt, h]

theorem init_threads (sh : Shared) (progs : List (List Step)) (i : Nat) :
    (Cfg.init sh progs).threads[i]? = progs[i]?.map TState.init :=
  List.getElem?_map

theorem init_get {sh : Shared} {progs : List (List Step)} {i : Nat} {t : TState}
    (h : (Cfg.init sh progs).threads[i]? = some t) : ∃ p, progs[i]? = some p ∧ t = TState.init p := by
  rw [init_threads, Option.map_eq_some_iff] at h
  exact h.imp fun p hp => ⟨hp.1, hp.2.symm⟩

theorem run_cons (cfg : Cfg) (j : Nat) (rest : List Nat) : run cfg (j :: rest) = run (stepAt cfg j) rest := rfl

theorem stepAt_threads_ne {cfg : Cfg} {i j : Nat} (h : j ≠ i) : (stepAt cfg j).threads[i]? = cfg.threads[i]? := by
  cases hj : cfg.threads[j]? with
  | none => rw [stepAt_none hj]
  | some t => rw [stepAt_some hj]; exact List.getElem?_set_ne h

theorem stepAt_threads_self {cfg : Cfg} {i : Nat} {t : TState} (h : cfg.threads[i]? = some t) :
    (stepAt cfg i).threads[i]? = some (stepT cfg.shared t).2 := by
  rw [stepAt_some h]
  exact List.getElem?_set_self (List.getElem?_eq_some_iff.mp h).1

theorem stepAt_length (cfg : Cfg) (j : Nat) : (stepAt cfg j).threads.length = cfg.threads.length := by
  cases hj : cfg.threads[j]? with
  | none => rw [stepAt_none hj]
  | some t => rw [stepAt_some hj]; exact List.length_set

theorem stepAt_threads_invariant {J : Nat → TState → Prop} (step : ∀ k sh t, J k t → J k (stepT sh t).2) (cfg : Cfg) (j : Nat)
    (h : ∀ k t, cfg.threads[k]? = some t → J k t) : ∀ k t, (stepAt cfg j).threads[k]? = some t → J k t := by
  intro k t' hk
  by_cases hjk : j = k
  · subst hjk
    cases hj : cfg.threads[j]? with
    | none => exact h j t' (stepAt_none hj ▸ hk)
    | some t =>
      rw [stepAt_threads_self hj] at hk
      exact Option.some.inj hk ▸ step j _ t (h j t hj)
  · exact h k t' (stepAt_threads_ne hjk ▸ hk)

theorem run_induction {I : Cfg → Prop} (step : ∀ cfg j, I cfg → I (stepAt cfg j)) (sched : List Nat) :
    ∀ cfg, I cfg → I (run cfg sched) := by
  induction sched with
  | nil => exact fun _ h => h
  | cons j rest ih => exact fun cfg h => ih _ (step cfg j h)

theorem run_length (cfg : Cfg) (sched : List Nat) : (run cfg sched).threads.length = cfg.threads.length :=
  run_induction (I := fun c => c.threads.length = cfg.threads.length) (fun c j h => (stepAt_length c j).trans h) sched cfg rfl

theorem run_shared_frame (c : Nat) (sched : List Nat) (cfg : Cfg)
    (h : ∀ (k : Nat) (t : TState), cfg.threads[k]? = some t → c ∉ writeCells t.prog) :
    (run cfg sched).shared c = cfg.shared c :=
  have keep : ∀ (_ : Nat) sh t, c ∉ writeCells t.prog → c ∉ writeCells (stepT sh t).2.prog := fun _ _ _ h hc =>
    h (stepT_mem_writeCells hc)
  (run_induction
    (I := fun c' => c'.shared c = cfg.shared c ∧ ∀ (k : Nat) (t : TState), c'.threads[k]? = some t → c ∉ writeCells t.prog)
    (fun c' j ⟨hs, ht⟩ => by
      refine ⟨?_, stepAt_threads_invariant keep c' j ht⟩
      cases hj : c'.threads[j]? with
      | none => rw [stepAt_none hj]; exact hs
      | some tj => rw [stepAt_some hj]; exact (stepT_shared_frame _ tj c (ht j tj hj)).trans hs)
    sched cfg ⟨rfl, h⟩).1

theorem run_threads_invariant {J : Nat → TState → Prop} (step : ∀ k sh t, J k t → J k (stepT sh t).2) (sched : List Nat)
    (cfg : Cfg) : (∀ k t, cfg.threads[k]? = some t → J k t) → ∀ k t, (run cfg sched).threads[k]? = some t → J k t :=
  run_induction (I := fun c => ∀ k t, c.threads[k]? = some t → J k t) (stepAt_threads_invariant step) sched cfg

/-- `A sh sha t` couples the real store `sh` with the store `sha` of the solo run while thread `i` is in state `t`; `J` is
    what the other threads promise.  A step of thread `i` from coupled stores has the same thread-private effect and
    keeps the coupling (`own`); a step of a promising thread keeps the coupling (`other`) and the promise (`hJ`). -/
theorem run_follows_alone (i : Nat) {A : Shared → Shared → TState → Prop} {J : TState → Prop}
    (hJ : ∀ sh tj, J tj → J (stepT sh tj).2)
    (own : ∀ sh sha t, A sh sha t →
      (stepT sh t).2 = (stepT sha t).2 ∧ A (stepT sh t).1 (stepT sha t).1 (stepT sha t).2)
    (other : ∀ sh sha t tj, J tj → A sh sha t → A (stepT sh tj).1 sha t) (sched : List Nat) :
    ∀ (cfg : Cfg) (t : TState) (sha : Shared), cfg.threads[i]? = some t →
      (∀ j tj, cfg.threads[j]? = some tj → j ≠ i → J tj) → A cfg.shared sha t →
      (run cfg sched).threads[i]? = some (alone sha t (sched.count i)).2 ∧
      A (run cfg sched).shared (alone sha t (sched.count i)).1 (alone sha t (sched.count i)).2 := by
  induction sched with
  | nil => exact fun cfg t sha ht _ hA => ⟨ht, hA⟩
  | cons j rest ih =>
    intro cfg t sha ht hJs hA
    have hJs' := stepAt_threads_invariant (J := fun k tk => k ≠ i → J tk) (fun k sh tk h hk => hJ sh tk (h hk)) cfg j hJs
    rw [run_cons]
    by_cases hji : j = i
    · subst hji
      obtain ⟨hloc, hA'⟩ := own _ _ _ hA
      rw [List.count_cons_self, alone_succ]
      refine ih (stepAt cfg j) _ _ ?_ hJs' ?_
      · rw [stepAt_threads_self ht, hloc]
      · rw [stepAt_some ht]
        exact hA'
    · rw [List.count_cons_of_ne hji]
      refine ih (stepAt cfg j) t sha ?_ hJs' ?_
      · rw [stepAt_threads_ne hji]
        exact ht
      · cases hj : cfg.threads[j]? with
        | none => rw [stepAt_none hj]; exact hA
        | some tj => rw [stepAt_some hj]; exact other _ _ _ _ (hJs j tj hj hji) hA

/-- `sameOn` / `readsOwn` are `uniformB` / `readsAfterOwnWrite` of `Sem/Sched` restricted to the cells of `C` -/
def sameOn (C : Nat → Bool) (k : Nat → String) (p : List Step) : Prop :=
  ∀ c n, Step.write c n ∈ p → C c → n = .const (k c)

/-- `w`: the cells written so far -/
def readsOwn (C : Nat → Bool) : List Nat → List Step → Prop
  | _, [] => True
  | w, s :: rest => (∀ c ∈ s.readCells, C c → c ∈ w) ∧ readsOwn C (s.writeCells ++ w) rest

theorem sameOn_false (k : Nat → String) (p : List Step) : sameOn (fun _ => false) k p := fun _ _ _ h => nomatch h

theorem readsOwn_false (p : List Step) : ∀ {w : List Nat}, readsOwn (fun _ => false) w p := by
  induction p with
  | nil => exact trivial
  | cons s rest ih => exact fun {w} => ⟨fun _ _ h => Bool.noConfusion h, ih⟩

theorem sameOn_of_uniformB {C : Nat → Bool} {k : Nat → String} {p : List Step} (h : uniformB k p = true) : sameOn C k p := by
  intro c n hm _
  have := List.all_eq_true.mp h _ hm
  exact beq_iff_eq.mp this

theorem readsOwn_of_readsAfterOwnWrite {C : Nat → Bool} {p : List Step} :
    ∀ {w : List Nat}, readsAfterOwnWrite w p = true → readsOwn C w p := by
  induction p with
  | nil => exact fun _ => trivial
  | cons s rest ih =>
    intro w h
    simp only [readsAfterOwnWrite, Bool.and_eq_true, List.all_eq_true, List.contains_iff_mem] at h
    exact ⟨fun c hc _ => h.1 c hc, ih h.2⟩

/-- the cells that thread `i` reads fall in two classes: those nobody else writes, and those (`C`) into which everybody
    writes the same constant and which thread `i` reads only after its own write -/
theorem run_contended (C : Nat → Bool) (k : Nat → String) (i : Nat) (sched : List Nat) (cfg : Cfg) (t : TState)
    (ht : cfg.threads[i]? = some t) (hs : sameOn C k t.prog) (hr : readsOwn C [] t.prog)
    (hoth : ∀ j tj, cfg.threads[j]? = some tj → j ≠ i →
      (∀ c ∈ writeCells tj.prog, c ∈ readCells t.prog → C c = true) ∧ sameOn C k tj.prog) :
    (run cfg sched).threads[i]? = some (alone cfg.shared t (sched.count i)).2 :=
  -- the stores agree on what `t` reads outside `C`, and both hold `k` on the cells `w` of `C` written so far
  (run_follows_alone i
    (A := fun sh sha t' => (∀ s ∈ t'.prog, s ∈ t.prog) ∧ (∀ c ∈ readCells t.prog, ¬ C c → sh c = sha c) ∧
      ∃ w, readsOwn C w t'.prog ∧ ∀ c ∈ w, C c → sh c = k c ∧ sha c = k c)
    (J := fun tj => (∀ c ∈ writeCells tj.prog, c ∈ readCells t.prog → C c = true) ∧ sameOn C k tj.prog)
    (fun sh tj h => ⟨fun c hc => h.1 c (stepT_mem_writeCells hc), fun c n hm => h.2 c n (stepT_mem_prog hm)⟩)
    (fun sh sha t' ⟨hsub, hag, w, hr, hw⟩ => by
      rcases stepT_cases t' with hd | ⟨s, rest, hp, h⟩
      · rw [stepT_done hd, stepT_done hd]
        exact ⟨rfl, hsub, hag, w, hr, hw⟩
      · rw [hp] at hsub hr
        have hst := hsub s List.mem_cons_self
        have hrd : ∀ c ∈ s.readCells, sh c = sha c := fun c hc =>
          if hC : C c then (hw c (hr.1 c hc hC) hC).1.trans (hw c (hr.1 c hc hC) hC).2.symm
          else hag c (List.mem_flatMap.mpr ⟨s, hst, hc⟩) hC
        simp only [h, Step.local_prog]
        refine ⟨s.local_congr sh sha rest t' hrd, fun s' hs' => hsub s' (List.mem_cons_of_mem _ hs'),
          fun c hRc hC => s.shared_congr sh sha c (hag c hRc hC) hrd, s.writeCells ++ w, hr.2, fun c hc hC => ?_⟩
        by_cases hcw : c ∈ s.writeCells
        · obtain ⟨n, rfl⟩ := Step.mem_writeCells hcw
          rw [Step.shared_write, Step.shared_write, hs c n hst hC]
          exact ⟨rfl, rfl⟩
        · rw [s.shared_frame sh c hcw, s.shared_frame sha c hcw]
          exact hw c ((List.mem_append.mp hc).resolve_left hcw) hC)
    (fun sh sha t' tj hj ⟨hsub, hag, w, hr, hw⟩ => ⟨hsub,
      fun c hRc hC => (stepT_shared_cases sh tj c).elim (fun h => h.trans (hag c hRc hC))
        fun ⟨n, hm, _⟩ => absurd (hj.1 c (mem_writeCells_of_write hm) hRc) hC,
      w, hr, fun c hc hC => ⟨(stepT_shared_cases sh tj c).elim (fun h => h.trans (hw c hc hC).1)
        fun ⟨n, hm, h⟩ => by rw [h, hj.2 c n hm hC]; rfl, (hw c hc hC).2⟩⟩)
    sched cfg t cfg.shared ht hoth ⟨fun _ h => h, fun _ _ _ => rfl, [], hr, fun _ h => nomatch h⟩).1

def Step.vals : Step → List Int
  | .store _ v _ => [v]
  | .emit v => [v]
  | _ => []

def progVals (p : List Step) : List Int := p.flatMap Step.vals

theorem mem_of_lookup {l : List (String × Int)} {k : String} {v : Int} (h : l.lookup k = some v) : (k, v) ∈ l := by
  obtain ⟨l₁, l₂, rfl, _⟩ := List.lookup_eq_some_iff.mp h
  exact List.mem_append_right _ (List.mem_cons_self ..)

/-- the invariant of `C20.no_foreign_values`; the values still in the program count as held, so that a step only moves
    values between the three parts -/
structure ownOnly (V : List Int) (t : TState) : Prop where
  temp : ∀ kv ∈ t.temp, kv.2 ∈ V
  out : ∀ v ∈ t.out, v ∈ V
  prog : ∀ v ∈ progVals t.prog, v ∈ V

theorem ownOnly_init (p : List Step) : ownOnly (progVals p) (TState.init p) :=
  ⟨fun _ h => (nomatch h), fun _ h => (nomatch h), fun _ h => h⟩

theorem stepT_ownOnly (V : List Int) (sh : Shared) (t : TState) (h : ownOnly V t) : ownOnly V (stepT sh t).2 := by
  rcases stepT_cases t with hd | ⟨s, rest, hp, h'⟩
  · rw [stepT_done hd]
    exact h
  · obtain ⟨h1, h2, h3⟩ := h
    rw [hp, progVals, List.flatMap_cons, List.forall_mem_append] at h3
    have look : ∀ {n v}, t.temp.lookup n = some v → v ∈ V := fun hv => h1 _ (mem_of_lookup hv)
    rw [h']
    cases s with
    | write c n => exact ⟨h1, h2, h3.2⟩
    | newTemp => exact ⟨fun _ h => (nomatch h), h2, h3.2⟩
    | emit v => exact ⟨h1, List.forall_mem_append.mpr ⟨h2, h3.1⟩, h3.2⟩
    | check n ok =>
      simp only [Step.local]
      split <;> exact ⟨h1, h2, h3.2⟩
    | store n v ok =>
      simp only [Step.local]
      split
      · exact ⟨List.forall_mem_cons.mpr ⟨h3.1 v (List.mem_singleton_self v), h1⟩, h2, h3.2⟩
      · exact ⟨h1, h2, h3.2⟩
    | move a b =>
      simp only [Step.local]
      split
      · next v hv => exact ⟨List.forall_mem_cons.mpr ⟨look hv, h1⟩, h2, h3.2⟩
      · exact ⟨h1, h2, h3.2⟩
    | load n =>
      simp only [Step.local]
      split
      · next v hv => exact ⟨h1, List.forall_mem_append.mpr ⟨h2, fun x hx => List.mem_singleton.mp hx ▸ look hv⟩, h3.2⟩
      · exact ⟨h1, h2, h3.2⟩

def cellsIn (P : Nat → Prop) (p : List Step) : Prop :=
  ∀ s ∈ p, (∀ c ∈ s.writeCells, P c) ∧ (∀ c ∈ s.readCells, P c)

theorem cellsIn_nil (P : Nat → Prop) : cellsIn P [] := fun _ h => nomatch h

theorem cellsIn_cons {P : Nat → Prop} {s : Step} {p : List Step} :
    cellsIn P (s :: p) ↔ ((∀ c ∈ s.writeCells, P c) ∧ (∀ c ∈ s.readCells, P c)) ∧ cellsIn P p :=
  List.forall_mem_cons

theorem cellsIn_append {P : Nat → Prop} {p q : List Step} : cellsIn P (p ++ q) ↔ cellsIn P p ∧ cellsIn P q :=
  List.forall_mem_append

theorem cellsIn_spec {P : Nat → Prop} {p : List Step} (h : cellsIn P p) :
    (∀ c ∈ writeCells p, P c) ∧ (∀ c ∈ readCells p, P c) := by
  constructor <;> intro c hc <;> obtain ⟨s, hs, hcs⟩ := List.mem_flatMap.mp hc
  · exact (h s hs).1 c hcs
  · exact (h s hs).2 c hcs

theorem step_check_cell {P : Nat → Prop} {c : Nat} (ok : Bool) (h : P c) :
    (∀ x ∈ (Step.check (.cell c) ok).writeCells, P x) ∧ (∀ x ∈ (Step.check (.cell c) ok).readCells, P x) := by
  cases ok <;> simp [Step.writeCells, Step.readCells, Nm.cells, h]

theorem cellsIn_newTemp {P : Nat → Prop} {p : List Step} (hp : cellsIn P p) : cellsIn P (.newTemp :: p) :=
  cellsIn_cons.mpr ⟨⟨fun _ h => (nomatch h), fun _ h => (nomatch h)⟩, hp⟩

/-- the collection validators rename a cell after a name no thread rewrites -/
theorem cellsIn_write_const {P : Nat → Prop} {c : Nat} (n : String) (hc : P c) {p : List Step} (hp : cellsIn P p) :
    cellsIn P (.write c (.const n) :: p) :=
  cellsIn_cons.mpr ⟨⟨fun _ h => List.mem_singleton.mp h ▸ hc, fun _ h => (nomatch h)⟩, hp⟩

section
-- the programs are lists of steps that name their cells: `simp` splits `cellsIn` along the list and computes the
-- cells of each step
attribute [local simp] cellsIn_nil cellsIn_cons cellsIn_append Step.writeCells Step.readCells Nm.cells

variable {P : Nat → Prop}

theorem homogFrom_cells {cell : Nat} (name : String) (h : P cell) (es : List (Int × Bool)) :
    ∀ i, cellsIn P (progHomogFrom cell name i es) := by
  induction es with
  | nil => exact fun _ => cellsIn_nil P
  | cons e rest ih => exact fun i => by simp [progHomogFrom, h, ih]

theorem setFrom_cells {cell : Nat} (h : P cell) (es : List (Int × Bool)) : cellsIn P (progSetFrom cell es) := by
  induction es with
  | nil => exact cellsIn_nil P
  | cons e rest ih => simp [progSetFrom, h, ih]

theorem mapFrom_cells {kc vc : Nat} (hk : P kc) (hv : P vc) (es : List ((Int × Bool) × (Int × Bool))) :
    cellsIn P (progMapFrom kc vc es) := by
  induction es with
  | nil => exact cellsIn_nil P
  | cons e rest ih => simp [progMapFrom, hk, hv, ih]

theorem posFrom_cells {base n : Nat} (name : String) (h : ∀ i < n, P (base + i)) (es : List (Int × Bool)) :
    ∀ i, cellsIn P (progPosFrom base name n i es) := by
  induction es with
  | nil => exact fun _ => cellsIn_nil P
  | cons e rest ih =>
    intro i
    simp only [progPosFrom]
    split
    · next hlt => simp [h i hlt, ih]
    · simp [ih]

/-- how every wrapper tries an option: rename the option after the wrapper's own name, validate on a scratch structure -/
theorem cellsIn_probe {own : Nm} (hown : ∀ x ∈ own.cells, P x) {c : Nat} (hc : P c) (ok : Bool) {p : List Step}
    (hp : cellsIn P p) : cellsIn P (.write c own :: .check (.cell c) ok :: p) :=
  cellsIn_cons.mpr ⟨⟨fun _ h => List.mem_singleton.mp h ▸ hc, hown⟩, cellsIn_cons.mpr ⟨step_check_cell ok hc, hp⟩⟩

theorem allOfFrom_cells {own : Nm} (hown : ∀ x ∈ own.cells, P x) (os : List (Nat × Bool)) (hos : ∀ o ∈ os, P o.1) :
    cellsIn P (progAllOfFrom own os) := by
  induction os with
  | nil => exact cellsIn_nil P
  | cons o rest ih =>
    rw [List.forall_mem_cons] at hos
    exact cellsIn_probe hown hos.1 o.2 (ih hos.2)

theorem oneOfFrom_cells {own : Nm} (hown : ∀ x ∈ own.cells, P x) (os : List (Nat × Bool)) (hos : ∀ o ∈ os, P o.1) :
    cellsIn P (progOneOfFrom own os) := by
  induction os with
  | nil => exact cellsIn_nil P
  | cons o rest ih =>
    rw [List.forall_mem_cons] at hos
    exact cellsIn_probe hown hos.1 true (ih hos.2)

theorem wrapProg_cells (kind : WKind) {own : Nm} (v : Int) (hown : ∀ x ∈ own.cells, P x) (os : List (Nat × Bool))
    (hos : ∀ o ∈ os, P o.1) : cellsIn P (wrapProg kind own v os) := by
  have tail : cellsIn P [.store own v true, .load own] := by simpa using hown
  have fail : cellsIn P [.check own false] := by simpa using hown
  have through : ∀ c, P c → cellsIn P (storeThrough own v c) := fun c hc => by simpa [storeThrough, hc] using hown
  cases kind with
  | allOf => exact cellsIn_append.mpr ⟨allOfFrom_cells hown os hos, tail⟩
  | allOfThrough =>
    refine cellsIn_append.mpr ⟨allOfFrom_cells hown os hos, ?_⟩
    cases os with
    | nil => exact tail
    | cons o rest => exact through o.1 (hos o List.mem_cons_self)
  | oneOf =>
    refine cellsIn_append.mpr ⟨oneOfFrom_cells hown os hos, ?_⟩
    split
    · exact tail
    · exact fail
  | oneOfThrough =>
    refine cellsIn_append.mpr ⟨oneOfFrom_cells hown os hos, ?_⟩
    split
    · next c b heq =>
      have hm : (c, b) ∈ os.filter fun o => o.2 := heq ▸ List.mem_singleton_self _
      exact through c (hos (c, b) (List.mem_filter.mp hm).1)
    · exact fail
  | anyOf =>
    induction os with
    | nil => exact fail
    | cons o rest ih =>
      obtain ⟨c, ok⟩ := o
      rw [List.forall_mem_cons] at hos
      refine cellsIn_probe hown hos.1 true ?_
      cases ok
      · exact ih hos.2
      · exact through c hos.1
  | notField =>
    induction os with
    | nil => exact tail
    | cons o rest ih =>
      obtain ⟨c, ok⟩ := o
      rw [List.forall_mem_cons] at hos
      refine cellsIn_probe hown hos.1 true ?_
      cases ok
      · exact ih hos.2
      · exact fail

theorem nestFrom_cells {cW : Nat} (name : String) (kind : WKind) (hW : P cW) (es : List (Int × List (Nat × Bool)))
    (hes : ∀ e ∈ es, ∀ o ∈ e.2, P o.1) : ∀ i, cellsIn P (progNestFrom cW name kind i es) := by
  induction es with
  | nil => exact fun _ => cellsIn_nil P
  | cons e rest ih =>
    rw [List.forall_mem_cons] at hes
    intro i
    simp [progNestFrom, hW, ih hes.2, wrapProg_cells kind e.1 (own := .cell cW) (by simpa using hW) e.2 hes.1]

theorem Call.prog_cellsIn (call : Call) (hP : ∀ c, call.usesCell c = true → P c) : cellsIn P call.prog := by
  cases call with
  | homog cell name w es =>
    have hc : P cell := hP _ (by simp [Call.usesCell])
    refine cellsIn_append.mpr ⟨?_, cellsIn_newTemp (homogFrom_cells name hc es 0)⟩
    cases w
    · exact cellsIn_nil P
    · exact cellsIn_write_const name hc (cellsIn_nil P)
  | set cell name es =>
    have hc : P cell := hP _ (by simp [Call.usesCell])
    exact cellsIn_write_const name hc (setFrom_cells hc es)
  | iset cell name es =>
    have hc : P cell := hP _ (by simp [Call.usesCell])
    have h := cellsIn_write_const name hc (setFrom_cells hc es)
    exact cellsIn_newTemp (cellsIn_append.mpr ⟨h, h⟩)
  | map kc vc name es =>
    have hk : P kc := hP _ (by simp [Call.usesCell])
    have hv : P vc := hP _ (by simp [Call.usesCell])
    exact cellsIn_write_const _ hk (cellsIn_write_const _ hv (mapFrom_cells hk hv es))
  | pos base name n es =>
    exact cellsIn_newTemp (posFrom_cells name (fun i hi => hP _ (by simp [Call.usesCell, hi])) es 0)
  | wrap kind name v os =>
    have h := wrapProg_cells kind (own := .const name) v (fun _ hx => nomatch hx) os fun o ho =>
      hP _ (List.contains_iff_mem.mpr (List.mem_map.mpr ⟨o, ho, rfl⟩))
    cases kind <;> exact h
  | nest cW name kind es =>
    have hW : P cW := hP _ (by simp [Call.usesCell])
    have hes : ∀ e ∈ es, ∀ o ∈ e.2, P o.1 := fun e he o ho => hP _ (by
      simp only [Call.usesCell, Bool.or_eq_true, List.any_eq_true]
      exact Or.inr ⟨e, he, List.contains_iff_mem.mpr (List.mem_map.mpr ⟨o, ho, rfl⟩)⟩)
    exact cellsIn_write_const name hW (cellsIn_newTemp (nestFrom_cells name kind hW es hes 0))

end

theorem Call.prog_cells (call : Call) :
    (∀ c ∈ writeCells call.prog, call.usesCell c = true) ∧ (∀ c ∈ readCells call.prog, call.usesCell c = true) :=
  cellsIn_spec (call.prog_cellsIn fun _ h => h)

theorem Nm.rename_cells (f : Nat → Nat) (n : Nm) : (n.rename f).cells = n.cells.map f := by
  cases n <;> rfl

theorem Step.rename_writeCells (f : Nat → Nat) (s : Step) : (s.rename f).writeCells = s.writeCells.map f := by
  cases s <;> rfl

theorem Step.rename_readCells (f : Nat → Nat) (s : Step) : (s.rename f).readCells = s.readCells.map f := by
  cases s with
  | check n ok => cases ok <;> simp [Step.rename, Step.readCells, Nm.rename_cells]
  | _ => simp [Step.rename, Step.readCells, Nm.rename_cells]

theorem cells_rename {f : Nat → Nat} {g : Step → List Nat} (hg : ∀ s, g (s.rename f) = (g s).map f) (p : List Step) :
    ∀ c ∈ (renameProg f p).flatMap g, ∃ c0 ∈ p.flatMap g, c = f c0 := by
  intro c hc
  simp only [renameProg, List.mem_flatMap, List.mem_map] at hc
  obtain ⟨_, ⟨s, hs, rfl⟩, hcs⟩ := hc
  rw [hg, List.mem_map] at hcs
  obtain ⟨c0, hc0, rfl⟩ := hcs
  exact ⟨c0, List.mem_flatMap.mpr ⟨s, hs, hc0⟩, rfl⟩

theorem instFrom_get (priv : Nat → Bool) (N : Nat) : ∀ (progs : List (List Step)) (k i : Nat),
    (instFrom priv N k progs)[i]? = (progs[i]?).map (renameProg (cellMap priv N (k + i))) := by
  intro progs
  induction progs with
  | nil => intro k i; rfl
  | cons p rest ih =>
    intro k i
    cases i with
    | zero => rfl
    | succ i =>
      rw [instFrom, List.getElem?_cons_succ, List.getElem?_cons_succ, ih (k + 1) i, Nat.add_assoc, Nat.add_comm 1 i]

theorem instFrom_length (priv : Nat → Bool) (N : Nat) : ∀ (progs : List (List Step)) (k : Nat),
    (instFrom priv N k progs).length = progs.length := by
  intro progs
  induction progs with
  | nil => intro k; rfl
  | cons p rest ih => intro k; simp [instFrom, ih]

theorem privCell_inj {N i j c c' : Nat} (hi : i < N) (hj : j < N) (h : privCell N i c = privCell N j c') :
    i = j ∧ c = c' := by
  have h1 : c * N + i = c' * N + j := by unfold privCell at h; omega
  have hm := congrArg (· % N) h1
  simp only [Nat.mul_add_mod_self_right, Nat.mod_eq_of_lt hi, Nat.mod_eq_of_lt hj] at hm
  subst hm
  exact ⟨rfl, Nat.eq_of_mul_eq_mul_right (Nat.zero_lt_of_lt hi) (Nat.add_right_cancel h1)⟩

theorem privCell_ne_shared (N i c c' : Nat) : privCell N i c ≠ sharedCell c' := by
  unfold privCell sharedCell
  omega

theorem cellMap_eq {priv : Nat → Bool} {N i j a b : Nat} (hi : i < N) (hj : j < N)
    (h : cellMap priv N i a = cellMap priv N j b) : a = b ∧ (priv a = true → i = j) := by
  unfold cellMap at h
  split at h <;> split at h
  · exact ⟨(privCell_inj hi hj h).2, fun _ => (privCell_inj hi hj h).1⟩
  · exact absurd h (privCell_ne_shared N i a b)
  · exact absurd h.symm (privCell_ne_shared N j b a)
  · next hna _ => exact ⟨Nat.eq_of_mul_eq_mul_left (by decide : 0 < 2) h, fun ha => absurd ha hna⟩

theorem cellMap_injective (priv : Nat → Bool) {N i : Nat} (hN : i < N) :
    ∀ a b, cellMap priv N i a = cellMap priv N i b → a = b :=
  fun _ _ h => (cellMap_eq hN hN h).1

theorem instStore_shared (N : Nat) (sh : Shared) (c : Nat) : instStore N sh (sharedCell c) = sh c := by
  simp only [instStore, sharedCell, Nat.mul_mod_right, if_true, Nat.mul_div_cancel_left c (by decide : 0 < 2)]

theorem instStore_priv {N i : Nat} (hi : i < N) (sh : Shared) (c : Nat) : instStore N sh (privCell N i c) = sh c := by
  have h : (c * N + i) / N = c := by
    rw [Nat.add_comm, Nat.add_mul_div_right _ _ (Nat.zero_lt_of_lt hi), Nat.div_eq_of_lt hi, Nat.zero_add]
  simp [instStore, privCell, Nat.mul_add_div, h]

theorem instStore_cellMap (priv : Nat → Bool) {N i : Nat} (hi : i < N) (sh : Shared) :
    instStore N sh ∘ cellMap priv N i = sh := by
  funext c
  unfold Function.comp cellMap
  split
  · exact instStore_priv hi sh c
  · exact instStore_shared N sh c

theorem tablePriv_of_no_racy {tbl : List SharedWrite} (h : ∀ r ∈ tbl, (!r.safe && r.readBack) = false)
    (sites : List (Nat × String)) (c : Nat) : tablePriv tbl sites c = true := by
  simp only [tablePriv, List.all_eq_true, Bool.or_eq_true, Bool.not_eq_true', siteRacy, List.any_eq_false]
  exact fun p _ => Or.inr fun r hr => by simp [Bool.and_assoc, h r hr]

theorem modelProgs_private {tbl : List SharedWrite} (h : ∀ r ∈ tbl, (!r.safe && r.readBack) = false)
    (sites : List (Nat × String)) (calls : List Call) :
    modelProgs tbl sites calls = instFrom (fun _ => true) calls.length 0 (calls.map Call.prog) := by
  rw [modelProgs, funext (tablePriv_of_no_racy h sites)]

/-! The renamed program on store `sh` does what the original does on `sh ∘ f`, the store that holds under a cell what
    `sh` holds under its new name. -/

theorem Nm.rename_eval (f : Nat → Nat) (sh : Shared) (n : Nm) : (n.rename f).eval sh = n.eval (sh ∘ f) := by
  cases n <;> rfl

def TState.rename (f : Nat → Nat) (t : TState) : TState := { t with prog := renameProg f t.prog }

theorem Step.rename_local (f : Nat → Nat) (sh : Shared) (s : Step) (rest : List Step) (t : TState) :
    (s.rename f).local sh (renameProg f rest) (t.rename f) = (s.local (sh ∘ f) rest t).rename f := by
  cases s <;> simp only [Step.rename, Step.local, Nm.rename_eval, TState.rename] <;> (try split) <;> rfl

theorem Step.rename_shared (f : Nat → Nat) (hf : ∀ a b, f a = f b → a = b) (sh : Shared) (s : Step) :
    (s.rename f).shared sh ∘ f = s.shared (sh ∘ f) := by
  cases s with
  | write c n =>
    funext x
    simp only [Step.rename, Step.shared, Shared.set, Function.comp, Nm.rename_eval]
    by_cases hx : x = c
    · simp [hx]
    · have : f x ≠ f c := fun e => hx (hf _ _ e)
      simp [hx, this]
  | _ => rfl

theorem stepT_rename (f : Nat → Nat) (hf : ∀ a b, f a = f b → a = b) (sh : Shared) (t : TState) :
    (stepT sh (t.rename f)).1 ∘ f = (stepT (sh ∘ f) t).1 ∧ (stepT sh (t.rename f)).2 = (stepT (sh ∘ f) t).2.rename f := by
  obtain ⟨prog, temp, out, err⟩ := t
  cases err with
  | some e => exact ⟨rfl, rfl⟩
  | none =>
    cases prog with
    | nil => exact ⟨rfl, rfl⟩
    | cons s rest => exact ⟨s.rename_shared f hf sh, s.rename_local f sh rest _⟩

theorem alone_rename (f : Nat → Nat) (hf : ∀ a b, f a = f b → a = b) : ∀ (n : Nat) (sh : Shared) (t : TState),
    (alone sh (t.rename f) n).2 = (alone (sh ∘ f) t n).2.rename f := by
  intro n
  induction n with
  | zero => intro sh t; rfl
  | succ n ih =>
    intro sh t
    obtain ⟨h1, h2⟩ := stepT_rename f hf sh t
    rw [alone_succ, alone_succ, h2, ih, h1]

theorem rename_sequential (f : Nat → Nat) (hf : ∀ a b, f a = f b → a = b) (sh : Shared) (p : List Step) :
    sequentialResult sh (renameProg f p) = sequentialResult (sh ∘ f) p := by
  unfold sequentialResult
  have hl : (renameProg f p).length = p.length := List.length_map _
  have hi : TState.init (renameProg f p) = (TState.init p).rename f := rfl
  rw [hl, hi, alone_rename f hf]
  simp [TState.result, TState.rename, renameProg]

/-- flat `OneOf` / `NotField` read no cell: the options' errors are swallowed (`check _ true` has no read cells) and the
    wrapper's own name is a constant -/
theorem oneOfFrom_reads (n : String) (os : List (Nat × Bool)) : readCells (progOneOfFrom (.const n) os) = [] := by
  induction os with
  | nil => rfl
  | cons o rest ih => exact ih

theorem oneOf_reads (n : String) (v : Int) (os : List (Nat × Bool)) : readCells (progOneOf (.const n) v os) = [] := by
  rw [progOneOf, readCells, List.flatMap_append, ← readCells, oneOfFrom_reads]
  split <;> rfl

theorem notField_reads (n : String) (v : Int) (os : List (Nat × Bool)) : readCells (progNotField (.const n) v os) = [] := by
  induction os with
  | nil => rfl
  | cons o rest ih =>
    obtain ⟨c, ok⟩ := o
    cases ok
    · exact ih
    · rfl

end Typedpy.Sched
