/-
  Props/C03.lean — C03: every mutation is validated and failure-atomic.

  `Sem/Mutate.step` interprets assignment, deletion and every mutating method of the typed collection
  wrappers from the table extract/wrappers.py regenerates (`Generated.wrappers`); the theorems assume
  every row `validated` (`SafeTbl`; `tables_ok` for the working tree).  `stepB bound dh` has the two
  probed switches.  `bound = true` (/repo since cbf3b48): a typed wrapper nested inside another
  collection re-assigns its parent; `bound = false`: it is bound to a scratch structure,
  `x.f[k].append(bad)` is not validated, and only the histories in `OpOk` stay well-formed.  `dh`:
  `__delitem__` runs the class's `__validate__` hook (since 613f11f).  `stepR` adds wrapper references
  the caller keeps across operations.

  `Effect` lists what a primitive step can do to the attributes and under which conditions; each
  primitive step is shown once to have such an effect; `stepB_dispatch` / `stepR_dispatch` reduce an
  operation of either layer to its primitive step (`step` is `stepB false false`, `stepR` on a plain
  operation is `stepB`).  A fact about one step is then a fact about `Effect`, a fact about the state
  after a history an instance of `run_invariant`.
-/
import TypedpyModel.Lemmas.MutateLemmas
import TypedpyModel.Props.C01
import TypedpyModel.Generated.Wrappers
namespace Typedpy.C03
open Typedpy

def WfState (O : Oracles) (c : ClassOpts) (fields : List (String × FieldDecl)) (s : Attrs) : Bool :=
  wfAttrs c (fields.map (·.1)) s (fieldsConform O s fields)

def SafeTbl (tbl : List MethodRec) : Bool := tbl.all (·.validated)

def TopOp : Op → Bool
  | .callNested _ _ _ => false
  | _ => true

/-- what a failed operation may raise: TypeError / ValueError (`both`: `InvalidStructureErr`), the
    container's IndexError / KeyError, and AttributeError, the machine's answer when it finds no
    wrapper to call -/
def AllowedErr (e : MErr) : Prop :=
  e = .typeErr ∨ e = .valueErr ∨ e = .both ∨ e = .indexErr ∨ e = .keyErr ∨ e = .other "AttributeError"

instance (e : MErr) : Decidable (AllowedErr e) := by unfold AllowedErr; infer_instance

theorem attrErr_allowed : AllowedErr (.other "AttributeError") := by decide

theorem validate_err_allowed (O : Oracles) (fd : FieldDecl) (v : PyVal) (e : ErrCls)
    (hv : validate O fd v = .error e) : AllowedErr (MErr.ofErrCls e) := by
  rcases (validate_spec O fd v).errIn e hv with hc | hc | hc <;> subst hc <;> decide

theorem ofNErr_allowed (e : NErr) : AllowedErr (MErr.ofNErr e) := by
  cases e <;> decide

theorem lookupErr_allowed (cur k : PyVal) : AllowedErr (lookupErr cur k) := by
  have one : ∀ cur k : PyVal, AllowedErr (lookupErr1 cur k) := by
    intro cur k
    unfold lookupErr1
    split
    · decide
    · split <;> decide
  have path : ∀ (ks : List PyVal) (cur : PyVal), AllowedErr (lookupErrPath cur ks) := by
    intro ks
    induction ks with
    | nil => intro cur; exact (by decide : AllowedErr .indexErr)
    | cons k ks ih =>
      intro cur
      simp only [lookupErrPath]
      split
      · exact ih _
      · exact one cur k
  unfold lookupErr
  split
  · exact path _ _
  · exact one cur k

section
variable {O : Oracles} {c : ClassOpts} {fields : List (String × FieldDecl)} {s : Attrs} {val grd hk : Bool}

theorem wfState_assocSet (f : String) (v : PyVal)
    (hconf : ∀ fd, (f, fd) ∈ fields → conforms O fd v = true)
    (hkey : (c.addl || (fields.map (·.1)).contains f) = true)
    (hs : WfState O c fields s = true) : WfState O c fields (assocSet f v s) = true := by
  simp only [WfState, wfAttrs, Bool.and_eq_true] at hs ⊢
  refine ⟨⟨?_, ?_⟩, ?_⟩
  · rw [List.all_eq_true] at *
    intro r hr
    rw [lookup_assocSet]
    split
    · rfl
    · exact hs.1.1 r hr
  · refine fieldsConform_update O s _ fields (fun name g hm w hw => ?_) hs.1.2
    rw [lookup_assocSet] at hw
    split at hw
    · rename_i hn
      cases hw
      rw [eq_of_beq hn] at hm
      exact Or.inr (hconf g hm)
    · exact Or.inl hw
  · cases hadd : c.addl
    · simp only [hadd, Bool.false_or] at hs hkey ⊢
      exact assocSet_keys (fun k => (fields.map (·.1)).contains k) f v hkey s hs.2
    · rfl

theorem wfState_assocDel (f : String) (hreq : c.required.contains f = false)
    (hs : WfState O c fields s = true) : WfState O c fields (assocDel f s) = true := by
  simp only [WfState, wfAttrs, Bool.and_eq_true] at hs ⊢
  refine ⟨⟨?_, ?_⟩, ?_⟩
  · rw [List.all_eq_true] at *
    intro r hr
    rw [lookup_assocDel]
    split
    · rename_i hn
      rw [eq_of_beq hn] at hr
      rw [List.contains_iff_mem.mpr hr] at hreq
      cases hreq
    · exact hs.1.1 r hr
  · refine fieldsConform_update O s _ fields (fun name g _ w hw => ?_) hs.1.2
    rw [lookup_assocDel] at hw
    split at hw
    · cases hw
    · exact Or.inl hw
  · cases hadd : c.addl
    · simp only [hadd, Bool.false_or] at hs ⊢
      exact assocDel_keys (fun k => (fields.map (·.1)).contains k) f s hs.2
    · rfl

/-- The ways a primitive step from `s` can end.  `val`: the instance changes only the way
    `setattrStep` and `delitemStep` change it; otherwise a change may also be a `raw` in-place write,
    and `grd` then says that the row's own immutability guard has let it through.  `hk`: every change
    has been shown to the class's hook (no undeclared attribute is assigned, a deletion runs the hook). -/
inductive Effect (val grd hk : Bool) (O : Oracles) (c : ClassOpts) (fields : List (String × FieldDecl))
    (s : Attrs) : Attrs × Outcome → Prop
  | fail (e : MErr) : AllowedErr e → Effect val grd hk O c fields s (s, .err e)
  | skip : Effect val grd hk O c fields s (s, .ok)
  | assign (f : String) (fd : FieldDecl) (v v' : PyVal) : c.immutable = false →
      lookup f fields = some fd → validate O fd v = .ok v' →
      (c.immFields.contains f && (lookup f s).isSome) = false → O.hookOk (assocSet f v' s) = true →
      Effect val grd hk O c fields s (assocSet f v' s, .ok)
  | extra (f : String) (v : PyVal) : c.immutable = false → lookup f fields = none → c.addl = true →
      hk = false → Effect val grd hk O c fields s (assocSet f v s, .ok)
  | delete (f : String) : c.immutable = false → c.immFields.contains f = false →
      c.required.contains f = false → (hk = true → O.hookOk (assocDel f s) = true) →
      Effect val grd hk O c fields s (assocDel f s, .ok)
  | raw (f : String) (v : PyVal) : val = false →
      (grd = true → c.immutable = false ∧ c.immFields.contains f = false) →
      Effect val grd hk O c fields s (assocSet f v s, .ok)

namespace Effect
variable {s' : Attrs} {out : Outcome}

theorem valueErr : Effect val grd hk O c fields s (s, .err .valueErr) := .fail _ (by decide)

theorem err {e : MErr} (h : Effect val grd hk O c fields s (s', .err e)) : s' = s ∧ AllowedErr e := by
  cases h with
  | fail _ he => exact ⟨rfl, he⟩

theorem wf (hnd : strNodup (fields.map (·.1)) = true) (hwf : wfFields fields = true)
    (hs : WfState O c fields s = true) (h : Effect true grd hk O c fields s (s', out)) :
    WfState O c fields s' = true := by
  cases h with
  | fail | skip => exact hs
  | assign f fd v v' _ hl hv =>
    refine wfState_assocSet f v' (fun g hm => ?_) ?_ hs
    · cases (lookup_of_mem ((strNodup_iff _).mp hnd) hm).symm.trans hl
      exact C01.validate_sound O g v v' ((wfFields_iff fields).mp hwf _ hm) hv
    · rw [← lookup_isSome_map, hl]; exact Bool.or_true _
  | extra f v _ hl hadd =>
    refine wfState_assocSet f v (fun g hm => ?_) (by rw [hadd]; rfl) hs
    have := mem_names_of_mem f g fields hm
    rw [← lookup_isSome_map, hl] at this
    cases this
  | delete f _ _ hreq => exact wfState_assocDel f hreq hs
  | raw _ _ h => cases h

theorem immutable {x : Attrs × Outcome} (hi : c.immutable = true)
    (h : Effect val true hk O c fields s x) : x.1 = s := by
  cases h with
  | fail | skip => rfl
  | assign _ _ _ _ h | extra _ _ h | delete _ h => rw [hi] at h; cases h
  | raw _ _ _ h => rw [hi] at h; cases (h rfl).1

theorem immField {x : Attrs × Outcome} {f : String} {w : PyVal} (hf : c.immFields.contains f = true)
    (hfield : (lookup f fields).isSome = true) (hset : lookup f s = some w)
    (h : Effect val true hk O c fields s x) : lookup f x.1 = some w := by
  -- every write goes to another attribute `g`: for `f` itself the conditions of the write fail
  have keep : ∀ g u, g ≠ f →
      lookup f (assocSet g u s) = some w ∧ lookup f (assocDel g s) = some w := fun g u hg => by
    have : (f == g) = false := by simpa using fun e => hg e.symm
    rw [lookup_assocSet, lookup_assocDel, this]
    exact ⟨hset, hset⟩
  cases h with
  | fail | skip => exact hset
  | assign g fd v v' _ _ _ himm => exact (keep g v' fun e => by rw [e, hf, hset] at himm; cases himm).1
  | extra g v _ hl => exact (keep g v fun e => by rw [e] at hl; rw [hl] at hfield; cases hfield).1
  | delete g _ himm => exact (keep g .none fun e => by rw [e, hf] at himm; cases himm).2
  | raw g v _ himm => exact (keep g v fun e => by rw [e, hf] at himm; cases (himm rfl).2).1

theorem hook {x : Attrs × Outcome} (h : Effect true grd true O c fields s x) :
    x.1 = s ∨ O.hookOk x.1 = true := by
  cases h with
  | fail | skip => exact Or.inl rfl
  | assign _ _ _ _ _ _ _ _ hk => exact Or.inr hk
  | extra _ _ _ _ _ h | raw _ _ h => cases h
  | delete _ _ _ _ h => exact Or.inr (h rfl)

end Effect

theorem setattr_effect (f : String) (v : PyVal) (hf : hk = true → (lookup f fields).isSome = true) :
    Effect val grd hk O c fields s (setattrStep O c fields s f v) := by
  unfold setattrStep
  cases hmut : c.immutable
  · cases hl : lookup f fields with
    | none =>
      cases hadd : c.addl
      · exact .valueErr
      · cases v.isNone && c.ignoreNone
        · refine .extra f v hmut hl hadd (Bool.eq_false_iff.mpr fun h => ?_)
          have := hf h
          rw [hl] at this
          cases this
        · exact .skip
    | some fd =>
      dsimp only
      cases v.isNone && c.ignoreNone && !c.required.contains f
      · cases hv : validate O fd v with
        | error e => exact .fail _ (validate_err_allowed O fd v e hv)
        | ok v' =>
          dsimp only
          cases himm : c.immFields.contains f && (lookup f s).isSome
          · cases hk : O.hookOk (assocSet f v' s)
            · exact .valueErr
            · exact .assign f fd v v' hmut hl hv himm hk
          · exact .valueErr
      · exact .skip
  · exact .valueErr

theorem setattr_err_unchanged (O : Oracles) (c : ClassOpts) (fields : List (String × FieldDecl))
    (s s' : Attrs) (f : String) (v : PyVal) (e : MErr)
    (h : setattrStep O c fields s f v = (s', .err e)) : s' = s :=
  (h ▸ setattr_effect (val := true) (grd := true) (hk := false) f v nofun).err.1

theorem setattr_err_class (O : Oracles) (c : ClassOpts) (fields : List (String × FieldDecl))
    (s s' : Attrs) (f : String) (v : PyVal) (e : MErr)
    (h : setattrStep O c fields s f v = (s', .err e)) : AllowedErr e :=
  (h ▸ setattr_effect (val := true) (grd := true) (hk := false) f v nofun).err.2

theorem setattr_ok_wf (O : Oracles) (c : ClassOpts) (fields : List (String × FieldDecl))
    (s s' : Attrs) (f : String) (v : PyVal)
    (hnd : strNodup (fields.map (·.1)) = true) (hwf : wfFields fields = true)
    (hs : WfState O c fields s = true)
    (h : setattrStep O c fields s f v = (s', .ok)) : WfState O c fields s' = true :=
  (h ▸ setattr_effect (grd := true) (hk := false) f v nofun).wf hnd hwf hs

theorem delitem_cases (c : ClassOpts) (s : Attrs) (f : String) :
    (∃ e, AllowedErr e ∧ delitemStep c s f = (s, .err e)) ∨
    (c.immutable = false ∧ c.immFields.contains f = false ∧ c.required.contains f = false ∧
      delitemStep c s f = (assocDel f s, .ok)) := by
  unfold delitemStep
  cases c.immutable
  · cases c.immFields.contains f
    · cases c.required.contains f
      · cases (lookup f s).isNone
        · exact Or.inr ⟨rfl, rfl, rfl, rfl⟩
        · exact Or.inl ⟨.keyErr, by decide, rfl⟩
      · exact Or.inl ⟨.valueErr, by decide, rfl⟩
    · exact Or.inl ⟨.valueErr, by decide, rfl⟩
  · exact Or.inl ⟨.valueErr, by decide, rfl⟩

theorem delitem_ok_wf (O : Oracles) (c : ClassOpts) (fields : List (String × FieldDecl))
    (s s' : Attrs) (f : String) (hs : WfState O c fields s = true)
    (h : delitemStep c s f = (s', .ok)) : WfState O c fields s' = true := by
  rcases delitem_cases c s f with ⟨e, _, h'⟩ | ⟨_, _, hreq, h'⟩ <;> rw [h] at h' <;> cases h'
  exact wfState_assocDel f hreq hs

theorem delitemH_facts (dh : Bool) (O : Oracles) (c : ClassOpts) (s s' : Attrs) (f : String)
    (out : Outcome) (h : delitemStepH dh O c s f = (s', out)) :
    delitemStep c s f = (s', out) ∨ (out = .err .valueErr ∧ s' = s) := by
  unfold delitemStepH at h
  split at h
  · split at h
    · rename_i s2 heq
      split at h
      · cases h; exact Or.inl heq
      · cases h; exact Or.inr ⟨rfl, rfl⟩
    · exact Or.inl h
  · exact Or.inl h

theorem delitemH_hook (O : Oracles) (c : ClassOpts) (s s' : Attrs) (f : String)
    (h : delitemStepH true O c s f = (s', .ok)) : O.hookOk s' = true := by
  unfold delitemStepH at h
  simp only [if_true] at h
  split at h
  · split at h
    · rename_i hk; cases h; exact hk
    · injection h with _ h2; cases h2
  · rename_i r hne
    exact absurd h (hne s')

theorem delitemH_effect (dh : Bool) (f : String) (hd : hk = true → dh = true) :
    Effect val grd hk O c fields s (delitemStepH dh O c s f) := by
  cases hres : delitemStepH dh O c s f with
  | mk s' out =>
    rcases delitemH_facts dh O c s s' f out hres with h | ⟨h1, h2⟩
    · rcases delitem_cases c s f with ⟨e, he, h'⟩ | ⟨hmut, himm, hreq, h'⟩ <;> rw [h] at h' <;> cases h'
      · exact .fail e he
      · refine .delete f hmut himm hreq fun hh => ?_
        rw [hd hh] at hres
        exact delitemH_hook O c s _ f hres
    · rw [h1, h2]; exact .valueErr

/-- a validated mutator behaves exactly like a validated assignment of the natively
    mutated copy (after the immutability guard and the container's own Index/KeyError) -/
theorem call_refines_setattr (O : Oracles) (c : ClassOpts) (fields : List (String × FieldDecl))
    (s : Attrs) (f kind : String) (r : MethodRec) (m : NOp) (cur : PyVal)
    (hr : r.validated = true) :
    callStep O c fields s f kind r m cur =
      (if r.guarded && (c.immutable || c.immFields.contains f) then (s, .err .valueErr)
       else match applyNative kind m cur with
        | .error e => (s, .err (MErr.ofNErr e))
        | .ok new => if c.immFields.contains f then (s, .err .valueErr)
                     else setattrStep O c fields s f new) := by
  unfold callStep
  simp only [hr, if_true]
  split
  · rfl
  · cases applyNative kind m cur <;> rfl

/-- What `callStep` and `nestedBoundStep` have in common: the row's immutability guard, the
    container's own error, then the row's way of storing the natively mutated value in field `f`. -/
def mutStep (O : Oracles) (c : ClassOpts) (fields : List (String × FieldDecl)) (s : Attrs)
    (f : String) (r : MethodRec) (res : Except NErr PyVal) : Attrs × Outcome :=
  if r.guarded && (c.immutable || c.immFields.contains f) then (s, .err .valueErr)
  else match res with
    | .error e => (s, .err (MErr.ofNErr e))
    | .ok new =>
      if r.validated then
        (if c.immFields.contains f then (s, .err .valueErr) else setattrStep O c fields s f new)
      else if !r.overridden || r.superCall then (assocSet f new s, .ok)
      else (s, .ok)

theorem callStep_eq (f kind : String) (r : MethodRec) (m : NOp) (cur : PyVal) :
    callStep O c fields s f kind r m cur = mutStep O c fields s f r (applyNative kind m cur) := rfl

theorem nestedBoundStep_eq (f : String) (k : PyVal) (kind : String) (r : MethodRec) (m : NOp)
    (cur elem : PyVal) : nestedBoundStep O c fields s f k kind r m cur elem =
      mutStep O c fields s f r ((applyNative kind m elem).map (setElemAt cur k)) := by
  unfold nestedBoundStep mutStep
  cases applyNative kind m elem <;> rfl

theorem mutStep_cases (f : String) {r : MethodRec} (res : Except NErr PyVal) (hr : r.validated = true) :
    (∃ e, AllowedErr e ∧ mutStep O c fields s f r res = (s, .err e)) ∨
    (∃ new, mutStep O c fields s f r res = setattrStep O c fields s f new) := by
  unfold mutStep
  cases r.guarded && (c.immutable || c.immFields.contains f)
  · cases res with
    | error e => exact Or.inl ⟨_, ofNErr_allowed e, rfl⟩
    | ok new =>
      dsimp only
      rw [if_pos hr]
      cases c.immFields.contains f
      · exact Or.inr ⟨new, rfl⟩
      · exact Or.inl ⟨.valueErr, by decide, rfl⟩
  · exact Or.inl ⟨.valueErr, by decide, rfl⟩

/-- what is asked of a table row for effects in `Effect val grd` -/
def rowOk (val grd : Bool) (r : MethodRec) : Bool := r.validated || !val && (!grd || r.guarded)

theorem mut_effect (f : String) {r : MethodRec} (res : Except NErr PyVal) (hr : rowOk val grd r = true)
    (hf : hk = true → (lookup f fields).isSome = true) :
    Effect val grd hk O c fields s (mutStep O c fields s f r res) := by
  cases hv : r.validated
  · rw [rowOk, hv, Bool.false_or, Bool.and_eq_true, Bool.not_eq_true'] at hr
    unfold mutStep
    cases hg : r.guarded && (c.immutable || c.immFields.contains f)
    · cases res with
      | error e => exact .fail _ (ofNErr_allowed e)
      | ok new =>
        dsimp only
        rw [hv]
        cases !r.overridden || r.superCall
        · exact .skip
        · -- a guarded row got here because its guard saw nothing immutable
          refine .raw f new hr.1 fun h => ?_
          rw [h, Bool.not_true, Bool.false_or] at hr
          rw [hr.2, Bool.true_and, Bool.or_eq_false_iff] at hg
          exact hg
    · exact .valueErr
  · rcases mutStep_cases f res hv with ⟨e, he, h⟩ | ⟨new, h⟩ <;> rw [h]
    · exact .fail e he
    · exact setattr_effect f new hf

/-- the row lets a scratch-bound nested wrapper do nothing at all: overridden, no in-place native call -/
def InertRow (r : MethodRec) : Bool := r.overridden && !r.superCall

def nestedRow (tbl : List MethodRec) (fields : List (String × FieldDecl)) : Op → Option MethodRec
  | .callNested f k m =>
    (lookup f fields).bind fun fd => (elemDecl fd k).bind fun ed =>
      (wrapperKind ed).bind fun kind => findRec tbl kind m.name
  | _ => none

/-- the operations for which "stays well-formed" is claimed (`stepB_wf`, `runB_wellformed`) -/
def OpOk (bound : Bool) (tbl : List MethodRec) (fields : List (String × FieldDecl)) (op : Op) : Bool :=
  bound || TopOp op || (match nestedRow tbl fields op with | some r => InertRow r | none => true)

/-- what is asked of the row a scratch-bound nested wrapper meets: it is inert, or the structure is
    immutable (the wrapper is a defensive copy), or as for `rowOk` without validation -/
def nestOk (val grd : Bool) (c : ClassOpts) (r : MethodRec) : Bool :=
  InertRow r || c.immutable || !val && (!grd || r.guarded)

theorem nested_effect (f : String) (k : PyVal) (kind : String) {r : MethodRec} (m : NOp)
    (cur elem : PyVal) (hr : nestOk val grd c r = true) :
    Effect val grd hk O c fields s (nestedStep c s f k kind r m cur elem) := by
  unfold nestedStep
  cases hg : r.guarded && c.immFields.contains f
  · cases applyNative kind m elem with
    | error e => exact .fail _ (ofNErr_allowed e)
    | ok new =>
      cases hmut : c.immutable
      · cases hrow : !r.overridden || r.superCall
        · exact .skip
        · have inert : ∀ a b : Bool, (!a || b) = true → (a && !b) = false := by decide
          rw [nestOk, InertRow, inert _ _ hrow, hmut, Bool.false_or, Bool.false_or, Bool.and_eq_true,
            Bool.not_eq_true'] at hr
          -- a guarded row got here because its guard saw no immutable field
          refine .raw f _ hr.1 fun h => ⟨hmut, ?_⟩
          rw [h, Bool.not_true, Bool.false_or] at hr
          rw [hr.2, Bool.true_and] at hg
          exact hg
      · exact .skip
  · exact .valueErr

/-- Every operation finds nothing to act on (an atomic failure) or comes down to one primitive step,
    for a wrapper mutator on a row of the table: to show `Q` of what `stepB` returns, show it of these. -/
theorem stepB_dispatch (bound dh : Bool) (tbl : List MethodRec) (op : Op) (Q : Attrs × Outcome → Prop)
    (hfail : ∀ e, AllowedErr e → Q (s, .err e))
    (hset : ∀ f v, op = .setattr f v → Q (setattrStep O c fields s f v))
    (hdel : ∀ f, op = .delitem f → Q (delitemStepH dh O c s f))
    (hmut : ∀ f r res, r ∈ tbl → (lookup f fields).isSome = true → Q (mutStep O c fields s f r res))
    (hnest : ∀ f k kind r m cur elem, r ∈ tbl → bound = false → nestedRow tbl fields op = some r →
      Q (nestedStep c s f k kind r m cur elem)) :
    Q (stepB bound dh tbl O c fields s op) := by
  cases op with
  | setattr f v => cases bound <;> exact hset f v rfl
  | delitem f => cases bound <;> exact hdel f rfl
  | call f m =>
    have : Q (step tbl O c fields s (.call f m)) := by
      simp only [step]
      split
      · rename_i fd cur hfd _
        split
        · exact hfail _ attrErr_allowed
        · split
          · exact hfail _ attrErr_allowed
          · rename_i r hfind
            exact hmut f r _ (findRec_mem hfind) (by rw [hfd]; rfl)
      · exact hfail _ attrErr_allowed
    cases bound <;> exact this
  | callNested f k m =>
    cases bound with
    | true =>
      simp only [stepB]
      split
      · rename_i fd cur hfd _
        split
        · split
          · exact hfail _ attrErr_allowed
          · split
            · exact hfail _ attrErr_allowed
            · rename_i r hfind
              rw [nestedBoundStep_eq]
              exact hmut f r _ (findRec_mem hfind) (by rw [hfd]; rfl)
        · exact hfail _ (lookupErr_allowed _ _)
      · exact hfail _ attrErr_allowed
    | false =>
      show Q (step tbl O c fields s (.callNested f k m))
      simp only [step]
      split
      · rename_i fd cur hfd _
        split
        · rename_i ed elem hed _
          split
          · exact hfail _ attrErr_allowed
          · rename_i kind hkind
            split
            · exact hfail _ attrErr_allowed
            · rename_i r hfind
              exact hnest f k kind r m cur elem (findRec_mem hfind) rfl
                (by simp only [nestedRow, hfd, hed, hkind, hfind, Option.bind])
        · exact hfail _ (lookupErr_allowed _ _)
      · exact hfail _ attrErr_allowed

/-- The operations that run the class's `__validate__` hook when they change the instance.
    `Field.__set__` runs the hook after storing and `Structure.__setattr__` rolls back when it raises,
    so an assignment to a declared field does, and with it every wrapper mutator of a validated row.
    The assignment of an undeclared attribute does not, and item deletion only when `dh` (without it:
    finding `unvalidated:hook:delitem`, `delitem_skips_hook`). -/
def HookOp (dh : Bool) (fields : List (String × FieldDecl)) : Op → Bool
  | .setattr f _ => (lookup f fields).isSome
  | .delitem _ => dh
  | _ => true

theorem stepB_effect (bound dh : Bool) {tbl : List MethodRec} (op : Op)
    (hrow : ∀ r, r ∈ tbl → rowOk val grd r = true)
    (hnest : bound = false → ∀ r, r ∈ tbl → nestedRow tbl fields op = some r → nestOk val grd c r = true)
    (hh : hk = true → HookOp dh fields op = true) :
    Effect val grd hk O c fields s (stepB bound dh tbl O c fields s op) :=
  stepB_dispatch bound dh tbl op (Effect val grd hk O c fields s) .fail
    (fun f v hc => setattr_effect f v fun h => by subst hc; exact hh h)
    (fun f hc => delitemH_effect dh f fun h => by subst hc; exact hh h)
    (fun f r res hr hl => mut_effect f res (hrow r hr) fun _ => hl)
    (fun f k kind r m cur elem hr hb hn => nested_effect f k kind m cur elem (hnest hb r hr hn))

theorem safeTbl_row {tbl : List MethodRec} (htbl : SafeTbl tbl = true) (r : MethodRec) (hr : r ∈ tbl) :
    rowOk val grd r = true := by
  rw [rowOk, List.all_eq_true.mp htbl r hr]; rfl

/-- without validation or guard nothing is asked of the rows: enough for what failures do -/
theorem stepB_effect_any (bound dh : Bool) (tbl : List MethodRec) (op : Op) :
    Effect false false false O c fields s (stepB bound dh tbl O c fields s op) :=
  stepB_effect bound dh op (fun _ _ => Bool.or_true _) (fun _ _ _ _ => Bool.or_true _) nofun

/-- **failure-atomic, every operation**: a failed operation — nested calls included, under either
    binding of nested wrappers — leaves the instance unchanged -/
theorem stepB_err_unchanged (bound dh : Bool) (tbl : List MethodRec) (O : Oracles) (c : ClassOpts)
    (fields : List (String × FieldDecl)) (s s' : Attrs) (op : Op) (e : MErr)
    (htbl : SafeTbl tbl = true) (h : stepB bound dh tbl O c fields s op = (s', .err e)) : s' = s :=
  (h ▸ stepB_effect_any bound dh tbl op).err.1

theorem stepB_err_class (bound dh : Bool) (tbl : List MethodRec) (O : Oracles) (c : ClassOpts)
    (fields : List (String × FieldDecl)) (s s' : Attrs) (op : Op) (e : MErr)
    (htbl : SafeTbl tbl = true) (h : stepB bound dh tbl O c fields s op = (s', .err e)) : AllowedErr e :=
  (h ▸ stepB_effect_any bound dh tbl op).err.2

theorem nestedRow_top {tbl : List MethodRec} {op : Op} (htop : TopOp op = true) :
    nestedRow tbl fields op = none := by
  cases op <;> first | rfl | cases htop

theorem opOk_nestOk {bound : Bool} {tbl : List MethodRec} {op : Op}
    (hop : OpOk bound tbl fields op = true) (hb : bound = false) (r : MethodRec)
    (hr : nestedRow tbl fields op = some r) : nestOk val grd c r = true := by
  subst hb
  cases htop : TopOp op
  · rw [OpOk, hr, htop] at hop
    rw [nestOk, show InertRow r = true from hop]
    rfl
  · rw [nestedRow_top htop] at hr
    cases hr

theorem stepB_wf (bound dh : Bool) (tbl : List MethodRec) (O : Oracles) (c : ClassOpts)
    (fields : List (String × FieldDecl)) (s s' : Attrs) (op : Op) (out : Outcome)
    (hnd : strNodup (fields.map (·.1)) = true) (hwf : wfFields fields = true)
    (htbl : SafeTbl tbl = true) (hop : OpOk bound tbl fields op = true)
    (hs : WfState O c fields s = true)
    (h : stepB bound dh tbl O c fields s op = (s', out)) : WfState O c fields s' = true :=
  (h ▸ stepB_effect (val := true) (grd := true) (hk := false) bound dh op (safeTbl_row htbl)
    (fun hb r _ => opOk_nestOk hop hb r) nofun).wf hnd hwf hs

theorem step_eq_stepB (tbl : List MethodRec) (op : Op) :
    step tbl O c fields s op = stepB false false tbl O c fields s op := by
  cases op <;> rfl

theorem step_err_unchanged (tbl : List MethodRec) (O : Oracles) (c : ClassOpts)
    (fields : List (String × FieldDecl)) (s s' : Attrs) (op : Op) (e : MErr)
    (htbl : SafeTbl tbl = true) (htop : TopOp op = true)
    (h : step tbl O c fields s op = (s', .err e)) : s' = s :=
  stepB_err_unchanged false false tbl O c fields s s' op e htbl (step_eq_stepB tbl op ▸ h)

theorem step_err_class (tbl : List MethodRec) (O : Oracles) (c : ClassOpts)
    (fields : List (String × FieldDecl)) (s s' : Attrs) (op : Op) (e : MErr)
    (htbl : SafeTbl tbl = true) (htop : TopOp op = true)
    (h : step tbl O c fields s op = (s', .err e)) : AllowedErr e :=
  stepB_err_class false false tbl O c fields s s' op e htbl (step_eq_stepB tbl op ▸ h)

theorem step_wf (tbl : List MethodRec) (O : Oracles) (c : ClassOpts)
    (fields : List (String × FieldDecl)) (s s' : Attrs) (op : Op) (out : Outcome)
    (hnd : strNodup (fields.map (·.1)) = true) (hwf : wfFields fields = true)
    (htbl : SafeTbl tbl = true) (htop : TopOp op = true) (hs : WfState O c fields s = true)
    (h : step tbl O c fields s op = (s', out)) : WfState O c fields s' = true :=
  stepB_wf false false tbl O c fields s s' op out hnd hwf htbl (by rw [OpOk, htop]; rfl) hs
    (step_eq_stepB tbl op ▸ h)

/-- **C03 (validated)**: after any finite history of top-level operations, failed ones included,
    the instance is well-formed -/
theorem run_wellformed (tbl : List MethodRec) (O : Oracles) (c : ClassOpts)
    (fields : List (String × FieldDecl))
    (hnd : strNodup (fields.map (·.1)) = true) (hwf : wfFields fields = true)
    (htbl : SafeTbl tbl = true) :
    ∀ (ops : List Op) (s : Attrs), ops.all TopOp = true → WfState O c fields s = true →
      WfState O c fields (run tbl O c fields s ops).1 = true :=
  run_invariant (step tbl O c fields) (run tbl O c fields) (fun _ => rfl) (fun _ _ _ => rfl)
    (fun s => WfState O c fields s = true) TopOp
    (fun s op htop hs => step_wf tbl O c fields s _ op _ hnd hwf htbl htop hs rfl)

def stateAt (tbl : List MethodRec) (O : Oracles) (c : ClassOpts) (fields : List (String × FieldDecl))
    (s : Attrs) (ops : List Op) (i : Nat) : Attrs :=
  (run tbl O c fields s (ops.take i)).1

/-- **C03 (failure-atomic)**: in any history, an operation that fails leaves the instance exactly
    as it was before that operation -/
theorem run_failures_atomic (tbl : List MethodRec) (O : Oracles) (c : ClassOpts)
    (fields : List (String × FieldDecl)) (htbl : SafeTbl tbl = true) (s : Attrs) (ops : List Op)
    (hops : ops.all TopOp = true) (i : Nat) (op : Op) (hi : ops[i]? = some op) (e : MErr)
    (h : (step tbl O c fields (stateAt tbl O c fields s ops i) op).2 = .err e) :
    (step tbl O c fields (stateAt tbl O c fields s ops i) op).1 = stateAt tbl O c fields s ops i :=
  step_err_unchanged tbl O c fields _ _ op e htbl
    (List.all_eq_true.mp hops op (List.mem_of_getElem? hi)) (Prod.ext rfl h)

theorem tables_ok : SafeTbl Generated.wrappers = true := by decide

theorem run_wellformed_current (O : Oracles) (c : ClassOpts) (fields : List (String × FieldDecl))
    (defaults : List (String × PyVal)) (hw : wfDecl (.struct c fields defaults) = true)
    (ops : List Op) (s : Attrs) (hops : ops.all TopOp = true) (hs : WfState O c fields s = true) :
    WfState O c fields (run Generated.wrappers O c fields s ops).1 = true := by
  simp only [wfDecl, Bool.and_eq_true_iff] at hw
  exact run_wellformed Generated.wrappers O c fields hw.1.1 hw.2 tables_ok ops s hops hs

def runB (bound dh : Bool) (tbl : List MethodRec) (O : Oracles) (c : ClassOpts)
    (fields : List (String × FieldDecl)) : Attrs → List Op → Attrs × List Outcome
  | s, [] => (s, [])
  | s, op :: rest =>
    let r := stepB bound dh tbl O c fields s op
    let t := runB bound dh tbl O c fields r.1 rest
    (t.1, r.2 :: t.2)

/-- **C03 (validated), nested calls included**: after any finite history of operations in `OpOk`
    the instance is well-formed -/
theorem runB_wellformed (bound dh : Bool) (tbl : List MethodRec) (O : Oracles) (c : ClassOpts)
    (fields : List (String × FieldDecl))
    (hnd : strNodup (fields.map (·.1)) = true) (hwf : wfFields fields = true)
    (htbl : SafeTbl tbl = true) :
    ∀ (ops : List Op) (s : Attrs), ops.all (OpOk bound tbl fields) = true → WfState O c fields s = true →
      WfState O c fields (runB bound dh tbl O c fields s ops).1 = true :=
  run_invariant (stepB bound dh tbl O c fields) (runB bound dh tbl O c fields) (fun _ => rfl)
    (fun _ _ _ => rfl) (fun s => WfState O c fields s = true) (OpOk bound tbl fields)
    (fun s op hop hs => stepB_wf bound dh tbl O c fields s _ op _ hnd hwf htbl hop hs rfl)

/-- **C03 (failure-atomic), every history**: whatever the operations (nested calls included, either
    binding), an operation that fails leaves the instance exactly as it was -/
theorem runB_failures_atomic (bound dh : Bool) (tbl : List MethodRec) (O : Oracles) (c : ClassOpts)
    (fields : List (String × FieldDecl)) (htbl : SafeTbl tbl = true) (s : Attrs) (ops : List Op)
    (i : Nat) (op : Op) (_hi : ops[i]? = some op) (e : MErr)
    (h : (stepB bound dh tbl O c fields (runB bound dh tbl O c fields s (ops.take i)).1 op).2 = .err e) :
    (stepB bound dh tbl O c fields (runB bound dh tbl O c fields s (ops.take i)).1 op).1
      = (runB bound dh tbl O c fields s (ops.take i)).1 :=
  stepB_err_unchanged bound dh tbl O c fields _ _ op e htbl (Prod.ext rfl h)

def FullStatement (bound dh : Bool) (tbl : List MethodRec) : Prop :=
  ∀ (O : Oracles) (c : ClassOpts) (fields : List (String × FieldDecl)),
    strNodup (fields.map (·.1)) = true → wfFields fields = true →
    ∀ (ops : List Op) (s : Attrs), WfState O c fields s = true →
      WfState O c fields (runB bound dh tbl O c fields s ops).1 = true

theorem full_statement_bound (dh : Bool) (tbl : List MethodRec) (htbl : SafeTbl tbl = true) :
    FullStatement true dh tbl := fun O c fields hnd hwf ops s hs =>
  runB_wellformed true dh tbl O c fields hnd hwf htbl ops s (List.all_eq_true.mpr fun _ _ => rfl) hs

/-- the rows of the four listed findings `unvalidated:nested-list.append`, `-deque.append`,
    `-deque.appendleft`, `-dict.__setitem__` -/
def nestedFindings : List (String × String) :=
  [("list", "append"), ("deque", "append"), ("deque", "appendleft"), ("dict", "__setitem__")]

theorem nested_exclusion_exact :
    (Generated.nestedBound ||
      Generated.wrappers.all (fun r => InertRow r || nestedFindings.contains (r.wrapper, r.method))) = true := by
  decide

theorem runB_wellformed_current (O : Oracles) (c : ClassOpts) (fields : List (String × FieldDecl))
    (defaults : List (String × PyVal)) (hw : wfDecl (.struct c fields defaults) = true)
    (ops : List Op) (s : Attrs)
    (hops : ops.all (OpOk Generated.nestedBound Generated.wrappers fields) = true)
    (hs : WfState O c fields s = true) :
    WfState O c fields (runB Generated.nestedBound Generated.delitemHook Generated.wrappers O c fields s ops).1 = true := by
  simp only [wfDecl, Bool.and_eq_true_iff] at hw
  exact runB_wellformed _ _ Generated.wrappers O c fields hw.1.1 hw.2 tables_ok ops s hops hs

theorem setattr_field_hook (O : Oracles) (c : ClassOpts) (fields : List (String × FieldDecl))
    (s s' : Attrs) (f : String) (v : PyVal) (hl : (lookup f fields).isSome = true)
    (h : setattrStep O c fields s f v = (s', .ok)) : s' = s ∨ O.hookOk s' = true :=
  (h ▸ setattr_effect (val := true) (grd := true) (hk := true) f v fun _ => hl).hook

theorem stepB_hook (bound dh : Bool) (tbl : List MethodRec) (O : Oracles) (c : ClassOpts)
    (fields : List (String × FieldDecl)) (s s' : Attrs) (op : Op) (out : Outcome)
    (htbl : SafeTbl tbl = true) (hh : HookOp dh fields op = true) (hop : OpOk bound tbl fields op = true)
    (hs : O.hookOk s = true) (h : stepB bound dh tbl O c fields s op = (s', out)) :
    O.hookOk s' = true := by
  obtain e | e : s' = s ∨ O.hookOk s' = true :=
    (h ▸ stepB_effect (val := true) (grd := true) (hk := true) bound dh op (safeTbl_row htbl)
      (fun hb r _ => opOk_nestOk hop hb r) fun _ => hh).hook
  · rw [e]; exact hs
  · exact e

/-- **C03 (hook)**: over any history of hook-running operations the class's `__validate__` hook keeps
    accepting the instance (whatever the hook is: `O.hookOk` is universally quantified) -/
theorem runB_hook_partial (bound dh : Bool) (tbl : List MethodRec) (O : Oracles) (c : ClassOpts)
    (fields : List (String × FieldDecl)) (htbl : SafeTbl tbl = true) :
    ∀ (ops : List Op) (s : Attrs),
      ops.all (fun op => HookOp dh fields op && OpOk bound tbl fields op) = true → O.hookOk s = true →
      O.hookOk (runB bound dh tbl O c fields s ops).1 = true :=
  run_invariant (stepB bound dh tbl O c fields) (runB bound dh tbl O c fields) (fun _ => rfl)
    (fun _ _ _ => rfl) (fun s => O.hookOk s = true) _
    (fun s op hop hs => by
      rw [Bool.and_eq_true] at hop
      exact stepB_hook bound dh tbl O c fields s _ op _ htbl hop.1 hop.2 hs rfl)

/-! ### the repaired tree (cbf3b48: nested wrappers re-assign their parent; 613f11f: `__delitem__`
    runs the hook).  Should a later change undo a repair, the probes flip and these theorems break. -/

theorem fixed_nested_bound_today : Generated.nestedBound = true := by decide

theorem fixed_delitem_hook_today : Generated.delitemHook = true := by decide

theorem fixed_full_statement_current :
    FullStatement Generated.nestedBound Generated.delitemHook Generated.wrappers := by
  rw [fixed_nested_bound_today]
  exact full_statement_bound _ _ tables_ok

theorem fixed_hook_invariant_current (O : Oracles) (c : ClassOpts) (fields : List (String × FieldDecl))
    (ops : List Op) (s : Attrs)
    (hops : ops.all (fun op => match op with | .setattr f _ => (lookup f fields).isSome | _ => true) = true)
    (hs : O.hookOk s = true) :
    O.hookOk (runB Generated.nestedBound Generated.delitemHook Generated.wrappers O c fields s ops).1 = true := by
  refine runB_hook_partial _ _ Generated.wrappers O c fields tables_ok ops s ?_ hs
  rw [List.all_eq_true] at hops ⊢
  intro op hop
  have h1 := hops op hop
  rw [fixed_nested_bound_today, fixed_delitem_hook_today, OpOk, Bool.true_or, Bool.true_or, Bool.and_true]
  cases op <;> first | exact h1 | rfl

/-- a mutator called on a kept reference acts on the instance as `refCallStep` on the REFERENCE's
    payload and the field the reference is bound to, whatever that field holds by then -/
theorem callRef_attrs (bound dh : Bool) (tbl : List MethodRec) (O : Oracles) (c : ClassOpts)
    (fields : List (String × FieldDecl)) (st : MState) (i : Nat) (m : NOp) (w : WRef) (r : MethodRec)
    (hw : st.refs[i]? = some w) (hr : findRec tbl w.kind m.name = some r) :
    ((stepR bound dh tbl O c fields st (.callRef i m)).1.attrs,
      (stepR bound dh tbl O c fields st (.callRef i m)).2)
      = refCallStep O c fields st.attrs w.field w.kind r m w.payload := by
  simp only [stepR, hw, hr]

/-- a mutator of a validated row called on a kept reference: a validated assignment of the mutated
    copy of the reference's payload, an atomic failure, or (conditional rows on a falsy instance) nothing -/
theorem refCall_facts (O : Oracles) (c : ClassOpts) (fields : List (String × FieldDecl))
    (s s' : Attrs) (f kind : String) (r : MethodRec) (m : NOp) (payload : PyVal) (out : Outcome)
    (hr : r.validated = true)
    (h : refCallStep O c fields s f kind r m payload = (s', out)) :
    (∃ e, out = .err e ∧ s' = s ∧ AllowedErr e) ∨
    (∃ new, setattrStep O c fields s f new = (s', out)) ∨ (out = .ok ∧ s' = s) := by
  unfold refCallStep at h
  split at h
  · split at h
    · cases h; exact Or.inl ⟨_, rfl, rfl, Or.inr (Or.inl rfl)⟩
    · split at h
      · cases h; exact Or.inl ⟨_, rfl, rfl, ofNErr_allowed _⟩
      · cases h; exact Or.inr (Or.inr ⟨rfl, rfl⟩)
  · rw [callStep_eq] at h
    rcases mutStep_cases f (applyNative kind m payload) hr with ⟨e, he, h'⟩ | ⟨new, h'⟩
    · rw [h'] at h; cases h; exact Or.inl ⟨e, rfl, rfl, he⟩
    · exact Or.inr (Or.inl ⟨new, h' ▸ h⟩)

theorem refCall_effect (f kind : String) {r : MethodRec} (m : NOp) (payload : PyVal)
    (hr : rowOk val grd r = true) :
    Effect val grd false O c fields s (refCallStep O c fields s f kind r m payload) := by
  unfold refCallStep
  split
  · split
    · exact .valueErr
    · cases applyNative kind m payload with
      | error e => exact .fail _ (ofNErr_allowed e)
      | ok _ => exact .skip
  · exact mut_effect f _ hr nofun

theorem stepR_dispatch (bound dh : Bool) (tbl : List MethodRec) (st : MState) (op : ROp)
    (Q : Attrs × Outcome → Prop)
    (hplain : ∀ o, op = .plain o → Q (stepB bound dh tbl O c fields st.attrs o))
    (hfail : ∀ e, AllowedErr e → Q (st.attrs, .err e))
    (htake : ∀ f, op = .take f → Q (st.attrs, .ok))
    (hset : ∀ f v, Q (setattrStep O c fields st.attrs f v))
    (href : ∀ f kind r m p, r ∈ tbl → Q (refCallStep O c fields st.attrs f kind r m p)) :
    Q ((stepR bound dh tbl O c fields st op).1.attrs, (stepR bound dh tbl O c fields st op).2) := by
  cases op with
  | plain o => exact hplain o rfl
  | take f =>
    simp only [stepR]
    split
    · split
      · split <;> exact htake f rfl
      · exact hfail _ attrErr_allowed
    · exact hfail _ attrErr_allowed
  | assignRef f i =>
    simp only [stepR]
    split
    · exact hfail _ attrErr_allowed
    · split
      · exact hfail _ attrErr_allowed
      · exact hset f _
  | callRef i m =>
    simp only [stepR]
    split
    · exact hfail _ attrErr_allowed
    · split
      · exact hfail _ attrErr_allowed
      · rename_i hfind
        exact href _ _ _ m _ (findRec_mem hfind)

theorem stepR_effect (bound dh : Bool) {tbl : List MethodRec} (st : MState) (op : ROp)
    (hrow : ∀ r, r ∈ tbl → rowOk val grd r = true)
    (hnest : ∀ o, op = .plain o → bound = false → ∀ r, r ∈ tbl → nestedRow tbl fields o = some r →
      nestOk val grd c r = true) :
    Effect val grd false O c fields st.attrs
      ((stepR bound dh tbl O c fields st op).1.attrs, (stepR bound dh tbl O c fields st op).2) :=
  stepR_dispatch bound dh tbl st op (Effect val grd false O c fields st.attrs)
    (fun o ho => stepB_effect bound dh o hrow (hnest o ho) nofun) .fail (fun _ _ => .skip)
    (fun f v => setattr_effect f v nofun) (fun f kind r m p hr => refCall_effect f kind m p (hrow r hr))

/-- a failed operation leaves the attributes of the instance unchanged (the kept references need
    not be: a failed `take` still appends a dead one) -/
theorem stepR_err_unchanged (bound dh : Bool) (tbl : List MethodRec) (O : Oracles) (c : ClassOpts)
    (fields : List (String × FieldDecl)) (st st' : MState) (op : ROp) (e : MErr)
    (htbl : SafeTbl tbl = true) (h : stepR bound dh tbl O c fields st op = (st', .err e)) :
    st'.attrs = st.attrs :=
  (h ▸ stepR_effect (val := false) (grd := false) bound dh st op
    (fun _ _ => Bool.or_true _) fun _ _ _ _ _ _ => Bool.or_true _).err.1

def ROpOk (bound : Bool) (tbl : List MethodRec) (fields : List (String × FieldDecl)) : ROp → Bool
  | .plain o => OpOk bound tbl fields o
  | _ => true

theorem stepR_wf (bound dh : Bool) (tbl : List MethodRec) (O : Oracles) (c : ClassOpts)
    (fields : List (String × FieldDecl)) (st st' : MState) (op : ROp) (out : Outcome)
    (hnd : strNodup (fields.map (·.1)) = true) (hwf : wfFields fields = true)
    (htbl : SafeTbl tbl = true) (hop : ROpOk bound tbl fields op = true)
    (hs : WfState O c fields st.attrs = true)
    (h : stepR bound dh tbl O c fields st op = (st', out)) : WfState O c fields st'.attrs = true :=
  (h ▸ stepR_effect (val := true) (grd := true) bound dh st op (safeTbl_row htbl)
    fun o ho hb r _ => opOk_nestOk (by subst ho; exact hop) hb r).wf hnd hwf hs

/-- **C03 with kept (possibly stale) wrapper references**: whatever references the caller keeps and
    whenever it uses them, the instance stays well-formed (plain operations as in `runB_wellformed`:
    those in `OpOk`, which is all of them once nested wrappers are bound) -/
theorem runR_wellformed (bound dh : Bool) (tbl : List MethodRec) (O : Oracles) (c : ClassOpts)
    (fields : List (String × FieldDecl))
    (hnd : strNodup (fields.map (·.1)) = true) (hwf : wfFields fields = true)
    (htbl : SafeTbl tbl = true) :
    ∀ (ops : List ROp) (st : MState), ops.all (ROpOk bound tbl fields) = true →
      WfState O c fields st.attrs = true →
      WfState O c fields (runR bound dh tbl O c fields st ops).1.attrs = true :=
  run_invariant (stepR bound dh tbl O c fields) (runR bound dh tbl O c fields) (fun _ => rfl)
    (fun _ _ _ => rfl) (fun st => WfState O c fields st.attrs = true) (ROpOk bound tbl fields)
    (fun st op hop hs => stepR_wf bound dh tbl O c fields st _ op _ hnd hwf htbl hop hs rfl)
end

def exO : Oracles := { reMatch := fun _ _ => true }
def exC : ClassOpts := { name := "A", required := ["a"], addl := false, accepts := ["A"] }
def exFields : List (String × FieldDecl) :=
  [("a", .seqOf .list (.integer { min := some ⟨0, 1⟩ }) { max := some 3 }),
   ("n", .seqOf .list (.seqOf .list (.integer {}) {}) {})]
def exStart : Attrs := [("a", .list [.int 1, .int 2]), ("n", .list [.list [.int 1]])]

theorem machine_example :
    WfState exO exC exFields exStart = true
    ∧ (step Generated.wrappers exO exC exFields exStart (.call "a" (.append (.int 3)))).2 = .ok
    ∧ (step Generated.wrappers exO exC exFields exStart (.call "a" (.append (.int (-1))))).2
        = .err .valueErr
    ∧ (step Generated.wrappers exO exC exFields exStart (.call "a" (.iadd [.int 5, .int 6]))).2
        = .err .valueErr
    ∧ (step Generated.wrappers exO exC exFields exStart (.call "a" (.delitem (.int 7)))).2
        = .err .indexErr
    ∧ (step Generated.wrappers exO exC exFields exStart (.delitem "a")).2 = .err .valueErr := by
  decide +kernel

/-- does the working tree bind nested wrappers to the scratch structure, and does the regenerated
    table make such a wrapper act in place for this row?  The counterexamples below are stated for the
    tree as probed: they are vacuous — not false — when a row has lost its `super()` call or nested
    wrappers are bound to their parent (`fixed_nested_bound_today`). -/
def liveFinding (wrapper method : String) : Bool :=
  !Generated.nestedBound && (match findRec Generated.wrappers wrapper method with
    | some r => !InertRow r | none => false)

def exFieldsN : List (String × FieldDecl) :=
  [("n", .seqOf .list (.seqOf .list (.integer {}) {}) {}),
   ("q", .seqOf .list (.seqOf .deque (.integer {}) {}) {}),
   ("m", .seqOf .list (.mapOf (.string none none none) (.integer {}) {}) {})]
def exCN : ClassOpts := { name := "A", required := [], addl := false, accepts := ["A"] }
def exStartN : Attrs :=
  [("n", .list [.list [.int 1]]), ("q", .list [.deque [.int 1]]),
   ("m", .list [.dict [(.str "a", .int 1)]])]

def Breaks (op : Op) : Bool :=
  WfState exO exCN exFieldsN exStartN
  && (stepB Generated.nestedBound Generated.delitemHook Generated.wrappers exO exCN exFieldsN exStartN op).2 == .ok
  && !WfState exO exCN exFieldsN (stepB Generated.nestedBound Generated.delitemHook Generated.wrappers exO exCN exFieldsN exStartN op).1

/-- finding `unvalidated:nested-list.append`: while the finding is live, a mutator of a wrapper
    nested inside another collection is not validated -/
theorem nested_counterexample :
    liveFinding "list" "append" = true → Breaks (.callNested "n" (.int 0) (.append (.str "bad"))) = true := by
  decide

/-- finding `unvalidated:nested-deque.append` -/
theorem nested_counterexample_deque_append :
    liveFinding "deque" "append" = true → Breaks (.callNested "q" (.int 0) (.append (.str "bad"))) = true := by
  decide

/-- finding `unvalidated:nested-deque.appendleft` -/
theorem nested_counterexample_deque_appendleft :
    liveFinding "deque" "appendleft" = true →
      Breaks (.callNested "q" (.int 0) (.appendleft (.str "bad"))) = true := by
  decide

/-- finding `unvalidated:nested-dict.__setitem__` -/
theorem nested_counterexample_dict_setitem :
    liveFinding "dict" "__setitem__" = true →
      Breaks (.callNested "m" (.int 0) (.setitem (.str "b") (.str "bad"))) = true := by
  decide

/-- the `list.append` row of the regenerated table: validated, with a `super()` call (so not inert) -/
def pinnedAppend : List MethodRec :=
  [{ wrapper := "list", method := "append", overridden := true, guard := true, reassign := true, superCall := true }]

/-- with nested wrappers scratch-bound the full statement is false of a table that has a non-inert
    row, independently of what the working tree is -/
theorem full_statement_unbound_false : ¬ FullStatement false false pinnedAppend := by
  intro h
  have := h exO exCN exFieldsN (by decide +kernel) (by decide +kernel)
    [.callNested "n" (.int 0) (.append (.str "bad"))] exStartN (by decide +kernel)
  revert this
  decide +kernel

/-- with nested wrappers bound to their parent the same call is rejected;
    a well-typed nested call is applied (scratch-bound, an `insert` is silently lost) -/
theorem nested_bound_example :
    (stepB true false Generated.wrappers exO exCN exFieldsN exStartN
        (.callNested "n" (.int 0) (.append (.str "bad")))).2 = .err .typeErr
    ∧ (match (stepB true false Generated.wrappers exO exCN exFieldsN exStartN
        (.callNested "n" (.int 0) (.insert 0 (.int 7)))) with
        | (("n", .list [.list [.int 7, .int 1]]) :: _, .ok) => true | _ => false) = true
    ∧ (match (stepB false false Generated.wrappers exO exCN exFieldsN exStartN
        (.callNested "n" (.int 0) (.insert 0 (.int 7)))) with
        | (("n", .list [.list [.int 1]]) :: _, .ok) => true | _ => false) = true := by
  decide +kernel

def exFieldsD : List (String × FieldDecl) :=
  [("d", .seqOf .list (.seqOf .list (.seqOf .list (.integer {}) {}) {}) {})]
def exStartD : Attrs := [("d", .list [.list [.list [.int 1]]])]

/-- nesting depth 2 (`x.d[0][0].insert(0, v)`, the path is the key `.list [0, 0]`): silently lost when
    scratch-bound, applied and validated when bound; a path that leaves the value is the
    container's IndexError -/
theorem nested_depth2_example :
    (match (stepB false false Generated.wrappers exO exCN exFieldsD exStartD
        (.callNested "d" (.list [.int 0, .int 0]) (.insert 0 (.int 7)))) with
      | ([("d", .list [.list [.list [.int 1]]])], .ok) => true | _ => false) = true
    ∧ (match (stepB true false Generated.wrappers exO exCN exFieldsD exStartD
        (.callNested "d" (.list [.int 0, .int 0]) (.insert 0 (.int 7)))) with
      | ([("d", .list [.list [.list [.int 7, .int 1]]])], .ok) => true | _ => false) = true
    ∧ (stepB true false Generated.wrappers exO exCN exFieldsD exStartD
        (.callNested "d" (.list [.int 0, .int 0]) (.append (.str "bad")))).2 = .err .typeErr
    ∧ (stepB false false Generated.wrappers exO exCN exFieldsD exStartD
        (.callNested "d" (.list [.int 0, .int 3]) (.append (.int 1)))).2 = .err .indexErr := by
  decide +kernel

/-- a kept reference that went stale: `w = x.a; x.a = [0, 0, 0]; w.append(3)` assigns the
    REFERENCE's content plus 3 (validated; the intermediate assignment is overwritten), and an
    ill-typed append through the stale reference is rejected leaving everything as it was -/
theorem stale_reference_example :
    (match (runR false false Generated.wrappers exO exC exFields { attrs := exStart }
        [.take "a", .plain (.setattr "a" (.list [.int 0, .int 0, .int 0])), .callRef 0 (.append (.int 3)),
         .callRef 0 (.append (.int (-1)))]) with
      | (⟨("a", .list [.int 1, .int 2, .int 3]) :: _, [⟨"a", "list", .list [.int 1, .int 2, .int 3], _⟩], _, _⟩,
          [.ok, .ok, .ok, .err .valueErr]) => true
      | _ => false) = true := by
  decide +kernel

/-- slices and `sort(key=, reverse=)` go through the same validated assignment -/
theorem slice_sort_example :
    (match (run Generated.wrappers exO exC exFields exStart
        [.call "a" (.setslice (some 0) (some 1) none [.int 5, .int 6]),      -- [5, 6, 2]
         .call "a" (.setslice none none none [.int 1, .int 2, .int 3, .int 4]),  -- maxItems = 3
         .call "a" (.setslice (some 0) (some 1) none [.int (-1)]),            -- minimum = 0
         .call "a" (.sortWith "neg" false),                                     -- [6, 5, 2]
         .call "a" (.delslice none none (some 2)),                              -- [5]
         .call "a" (.setslice none none (some (-1)) [.int 1, .int 2])]) with   -- size mismatch
      | (("a", .list [.int 5]) :: _, [.ok, .err .valueErr, .err .valueErr, .ok, .ok, .err .valueErr]) => true
      | _ => false) = true := by
  decide +kernel

def exOHook : Oracles := { reMatch := fun _ _ => true, hookOk := fun st => (lookup "a" st).isSome }
def exCOpt : ClassOpts := { name := "A", required := [], addl := false, accepts := ["A"] }

/-- finding `unvalidated:hook:delitem`: without the hook-running deletion (`step`, i.e. `dh = false`)
    `del x[f]` succeeds and leaves an instance its own hook rejects -/
theorem delitem_skips_hook :
    exOHook.hookOk exStart = true
    ∧ (step Generated.wrappers exOHook exCOpt exFields exStart (.delitem "a")).2 = .ok
    ∧ exOHook.hookOk (step Generated.wrappers exOHook exCOpt exFields exStart (.delitem "a")).1 = false
    -- … and with the hook-running deletion the same operation is refused atomically
    ∧ (stepB false true Generated.wrappers exOHook exCOpt exFields exStart (.delitem "a")).2 = .err .valueErr := by
  decide +kernel

end Typedpy.C03
