/-
  The induction behind C10's `trusted_equiv_partial`: on the proved region
  (`tsafeCls`, `plainDoc`) the trusted branch builds, field by field, the instance the regular
  path builds (up to attributes holding None and set vs frozenset), and both serialize alike.

  The statement for one field is `TvalEq` (it delivers `FEq`).  Each kind of field has a lemma of
  its own (`feq_…`, `class_equiv`, `topt_of`, `tfields_of`) that takes the statement for the parts
  of the declaration as a hypothesis; `tval_equiv` puts them together by `FieldDecl.induction`.
  An Array and a Set are read element by element (`tElem`).  The class level (`class_equiv`) serves a
  field and, in `trusted_equiv_core`, the class at the top: there the classifier's verdict may make
  the branch skip `_remap_input`, which computes the same entries (`tFields_lvl`).  That validation
  leaves a scalar or an Enum member as it is, is the constructor theorem `validate_raw_id`
  (Lemmas/TrustedCtor); `ArgsOf` and `AttrsEq` are what the class level and the field loop hand each other.
-/
import TypedpyModel.Lemmas.TrustedCtor
import TypedpyModel.Lemmas.Optional
namespace Typedpy
open PyVal (pyEq pyMem pyNodup)

theorem noMappers_apply (n : String) : noMappers n = .none := rfl

theorem mapE_id_of {g : PyVal → R PyVal} (xs ys : List PyVal)
    (hg : ∀ x ∈ xs, ∀ y, g x = .ok y → y = x) (h : mapE g xs = .ok ys) : ys = xs :=
  Pointwise.eq_self.1 ((mapE_eq_ok_iff.1 h).imp fun x hx y _ => hg x hx y)

theorem mapE_map {α β γ} (g : β → R γ) (h : α → β) : ∀ xs : List α,
    mapE g (xs.map h) = mapE (fun x => g (h x)) xs
  | [] => rfl
  | x :: xs => by simp only [List.map_cons, mapE, mapE_map g h xs]

theorem mapE_ok_id {g : PyVal → R PyVal} (xs : List PyVal) (h : ∀ x ∈ xs, g x = .ok x) : mapE g xs = .ok xs :=
  mapE_eq_ok_iff.2 ((Pointwise.eq_self.2 rfl).imp fun x hx _ _ e => e ▸ h x hx)

theorem isArrScalar_not_ref (f : FieldDecl) (h : isArrScalar f = true) :
    isClassRef f = false ∧ isEnumDecl f = false := by
  cases f <;> simp [isArrScalar] at h <;> exact ⟨rfl, rfl⟩

theorem isEnumDecl_not_ref (f : FieldDecl) (h : isEnumDecl f = true) : isClassRef f = false := by
  cases f <;> simp [isEnumDecl] at h <;> rfl

theorem item_not_ref (f : FieldDecl) (h : isArrScalar f = true ∨ isEnumDecl f = true) : isClassRef f = false :=
  h.elim (fun h => (isArrScalar_not_ref f h).1) (isEnumDecl_not_ref f)

theorem isSetScalarOk_arrScalar (f : FieldDecl) (h : isSetScalarOk f = true) : isArrScalar f = true := by
  cases f <;> first | rfl | cases h

theorem isNoneF_eq (f : FieldDecl) (h : isNoneF f = true) : f = .noneF := by
  cases f <;> simp [isNoneF] at h; rfl

theorem isNoneF_of_ne {f : FieldDecl} (h : f ≠ .noneF) : isNoneF f = false := by
  cases f <;> first | rfl | exact absurd rfl h

theorem deser_scalar_id (O : Oracles) (opts : DeserOpts) (ign : Bool) (f : FieldDecl) (x w : PyVal)
    (hf : isArrScalar f = true ∨ isRawScalar f = true) (h : deser O opts ign f x = .ok w) : w = x := by
  have aux : ∀ (chk : R PyVal), (if x.isNone && ign then Except.ok x else dValidated chk x) = .ok w → w = x := by
    intro chk h
    split at h
    · cases h; rfl
    · unfold dValidated at h; split at h <;> first | (cases h; rfl) | cases h
  cases f <;> simp [isArrScalar, isRawScalar] at hf <;> unfold deser at h
  all_goals first
    | exact aux _ h
    | (split at h <;> first | (cases h; rfl) | cases h)

theorem plain_rawOk_scalar (opts : DeserOpts) (f : FieldDecl) (x : PyVal)
    (hf : isArrScalar f = true ∨ isRawScalar f = true) (hp : plainV opts f x = true) : rawOkV f x = true := by
  cases f <;> first | (rcases hf with h | h <;> cases h; done) | rfl | exact hp

theorem tnorm_isNone (v : PyVal) : (tnorm v).isNone = v.isNone := by
  cases v <;> rfl

theorem isNone_of_tnorm_eq {a b : PyVal} (h : tnorm a = tnorm b) : a.isNone = b.isNone := by
  rw [← tnorm_isNone a, ← tnorm_isNone b, h]

theorem tnormList_eq_map : ∀ xs : List PyVal, tnormList xs = xs.map tnorm
  | [] => rfl
  | x :: xs => by rw [tnormList, List.map_cons, tnormList_eq_map xs]

theorem lookup_none_or_nonNone (n : String) (doc : List (String × PyVal)) :
    (∀ v, lookup n doc = some v → v.isNone = true) ∨ ∃ v, lookup n doc = some v ∧ v.isNone = false := by
  cases hd : lookup n doc with
  | none => exact Or.inl nofun
  | some v =>
    cases hv : v.isNone with
    | true => exact Or.inl fun _ h => by cases h; exact hv
    | false => exact Or.inr ⟨v, rfl, hv⟩

theorem key_ne_of_mem {α} {k : String} {l : List (String × α)} (h : (l.map (·.1)).contains k = false)
    {p : String × α} (hp : p ∈ l) : (p.1 == k) = false :=
  beq_false_of_ne fun e => Bool.false_ne_true
    (h.symm.trans (List.contains_iff_mem.mpr (e ▸ List.mem_map_of_mem (f := (·.1)) hp)))

theorem lookup_of_mem_nodup {α} (l : List (String × α)) (h : strNodup (l.map (·.1)) = true)
    (p : String × α) (hp : p ∈ l) : lookup p.1 l = some p.2 :=
  lookup_of_mem ((strNodup_iff _).mp h) hp

/-- `args` are the keyword arguments `construct_fields_map` computes from the document `doc`, as far
    as the constructor's lookup by field name sees them -/
structure ArgsOf (O : Oracles) (opts : DeserOpts) (c : ClassOpts) (fields : List (String × FieldDecl))
    (doc args : List (String × PyVal)) : Prop where
  absent : ∀ n, (∀ v, lookup n doc = some v → v.isNone = true) → lookup n args = none
  present : ∀ n f v, lookup n fields = some f → lookup n doc = some v → v.isNone = false →
    ∃ y, deser O opts c.ignoreNone f v = .ok y ∧ lookup n args = some y

theorem deserFields_spec (O : Oracles) (opts : DeserOpts) (c : ClassOpts) (doc : List (String × PyVal)) :
    ∀ (fields : List (String × FieldDecl)) (args : List (String × PyVal)),
      deserFields O opts c doc fields false = .ok args →
      (∀ a ∈ args, (fields.map (·.1)).contains a.1 = true) ∧ ArgsOf O opts c fields doc args
  | [], args, h => by
    simp [deserFields] at h
    subst h
    exact ⟨by simp, fun _ _ => rfl, fun n f v hl => by simp [lookup] at hl⟩
  | (name, g) :: rest, args, h => by
    simp only [deserFields] at h
    rcases lookup_none_or_nonNone name doc with hsk | ⟨v0, hd, hn0'⟩
    · have h' : deserFields O opts c doc rest false = .ok args := by
        cases hd : lookup name doc with
        | none => simpa only [hd] using h
        | some v0 => simpa only [hd, hsk v0 hd, if_true] using h
      rcases deserFields_spec O opts c doc rest args h' with ⟨h1, h2, h3⟩
      refine ⟨fun a ha => ?_, h2, fun n f v hl hdv hnn => ?_⟩
      · simp only [List.map_cons, List.contains_cons, Bool.or_eq_true]
        exact Or.inr (h1 a ha)
      · simp only [lookup] at hl
        by_cases hk : (n == name) = true
        · have : n = name := by simpa using hk
          subst this; rw [hsk v hdv] at hnn; cases hnn
        · simp only [hk, Bool.false_eq_true, if_false] at hl
          exact h3 n f v hl hdv hnn
    · simp only [hd, hn0', Bool.false_eq_true, if_false] at h
      cases hy : deser O opts c.ignoreNone g v0 with
      | error e => simp [hy] at h
      | ok y =>
        simp only [hy] at h
        rcases bindE_eq_ok h with ⟨ys, hr, hc⟩
        cases hc
        rcases deserFields_spec O opts c doc rest ys hr with ⟨h1, h2, h3⟩
        refine ⟨fun a ha => ?_, fun n hnone => ?_, fun n f v hl hdv hnn => ?_⟩
        · simp only [List.mem_cons] at ha
          simp only [List.map_cons, List.contains_cons, Bool.or_eq_true]
          rcases ha with ha | ha
          · left; subst ha; simp
          · exact Or.inr (h1 a ha)
        · simp only [lookup]
          by_cases hk : (n == name) = true
          · have : n = name := by simpa using hk
            subst this
            have := hnone v0 hd
            rw [hn0'] at this; cases this
          · simp only [hk, Bool.false_eq_true, if_false]
            exact h2 n hnone
        · simp only [lookup] at hl ⊢
          by_cases hk : (n == name) = true
          · have : n = name := by simpa using hk
            subst this
            simp only [hk, if_true, Option.some.injEq] at hl ⊢
            subst hl
            rw [hd] at hdv; cases hdv
            exact ⟨y, hy, rfl⟩
          · simp only [hk, Bool.false_eq_true, if_false] at hl ⊢
            exact h3 n f v hl hdv hnn

section
variable (O : Oracles) (opts : DeserOpts)

/-- serializer of one attribute, as `ser` of a class applies it -/
abbrev serAttr (fields : List (String × FieldDecl)) : String × PyVal → R (PyVal × PyVal) :=
  fun a => bindE (serField O fields a.1 a.2) fun j => .ok (PyVal.str a.1, j)

/-- attribute lists that `Structure.__eq__` and the serializer of the class cannot tell apart -/
structure AttrsEq (fields : List (String × FieldDecl)) (attrs' attrs : List (String × PyVal)) : Prop where
  tnormEq : tnormAttrs attrs' = tnormAttrs attrs
  serEq : mapE (serAttr O fields) (attrs'.filter fun a => !a.2.isNone)
    = mapE (serAttr O fields) (attrs.filter fun a => !a.2.isNone)

theorem AttrsEq.nil (fields : List (String × FieldDecl)) : AttrsEq O fields [] [] := ⟨rfl, rfl⟩

/-- an attribute holding None reads like an unset one -/
theorem AttrsEq.none {fields : List (String × FieldDecl)} {a' a : List (String × PyVal)} (n : String)
    (h : AttrsEq O fields a' a) : AttrsEq O fields ((n, .none) :: a') a := ⟨h.tnormEq, h.serEq⟩

theorem AttrsEq.cons {fields : List (String × FieldDecl)} {a' a : List (String × PyVal)} {n : String}
    {f : FieldDecl} {u' u : PyVal} (hlk : lookup n fields = some f) (hu : u.isNone = false)
    (e3 : tnorm u' = tnorm u) (e4 : ser O f u' = ser O f u) (h : AttrsEq O fields a' a) :
    AttrsEq O fields ((n, u') :: a') ((n, u) :: a) := by
  have hu' : u'.isNone = false := by rw [isNone_of_tnorm_eq e3]; exact hu
  refine ⟨by simp [tnormAttrs, hu', hu, e3, h.tnormEq], ?_⟩
  have g3 := h.serEq
  simp only [List.filter, hu', hu, Bool.not_false]
  simp only [mapE, serAttr, serField_lookup O n u' f fields hlk, serField_lookup O n u f fields hlk, e4]
  rw [g3]

/-- what the induction establishes for the value `v` of a field `f`, regular result `u`.  The shallow
    check (by which `serFirst` chooses the option of an enclosing `AnyOf`) agrees on both results except
    for an ImmutableSet, which refuses the plain set the trusted branch stores. -/
def FEq (b : Bool) (f : FieldDecl) (v u : PyVal) : Prop :=
  ∃ v' u', enumPre f v = .ok v' ∧ tVal noMappers b f v' = .ok u' ∧ tnorm u' = tnorm u
    ∧ ser O f u' = ser O f u ∧ (isSetDecl f = false → shallowOk O f u' = shallowOk O f u)
    ∧ u.isNone = false

theorem feq_scalar (ign : Bool) (f : FieldDecl) (v w u : PyVal)
    (hf : isArrScalar f = true ∨ isRawScalar f = true) (hp : plainV opts f v = true)
    (hn : v.isNone = false) (hd : deser O opts ign f v = .ok w) (hv : validate O f w = .ok u) :
    FEq O true f v u := by
  have hw := deser_scalar_id O opts ign f v w hf hd
  subst hw
  have hu := validate_raw_id O f w u (plain_rawOk_scalar opts f w hf hp) hv
  subst hu
  have hst : enumPre f u = .ok u ∧ tVal noMappers true f u = .ok u := by
    cases f <;> first | (rcases hf with h | h <;> cases h; done) | exact ⟨rfl, rfl⟩
  exact ⟨u, u, hst.1, hst.2, rfl, rfl, fun _ => rfl, hn⟩

/-- `_get_enum_mapping` replaces a name by its member only when the value is truthy: a member named `""`
    would stay a string, hence `hs` (the exclusion `enum:empty-name` of `tsafeD`) -/
theorem feq_enumCls (ign : Bool) (cls : String) (names : List String) (v w u : PyVal)
    (hs : names.contains "" = false) (hp : isStrV v = true)
    (hd : deser O opts ign (.enumCls cls names) v = .ok w)
    (hv : validate O (.enumCls cls names) w = .ok u) : FEq O true (.enumCls cls names) v u := by
  cases v <;> simp [isStrV] at hp
  rename_i n
  rw [deser_enumCls, noneGuard_eq rfl] at hd
  simp only [dEnumCls] at hd
  split at hd
  · rename_i hc
    cases hd
    obtain rfl := validate_raw_id O _ _ u rfl hv
    have hne : n.isEmpty = false := by
      cases he : n.isEmpty with
      | false => rfl
      | true =>
        have := String.isEmpty_iff.mp he
        subst this
        rw [hc] at hs; cases hs
    refine ⟨.enumv cls n, .enumv cls n, ?_, ?_, rfl, rfl, fun _ => rfl, rfl⟩
    · simp only [enumPre, enumPreD, truthy, hne, Bool.not_false, if_true, enumByName, hc]
    · unfold tVal
      simp
  · cases hd

theorem arr_inv (ign : Bool) (item : FieldDecl) (sz : SizeOpts) (v w u : PyVal)
    (hp : plainV opts (.seqOf .list item sz) v = true)
    (hd : deser O opts ign (.seqOf .list item sz) v = .ok w)
    (hv : validate O (.seqOf .list item sz) w = .ok u) :
    ∃ xs ws us, v = .list xs ∧ (∀ x ∈ xs, plainV opts item x = true)
      ∧ mapE (deser O opts false item) xs = .ok ws ∧ mapE (validate O item) ws = .ok us
      ∧ u = .list us := by
  unfold plainV at hp
  cases v <;> try cases hp
  rename_i xs
  rw [deser_seqOf, noneGuard_eq rfl] at hd
  obtain ⟨_, ws, hx, h1, h2⟩ := dSeq_eq_ok_iff.1 hd
  cases hx; cases h2
  rcases vSeq_eq_ok hv with ⟨_, us, hse, h3, rfl⟩
  cases hse
  exact ⟨xs, ws, us, rfl, List.all_eq_true.mp hp, toValueErr_eq_ok_iff.1 h1, h3, rfl⟩

theorem set_inv (ign imm : Bool) (item : FieldDecl) (sz : SizeOpts) (v w u : PyVal)
    (hp : plainV opts (.setOf imm item sz) v = true)
    (hd : deser O opts ign (.setOf imm item sz) v = .ok w)
    (hv : validate O (.setOf imm item sz) w = .ok u) :
    ∃ xs ws us, v = .list xs ∧ (∀ x ∈ xs, plainV opts item x = true)
      ∧ mapE (deser O opts false item) xs = .ok ws ∧ ws.any unhashable = false
      ∧ mapE (validate O item) (dedup ws) = .ok us ∧ u = .set imm (dedup us) := by
  unfold plainV at hp
  cases v <;> try cases hp
  rename_i xs
  rw [deser_setOf, noneGuard_eq rfl] at hd
  obtain ⟨_, ws, hx, h1, h2⟩ := dSeq_eq_ok_iff.1 hd
  cases hx
  obtain ⟨hany, rfl⟩ := mkSet_eq_ok_iff.1 h2
  rcases vSet_eq_ok hv with ⟨_, _, us, hse, h3, rfl⟩
  cases hse
  exact ⟨xs, ws, us, rfl, List.all_eq_true.mp hp, toValueErr_eq_ok_iff.1 h1, hany, h3, by rw [Bool.false_or]⟩

theorem enum_deser_eq (item : FieldDecl) (x : PyVal) (hE : isEnumDecl item = true) :
    enumDeser item x = deser O opts false item x := by
  cases item <;> simp [isEnumDecl] at hE <;> (unfold deser; simp [enumDeser])

theorem enum_deser_res (item : FieldDecl) (x w : PyVal) (hE : isEnumDecl item = true)
    (hp : plainV opts item x = true) (hd : deser O opts false item x = .ok w) : rawOkV item w = true := by
  cases item <;> simp [isEnumDecl] at hE
  · rfl
  · unfold plainV at hp
    cases x <;> simp [isStrV] at hp
    rw [deser_enumCls, noneGuard_eq rfl] at hd
    simp only [dEnumCls] at hd
    split at hd
    · cases hd; rfl
    · cases hd

/-- what `_remap_input` does to one element of an Array or a Set of `item`s: a class-level object goes
    through the nested trusted branch, an Enum through `Enum.deserialize`, anything else is kept -/
def tElem (Mp : MapEnv) (item : FieldDecl) : PyVal → R PyVal :=
  if isClassRef item then tVal Mp false item else if isEnumDecl item then enumDeser item else .ok

theorem tVal_arr (Mp : MapEnv) (b : Bool) (item : FieldDecl) (sz : SizeOpts) (xs : List PyVal) :
    tVal Mp b (.seqOf .list item sz) (.list xs) = bindE (mapE (tElem Mp item) xs) fun ys => .ok (.list ys) := by
  unfold tVal tElem
  by_cases hc : isClassRef item = true
  · simp only [hc, if_true, pyList]
  · by_cases hE : isEnumDecl item = true
    · simp only [hc, hE, Bool.false_eq_true, if_true, if_false, pyList]
    · simp only [hc, hE, Bool.false_eq_true, if_false, mapE_ok_id xs (g := .ok) fun _ _ => rfl, bindE_ok]

theorem tVal_set (Mp : MapEnv) (b imm : Bool) (item : FieldDecl) (sz : SizeOpts) (xs : List PyVal) :
    tVal Mp b (.setOf imm item sz) (.list xs) = bindE (mapE (tElem Mp item) xs) fun ys =>
      if ys.any unhashable then .error .typeErr else .ok (.set false (dedup ys)) := by
  unfold tVal tElem
  by_cases hE : isEnumDecl item = true
  · simp only [hE, isEnumDecl_not_ref item hE, Bool.false_eq_true, if_true, if_false, pySet]
  · by_cases hc : isClassRef item = true
    · simp only [hE, hc, Bool.false_eq_true, if_true, if_false, pySet]
    · simp only [hE, hc, Bool.false_eq_true, if_false, pySet, mapE_ok_id xs (g := .ok) fun _ _ => rfl]

/-- a scalar or Enum element: the trusted branch stores what the regular path reads, and validation
    keeps it -/
theorem tElem_eq_deser (Mp : MapEnv) (item : FieldDecl) (x w : PyVal)
    (hi : isArrScalar item = true ∨ isEnumDecl item = true) (hp : plainV opts item x = true)
    (hd : deser O opts false item x = .ok w) : tElem Mp item x = .ok w ∧ rawOkV item w = true := by
  rcases hi with hi | hE
  · obtain rfl := deser_scalar_id O opts false item x w (Or.inl hi) hd
    refine ⟨?_, plain_rawOk_scalar opts item w (Or.inl hi) hp⟩
    simp only [tElem, (isArrScalar_not_ref item hi).1, (isArrScalar_not_ref item hi).2, Bool.false_eq_true, if_false]
  · refine ⟨?_, enum_deser_res O opts item x w hE hp hd⟩
    simp only [tElem, isEnumDecl_not_ref item hE, hE, Bool.false_eq_true, if_false, if_true,
      enum_deser_eq O opts item x hE, hd]

theorem list_equiv (item : FieldDecl) (xs ws us : List PyVal)
    (H : ∀ x ∈ xs, ∀ w u, deser O opts false item x = .ok w → validate O item w = .ok u →
        ∃ u', tElem noMappers item x = .ok u' ∧ tnorm u' = tnorm u ∧ ser O item u' = ser O item u)
    (h1 : mapE (deser O opts false item) xs = .ok ws) (h2 : mapE (validate O item) ws = .ok us) :
    ∃ us', mapE (tElem noMappers item) xs = .ok us' ∧ tnormList us' = tnormList us
      ∧ mapE (ser O item) us' = mapE (ser O item) us := by
  -- the two regular passes as one relation between `xs` and `us`, then the trusted result element by element
  have h := Pointwise.comp_iff.1 ⟨ws, mapE_eq_ok_iff.1 h1, mapE_eq_ok_iff.1 h2⟩
  obtain ⟨us', g1, g2⟩ := Pointwise.comp_iff.2 (h.imp fun x hx u _ ⟨w, hw, hu⟩ => H x hx w u hw hu)
  exact ⟨us', mapE_eq_ok_iff.2 g1, by rw [tnormList_eq_map, tnormList_eq_map, (g2.imp fun _ _ _ _ h => h.1).map_eq],
    (g2.imp fun _ _ _ _ h => h.2).mapE_eq⟩

theorem feq_arr (ign : Bool) (item : FieldDecl) (sz : SizeOpts) (v w u : PyVal)
    (hp : plainV opts (.seqOf .list item sz) v = true)
    (hd : deser O opts ign (.seqOf .list item sz) v = .ok w)
    (hv : validate O (.seqOf .list item sz) w = .ok u)
    (H : ∀ x, plainV opts item x = true → ∀ w u, deser O opts false item x = .ok w → validate O item w = .ok u →
        ∃ u', tElem noMappers item x = .ok u' ∧ tnorm u' = tnorm u ∧ ser O item u' = ser O item u) :
    FEq O true (.seqOf .list item sz) v u := by
  rcases arr_inv O opts ign item sz v w u hp hd hv with ⟨xs, ws, us, rfl, hpx, h1, h3, rfl⟩
  rcases list_equiv O opts item xs ws us (fun x hx => H x (hpx x hx)) h1 h3 with ⟨us', g1, g2, g3⟩
  refine ⟨.list xs, .list us', rfl, ?_, ?_, ?_, fun _ => ?_, rfl⟩
  · rw [tVal_arr, g1]; rfl
  · simp [tnorm, g2]
  · simp [ser, sSeq, seqLike, g3]
  · simp [shallowOk, seqElems]

/-- a Set of scalars or Enums: the trusted branch builds the plain set of the elements `ws` it read,
    the regular path the (frozen)set of the same elements -/
theorem feq_set (ign imm : Bool) (item : FieldDecl) (sz : SizeOpts) (v w u : PyVal)
    (hi : isArrScalar item = true ∨ isEnumDecl item = true) (hp : plainV opts (.setOf imm item sz) v = true)
    (hd : deser O opts ign (.setOf imm item sz) v = .ok w)
    (hv : validate O (.setOf imm item sz) w = .ok u) : FEq O true (.setOf imm item sz) v u := by
  rcases set_inv O opts ign imm item sz v w u hp hd hv with ⟨xs, ws, us, rfl, hpx, h1, hany, h3, rfl⟩
  have hel := (mapE_eq_ok_iff.1 h1).imp fun x hx w _ hd => tElem_eq_deser O opts noMappers item x w hi (hpx x hx) hd
  have htr : mapE (tElem noMappers item) xs = .ok ws := mapE_eq_ok_iff.2 (hel.imp fun _ _ _ _ h => h.1)
  obtain rfl : us = dedup ws := mapE_id_of (dedup ws) us (fun y hy u hu =>
    let ⟨_, _, hxy⟩ := hel.mem_right y (c01_mem_dedup ws y hy)
    validate_raw_id O item y u hxy.2 hu) h3
  rw [dedup_idem]
  refine ⟨.list xs, .set false (dedup ws), rfl, ?_, ?_, ?_, fun h => by simp only [isSetDecl] at h; subst h; rfl, rfl⟩
  · simp only [tVal_set, htr, bindE_ok, hany, Bool.false_eq_true, if_false]
  · simp [tnorm]
  · simp [ser, sSeq, seqLike]

/-- an option of a non-optional `AnyOf` in the proved region -/
def rawOrNone (g : FieldDecl) : Bool := isRawScalar g || isNoneF g

/-- the condition `tsafeFields` puts on one field -/
def tsafeTop (f : FieldDecl) : Bool :=
  match f with
  | .anyOf fs => if isOptAnyOf fs then tsafeOpt fs else fs.all rawOrNone
  | g => tsafeD g

theorem tsafeFields_cons (n : String) (f : FieldDecl) (rest : List (String × FieldDecl)) :
    tsafeFields ((n, f) :: rest) = (tsafeTop f && tsafeFields rest) := by
  cases f <;> rfl

theorem tsafeTop_of_D (f : FieldDecl) (h : tsafeD f = true) : tsafeTop f = true := by
  cases f <;> first | exact h | cases h

/-- the flag of `tVal` only matters at an `AnyOf`, which `tsafeD` excludes -/
theorem tVal_false_of_D (Mp : MapEnv) {f : FieldDecl} (h : tsafeD f = true) : tVal Mp false f = tVal Mp true f := by
  funext v
  cases f <;> first | rfl | cases h | (rename_i k _ _; cases k <;> rfl)

theorem plainAll_mem {fs : List FieldDecl} {v : PyVal} (hp : plainAll opts fs v = true) :
    ∀ f ∈ fs, plainV opts f v = true := by
  induction fs with
  | nil => exact fun _ h => nomatch h
  | cons g gs ih =>
    simp only [plainAll, Bool.and_eq_true_iff] at hp
    exact List.forall_mem_cons.mpr ⟨hp.1, ih hp.2⟩

theorem isNoneF_noneF' : isNoneF .noneF = true := rfl

/-! ### `Optional[x]` on the trusted branch (`OptOf`: Lemmas/Optional) -/

namespace OptOf
variable {fs : List FieldDecl} {x : FieldDecl}

theorem isOpt (h : OptOf fs x) : isOptAnyOf fs = true := by
  cases h <;> simp [isOptAnyOf, isNoneF_noneF']

theorem pick (h : OptOf fs x) : optPick fs = x := by
  cases h with
  | fst => simp only [optPick, isNoneF_noneF', if_true]
  | snd y hy => simp only [optPick, isNoneF_of_ne hy, Bool.false_eq_true, if_false]

theorem tHead (h : OptOf fs x) (Mp : MapEnv) (v : PyVal) : tHead Mp fs v = tVal Mp false x v := by
  cases h with
  | fst => simp only [Typedpy.tHead, isNoneF_noneF', if_true]
  | snd y hy => simp only [Typedpy.tHead, isNoneF_of_ne hy, Bool.false_eq_true, if_false]

theorem tVal (h : OptOf fs x) (Mp : MapEnv) (v : PyVal) :
    tVal Mp true (.anyOf fs) v = Typedpy.tVal Mp false x v := by
  show (if true && isOptAnyOf fs then Typedpy.tHead Mp fs v else .ok v) = _
  simp only [h.isOpt, Bool.and_self, if_true, h.tHead]

theorem enumPre (h : OptOf fs x) (v : PyVal) : enumPre (.anyOf fs) v = enumPreD x v := by
  simp only [Typedpy.enumPre, h.isOpt, if_true, h.pick]

theorem tsafeOpt (h : OptOf fs x) : tsafeOpt fs = (tsafeD x && !isSetDecl x) := by
  cases h with
  | fst => simp only [Typedpy.tsafeOpt, isNoneF_noneF', Bool.true_and, Bool.not_true, Bool.and_false, Bool.false_and,
      Bool.or_false]
  | snd y hy => simp only [Typedpy.tsafeOpt, tsafeOptTail, isNoneF_of_ne hy, isNoneF_noneF', Bool.false_and,
      Bool.false_or, Bool.true_and, Bool.not_false]

theorem defectsHead (h : OptOf fs x) : defectsHead fs = defectsD x := by
  cases h with
  | fst => simp only [Typedpy.defectsHead, isNoneF_noneF', if_true]
  | snd y hy => simp only [Typedpy.defectsHead, isNoneF_of_ne hy, Bool.false_eq_true, if_false]

end OptOf

/-- what `_is_optional_anyof` accepts is an Optional (the converse is `OptOf.isOpt`) -/
theorem optOf_of_isOpt : ∀ fs : List FieldDecl, isOptAnyOf fs = true → ∃ x, OptOf fs x
  | [x, y], h => by
    cases hy : isNoneF y with
    | true => rw [isNoneF_eq y hy]; exact ⟨x, .fst x⟩
    | false =>
      have hx : isNoneF x = true := by
        simp only [isOptAnyOf, List.any_cons, List.any_nil, hy, Bool.or_false, Bool.and_eq_true] at h
        exact h.2
      rw [isNoneF_eq x hx]; exact ⟨y, .snd y (fun e => by subst e; cases hy)⟩
  | [], h | [_], h | _ :: _ :: _ :: _, h => nomatch h

theorem tsafeOpt_optOf : ∀ fs : List FieldDecl, tsafeOpt fs = true →
    ∃ x, OptOf fs x ∧ tsafeD x = true ∧ isSetDecl x = false
  | [x, y], h => by
    simp only [tsafeOpt, tsafeOptTail, Bool.or_eq_true, Bool.and_eq_true_iff, Bool.not_eq_true'] at h
    rcases h with h | h
    · rw [isNoneF_eq y h.1.1]; exact ⟨x, .fst x, h.1.2, h.2⟩
    · rw [isNoneF_eq x h.1.1]; exact ⟨y, .snd y (fun e => by subst e; cases h.1.2), h.2.1, h.2.2⟩
  | [], h | [_], h | _ :: _ :: _ :: _, h => nomatch h

theorem tsafeOpt_isOpt (fs : List FieldDecl) (h : tsafeOpt fs = true) : isOptAnyOf fs = true := by
  rcases tsafeOpt_optOf fs h with ⟨x, ho, _⟩
  exact ho.isOpt

theorem rawOrNone_scalar (g : FieldDecl) (h : rawOrNone g = true) :
    isArrScalar g = true ∨ isRawScalar g = true := by
  simp only [rawOrNone, Bool.or_eq_true] at h
  rcases h with h | h
  · exact Or.inr h
  · rw [isNoneF_eq g h]; exact Or.inl rfl

theorem deserAny_raw_id (fs : List FieldDecl) (v w : PyVal) (hs : fs.all rawOrNone = true)
    (h : deserAny O opts fs v = .ok w) : w = v :=
  deserAny_ok_of O opts (P := (· = v)) fs v w
    (fun f hf w hw => deser_scalar_id O opts false f v w (rawOrNone_scalar f (List.all_eq_true.mp hs f hf)) hw) h

theorem validateAny_raw_id (fs : List FieldDecl) (v u : PyVal) (hs : fs.all rawOrNone = true)
    (hp : plainAll opts fs v = true) (h : validateAny O fs v = .ok u) : u = v :=
  validateAny_ok_of O (P := (· = v)) fs v u
    (fun f hf u hu => validate_raw_id O f v u
      (plain_rawOk_scalar opts f v (rawOrNone_scalar f (List.all_eq_true.mp hs f hf)) (plainAll_mem opts hp f hf)) hu) h

theorem feq_anyof_raw (ign : Bool) (fs : List FieldDecl) (v w u : PyVal)
    (hopt : isOptAnyOf fs = false) (hs : fs.all rawOrNone = true)
    (hp : plainAll opts fs v = true) (hn : v.isNone = false)
    (hd : deser O opts ign (.anyOf fs) v = .ok w) (hv : validate O (.anyOf fs) w = .ok u) :
    FEq O true (.anyOf fs) v u := by
  rw [deser_anyOf, noneGuard_eq hn] at hd
  have hw := deserAny_raw_id O opts fs v w hs hd
  subst hw
  unfold validate at hv
  have hu := validateAny_raw_id O opts fs w u hs hp hv
  subst hu
  refine ⟨u, u, ?_, ?_, rfl, rfl, fun _ => rfl, hn⟩
  · simp [enumPre, hopt]
  · unfold tVal
    simp [hopt]

theorem enumPre_D (x : FieldDecl) (v : PyVal) (hx : tsafeD x = true) : enumPre x v = enumPreD x v := by
  cases x <;> first | rfl | cases hx

theorem plain_classref_nonNone (item : FieldDecl) (x : PyVal) (hc : isClassRef item = true)
    (hp : plainV opts item x = true) : x.isNone = false := by
  cases item <;> simp [isClassRef] at hc
  unfold plainV at hp
  cases x <;> simp at hp
  rfl

theorem enumPre_classref (item : FieldDecl) (x : PyVal) (hc : isClassRef item = true) :
    enumPre item x = .ok x := by
  cases item <;> simp [isClassRef] at hc
  rfl

abbrev TvalEq (f : FieldDecl) : Prop :=
  ∀ (ign : Bool) (v w u : PyVal), tsafeTop f = true → plainV opts f v = true → v.isNone = false →
    deser O opts ign f v = .ok w → validate O f w = .ok u → FEq O true f v u

theorem topt_of (fs : List FieldDecl) (ign : Bool) (v w u : PyVal)
    (IH : ∀ f ∈ fs, TvalEq O opts f) (hs : tsafeOpt fs = true) (hp : plainAll opts fs v = true)
    (hn : v.isNone = false) (hd : deser O opts ign (.anyOf fs) v = .ok w)
    (hv : validate O (.anyOf fs) w = .ok u) : FEq O true (.anyOf fs) v u := by
  rcases tsafeOpt_optOf fs hs with ⟨x, ho, hx, hset⟩
  have hdx := ho.deser_ok O opts hn hd
  have hvx := ho.validate_ok O (deser_keeps_nonNone O opts x false v w hn hdx) hv
  rcases IH x ho.mem false v w u (tsafeTop_of_D x hx) (plainAll_mem opts hp x ho.mem) hn hdx hvx with
    ⟨v', u', e1, e2, e3, e4, e5, e6⟩
  refine ⟨v', u', ?_, ?_, e3, ?_, fun _ => rfl, e6⟩
  · rw [ho.enumPre, ← enumPre_D x v hx]; exact e1
  · rw [ho.tVal, tVal_false_of_D _ hx]; exact e2
  · exact ho.ser_congr O e6 (by rw [isNone_of_tnorm_eq e3]; exact e6) e4 (e5 hset)

/-- the field loop: `_remap_input` against the constructor's loop over the arguments
    `construct_fields_map` computed.  Whether `_remap_input` drops a null (`ign'`) or keeps it as an
    attribute holding None makes no difference. -/
theorem tfields_of (c : ClassOpts) (fields : List (String × FieldDecl)) (defaults doc args : List (String × PyVal))
    (ign' : Bool) (hA : ArgsOf O opts c fields doc args) :
    ∀ (rest : List (String × FieldDecl)) (attrs : List (String × PyVal)),
    (∀ nf ∈ rest, TvalEq O opts nf.2) → tsafeFields rest = true → plainFields opts defaults doc rest = true →
    (∀ p ∈ rest, lookup p.1 fields = some p.2) →
    validateFields O c defaults args rest = .ok attrs →
    ∃ attrs', tFields noMappers false ign' doc rest = .ok attrs' ∧ AttrsEq O fields attrs' attrs
  | [], attrs, _, _, _, _, hv => by
    simp only [validateFields] at hv
    cases hv
    exact ⟨[], by simp [tFields], .nil O fields⟩
  | (n, f) :: rest, attrs, IH, hs, hp, hl, hv => by
    rw [tsafeFields_cons] at hs
    simp only [Bool.and_eq_true_iff] at hs
    simp only [plainFields, Bool.and_eq_true_iff] at hp
    have ih := fun ar har => tfields_of c fields defaults doc args ign' hA rest ar
      (fun p hp' => IH p (List.mem_cons_of_mem _ hp')) hs.2 hp.2 (fun p hp' => hl p (by simp [hp'])) har
    have hlk := hl (n, f) (by simp)
    simp only [validateFields] at hv
    simp only [tFields]
    have hplain := hp.1
    rcases lookup_none_or_nonNone n doc with hsk | ⟨v, hd, hvn⟩
    · -- an absent or null entry: the constructor gets no argument (the field has no default), the
      -- trusted branch stores nothing or None
      have hnd : noDefault defaults n = true := by
        cases hd : lookup n doc with
        | none => simpa only [hd] using hplain
        | some v => simpa only [hd, hsk v hd, if_true] using hplain
      rw [argFor_none_of c defaults args n (hA.absent n hsk) hnd] at hv
      rcases ih attrs hv with ⟨ar', g1, g2⟩
      cases hd : lookup n doc with
      | none => exact ⟨ar', g1, g2⟩
      | some v =>
        simp only [hsk v hd, if_true, Bool.not_false, Bool.true_and]
        cases ign' with
        | true => exact ⟨ar', g1, g2⟩
        | false => exact ⟨_, by simp only [Bool.false_eq_true, if_false, g1, bindE_ok], g2.none O n⟩
    · simp only [hd, hvn, Bool.false_eq_true, if_false] at hplain ⊢
      rcases hA.present n f v hlk hd hvn with ⟨y, hy, hay⟩
      rw [argFor_some_of c defaults args n y hay (deser_keeps_nonNone O opts f _ v y hvn hy)] at hv
      rcases bindE_eq_ok hv with ⟨u, hu, hv2⟩
      rcases bindE_eq_ok hv2 with ⟨ar, har, hc⟩
      cases hc
      rcases IH (n, f) List.mem_cons_self c.ignoreNone v y u hs.1 hplain hvn hy hu with ⟨v', u', e1, e2, e3, e4, _, e6⟩
      rcases ih ar har with ⟨ar', g1, g2⟩
      simp only [e1, bindE_ok, e2, g1]
      exact ⟨_, rfl, g2.cons O hlk e6 e3 e4⟩

/-- the class level, for a field and for the class at the top: regular
    `deserialize_structure_internal` + constructor against the key translation and `_remap_input` -/
theorem class_equiv (ign ign' : Bool) (c : ClassOpts) (fields : List (String × FieldDecl))
    (defaults : List (String × PyVal)) (v w : PyVal)
    (IH : ∀ nf ∈ fields, TvalEq O opts nf.2)
    (hinl : c.inline = false) (hnd : strNodup (fields.map (·.1)) = true) (hsf : tsafeFields fields = true)
    (hp : plainV opts (.struct c fields defaults) v = true)
    (hd : deser O opts ign (.struct c fields defaults) v = .ok w) :
    ∃ u', tInst (noMappers c.name) c.name (fields.map (·.1)) v
            (fun doc => tFields noMappers false ign' doc fields) = .ok u'
      ∧ tnorm u' = tnorm w ∧ ser O (.struct c fields defaults) u' = ser O (.struct c fields defaults) w
      ∧ shallowOk O (.struct c fields defaults) u' = shallowOk O (.struct c fields defaults) w
      ∧ w.isNone = false := by
  unfold plainV at hp
  cases v <;> simp at hp
  rename_i kvs
  cases hkw : kwOfDict kvs with
  | none => simp [hkw] at hp
  | some doc =>
    simp only [hkw, Bool.and_eq_true_iff] at hp
    rw [deser_struct, noneGuard_eq rfl] at hd
    simp only [hinl, Bool.false_eq_true, if_false, dClassRef, hkw] at hd
    rcases bindE_eq_ok hd with ⟨args, h1, h2⟩
    rcases bindE_eq_ok h1 with ⟨args0, h3, h4⟩
    have hex : deserExtras opts c (fields.map (·.1)) doc = [] := List.isEmpty_iff.mp hp.1
    rw [hex] at h4
    simp only [List.nil_append] at h4
    cases h4
    rcases deserFields_spec O opts c doc fields args h3 with ⟨s1, sA⟩
    obtain ⟨_, attrs, hvf, rfl⟩ := vConstruct_eq_ok_iff.1 h2
    rw [extrasOf_nil c _ args s1, List.nil_append]
    rcases tfields_of O opts c fields defaults doc args ign' sA fields attrs IH hsf hp.2
      (lookup_of_mem_nodup fields hnd) hvf with ⟨attrs', g1, g2, g3⟩
    refine ⟨.inst c.name attrs', ?_, ?_, ?_, ?_, rfl⟩
    · simp only [tInst, hkw, Bool.false_eq_true, if_false, noMappers, remapDoc, TMapper.isNone,
        TMapper.isList, if_true, g1, bindE_ok]
    · unfold tnorm
      simp [g2]
    · unfold ser
      simp only [sInst, beq_self_eq_true, Bool.true_or, Bool.not_true, Bool.false_eq_true, if_false]
      rw [g3]
    · unfold shallowOk
      simp only [hinl, Bool.false_eq_true, if_false, vClassRef]
      split <;> rfl

theorem tval_equiv : ∀ f : FieldDecl, TvalEq O opts f := by
  intro f
  induction f using FieldDecl.induction with
  | number | integer | float | string | boolean | noneF =>
    exact fun ign v w u _ hp hn hd hv => feq_scalar O opts ign _ v w u (Or.inl rfl) hp hn hd hv
  | enumLit vals => exact fun ign v w u _ hp hn hd hv => feq_scalar O opts ign _ v w u (Or.inr rfl) hp hn hd hv
  | enumCls cls names =>
    intro ign v w u hs hp _ hd hv
    unfold tsafeTop tsafeD at hs
    simp only [Bool.not_eq_true'] at hs
    unfold plainV at hp
    exact feq_enumCls O opts ign cls names v w u hs hp hd hv
  | seqOf k item sz ih =>
    intro ign v w u hs hp _ hd hv
    cases k
    case deque => cases hs
    unfold tsafeTop tsafeD at hs
    simp only [Bool.or_eq_true, Bool.and_eq_true_iff] at hs
    refine feq_arr O opts ign item sz v w u hp hd hv fun x hpx w' u' hdx hvx => ?_
    rcases hs with hs | ⟨hc, hi⟩
    · have h := tElem_eq_deser O opts noMappers item x w' (hs.imp_right And.left) hpx hdx
      obtain rfl := validate_raw_id O item w' u' h.2 hvx
      exact ⟨_, h.1, rfl, rfl⟩
    · have hxn := plain_classref_nonNone opts item x hc hpx
      rcases ih false x w' u' (tsafeTop_of_D item hi) hpx hxn hdx hvx with ⟨v', u'', e1, e2, e3, e4, _, _⟩
      rw [enumPre_classref item x hc] at e1
      cases e1
      exact ⟨u'', by unfold tElem; rw [if_pos hc, tVal_false_of_D _ hi]; exact e2, e3, e4⟩
  | setOf imm item sz ih =>
    intro ign v w u hs hp _ hd hv
    unfold tsafeTop tsafeD at hs
    simp only [Bool.or_eq_true, Bool.and_eq_true_iff] at hs
    exact feq_set O opts ign imm item sz v w u (hs.imp (isSetScalarOk_arrScalar item) And.left) hp hd hv
  | struct c fields defaults ih =>
    intro ign v w u hs hp _ hd hv
    unfold tsafeTop tsafeD at hs
    simp only [Bool.and_eq_true_iff, Bool.not_eq_true'] at hs
    rcases class_equiv O opts ign c.ignoreNone c fields defaults v w ih hs.1.1 hs.1.2 hs.2 hp hd with
      ⟨u', g1, g2, g3, g4, g5⟩
    unfold validate at hv
    simp only [hs.1.1, Bool.false_eq_true, if_false] at hv
    obtain rfl := ((vClassRef_spec c w).ok_inv hv).2
    refine ⟨v, u', rfl, ?_, g2, g3, fun _ => g4, g5⟩
    unfold tVal
    simp only [hs.1.1, Bool.false_eq_true, if_false]
    exact g1
  | anyOf fs ih =>
    intro ign v w u hs hp hn hd hv
    simp only [tsafeTop] at hs
    unfold plainV at hp
    by_cases hopt : isOptAnyOf fs = true
    · simp only [hopt, if_true] at hs
      exact topt_of O opts fs ign v w u ih hs hp hn hd hv
    · have hopt' : isOptAnyOf fs = false := by simpa using hopt
      simp only [hopt', Bool.false_eq_true, if_false] at hs
      exact feq_anyof_raw O opts ign fs v w u hopt' hs hp hn hd hv
  | _ => exact fun _ _ _ _ hs => nomatch hs

/-- **Optional fields**: `AnyOf[X, NoneField]` and `AnyOf[NoneField, X]` go through `X` on both paths
    (`_extract_non_nonefield_from_optional` picks the option that is not NoneField); `X` is not an
    ImmutableSet, whose plain-set value the option would refuse when serializing -/
theorem topt_equiv : ∀ (fs : List FieldDecl) (ign : Bool) (v w u : PyVal),
    tsafeOpt fs = true → plainAll opts fs v = true → v.isNone = false →
    deser O opts ign (.anyOf fs) v = .ok w → validate O (.anyOf fs) w = .ok u →
    FEq O true (.anyOf fs) v u :=
  fun fs ign v w u => topt_of O opts fs ign v w u fun f _ => tval_equiv O opts f

theorem fieldsV_nested_ne_flat (Mp : MapEnv) : ∀ fs : List (String × FieldDecl),
    fieldsV Mp fs .nested ≠ .lvl .flat
  | [] => by simp [fieldsV]
  | (_, f) :: rest => by
    simp only [fieldsV]
    cases effOf Mp true f <;> simp <;> exact fieldsV_nested_ne_flat Mp rest

theorem refEff_ne_keep (v : Verdict) : refEff v ≠ .keep := by cases v <;> simp [refEff]
theorem optEff_ne_keep (e : FEff) : optEff e ≠ .keep := by cases e <;> simp [optEff]

theorem classref_effOf_ne_keep (Mp : MapEnv) (b : Bool) (f : FieldDecl) (h : isClassRef f = true) :
    effOf Mp b f ≠ .keep := by
  cases f <;> simp [isClassRef] at h
  unfold effOf
  simp only [h, Bool.false_eq_true, if_false]
  exact refEff_ne_keep _

theorem validCls_not_ref (f : FieldDecl) (h : isValidCls f = true) : isClassRef f = false := by
  cases f <;> first | (cases h; done) | rfl

/-- the shapes the classifier's loop keeps at `not_nested` -/
theorem keep_cases (Mp : MapEnv) (f : FieldDecl) (hk : effOf Mp true f = .keep) :
    isValidCls f = true
      ∨ (∃ item sz, f = .seqOf .list item sz ∧ isValidCls item = true ∧ isEnumDecl item = false)
      ∨ (∃ fs, f = .anyOf fs ∧ isOptAnyOf fs = false ∧ fs.all isValidCls = true) := by
  cases f <;> try first | (cases hk; done) | exact Or.inl rfl
  case seqOf k item sz =>
    cases k <;> unfold effOf at hk
    · by_cases hE : isEnumDecl item = true
      · rw [if_pos hE] at hk; cases hk
      rw [if_neg hE] at hk
      by_cases hV : isValidCls item = true
      · exact Or.inr (Or.inl ⟨item, sz, rfl, hV, by simpa using hE⟩)
      rw [if_neg hV] at hk
      by_cases hc : isClassRef item = true
      · rw [if_pos hc] at hk; exact absurd hk (classref_effOf_ne_keep Mp false item hc)
      · rw [if_neg hc] at hk; cases hk
    · cases hk
  case setOf imm item sz =>
    unfold effOf at hk
    by_cases hV : isValidCls item = true
    · rw [if_pos hV] at hk; cases hk
    rw [if_neg hV] at hk
    by_cases hc : isClassRef item = true
    · rw [if_pos hc] at hk; exact absurd hk (classref_effOf_ne_keep Mp false item hc)
    · rw [if_neg hc] at hk; cases hk
  case struct c fields ds =>
    unfold effOf at hk
    by_cases hi : c.inline = true
    · rw [if_pos hi] at hk; cases hk
    · rw [if_neg hi] at hk; exact absurd hk (refEff_ne_keep _)
  case anyOf fs =>
    unfold effOf at hk
    by_cases hopt : isOptAnyOf fs = true
    · rw [if_pos (by rw [hopt]; rfl)] at hk; exact absurd hk (optEff_ne_keep _)
    rw [if_neg (by simpa using hopt)] at hk
    by_cases hall : fs.all isValidCls = true
    · exact Or.inr (Or.inr ⟨fs, rfl, by simpa using hopt, hall⟩)
    · rw [if_neg hall] at hk; cases hk

/-- a field that leaves the classifier at `not_nested` is stored as it is by `_remap_input` -/
theorem keep_raw (M Mp : MapEnv) (f : FieldDecl) (v : PyVal) (hk : effOf M true f = .keep) :
    tVal Mp true f v = .ok v := by
  rcases keep_cases M f hk with h | ⟨item, sz, rfl, hV, hE⟩ | ⟨fs, rfl, hopt, _⟩
  · cases f <;> first | (cases h; done) | rfl
  · unfold tVal
    simp only [validCls_not_ref item hV, hE, Bool.false_eq_true, if_false]
  · unfold tVal
    simp only [hopt, Bool.and_false, Bool.false_eq_true, if_false]

theorem flat_fields_keep (Mp : MapEnv) : ∀ fields : List (String × FieldDecl),
    fieldsV Mp fields .flat = .lvl .flat → ∀ p ∈ fields, effOf Mp true p.2 = .keep
  | [], _, p, hp => nomatch hp
  | (n, f) :: rest, hv, p, hp => by
    simp only [fieldsV] at hv
    cases he : effOf Mp true f with
    | raises => simp [he] at hv
    | reject => simp [he] at hv
    | nested => simp only [he] at hv; exact absurd hv (fieldsV_nested_ne_flat Mp rest)
    | keep =>
      simp only [he] at hv
      rcases List.mem_cons.mp hp with rfl | hp
      · exact he
      · exact flat_fields_keep Mp rest hv p hp

/-- where `_remap_input` stores every entry as it is, using the document as it is (nulls kept) is
    `_remap_input` -/
theorem tFields_raw (Mp : MapEnv) (ign : Bool) (doc : List (String × PyVal)) :
    ∀ fields : List (String × FieldDecl), (∀ p ∈ fields, ∀ v, tVal Mp true p.2 v = .ok v) →
      tFields Mp true ign doc fields = tFields Mp false false doc fields
  | [], _ => rfl
  | (n, f) :: rest, h => by
    simp only [tFields, tFields_raw Mp ign doc rest (fun p hp => h p (List.mem_cons_of_mem _ hp)),
      h (n, f) List.mem_cons_self, Bool.not_true, Bool.false_and, Bool.and_false, Bool.false_eq_true, if_false, if_true]

/-- this is why the trusted branch may skip `_remap_input` for a `not_nested` class, whatever its
    fields are: the classifier's level only chooses between two ways of computing the same entries -/
theorem tFields_lvl (M Mp : MapEnv) (fields : List (String × FieldDecl)) (l : Lvl)
    (h : fieldsV M fields .flat = .lvl l) (ign : Bool) (doc : List (String × PyVal)) :
    tFields Mp (l == .flat) ign doc fields = tFields Mp false (l != .flat && ign) doc fields := by
  cases l with
  | nested => rfl
  | flat => exact tFields_raw Mp ign doc fields fun p hp v => keep_raw M Mp p.2 v (flat_fields_keep M fields h p hp)

theorem deserialize_eq_deser (c : ClassOpts) (fields : List (String × FieldDecl))
    (defaults : List (String × PyVal)) (kvs : List (PyVal × PyVal)) (hinl : c.inline = false) :
    deserialize O opts (.struct c fields defaults) (.dict kvs)
      = deser O opts false (.struct c fields defaults) (.dict kvs) := by
  rw [deser_struct, noneGuard_eq rfl]
  simp only [deserialize, hinl, Bool.false_eq_true, if_false, dClassRef]

theorem eligible_struct (Mp : MapEnv) (c : ClassOpts) (fields : List (String × FieldDecl)) (ds : List (String × PyVal))
    (hM : (Mp c.name).isComplex = false) (he : eligible Mp (.struct c fields ds) = true) :
    ∃ l, verdictOf Mp (.struct c fields ds) = .lvl l ∧ fieldsV Mp fields .flat = .lvl l := by
  unfold eligible at he
  simp only [verdictOf, hM, Bool.false_eq_true, if_false] at he ⊢
  cases hv : fieldsV Mp fields .flat with
  | lvl l => exact ⟨l, rfl, rfl⟩
  | raises => rw [hv] at he; cases he
  | no => rw [hv] at he; cases he

theorem trusted_equiv_core (cls : FieldDecl) (d x : PyVal)
    (he : eligible noMappers cls = true) (hs : tsafeCls cls = true) (hp : plainDoc opts cls d = true)
    (hr : deserialize O opts cls d = .ok x) :
    ∃ y, deserializeTrusted noMappers O opts cls d = .ok y ∧ tnorm y = tnorm x
      ∧ serialize O cls y = serialize O cls x := by
  cases cls <;> try (simp [tsafeCls] at hs)
  rename_i c fields defaults
  unfold tsafeD at hs
  simp only [Bool.and_eq_true_iff, Bool.not_eq_true'] at hs
  have hpd : plainV opts (.struct c fields defaults) d = true := hp
  have hdict : ∃ kvs, d = .dict kvs := by
    unfold plainV at hpd
    cases d <;> simp at hpd
    exact ⟨_, rfl⟩
  rcases hdict with ⟨kvs, rfl⟩
  rw [deserialize_eq_deser O opts c fields defaults kvs hs.1.1] at hr
  rcases eligible_struct noMappers c fields defaults rfl he with ⟨l, hvd, hl⟩
  rcases class_equiv O opts false (l != .flat && c.ignoreNone) c fields defaults (.dict kvs) x
    (fun nf _ => tval_equiv O opts nf.2) hs.1.1 hs.1.2 hs.2 hpd hr with ⟨u', g1, g2, g3, _, _⟩
  refine ⟨u', ?_, g2, g3⟩
  simp only [deserializeTrusted, hvd, tFields_lvl noMappers noMappers fields l hl]
  exact g1

end

end Typedpy
