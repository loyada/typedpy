/-
  Lemmas/SchemaWf.lean — the well-formedness half of C08: on the fragment `wfFragF` everything the conversion of
  a declaration produces (with the two draft-4 spellings) — the schema it returns and the class objects
  it writes into the definitions table — satisfies the draft-4 meta-schema keyword by keyword
  (`wfDraft4`), given that every `$ref` resolves in the pointer table: `wf_convert`, one induction over
  the declaration, unbounded nesting.  Before it: what the meta-schema asks of one keyword
  (`wfKws_<keyword>`) and of each keyword group the mappers emit (`wf_<group>Kws`).
-/
import TypedpyModel.Lemmas.SchemaAdmits
namespace Typedpy.Sch
open Typedpy

theorem wfKws_nil (D : Defs) (ctx : List (PyVal × PyVal)) : wfKws D ctx [] = true := rfl

theorem wfKws_cons (D : Defs) (ctx rest : List (PyVal × PyVal)) (k v : PyVal) :
    wfKws D ctx ((k, v) :: rest) =
      (wfNode D ctx k v (fun _ => wfDraft4 D v) (fun _ => wfListV D v) (fun _ => wfPropsV D v)
        && wfKws D ctx rest) := rfl

theorem wfKws_append (D : Defs) (ctx a b : List (PyVal × PyVal)) :
    wfKws D ctx (a ++ b) = (wfKws D ctx a && wfKws D ctx b) := by
  induction a with
  | nil => rfl
  | cons x xs ih =>
    obtain ⟨k, v⟩ := x
    simp only [List.cons_append, wfKws_cons, ih, Bool.and_assoc]

theorem wfKws_optKw (D : Defs) (ctx : List (PyVal × PyVal)) (k : String) (ov : Option PyVal) :
    wfKws D ctx (optKw k ov) = (match ov with | none => true | some v => wfKws D ctx [kw k v]) := by
  cases ov <;> rfl

/-- the entry `kw k v` with the keyword of its name given: stated about a variable `c`, so that checking
    the per-keyword lemmas, its instances, does not evaluate `kwOf` on the key -/
theorem wfKws_kw (D : Defs) (ctx rest : List (PyVal × PyVal)) (k : String) (c : Kw) (v : PyVal) :
    kwOf (.str k) = c → wfKws D ctx (kw k v :: rest) =
      ((match c with
        | .items => (match v with
          | .list ss => !ss.isEmpty && wfListV D v
          | _ => wfDraft4 D v)
        | .additionalItems | .additionalProperties => (match v with
          | .bool _ => true
          | _ => wfDraft4 D v)
        | .properties | .patternProperties => (match v with
          | .dict _ => wfPropsV D v
          | _ => false)
        | .allOf | .anyOf | .oneOf => (match v with
          | .list ss => !ss.isEmpty && wfListV D v
          | _ => false)
        | .not => wfDraft4 D v
        | .other =>
          if keyIs "$ref" (.str k) then (match v with | .str p => (lookup p D).isSome | _ => false)
          else if keyIs "exclusiveMaximum" (.str k) then isBoolJ v && (getKw "maximum" ctx).isSome
          else if keyIs "exclusiveMinimum" (.str k) then isBoolJ v && (getKw "minimum" ctx).isSome
          else if keyIs "title" (.str k) || keyIs "description" (.str k) then isStrJ v
          else if keyIs "default" (.str k) then jsonOnly v
          else true
        | leaf => wfLeaf leaf v) && wfKws D ctx rest) := by
  intro hk; subst hk; rfl

section
variable (D : Defs) (ctx rest : List (PyVal × PyVal)) (v : PyVal)

theorem wfKws_type (t : String) :
    wfKws D ctx (kw "type" (.str t) :: rest) = (simpleType (.str t) && wfKws D ctx rest) :=
  wfKws_kw D ctx rest _ _ _ kwOf_type

theorem wfKws_enum (vs : List PyVal) :
    wfKws D ctx (kw "enum" (.list vs) :: rest) = ((!vs.isEmpty && jsonNodup vs) && wfKws D ctx rest) :=
  wfKws_kw D ctx rest _ _ _ kwOf_enum

theorem wfKws_minimum :
    wfKws D ctx (kw "minimum" v :: rest) = ((jsNum v).isSome && wfKws D ctx rest) :=
  wfKws_kw D ctx rest _ _ _ kwOf_minimum

theorem wfKws_maximum :
    wfKws D ctx (kw "maximum" v :: rest) = ((jsNum v).isSome && wfKws D ctx rest) :=
  wfKws_kw D ctx rest _ _ _ kwOf_maximum

theorem wfKws_multipleOf :
    wfKws D ctx (kw "multipleOf" v :: rest) = ((match jsNum v with | some m => Q.lt (Q.ofInt 0) m | none => false) && wfKws D ctx rest) :=
  wfKws_kw D ctx rest _ _ _ kwOf_multipleOf

theorem wfKws_minLength :
    wfKws D ctx (kw "minLength" v :: rest) = (isNatJ v && wfKws D ctx rest) :=
  wfKws_kw D ctx rest _ _ _ kwOf_minLength

theorem wfKws_maxLength :
    wfKws D ctx (kw "maxLength" v :: rest) = (isNatJ v && wfKws D ctx rest) :=
  wfKws_kw D ctx rest _ _ _ kwOf_maxLength

theorem wfKws_minItems :
    wfKws D ctx (kw "minItems" v :: rest) = (isNatJ v && wfKws D ctx rest) :=
  wfKws_kw D ctx rest _ _ _ kwOf_minItems

theorem wfKws_maxItems :
    wfKws D ctx (kw "maxItems" v :: rest) = (isNatJ v && wfKws D ctx rest) :=
  wfKws_kw D ctx rest _ _ _ kwOf_maxItems

theorem wfKws_minProperties :
    wfKws D ctx (kw "minProperties" v :: rest) = (isNatJ v && wfKws D ctx rest) :=
  wfKws_kw D ctx rest _ _ _ kwOf_minProperties

theorem wfKws_maxProperties :
    wfKws D ctx (kw "maxProperties" v :: rest) = (isNatJ v && wfKws D ctx rest) :=
  wfKws_kw D ctx rest _ _ _ kwOf_maxProperties

theorem wfKws_pattern :
    wfKws D ctx (kw "pattern" v :: rest) = (isStrJ v && wfKws D ctx rest) :=
  wfKws_kw D ctx rest _ _ _ kwOf_pattern

theorem wfKws_items :
    wfKws D ctx (kw "items" v :: rest) = ((match v with | .list ss => !ss.isEmpty && wfListV D v | _ => wfDraft4 D v) && wfKws D ctx rest) :=
  wfKws_kw D ctx rest _ _ _ kwOf_items

theorem wfKws_additionalItems :
    wfKws D ctx (kw "additionalItems" v :: rest) = ((match v with | .bool _ => true | _ => wfDraft4 D v) && wfKws D ctx rest) :=
  wfKws_kw D ctx rest _ _ _ kwOf_additionalItems

theorem wfKws_additionalProperties :
    wfKws D ctx (kw "additionalProperties" v :: rest) = ((match v with | .bool _ => true | _ => wfDraft4 D v) && wfKws D ctx rest) :=
  wfKws_kw D ctx rest _ _ _ kwOf_additionalProperties

theorem wfKws_properties (ps : List (PyVal × PyVal)) :
    wfKws D ctx (kw "properties" (.dict ps) :: rest) = (wfProps D ps && wfKws D ctx rest) :=
  wfKws_kw D ctx rest _ _ _ kwOf_properties

theorem wfKws_patternProperties (ps : List (PyVal × PyVal)) :
    wfKws D ctx (kw "patternProperties" (.dict ps) :: rest) = (wfProps D ps && wfKws D ctx rest) :=
  wfKws_kw D ctx rest _ _ _ kwOf_patternProperties

theorem wfKws_required (names : List PyVal) :
    wfKws D ctx (kw "required" (.list names) :: rest) = ((!names.isEmpty && names.all isStrJ && jsonNodup names) && wfKws D ctx rest) :=
  wfKws_kw D ctx rest _ _ _ kwOf_required

theorem wfKws_allOf (ss : List PyVal) :
    wfKws D ctx (kw "allOf" (.list ss) :: rest) = ((!ss.isEmpty && wfList D ss) && wfKws D ctx rest) :=
  wfKws_kw D ctx rest _ _ _ kwOf_allOf

theorem wfKws_anyOf (ss : List PyVal) :
    wfKws D ctx (kw "anyOf" (.list ss) :: rest) = ((!ss.isEmpty && wfList D ss) && wfKws D ctx rest) :=
  wfKws_kw D ctx rest _ _ _ kwOf_anyOf

theorem wfKws_oneOf (ss : List PyVal) :
    wfKws D ctx (kw "oneOf" (.list ss) :: rest) = ((!ss.isEmpty && wfList D ss) && wfKws D ctx rest) :=
  wfKws_kw D ctx rest _ _ _ kwOf_oneOf

theorem wfKws_not :
    wfKws D ctx (kw "not" v :: rest) = (wfDraft4 D v && wfKws D ctx rest) :=
  wfKws_kw D ctx rest _ _ _ kwOf_not

theorem wfKws_exclusiveMaximum :
    wfKws D ctx (kw "exclusiveMaximum" v :: rest) = ((isBoolJ v && (getKw "maximum" ctx).isSome) && wfKws D ctx rest) :=
  wfKws_kw D ctx rest _ _ _ kwOf_exclusiveMaximum

theorem wfKws_default :
    wfKws D ctx (kw "default" v :: rest) = (jsonOnly v && wfKws D ctx rest) :=
  wfKws_kw D ctx rest _ _ _ kwOf_default

theorem wfKws_ref (p : String) :
    wfKws D ctx (kw "$ref" (.str p) :: rest) = ((lookup p D).isSome && wfKws D ctx rest) :=
  wfKws_kw D ctx rest _ _ _ kwOf_ref

end

theorem isNatJ_natJ (n : Nat) : isNatJ (natJ n) = true := by simp [isNatJ, natOf_natJ]

theorem jsonNodup_map_str : ∀ names : List String, nodupS names = true →
    jsonNodup (names.map PyVal.str) = true
  | [], _ => rfl
  | n :: names, h => by
    simp only [nodupS, Bool.and_eq_true_iff] at h
    simp only [List.map_cons, jsonNodup, Bool.and_eq_true_iff]
    refine ⟨?_, jsonNodup_map_str names h.2⟩
    cases hm : jsonMem (.str n) (names.map PyVal.str) with
    | false => rfl
    | true =>
      obtain ⟨_, hn, hc⟩ := jsonMem_str_inv (.str n) names hm
      cases hn
      rw [hc] at h
      simp at h

/-- an object is judged with itself as the enclosing object; a keyword group is unfolded once, in the
    list that is walked -/
theorem wfDraft4_of (D : Defs) (kws : List (PyVal × PyVal)) (h : ∀ ctx, wfKws D ctx kws = true) :
    wfDraft4 D (.dict kws) = true := h kws

theorem wf_numKws (D : Defs) (ty : String) (hty : ty = "number" ∨ ty = "integer") (isInt : Bool)
    (o : NumOpts) (ho : numOptsOk o = true) : wfDraft4 D (.dict (numKws true ty isInt o)) = true := by
  -- `exclusiveMaximum` needs its companion `maximum` in the enclosing object
  have hmax : exclEff o = true → (getKw "maximum" (numKws true ty isInt o)).isSome = true := by
    intro he
    simp only [exclEff, Bool.and_eq_true_iff] at he
    cases hmm : o.max with
    | none => simp [hmm] at he
    | some m =>
      cases o.mult <;>
        cases hmin : effMin isInt o <;>
          simp [numKws, getKw_append, getKw_optKw, getKw, kw, keyIs, multKey, effMax, hmm]
  revert hmax
  rw [wfDraft4]
  suffices hh : ∀ ctx, (exclEff o = true → (getKw "maximum" ctx).isSome = true) →
      wfKws D ctx (numKws true ty isInt o) = true from hh _
  intro ctx hmax
  simp only [numKws, wfKws_append, wfKws_optKw, Bool.and_eq_true_iff]
  refine ⟨⟨⟨⟨?_, ?_⟩, ?_⟩, ?_⟩, ?_⟩
  · rcases hty with rfl | rfl <;> rfl
  · cases hm : o.mult with
    | none => rfl
    | some m =>
      simp only [numOptsOk, hm] at ho
      have hne : m ≠ 0 := by simpa using ho
      have hji : jsNum (absJ m) = some (Q.ofInt (Int.ofNat m.natAbs)) := rfl
      simp only [Option.map, multKey, if_true, wfKws_multipleOf, wfKws_nil, hji, Bool.and_true]
      simp [Q.lt, Q.ofInt]
      omega
  · cases hm : effMin isInt o with
    | none => rfl
    | some m => simp only [Option.map, wfKws_minimum, wfKws_nil, jsNum_numJ, Option.isSome_some, Bool.and_true]
  · cases hm : effMax isInt o with
    | none => rfl
    | some m => simp only [Option.map, wfKws_maximum, wfKws_nil, jsNum_numJ, Option.isSome_some, Bool.and_true]
  · cases he : exclEff o with
    | false => rfl
    | true =>
      simp only [↓reduceIte, wfKws_exclusiveMaximum, wfKws_nil, isBoolJ, hmax he, Bool.and_true]

/-- the six size keywords ask for a natural number; `hk` is `wfKws_<keyword> D ctx []` as it stands (hence the
    `&& true`: `wfKws D ctx []` unfolds to it) -/
theorem wf_natKw (D : Defs) (ctx : List (PyVal × PyVal)) {k : String}
    (hk : ∀ v, wfKws D ctx [kw k v] = (isNatJ v && true)) (o : Option Nat) :
    wfKws D ctx (optKw k (o.map natJ)) = true := by
  cases o with
  | none => rfl
  | some n => rw [Option.map, optKw, hk, isNatJ_natJ]; rfl

theorem wf_strKws (D : Defs) (lo hi : Option Nat) (pat : Option String) :
    wfDraft4 D (.dict (strKws lo hi pat)) = true := by
  refine wfDraft4_of D _ fun ctx => ?_
  simp only [strKws, wfKws_append, Bool.and_eq_true_iff]
  refine ⟨⟨⟨rfl, wf_natKw D ctx (wfKws_minLength D ctx []) lo⟩,
    wf_natKw D ctx (wfKws_maxLength D ctx []) hi⟩, ?_⟩
  cases pat <;> simp only [Option.map, optKw, wfKws_pattern, wfKws_nil, isStrJ, Bool.and_true]

theorem wf_itemsSingle (D : Defs) (ctx : List (PyVal × PyVal)) (s : PyVal)
    (hs : wfDraft4 D s = true) : wfKws D ctx [kw "items" s] = true := by
  rw [wfKws_items, wfKws_nil, Bool.and_true]
  cases s <;> first | exact hs | simp [wfDraft4] at hs

theorem wf_itemsList (D : Defs) (ctx : List (PyVal × PyVal)) (ss : List PyVal)
    (hne : ss.isEmpty = false) (hs : wfList D ss = true) : wfKws D ctx [kw "items" (.list ss)] = true := by
  simp only [wfKws_items, wfKws_nil, wfListV, hs, hne, Bool.not_false, Bool.and_true]

theorem wf_arrKws (D : Defs) (sz : SizeOpts) (addl : Bool) (items : Option PyVal)
    (hitems : ∀ ctx, wfKws D ctx (optKw "items" items) = true) :
    wfDraft4 D (.dict (arrKws sz (if addl then none else some (.bool false)) items)) = true := by
  refine wfDraft4_of D _ fun ctx => ?_
  simp only [arrKws, wfKws_append, Bool.and_eq_true_iff]
  refine ⟨⟨⟨⟨⟨rfl, ?_⟩, ?_⟩, wf_natKw D ctx (wfKws_maxItems D ctx []) sz.max⟩,
    wf_natKw D ctx (wfKws_minItems D ctx []) sz.min⟩, hitems ctx⟩
  · cases sz.uniq <;> rfl
  · cases addl <;> rfl

theorem wf_setKws (D : Defs) (sz : SizeOpts) (items : Option PyVal)
    (hitems : ∀ ctx, wfKws D ctx (optKw "items" items) = true) :
    wfDraft4 D (.dict (setKws sz items)) = true := by
  rw [setKws_eq_arrKws]
  exact wf_arrKws D { sz with uniq := true } true items hitems

theorem wf_tupKws (D : Defs) (u : Bool) (ss : List PyVal) (hne : ss.isEmpty = false)
    (hs : wfList D ss = true) : wfDraft4 D (.dict (tupKws u ss)) = true := by
  rw [tupKws_eq_arrKws]
  exact wf_arrKws D { uniq := u } false _ (fun ctx => wf_itemsList D ctx ss hne hs)

theorem wf_mapKws (D : Defs) (key : Option FieldDecl) (vs : Option PyVal) (sz : SizeOpts)
    (hv : ∀ s, vs = some s → wfDraft4 D s = true) :
    wfDraft4 D (.dict (mapKws key vs sz)) = true := by
  refine wfDraft4_of D _ fun ctx => ?_
  simp only [mapKws, wfKws_append, Bool.and_eq_true_iff]
  refine ⟨⟨⟨rfl, ?_⟩, wf_natKw D ctx (wfKws_maxProperties D ctx []) sz.max⟩,
    wf_natKw D ctx (wfKws_minProperties D ctx []) sz.min⟩
  cases key with
  | none => rfl
  | some k =>
    cases vs with
    | none => rfl
    | some s =>
      have hs := hv s rfl
      cases hk : (mapKeyPattern k != "") with
      | true =>
        simp only [hk, if_true, wfKws_patternProperties, wfKws_nil]
        simp only [kw, wfProps, isStrJ, hs, Bool.and_true]
      | false =>
        simp only [hk, Bool.false_eq_true, if_false]
        rw [wfKws_additionalProperties, wfKws_nil, Bool.and_true]
        cases s <;> first | exact hs | simp [wfDraft4] at hs

theorem wf_listKw (D : Defs) (k : String) (hk : k = "anyOf" ∨ k = "oneOf" ∨ k = "allOf")
    (ss : List PyVal) (hne : ss.isEmpty = false) (hs : wfList D ss = true) :
    wfDraft4 D (.dict [kw k (.list ss)]) = true := by
  rcases hk with rfl | rfl | rfl <;>
    simp only [wfDraft4, wfKws_anyOf, wfKws_oneOf, wfKws_allOf, wfKws_nil, hs, hne, Bool.not_false, Bool.and_true]

/-- `wfNode` looks at the enclosing object only through `maximum` / `minimum` -/
theorem c08_wfNode_ctx (D : Defs) (ctx ctx' : List (PyVal × PyVal)) (k v : PyVal) (one lst props : Unit → Bool)
    (hmax : getKw "maximum" ctx' = getKw "maximum" ctx) (hmin : getKw "minimum" ctx' = getKw "minimum" ctx) :
    wfNode D ctx' k v one lst props = wfNode D ctx k v one lst props := by
  unfold wfNode
  rw [hmax, hmin]

theorem c08_wfKws_ctx (D : Defs) (ctx ctx' : List (PyVal × PyVal))
    (hmax : getKw "maximum" ctx' = getKw "maximum" ctx) (hmin : getKw "minimum" ctx' = getKw "minimum" ctx) :
    ∀ kws : List (PyVal × PyVal), wfKws D ctx' kws = wfKws D ctx kws
  | [] => by simp [wfKws]
  | (k, v) :: rest => by
    simp only [wfKws, c08_wfNode_ctx D ctx ctx' k v _ _ _ hmax hmin, c08_wfKws_ctx D ctx ctx' hmax hmin rest]

theorem wfKws_setKw (D : Defs) (ctx : List (PyVal × PyVal)) (k : String) (v : PyVal)
    (hv : wfKws D ctx [kw k v] = true) :
    ∀ kws : List (PyVal × PyVal), wfKws D ctx kws = true → wfKws D ctx (setKw k v kws) = true
  | [], _ => hv
  | (k', w) :: rest, h => by
    rw [wfKws_cons, Bool.and_eq_true_iff] at h
    rw [setKw]
    split
    · next hk =>
      obtain rfl := (keyIs_iff _ _).mp hk
      rw [kw, wfKws_cons, Bool.and_eq_true_iff] at hv
      exact (wfKws_cons ..).trans (Bool.and_eq_true_iff.mpr ⟨hv.1, h.2⟩)
    · exact (wfKws_cons ..).trans (Bool.and_eq_true_iff.mpr ⟨h.1, wfKws_setKw D ctx k v hv rest h.2⟩)

theorem c08_wf_addDefault (D : Defs) (s : PyVal) (d : Option PyVal) (hs : wfDraft4 D s = true)
    (hd : ∀ v, d = some v → jsonOnly (defaultJ v) = true) : wfDraft4 D (addDefault s d) = true := by
  cases d with
  | none => exact hs
  | some v =>
    cases s <;> simp [wfDraft4] at hs
    rename_i kvs
    simp only [addDefault, wfDraft4]
    rw [c08_wfKws_ctx D kvs _ (c08_getKw_setKw_ne "maximum" "default" _ (by decide) kvs)
      (c08_getKw_setKw_ne "minimum" "default" _ (by decide) kvs)]
    exact wfKws_setKw D kvs _ _ (by rw [wfKws_default, hd v rfl]; rfl) kvs hs

theorem c08_wf_propsOf (D : Defs) (defaults : List (String × PyVal)) (hd : defaultsJson defaults = true) :
    ∀ fields : List (String × PyVal),
    (∀ n s, (n, s) ∈ fields → wfDraft4 D s = true) → wfProps D (propsOf defaults fields) = true
  | [], _ => rfl
  | (n, s) :: rest, h => by
    simp only [propsOf, wfProps, kw, isStrJ, Bool.true_and, Bool.and_eq_true_iff]
    refine ⟨c08_wf_addDefault D s _ (h n s (by simp)) ?_,
      c08_wf_propsOf D defaults hd rest (fun n' s' hm => h n' s' (by simp [hm]))⟩
    intro v hv
    simp only [defaultsJson, List.all_eq_true] at hd
    exact hd (n, v) (lookup_mem hv)

theorem c08_wf_classObj (D : Defs) (c : ClassOpts) (fields : List (String × FieldDecl))
    (defaults : List (String × PyVal)) (hf : wfFragF (.struct c fields defaults) = true)
    (hs : ∀ n s, (n, s) ∈ emitP true fields → wfDraft4 D s = true) :
    wfDraft4 D (classObj c defaults (emitP true fields)) = true := by
  simp only [wfFragF, Bool.and_eq_true_iff, Bool.not_eq_true'] at hf
  obtain ⟨⟨⟨hreq, hnd⟩, hd⟩, -⟩ := hf
  unfold classObj
  simp only [wfDraft4, wfKws_type, wfKws_properties, wfKws_required, wfKws_additionalProperties, wfKws_nil,
    c08_wf_propsOf D defaults hd _ hs, jsonNodup_map_str _ hnd, Bool.and_true, Bool.true_and]
  cases hc : schemaRequired c defaults with
  | nil => simp [hc] at hreq
  | cons a as => simp [isStrJ, simpleType]

theorem wf_refTo (D : Defs) (name : String) (h : (lookup ("#/definitions/" ++ name) D).isSome = true) :
    wfDraft4 D (refTo name) = true := by
  simp only [refTo, wfDraft4, wfKws_ref, wfKws_nil, h, Bool.and_true]

theorem c08_wf_elemWrap (D : Defs) (f : FieldDecl) (s : PyVal) (h : wfDraft4 D s = true) :
    wfDraft4 D (elemWrap f s) = true := by
  unfold elemWrap
  split
  · cases s with
    | dict kvs =>
      simp only []
      have hn : wfDraft4 D nullSchema = true := by
        simp only [nullSchema, wfDraft4, wfKws_type, wfKws_nil]; rfl
      refine wf_listKw D "anyOf" (Or.inl rfl) _ (by simp) ?_
      simp [wfList, h, hn]
    | _ => exact h
  · exact h

theorem wfList_iff (D : Defs) : ∀ ss : List PyVal, wfList D ss = true ↔ ∀ s ∈ ss, wfDraft4 D s = true :=
  allB_iff (by rw [wfList]) fun _ _ => by rw [wfList]

theorem c08_wfDefs_assocSet (Dp : Defs) (n : String) (s : PyVal) (hs : wfDraft4 Dp s = true) :
    ∀ D : Defs, wfDefs Dp D = true → wfDefs Dp (assocSet n s D) = true
  | [], _ => by simp [assocSet, wfDefs, hs]
  | (k, w) :: rest, h => by
    simp only [wfDefs, Bool.and_eq_true_iff] at h
    simp only [assocSet]
    split
    · simp only [wfDefs, Bool.and_eq_true_iff]; exact ⟨hs, h.2⟩
    · simp only [wfDefs, Bool.and_eq_true_iff]; exact ⟨h.1, c08_wfDefs_assocSet Dp n s hs rest h.2⟩

/-- converting `f` (`convert_to_schema`) produces well-formed schemas only: the one it returns and
    those it writes into the definitions table `T` -/
structure WfConv (D : Defs) (f : FieldDecl) : Prop where
  schema : wfDraft4 D (emit true f) = true
  table : ∀ T, wfDefs D T = true → wfDefs D (defsAcc true f T) = true

/-- the step of `wf_convert` at a list of options / positional items (`ih`: the hypothesis `FieldDecl.induction`
    gives there), and `WfConv.fields` at the fields of a class -/
theorem WfConv.list (D : Defs) : ∀ fs : List FieldDecl,
    (∀ f ∈ fs, wfFragF f = true → RefsResolve D f → WfConv D f) → wfFragL fs = true → RefsResolveL D fs →
    wfList D (emitL true fs) = true ∧ wfList D (emitLW true fs) = true
      ∧ ∀ T, wfDefs D T = true → wfDefs D (defsAccL true fs T) = true
  | [], _, _, _ => ⟨rfl, rfl, fun _ h => h⟩
  | f :: fs, ih, hf, hrf => by
    rw [wfFragL, Bool.and_eq_true_iff] at hf
    have ⟨h1, h2⟩ := ih f List.mem_cons_self hf.1 hrf.1
    have ⟨l1, l2, l3⟩ := WfConv.list D fs (fun g hg => ih g (List.mem_cons_of_mem _ hg)) hf.2 hrf.2
    exact ⟨by rw [emitL, wfList, h1, l1]; rfl, by rw [emitLW, wfList, c08_wf_elemWrap D f _ h1, l2]; rfl,
      fun T hT => l3 _ (h2 T hT)⟩

theorem WfConv.fields (D : Defs) : ∀ ps : List (String × FieldDecl),
    (∀ nf ∈ ps, wfFragF nf.2 = true → RefsResolve D nf.2 → WfConv D nf.2) → wfFragP ps = true →
    RefsResolveP D ps →
    (∀ n s, (n, s) ∈ emitP true ps → wfDraft4 D s = true)
      ∧ ∀ T, wfDefs D T = true → wfDefs D (defsAccP true ps T) = true
  | [], _, _, _ => ⟨fun _ _ h => (nomatch h), fun _ h => h⟩
  | (k, f) :: ps, ih, hf, hrf => by
    rw [wfFragP, Bool.and_eq_true_iff] at hf
    have ⟨h1, h2⟩ := ih (k, f) List.mem_cons_self hf.1 hrf.1
    have ⟨l1, l2⟩ := WfConv.fields D ps (fun g hg => ih g (List.mem_cons_of_mem _ hg)) hf.2 hrf.2
    refine ⟨fun n s hm => ?_, fun T hT => l2 _ (h2 T hT)⟩
    rcases List.mem_cons.mp hm with heq | hm'
    · cases heq; exact h1
    · exact l1 n s hm'

theorem wf_convert (D : Defs) (f : FieldDecl) : wfFragF f = true → RefsResolve D f → WfConv D f := by
  induction f using FieldDecl.induction with
  | number o | float o => exact fun hf _ => ⟨wf_numKws D "number" (.inl rfl) false o hf, fun _ h => h⟩
  | integer o => exact fun hf _ => ⟨wf_numKws D "integer" (.inr rfl) true o hf, fun _ h => h⟩
  | string lo hi pat => exact fun _ _ => ⟨wf_strKws D lo hi pat, fun _ h => h⟩
  | boolean => exact fun _ _ => ⟨by simp only [emit, wfDraft4, wfKws_type, wfKws_nil]; rfl, fun _ h => h⟩
  | enumLit vs =>
    intro hf _
    simp only [wfFragF, Bool.and_eq_true_iff, Bool.not_eq_true'] at hf
    refine ⟨?_, fun _ h => h⟩
    simp only [emit, wfDraft4, wfKws_enum, wfKws_nil, hf.2, hf.1.1, Bool.not_false, Bool.and_true]
  | enumCls _ names =>
    intro hf _
    simp only [wfFragF, Bool.and_eq_true_iff] at hf
    refine ⟨?_, fun _ h => h⟩
    simp only [emit, wfDraft4, wfKws_enum, wfKws_nil, List.isEmpty_map, hf.1, jsonNodup_map_str names hf.2,
      Bool.and_true]
  | seqAny _ sz => exact fun _ _ => ⟨wf_arrKws D sz true none fun _ => rfl, fun _ h => h⟩
  | setAny _ sz => exact fun _ _ => ⟨wf_setKws D sz none fun _ => rfl, fun _ h => h⟩
  | mapAny sz => exact fun _ _ => ⟨wf_mapKws D none none sz fun _ h => (nomatch h), fun _ h => h⟩
  | seqOf _ f sz ih =>
    intro hf hrf
    rw [wfFragF, Bool.and_eq_true_iff] at hf
    have ⟨h1, h2⟩ := ih hf.2 hrf
    exact ⟨wf_arrKws D sz true _ fun ctx => wf_itemsSingle D ctx _ (c08_wf_elemWrap D f _ h1), h2⟩
  | setOf _ f sz ih =>
    intro hf hrf
    have ⟨h1, h2⟩ := ih hf hrf
    exact ⟨wf_setKws D sz _ fun ctx => wf_itemsSingle D ctx _ (c08_wf_elemWrap D f _ h1), h2⟩
  | tupleOf f u ih =>
    intro hf hrf
    have ⟨h1, h2⟩ := ih hf hrf
    exact ⟨wf_arrKws D { uniq := u } true _ fun ctx => wf_itemsSingle D ctx _ (c08_wf_elemWrap D f _ h1), h2⟩
  | mapOf k v sz _ ih =>
    intro hf hrf
    rw [wfFragF, Bool.and_eq_true_iff] at hf
    have ⟨h1, h2⟩ := ih hf.2 hrf
    exact ⟨wf_mapKws D (some k) _ sz fun s hs => Option.some.inj hs ▸ c08_wf_elemWrap D v _ h1, h2⟩
  | seqPos _ fs addl sz ih =>
    intro hf hrf
    simp only [wfFragF, Bool.and_eq_true_iff, Bool.not_eq_true'] at hf
    have ⟨_, l2, l3⟩ := WfConv.list D fs ih hf.2 hrf
    exact ⟨wf_arrKws D sz addl _ fun ctx =>
      wf_itemsList D ctx _ ((emitLW_isEmpty true fs).trans hf.1.2) l2, l3⟩
  | tuplePos fs u ih =>
    intro hf hrf
    simp only [wfFragF, Bool.and_eq_true_iff, Bool.not_eq_true'] at hf
    have ⟨_, l2, l3⟩ := WfConv.list D fs ih hf.2 hrf
    exact ⟨wf_tupKws D u _ ((emitLW_isEmpty true fs).trans hf.1) l2, l3⟩
  | struct c fields defaults ih =>
    intro hf hrf
    have ⟨p1, p2⟩ := WfConv.fields D fields ih (Bool.and_eq_true_iff.mp hf).2 hrf.2
    have hobj := c08_wf_classObj D c fields defaults hf p1
    cases hin : c.inline with
    | true =>
      exact ⟨by rw [emit, if_pos hin, retype_classObj]; exact hobj,
        fun T hT => by rw [defsAcc, if_pos hin]; exact p2 T hT⟩
    | false =>
      have hno := Bool.eq_false_iff.mp hin
      -- the class object goes into the table after the definitions its fields need
      exact ⟨by rw [emit, if_neg hno]; exact wf_refTo D _ (hrf.1.resolve_left hno),
        fun T hT => by rw [defsAcc, if_neg hno]; exact c08_wfDefs_assocSet D _ _ hobj _ (p2 T hT)⟩
  | anyOf fs ih =>
    intro hf hrf
    cases hos : optShape fs with
    | true =>
      -- `AnyOf[X, None]` converts `X` alone
      obtain ⟨f, rfl, hnf⟩ := optShape_inv fs hos
      simp only [wfFragF, hos, if_true, wfFragOpt, hnf, Bool.false_or, Bool.and_eq_true_iff] at hf
      have ⟨h1, h2⟩ := ih f List.mem_cons_self hf.1 hrf.1
      exact ⟨by rw [emit_optional]; exact h1, h2⟩
    | false =>
      simp only [wfFragF, hos, Bool.false_eq_true, if_false, Bool.and_eq_true_iff, Bool.not_eq_true'] at hf
      have ⟨l1, _, l3⟩ := WfConv.list D fs ih hf.2 hrf
      refine ⟨?_, l3⟩
      have hshape : anyOfShape fs (emitL true fs) = .dict [kw "anyOf" (.list (emitL true fs))] := by
        unfold anyOfShape
        split
        · simp [wfFragL, wfFragF] at hf
        · rfl
      rw [emit, hshape]
      exact wf_listKw D "anyOf" (.inl rfl) _ ((emitL_isEmpty true fs).trans hf.1) l1
  | oneOf fs ih =>
    intro hf hrf
    simp only [wfFragF, Bool.and_eq_true_iff, Bool.not_eq_true'] at hf
    have ⟨l1, _, l3⟩ := WfConv.list D fs ih hf.2 hrf
    exact ⟨wf_listKw D "oneOf" (.inr (.inl rfl)) _ ((emitL_isEmpty true fs).trans hf.1) l1, l3⟩
  | allOf fs ih =>
    intro hf hrf
    simp only [wfFragF, Bool.and_eq_true_iff, Bool.not_eq_true'] at hf
    have ⟨l1, _, l3⟩ := WfConv.list D fs ih hf.2 hrf
    exact ⟨wf_listKw D "allOf" (.inr (.inr rfl)) _ ((emitL_isEmpty true fs).trans hf.1) l1, l3⟩
  | notF fs ih =>
    intro hf hrf
    simp only [wfFragF, Bool.and_eq_true_iff, Bool.not_eq_true'] at hf
    have ⟨l1, _, l3⟩ := WfConv.list D fs ih hf.2 hrf
    refine ⟨?_, l3⟩
    simp only [emit, notVal, if_true, wfDraft4, wfKws_not, wfKws_anyOf, wfKws_nil, l1,
      (emitL_isEmpty true fs).trans hf.1, Bool.not_false, Bool.and_true]
  | noneF | anything => exact fun hf => nomatch hf

theorem wf_convertL (D : Defs) (fs : List FieldDecl) : wfFragL fs = true → RefsResolveL D fs →
    wfList D (emitL true fs) = true ∧ wfList D (emitLW true fs) = true
      ∧ ∀ T, wfDefs D T = true → wfDefs D (defsAccL true fs T) = true :=
  WfConv.list D fs fun f _ => wf_convert D f

theorem wf_convertP (D : Defs) (ps : List (String × FieldDecl)) : wfFragP ps = true → RefsResolveP D ps →
    (∀ n s, (n, s) ∈ emitP true ps → wfDraft4 D s = true)
      ∧ ∀ T, wfDefs D T = true → wfDefs D (defsAccP true ps T) = true :=
  WfConv.fields D ps fun nf _ => wf_convert D nf.2

theorem wf_list (D : Defs) : ∀ fs : List FieldDecl, wfFragL fs = true → RefsResolveL D fs →
    ∀ s ∈ emitL true fs, wfDraft4 D s = true :=
  fun fs hf hrf => (wfList_iff D _).mp (wf_convertL D fs hf hrf).1

theorem wf_listW (D : Defs) : ∀ fs : List FieldDecl, wfFragL fs = true → RefsResolveL D fs →
    ∀ s ∈ emitLW true fs, wfDraft4 D s = true :=
  fun fs hf hrf => (wfList_iff D _).mp (wf_convertL D fs hf hrf).2.1

theorem wf_opt (D : Defs) : ∀ fs : List FieldDecl, wfFragOpt fs = true → RefsResolveL D fs →
    ∀ f ∈ fs, isNoneF f = false → wfDraft4 D (emit true f) = true
  | g :: fs, hf, hrf, f, hm, hnf => by
    rw [wfFragOpt, Bool.and_eq_true_iff] at hf
    rcases List.mem_cons.mp hm with rfl | hm'
    · exact (wf_convert D f (by simpa [hnf] using hf.1) hrf.1).schema
    · exact wf_opt D fs hf.2 hrf.2 f hm' hnf

/-- the top-level class (`structure_to_schema`): its schema, in the field-wrapper form or not, and the
    table it returns -/
theorem wf_class (D : Defs) (cls : FieldDecl) (hfrag : inWfFragment cls = true)
    (hrefs : ClassRefsResolve D cls) :
    wfDraft4 D (classSchema true cls) = true ∧ wfDefs D (classDefs true cls) = true := by
  cases cls with
  | struct c fields defaults =>
    simp only [inWfFragment, Bool.and_eq_true_iff] at hfrag
    cases hcol : collapses c (fields.map (·.1)) with
    | true =>
      have ⟨p1, p2⟩ := wf_convertP D fields (by simpa [hcol] using hfrag.2) hrefs
      refine ⟨?_, p2 [] rfl⟩
      simp only [classSchema, structShape, emitP_names, hcol, if_true]
      cases hfs : emitP true fields with
      | nil => rw [← emitP_names true, hfs] at hcol; simp [collapses] at hcol
      | cons p ps => exact p1 p.1 p.2 (by rw [hfs]; simp)
    | false =>
      have hF : wfFragF (.struct c fields defaults) = true := by simpa [hcol] using hfrag.2
      have ⟨p1, p2⟩ := wf_convertP D fields (Bool.and_eq_true_iff.mp hF).2 hrefs
      rw [classSchema_classObj true c fields defaults hcol]
      exact ⟨c08_wf_classObj D c fields defaults hF p1, p2 [] rfl⟩
  | _ => simp [inWfFragment] at hfrag

end Typedpy.Sch
