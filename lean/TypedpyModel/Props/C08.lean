/-
  Props/C08.lean — C08: the exported JSON schema is well-formed and admits every serialized valid
  instance; on the exact sub-fragment every admitted document is accepted by the Deserializer.

  Model: Sem/Schema.lean (`toSchema`, `dialectFix`); validator and well-formedness written from the
  draft-4 specification: Spec/JsValid.lean (`jsValidFuel`, `wfDocument`); fragments and regions:
  Spec/SchemaFrag.lean.  The code violates the full statement (see the counterexample theorems,
  each a known finding); what is proved is the statement restricted by explicit decidable
  predicates that exclude exactly those regions.
-/
import TypedpyModel.Lemmas.SchemaDefs
import TypedpyModel.Lemmas.SchemaRename
import TypedpyModel.Lemmas.SchemaExactClass
import TypedpyModel.Lemmas.SchemaAdmits
import TypedpyModel.Lemmas.SchemaWf
import TypedpyModel.Lemmas.SchemaDialect
namespace Typedpy.C08
open Typedpy Typedpy.Sch

/-- the verdict of the draft-4 validator on a document, for the pair `structure_to_schema`
    returns (after the dialect fix), with fuel `n` for `$ref` jumps -/
def schemaAccepts (S : String → String → Bool) (cls : FieldDecl) (n : Nat) (doc : PyVal) : Bool :=
  jsValidFuel n (fixedPtrDefs cls) S (dialectFix (toSchema cls).1) doc

/-- full-strength statement, admits half (false of the code, see the counterexamples) -/
def C08_admits_statement : Prop :=
  ∀ (O : Oracles) (S : String → String → Bool), (∀ p s, O.reMatch p s = true → S p s = true) →
  ∀ (cls : FieldDecl) (x j : PyVal), raises cls = false → wellFormed O cls x = true →
    serialize O cls x = .ok j → schemaAccepts S cls (refDepth cls) j = true

/-- full-strength statement, well-formedness half -/
def C08_wellformed_statement : Prop :=
  ∀ cls : FieldDecl, raises cls = false →
    wfDocument (dialectFix (toSchema cls).1) (fixDefs (toSchema cls).2) = true

/-- **the dialect rewrite is exactly the emission with the two draft-4 spellings** — for EVERY
    class declaration (any nesting, defaults, field wrappers, raising kinds included): the schema
    and the definitions `structure_to_schema` returns, rewritten by the documented two-rule
    `dialectFix` (`multiplesOf` → `multipleOf`, `not: [..]` → `not: {anyOf: [..]}`, at schema
    positions only), are `classSchema true` / `classDefs true`, the objects the lemmas speak about. -/
theorem dialect_fix_is_emit_true (cls : FieldDecl) :
    dialectFix (toSchema cls).1 = classSchema true cls
    ∧ fixDefs (toSchema cls).2 = classDefs true cls
    ∧ fixedPtrDefs cls = ptrDefs (classDefs true cls) :=
  ⟨c08_fix_classSchema cls, c08_fix_classDefs cls, by simp only [fixedPtrDefs, toSchema, c08_fix_classDefs]⟩

theorem dialect_fix_field (f : FieldDecl) : dialectFix (emit false f) = emit true f := c08_fix_emit f

/-- **schema_admits (partial).**  For every class declaration in the fragment (unbounded nesting),
    every regular-expression oracle pair with `match ⇒ search`, every instance in the region (deeply
    well-formed, outside the known-finding regions) and every fuel that covers the nesting of class
    references: the schema `structure_to_schema` returns, after the dialect rewrite, accepts the
    serialization.  `ClassRefsFaithful` says that no two different classes share a `__name__`. -/
theorem schema_admits_partial (O : Oracles) (S : String → String → Bool)
    (hS : ∀ p s, O.reMatch p s = true → S p s = true) (cls : FieldDecl) (x j : PyVal) (n : Nat)
    (hfrag : inSchemaFragment cls = true)
    (hrefs : ClassRefsFaithful (fixedPtrDefs cls) cls)
    (hn : refDepth cls ≤ n)
    (hreg : inAdmitRegion O cls x = true)
    (hser : serialize O cls x = .ok j) :
    schemaAccepts S cls n j = true := by
  unfold schemaAccepts
  rw [(dialect_fix_is_emit_true cls).1]
  exact admits_class O S hS (fixedPtrDefs cls) cls x j n hfrag hrefs hn hreg hser

theorem renamed_dialect_fix (km : KeyMap) (cls : FieldDecl) :
    dialectFix (classSchemaM false km cls) = classSchemaM true km cls := by
  cases cls with
  | struct c fields defaults =>
    simp only [classSchemaM]
    split
    · cases fields with
      | nil => rfl
      | cons p ps =>
        obtain ⟨n, f⟩ := p
        simp only [emitP, c08_fix_emit f]
    · rw [c08_fix_classObjM, c08_fix_emitP]
  | _ => rfl

/-- **schema_admits under a key-renaming `_serialization_mapper` (partial).**  `km` is the
    string-valued key map of the top-level class's mapper (`mapper[key]` when it is a `str`).  Under
    the hypotheses of `schema_admits_partial` plus the decidable `renameSafe` (the class has no
    defaults, the key map is injective on the field names and the keys of the document, and the
    exported `required` is the image of the required names) the schema exported WITH the mapper, after the dialect rewrite,
    accepts the serialization written WITH the mapper. -/
theorem schema_admits_renamed_partial (O : Oracles) (S : String → String → Bool)
    (hS : ∀ p s, O.reMatch p s = true → S p s = true) (km : KeyMap) (cls : FieldDecl) (x j : PyVal) (n : Nat)
    (hfrag : inSchemaFragment cls = true)
    (hrefs : ClassRefsFaithful (fixedPtrDefs cls) cls)
    (hn : refDepth cls ≤ n)
    (hreg : inAdmitRegion O cls x = true)
    (hser : serialize O cls x = .ok j)
    (hsafe : renameSafe km cls j = true) :
    jsValidFuel n (fixedPtrDefs cls) S (dialectFix (classSchemaM false km cls)) (renameDoc km j) = true := by
  rw [renamed_dialect_fix]
  exact c08_admits_class_renamed O S hS (fixedPtrDefs cls) km cls x j n hfrag hrefs hn hreg hser hsafe

theorem region_instances_wellformed (O : Oracles) (cls : FieldDecl) (x : PyVal)
    (hfrag : inSchemaFragment cls = true) (hreg : inAdmitRegion O cls x = true) :
    wellFormed O cls x = true := by
  cases cls with
  | struct c fields defaults =>
    cases x with
    | inst cn attrs =>
      simp only [inAdmitRegion, regF, Bool.and_eq_true_iff] at hreg
      simp only [wellFormed, cInline, Bool.and_eq_true_iff]
      exact ⟨hreg.1.1.1.1, hreg.1.1.2⟩
    | _ => simp [inAdmitRegion, regF] at hreg
  | _ => simp [inSchemaFragment] at hfrag

theorem field_admits_partial (O : Oracles) (S : String → String → Bool)
    (hS : ∀ p s, O.reMatch p s = true → S p s = true) (D : Defs) (f : FieldDecl) (n : Nat) (v j : PyVal)
    (hfrag : fragF f = true) (hrefs : RefsFaithful D f) (hn : refDepth f ≤ n)
    (hc : conforms O f v = true) (hreg : regF O f v = true) (hser : ser O f v = .ok j) :
    jsValidFuel n D S (emit true f) j = true :=
  admits_field O S hS D f n v hfrag hrefs hn hc hreg j hser

/-- the "field wrapper" form (one required field, no additional properties): the class's schema is
    the field's schema and accepts the compact serialization -/
theorem wrapper_admits_partial (O : Oracles) (S : String → String → Bool)
    (hS : ∀ p s, O.reMatch p s = true → S p s = true) (D : Defs) (c : ClassOpts) (name : String)
    (f : FieldDecl) (v j : PyVal) (n : Nat)
    (hcol : collapses c [name] = true) (hfrag : fragF f = true) (hrefs : RefsFaithful D f)
    (hn : refDepth f ≤ n) (hc : conforms O f v = true) (hreg : regF O f v = true)
    (hser : ser O f v = .ok j) :
    jsValidFuel n D S (classSchema true (.struct c [(name, f)] [])) j = true := by
  have : classSchema true (.struct c [(name, f)] []) = emit true f := by
    simp only [classSchema, structShape, emitP, List.map]
    simp [hcol]
  rw [this]
  exact admits_field O S hS D f n v hfrag hrefs hn hc hreg j hser

/-- **schema_wellformed (partial).**  For every class declaration in the well-formedness fragment
    (unbounded nesting; defaults that are JSON values included) the WHOLE document
    `structure_to_schema` returns is well-formed after the dialect rewrite: the schema and every
    definition in the definitions table satisfy the draft-4 meta-schema keyword by keyword, and every
    `$ref` anywhere in them resolves inside the returned definitions.  No hypothesis on class names:
    a `__name__` shared by two classes makes a definition wrong (`counterexample_name_collision`),
    not ill-formed. -/
theorem schema_wellformed_partial (cls : FieldDecl) (hfrag : inWfFragment cls = true) :
    wfDocument (dialectFix (toSchema cls).1) (fixDefs (toSchema cls).2) = true := by
  rw [(dialect_fix_is_emit_true cls).1, (dialect_fix_is_emit_true cls).2.1]
  exact c08_wf_document cls hfrag

/-- **every `$ref` resolves** — for EVERY class declaration (no fragment at all): each class
    reference at any depth points at a name that the returned definitions define -/
theorem definitions_refs_resolve (cls : FieldDecl) : ClassRefsResolve (fixedPtrDefs cls) cls := by
  rw [(dialect_fix_is_emit_true cls).2.2]
  exact c08_classRefsResolve true cls

theorem field_wellformed_partial (D : Defs) (f : FieldDecl) (hfrag : wfFragF f = true)
    (hrefs : RefsResolve D f) : wfDraft4 D (emit true f) = true :=
  (wf_convert D f hfrag hrefs).schema

/-- **schema_exact (partial, field level).**  On the exact scalar sub-fragment (Integer with
    bounds / multiplesOf / a sign class without an explicit bound on the same side; Number and Float
    with bounds; String with lengths and a start-anchored pattern; Boolean; Enum of literals or of
    an enum class), with the regular-expression hypothesis `search ⇒ match` for start-anchored
    patterns made explicit: every document value the field's schema admits is accepted by
    `deserialize_single_field` and by the validation the constructor then runs. -/
theorem field_exact_partial (O : Oracles) (R : String → PyVal → Bool) (S : String → String → Bool)
    (hS : ∀ p s, startAnchored p = true → S p s = true → O.reMatch p s = true)
    (opts : DeserOpts) (ign : Bool) (f : FieldDecl) (v : PyVal)
    (hfrag : exactScalar f = true) (h : jsV R S (emit true f) v = true) :
    ∃ y y', deser O opts ign f v = .ok y ∧ validate O f y = .ok y' :=
  exact_scalar O R S hS opts ign f v hfrag h

/-- **schema_exact (partial, field level: containers and nested classes).**  `field_exact_partial`
    extended to the fragment `exactF`: homogeneous `Array[X]` (any size bounds) and `Tuple[X]` without
    `uniqueItems`, `Optional[X]` (not as a direct array / tuple element or map value), `Map[String, X]`
    (unconstrained key, no size bounds) and nested Structure classes by `$ref` (no defaults), nested to any depth
    over the exact scalars.  Every JSON document value (object keys are strings) that the field's schema admits —
    class references resolved through a faithful definitions table with enough fuel — is not null and
    is accepted by `deserialize_single_field` and by the field's validation -/
theorem field_exact_containers_partial (O : Oracles) (S : String → String → Bool)
    (hS : ∀ p s, startAnchored p = true → S p s = true → O.reMatch p s = true)
    (opts : DeserOpts) (D : Defs) (f : FieldDecl) (n : Nat) (ign : Bool) (v : PyVal)
    (hfrag : exactF f = true) (hrefs : RefsFaithful D f) (hn : refDepth f ≤ n) (hdoc : jsonDoc v = true)
    (h : jsValidFuel n D S (dialectFix (emit false f)) v = true) :
    v.isNone = false ∧ ∃ y y', deser O opts ign f v = .ok y ∧ validate O f y = .ok y' := by
  rw [jsValidFuel, dialect_fix_field, jsV_emit S D f n v hrefs hn] at h
  exact exactDoc O S hS f opts ign v hfrag hdoc h

/-- **schema_exact (partial, class level).**  For every class of `inExactFragment` (not a field wrapper,
    no defaults, fields in `exactF`: exact scalars, Array[X], Tuple[X], Optional[X], Map[String, X], nested classes, at any depth),
    every JSON object that the class's schema admits — the schema and definitions `structure_to_schema`
    returns, after the dialect rewrite, with fuel covering the nesting of class references — and every
    flag setting of the Deserializer: `Deserializer(cls).deserialize(doc)` succeeds (each member passes
    its field, required members are present, undeclared members are allowed or absent, the constructor's
    validation accepts).  Positional items and sized / key-constrained Maps are not covered: for positional
    items and key-constrained Maps the schema is NOT exact (findings exact:positional-shorter,
    exact:map-key-constraint). -/
theorem schema_exact_class_partial (O : Oracles) (S : String → String → Bool)
    (hS : ∀ p s, startAnchored p = true → S p s = true → O.reMatch p s = true)
    (opts : DeserOpts) (cls : FieldDecl) (n : Nat) (kvs : List (PyVal × PyVal))
    (hfrag : inExactFragment cls = true) (hrefs : ClassRefsFaithful (fixedPtrDefs cls) cls)
    (hn : refDepth cls ≤ n) (hdoc : jsonDoc (.dict kvs) = true)
    (h : schemaAccepts S cls n (.dict kvs) = true) :
    ∃ x, deserialize O opts cls (.dict kvs) = .ok x := by
  unfold schemaAccepts jsValidFuel at h
  rw [(dialect_fix_is_emit_true cls).1] at h
  exact c08_exact_class O S hS opts (fixedPtrDefs cls) cls n kvs hfrag hrefs hn hdoc h

/-! ### the closed examples are evaluated on what the schema means

  Where the class references are faithful (checked by evaluation: `refsFaithfulBP`, on the table before the dialect
  rewrite, which `dialect_fix_is_emit_true` says is the same) `schemaAccepts` is `docOk` of the class
  (`jsV_classSchema`).  The examples below rewrite with this equation first, so that the kernel judges the document
  against the declaration and never compares a keyword name.  A class that allows additional properties is never
  the field-wrapper form, so `c.addl = true` stands for the side condition on `collapses`. -/

theorem schemaAccepts_eq (S : String → String → Bool) (c : ClassOpts) (fields : List (String × FieldDecl))
    (defaults : List (String × PyVal)) (n : Nat) (doc : PyVal)
    (haddl : c.addl = true)
    (hrefs : refsFaithfulBP (ptrDefs (classDefs true (.struct c fields defaults))) fields = true) (hn : refDepthP fields ≤ n) :
    schemaAccepts S (.struct c fields defaults) n doc = docOk S (.struct c fields defaults) doc := by
  rw [schemaAccepts, jsValidFuel, (dialect_fix_is_emit_true _).1, (dialect_fix_is_emit_true _).2.2]
  exact jsV_classSchema S _ c fields defaults n doc (by simp [collapses, haddl]) (refsFaithfulBP_sound _ fields hrefs) hn

theorem refDepthP_le_refDepth (c : ClassOpts) (fields : List (String × FieldDecl)) (defaults : List (String × PyVal)) :
    refDepthP fields ≤ refDepth (.struct c fields defaults) := by
  simp only [refDepth]; split <;> omega

/-! ### a concrete non-trivial input meets the hypotheses -/

def exO : Oracles := { reMatch := fun p s => p == "^x" && s == "xy" }
def exS : String → String → Bool := fun p s => p == "^x" && s == "xy"

def exInner : FieldDecl :=
  .struct { name := "Inner", required := ["k"], addl := false, accepts := ["Inner"] }
    [("k", .integer { min := some ⟨0, 1⟩, max := some ⟨10, 1⟩, exclMax := true }),
     ("s", .string (some 1) (some 3) (some "^x"))] []

def exCls : FieldDecl :=
  .struct { name := "Outer", required := ["a", "i"], accepts := ["Outer"] }
    [("a", .seqPos .list [.integer {}, .string none none none] false {}),
     ("i", exInner),
     ("j", .seqOf .list exInner { max := some 2 }),
     ("t", .tuplePos [.boolean, .enumCls "Color" ["RED", "GREEN"]] false),
     ("m", .mapOf (.string none none none) (.float { sign := .nonneg }) {}),
     ("o", .anyOf [.number { mult := some 2 }, .noneF])] []

def exInnerVal (k : Int) : PyVal := .inst "Inner" [("k", .int k), ("s", .str "xy")]

def exVal : PyVal :=
  .inst "Outer" [("a", .list [.int 1, .str "q"]), ("i", exInnerVal 3), ("j", .list [exInnerVal 0, exInnerVal 9]),
                 ("t", .tuple [.bool true, .enumv "Color" "GREEN"]),
                 ("m", .dict [(.str "p", .float ⟨1, 2⟩)]), ("o", .int 4)]

theorem schema_admits_example :
    inSchemaFragment exCls = true ∧ classRefsFaithfulB (fixedPtrDefs exCls) exCls = true
    ∧ inAdmitRegion exO exCls exVal = true ∧ refDepth exCls = 2
    ∧ (match serialize exO exCls exVal with
       | .ok j => schemaAccepts exS exCls 2 j
       | .error _ => false) = true := by
  have hB : classRefsFaithfulB (ptrDefs (classDefs true exCls)) exCls = true := by decide +kernel
  have h : ∀ j, schemaAccepts exS exCls 2 j = docOk exS exCls j := fun j =>
    schemaAccepts_eq exS _ _ _ 2 j rfl hB (by decide +kernel)
  simp only [h]
  exact ⟨by decide +kernel, (dialect_fix_is_emit_true exCls).2.2 ▸ hB, by decide +kernel⟩

theorem schema_wellformed_example :
    inWfFragment exCls = true ∧ classRefsFaithfulB (fixedPtrDefs exCls) exCls = true
    ∧ wfDocument (dialectFix (toSchema exCls).1) (fixDefs (toSchema exCls).2) = true
    ∧ structEq (dialectFix (toSchema exCls).1) (classSchema true exCls) = true := by
  refine ⟨?hf, schema_admits_example.2.1, schema_wellformed_partial _ ?hf, ?_⟩ <;> decide +kernel

theorem field_exact_example :
    exactScalar (.integer { min := some ⟨0, 1⟩, max := some ⟨10, 1⟩, exclMax := true, mult := some 5 }) = true
    ∧ jsV (fun _ _ => false) exS
        (emit true (.integer { min := some ⟨0, 1⟩, max := some ⟨10, 1⟩, exclMax := true, mult := some 5 }))
        (.int 5) = true
    ∧ jsV (fun _ _ => false) exS
        (emit true (.integer { min := some ⟨0, 1⟩, max := some ⟨10, 1⟩, exclMax := true, mult := some 5 }))
        (.int 10) = false := by
  rw [jsV_emit_scalar _ _ _ _ rfl, jsV_emit_scalar _ _ _ _ rfl]
  decide +kernel

/-! ### the code violates the full statement: kernel-checked counterexamples (known findings), next to the
    former counterexamples (`fixed_*`) and examples inside the fragments -/

def anyO : Oracles := { reMatch := fun _ _ => true }
def anyS : String → String → Bool := fun _ _ => true

/-- what the validator says about the serialization of `x` (`true` when serialization fails) -/
def verdict (cls : FieldDecl) (x : PyVal) : Bool :=
  match serialize anyO cls x with
  | .ok j => schemaAccepts anyS cls (refDepth cls) j
  | .error _ => true

def flat (name : String) (required : List String) (fields : List (String × FieldDecl))
    (defaults : List (String × PyVal) := []) (ignoreNone : Bool := false) : FieldDecl :=
  .struct { name := name, required := required, accepts := [name], ignoreNone := ignoreNone } fields defaults

theorem verdict_eq (c : ClassOpts) (fields : List (String × FieldDecl)) (defaults : List (String × PyVal))
    (x : PyVal) (haddl : c.addl = true)
    (hrefs : refsFaithfulBP (ptrDefs (classDefs true (.struct c fields defaults))) fields = true) :
    verdict (.struct c fields defaults) x =
      (match serialize anyO (.struct c fields defaults) x with
       | .ok j => docOk anyS (.struct c fields defaults) j
       | .error _ => true) := by
  unfold verdict
  cases serialize anyO (.struct c fields defaults) x with
  | ok j => exact schemaAccepts_eq anyS c fields defaults _ j haddl hrefs (refDepthP_le_refDepth c fields defaults)
  | error _ => rfl

/-- finding `admits:bool-as-number`: `Integer` accepts `True`, which serializes to `true`, which
    `type: integer` rejects -/
theorem counterexample_bool_as_number :
    wellFormed anyO (flat "K" ["a"] [("a", .integer {})]) (.inst "K" [("a", .bool true)]) = true
    ∧ verdict (flat "K" ["a"] [("a", .integer {})]) (.inst "K" [("a", .bool true)]) = false := by
  rw [flat, verdict_eq _ _ _ _ rfl (by decide +kernel)]
  decide +kernel

/-- finding `admits:sign-only-float-bound`: `PositiveFloat` is mapped to `minimum: 0.000001` -/
theorem counterexample_sign_only_float_bound :
    wellFormed anyO (flat "K" ["f"] [("f", .float { sign := .pos })])
      (.inst "K" [("f", .float ⟨1, 10000000⟩)]) = true
    ∧ verdict (flat "K" ["f"] [("f", .float { sign := .pos })])
      (.inst "K" [("f", .float ⟨1, 10000000⟩)]) = false := by
  rw [flat, verdict_eq _ _ _ _ rfl (by decide +kernel)]
  decide +kernel

/-- fixed (579fe8f, was finding `admits:homogeneous-tuple`): `Tuple[Integer]` of any length is
    exported as `items: integer`; inside `schema_admits_partial` -/
theorem fixed_homogeneous_tuple :
    inSchemaFragment (flat "K" ["t"] [("t", .tupleOf (.integer {}) false)]) = true
    ∧ inAdmitRegion anyO (flat "K" ["t"] [("t", .tupleOf (.integer {}) false)])
      (.inst "K" [("t", .tuple [.int 1, .int 2, .int 3])]) = true
    ∧ verdict (flat "K" ["t"] [("t", .tupleOf (.integer {}) false)])
      (.inst "K" [("t", .tuple [.int 1, .int 2, .int 3])]) = true := by
  rw [flat, verdict_eq _ _ _ _ rfl (by decide +kernel)]
  decide +kernel

def admittedButRejected (cls : FieldDecl) (doc : PyVal) : Bool :=
  schemaAccepts anyS cls (refDepth cls) doc
    && (match deserialize anyO {} cls doc with | .ok _ => false | .error _ => true)

theorem admittedButRejected_eq (c : ClassOpts) (fields : List (String × FieldDecl))
    (defaults : List (String × PyVal)) (doc : PyVal) (haddl : c.addl = true)
    (hrefs : refsFaithfulBP (ptrDefs (classDefs true (.struct c fields defaults))) fields = true) :
    admittedButRejected (.struct c fields defaults) doc =
      (docOk anyS (.struct c fields defaults) doc
        && (match deserialize anyO {} (.struct c fields defaults) doc with | .ok _ => false | .error _ => true)) := by
  rw [admittedButRejected,
    schemaAccepts_eq anyS c fields defaults _ doc haddl hrefs (refDepthP_le_refDepth c fields defaults)]

def wrapperInner : FieldDecl :=
  .struct { name := "Inner", required := ["a"], addl := false, accepts := ["Inner"] } [("a", .integer {})] []

/-- fixed (da4a1d5, was findings `admits:nested-field-wrapper` / `exact:nested-field-wrapper`): a
    nested class with one required field and no additional properties is exported as an object
    schema; inside `schema_admits_partial` -/
theorem fixed_nested_field_wrapper :
    inSchemaFragment (flat "Outer" ["i"] [("i", wrapperInner), ("b", .boolean)]) = true
    ∧ inAdmitRegion anyO (flat "Outer" ["i"] [("i", wrapperInner), ("b", .boolean)])
      (.inst "Outer" [("i", .inst "Inner" [("a", .int 1)])]) = true
    ∧ verdict (flat "Outer" ["i"] [("i", wrapperInner), ("b", .boolean)])
      (.inst "Outer" [("i", .inst "Inner" [("a", .int 1)])]) = true
    ∧ admittedButRejected (flat "Outer" ["i"] [("i", wrapperInner), ("b", .boolean)])
      (.dict [(.str "i", .int 5)]) = false := by
  rw [flat, verdict_eq _ _ _ _ rfl (by decide +kernel)]
  rw [admittedButRejected_eq _ _ _ _ rfl (by decide +kernel)]
  decide +kernel

/-- finding `admits:default-marked-required`: a field with a default is listed under `required`,
    but under `_ignore_none` an explicit `None` leaves it unset -/
theorem counterexample_default_marked_required :
    (match construct anyO (flat "K" ["b"] [("a", .integer {}), ("b", .integer {})] [("a", .int 5)] true)
        [("a", .none), ("b", .int 1)] with
     | .ok y => PyVal.pyEq y (.inst "K" [("b", .int 1)])
     | .error _ => false) = true
    ∧ wellFormed anyO (flat "K" ["b"] [("a", .integer {}), ("b", .integer {})] [("a", .int 5)] true)
      (.inst "K" [("b", .int 1)]) = true
    ∧ verdict (flat "K" ["b"] [("a", .integer {}), ("b", .integer {})] [("a", .int 5)] true)
      (.inst "K" [("b", .int 1)]) = false := by
  rw [flat, verdict_eq _ _ _ _ rfl (by decide +kernel)]
  decide +kernel

/-- finding `admits:required-holds-none`: a required `AnyOf[Integer, None]` holding `None` is
    dropped by the serializer -/
theorem counterexample_required_holds_none :
    wellFormed anyO (flat "K" ["a"] [("a", .anyOf [.integer {}, .noneF]), ("b", .boolean)])
      (.inst "K" [("a", .none)]) = true
    ∧ verdict (flat "K" ["a"] [("a", .anyOf [.integer {}, .noneF]), ("b", .boolean)])
      (.inst "K" [("a", .none)]) = false := by
  rw [flat, verdict_eq _ _ _ _ rfl (by decide +kernel)]
  decide +kernel

def sameA : FieldDecl :=
  .struct { name := "Same", required := ["x"], accepts := ["Same"] } [("x", .integer {}), ("y", .integer {})] []
def sameB : FieldDecl :=
  .struct { name := "Same", required := ["s"], accepts := ["Same"] } [("s", .boolean), ("t", .boolean)] []

/-- finding `definitions-name-collision`: two different classes with one `__name__` share one
    definition -/
theorem counterexample_name_collision :
    classRefsFaithfulB (fixedPtrDefs (flat "K" ["a", "b"] [("a", sameA), ("b", sameB)]))
      (flat "K" ["a", "b"] [("a", sameA), ("b", sameB)]) = false
    ∧ verdict (flat "K" ["a", "b"] [("a", sameA), ("b", sameB)])
      (.inst "K" [("a", .inst "Same" [("x", .int 1)]), ("b", .inst "Same" [("s", .bool true)])]) = false := by
  decide +kernel

def wfOf (cls : FieldDecl) : Bool := wfDocument (dialectFix (toSchema cls).1) (fixDefs (toSchema cls).2)

/-- finding `ill-formed:required:minItems`: a class without required fields gets `required: []`,
    which draft 4 forbids (`stringArray` has `minItems: 1`) -/
theorem counterexample_required_empty :
    raises (flat "K" [] [("a", .integer {}), ("b", .boolean)]) = false
    ∧ wfOf (flat "K" [] [("a", .integer {}), ("b", .boolean)]) = false := by decide +kernel

/-- fixed (dc01ef6, was finding `ill-formed:patternProperties:type`): a constrained map key is
    exported as `patternProperties: {pattern: schema}`; inside both fragments -/
theorem fixed_pattern_properties :
    inWfFragment (flat "K" ["m"] [("m", .mapOf (.string none none (some "^a")) (.integer {}) {}), ("b", .boolean)]) = true
    ∧ inSchemaFragment (flat "K" ["m"] [("m", .mapOf (.string none none (some "^a")) (.integer {}) {}), ("b", .boolean)]) = true
    ∧ wfOf (flat "K" ["m"] [("m", .mapOf (.string none none (some "^a")) (.integer {}) {}), ("b", .boolean)]) = true
    ∧ verdict (flat "K" ["m"] [("m", .mapOf (.string none none (some "^a")) (.integer {}) {}), ("b", .boolean)])
        (.inst "K" [("m", .dict [(.str "ab", .int 1)])]) = true := by
  rw [flat, verdict_eq _ _ _ _ rfl (by decide +kernel)]
  refine ⟨?hf, ?_, schema_wellformed_partial _ ?hf, ?_⟩ <;> decide +kernel

/-- fixed (1f58d10, was `ill-formed:exclusiveMaximum:dependencies` and
    `admits:exclusiveMaximum-without-maximum`): `exclusiveMaximum` is emitted only with a declared
    maximum, so `NonPositiveInt(exclusiveMaximum=True)` holding 0 validates -/
theorem fixed_exclusive_maximum_alone :
    inWfFragment (flat "K" ["a"] [("a", .integer { exclMax := true, sign := .nonpos }), ("b", .boolean)]) = true
    ∧ wfOf (flat "K" ["a"] [("a", .integer { exclMax := true, sign := .nonpos }), ("b", .boolean)]) = true
    ∧ verdict (flat "K" ["a"] [("a", .integer { exclMax := true, sign := .nonpos }), ("b", .boolean)])
        (.inst "K" [("a", .int 0)]) = true := by
  rw [flat, verdict_eq _ _ _ _ rfl (by decide +kernel)]
  refine ⟨?hf, schema_wellformed_partial _ ?hf, ?_⟩ <;> decide +kernel

/-- fixed (1f58d10, was `ill-formed:multipleOf:minimum`): a negative `multiplesOf` is exported as
    its absolute value -/
theorem fixed_multiple_of_negative :
    inWfFragment (flat "K" ["a"] [("a", .integer { mult := some (-2) }), ("b", .boolean)]) = true
    ∧ wfOf (flat "K" ["a"] [("a", .integer { mult := some (-2) }), ("b", .boolean)]) = true
    ∧ verdict (flat "K" ["a"] [("a", .integer { mult := some (-2) }), ("b", .boolean)])
        (.inst "K" [("a", .int (-4))]) = true := by
  rw [flat, verdict_eq _ _ _ _ rfl (by decide +kernel)]
  refine ⟨?hf, schema_wellformed_partial _ ?hf, ?_⟩ <;> decide +kernel

def exExactInner : FieldDecl :=
  .struct { name := "In", required := ["k"], addl := false, accepts := ["In"] }
    [("k", .integer { min := some ⟨0, 1⟩ }), ("s", .string none (some 2) none)] []

def exExactCls : FieldDecl :=
  flat "K" ["i", "s"] [("i", .integer { min := some ⟨0, 1⟩, max := some ⟨10, 1⟩, sign := .any }),
                       ("s", .string (some 1) (some 3) none), ("b", .boolean),
                       ("e", .enumCls "Color" ["RED", "GREEN"]),
                       ("l", .seqOf .list (.tupleOf (.integer { max := some ⟨5, 1⟩ }) false) { max := some 2 }),
                       ("n", .seqOf .list exExactInner {}),
                       ("o", .anyOf [.seqOf .list (.number {}) { min := some 1 }, .noneF]),
                       ("m", .mapOf (.string none none none) (.tupleOf .boolean false) {})]

theorem schema_exact_class_example :
    inExactFragment exExactCls = true
    ∧ classRefsFaithfulB (fixedPtrDefs exExactCls) exExactCls = true ∧ refDepth exExactCls = 2
    ∧ schemaAccepts exS exExactCls 2 (.dict [(.str "i", .int 3), (.str "s", .str "xy"), (.str "e", .str "RED"), (.str "l", .list [.list [.int 1, .int 5], .list []]), (.str "n", .list [.dict [(.str "k", .int 2)]]), (.str "o", .list [.float ⟨1, 2⟩]), (.str "m", .dict [(.str "k", .list [.bool true])])]) = true
    ∧ (match deserialize exO {} exExactCls (.dict [(.str "i", .int 3), (.str "s", .str "xy"), (.str "e", .str "RED"), (.str "l", .list [.list [.int 1, .int 5], .list []]), (.str "n", .list [.dict [(.str "k", .int 2)]]), (.str "o", .list [.float ⟨1, 2⟩]), (.str "m", .dict [(.str "k", .list [.bool true])])]) with
       | .ok _ => true | .error _ => false) = true
    ∧ schemaAccepts exS exExactCls 2 (.dict [(.str "i", .int 11), (.str "s", .str "xy")]) = false := by
  have hB : classRefsFaithfulB (ptrDefs (classDefs true exExactCls)) exExactCls = true := by decide +kernel
  have h : ∀ d, schemaAccepts exS exExactCls 2 d = docOk exS exExactCls d := fun d =>
    schemaAccepts_eq exS _ _ _ 2 d rfl hB (by decide +kernel)
  rw [h, h]
  exact ⟨by decide +kernel, (dialect_fix_is_emit_true exExactCls).2.2 ▸ hB, by decide +kernel⟩

def exDefaults : FieldDecl :=
  flat "K" ["a"] [("a", .integer {}), ("c", .enumCls "Color" ["RED", "GREEN"]),
                  ("l", .seqOf .list (.string none none none) {}), ("i", exInner)]
    [("c", .enumv "Color" "GREEN"), ("l", .list [.str "x", .str "y"])]

/-- defaults that are JSON values (an enum member by its name, a list of strings) are inside
    `schema_wellformed_partial`; the definitions table (here: `Inner`) is part of the statement -/
theorem wellformed_defaults_example :
    inWfFragment exDefaults = true ∧ wfOf exDefaults = true
    ∧ (toSchema exDefaults).2.length = 1 := by
  refine ⟨?hf, schema_wellformed_partial _ ?hf, ?_⟩ <;> decide +kernel

/-- classes with defaults are inside `schema_admits_partial`: the `default` written into a property
    schema is ignored by the validator, the defaulted fields are required by the schema and present in
    every instance of the region -/
theorem admits_defaults_example :
    inSchemaFragment exDefaults = true
    ∧ inAdmitRegion exO exDefaults
        (.inst "K" [("a", .int 1), ("c", .enumv "Color" "RED"), ("l", .list [.str "q"])]) = true
    ∧ (match serialize exO exDefaults (.inst "K" [("a", .int 1), ("c", .enumv "Color" "RED"), ("l", .list [.str "q"])]) with
       | .ok j => schemaAccepts exS exDefaults 1 j
       | .error _ => false) = true := by
  have h : ∀ j, schemaAccepts exS exDefaults 1 j = docOk exS exDefaults j := fun j =>
    schemaAccepts_eq exS _ _ _ 1 j rfl (by decide +kernel) (by decide +kernel)
  simp only [h]
  decide +kernel

/-- `AllOf` over raw scalars (Number / Integer / String / Enum of literals: accepted = conforms, the
    stored value is the input) is inside `schema_admits_partial`; an `AllOf` with a Float option keeps the
    raw int and stays outside (finding `admits:allOf`) -/
theorem admits_allOf_example :
    inSchemaFragment (flat "K" ["x"] [("x", .allOf [.integer { min := some ⟨0, 1⟩ }, .number { mult := some 2 },
        .enumLit [.int 2, .int 4, .str "q"]]), ("b", .boolean)]) = true
    ∧ inAdmitRegion anyO (flat "K" ["x"] [("x", .allOf [.integer { min := some ⟨0, 1⟩ }, .number { mult := some 2 },
        .enumLit [.int 2, .int 4, .str "q"]]), ("b", .boolean)]) (.inst "K" [("x", .int 4)]) = true
    ∧ verdict (flat "K" ["x"] [("x", .allOf [.integer { min := some ⟨0, 1⟩ }, .number { mult := some 2 },
        .enumLit [.int 2, .int 4, .str "q"]]), ("b", .boolean)]) (.inst "K" [("x", .int 4)]) = true
    ∧ inSchemaFragment (flat "K" ["x"] [("x", .allOf [.integer {}, .float {}]), ("b", .boolean)]) = false := by
  rw [flat, verdict_eq _ _ _ _ rfl (by decide +kernel)]
  decide +kernel

/-- `OneOf` over Number / Integer / String options of pairwise different JSON types is inside
    `schema_admits_partial`: the option that accepts the value accepts its serialization, every other
    option's schema fails on `type`, so exactly one sub-schema matches.  Two numeric options are outside
    (finding `admits:oneOf`: Python tells 1 from 1.0 and an int from a bool, JSON types do not) -/
theorem admits_oneOf_example :
    inSchemaFragment (flat "K" ["x"] [("x", .oneOf [.integer { min := some ⟨0, 1⟩ }, .string (some 1) none none]),
        ("b", .boolean)]) = true
    ∧ inAdmitRegion anyO (flat "K" ["x"] [("x", .oneOf [.integer { min := some ⟨0, 1⟩ }, .string (some 1) none none]),
        ("b", .boolean)]) (.inst "K" [("x", .str "q")]) = true
    ∧ verdict (flat "K" ["x"] [("x", .oneOf [.integer { min := some ⟨0, 1⟩ }, .string (some 1) none none]),
        ("b", .boolean)]) (.inst "K" [("x", .str "q")]) = true
    ∧ inSchemaFragment (flat "K" ["x"] [("x", .oneOf [.integer {}, .number {}]), ("b", .boolean)]) = false := by
  rw [flat, verdict_eq _ _ _ _ rfl (by decide +kernel)]
  decide +kernel

/-- fixed (was finding `ill-formed:default:not-json`): a default is written in its JSON form (a list of
    enum members as the list of their names, a set / tuple as an array); inside `schema_wellformed_partial` -/
theorem fixed_default_json :
    inWfFragment (flat "K" ["a"] [("a", .integer {}), ("l", .seqOf .list (.enumCls "Color" ["RED", "GREEN"]) {}),
        ("s", .setOf false (.integer {}) {})]
      [("l", .list [.enumv "Color" "RED"]), ("s", .set false [.int 1, .int 2])]) = true
    ∧ wfOf (flat "K" ["a"] [("a", .integer {}), ("l", .seqOf .list (.enumCls "Color" ["RED", "GREEN"]) {}),
        ("s", .setOf false (.integer {}) {})]
      [("l", .list [.enumv "Color" "RED"]), ("s", .set false [.int 1, .int 2])]) = true := by
  refine ⟨?hf, schema_wellformed_partial _ ?hf⟩
  decide +kernel

def exSetCls : FieldDecl :=
  flat "K" ["s"] [("s", .setOf false (.string none none none) { max := some 3 }),
                  ("u", .seqOf .list (.integer {}) { uniq := true }),
                  ("t", .tupleOf (.enumCls "Color" ["RED", "GREEN"]) true),
                  ("a", .setAny false {})]

def exSetVal : PyVal :=
  .inst "K" [("s", .set false [.str "a", .str "b"]), ("u", .list [.int 1, .int 2]),
             ("t", .tuple [.enumv "Color" "RED", .enumv "Color" "GREEN"]),
             ("a", .set false [.int 1, .str "x"])]

/-- Set (typed and untyped) and `uniqueItems` on Array / Tuple are inside `schema_admits_partial` when the
    JSON images of the elements are pairwise distinct (`distinctImages`, part of the region) -/
theorem admits_set_unique_example :
    inSchemaFragment exSetCls = true ∧ inAdmitRegion exO exSetCls exSetVal = true
    ∧ (match serialize exO exSetCls exSetVal with
       | .ok j => schemaAccepts exS exSetCls 0 j
       | .error _ => false) = true := by
  have h : ∀ j, schemaAccepts exS exSetCls 0 j = docOk exS exSetCls j := fun j =>
    schemaAccepts_eq exS _ _ _ 0 j rfl (by decide +kernel) (by decide +kernel)
  simp only [h]
  decide +kernel

/-- finding `admits:uniqueItems`: a tuple and a list are different for Python and have one JSON
    image; the instance is well-formed, outside the region, and its serialization is rejected -/
theorem counterexample_unique_items :
    wellFormed anyO (flat "K" ["u"] [("u", .seqAny .list { uniq := true }), ("b", .boolean)])
      (.inst "K" [("u", .list [.tuple [.int 1], .list [.int 1]])]) = true
    ∧ inAdmitRegion anyO (flat "K" ["u"] [("u", .seqAny .list { uniq := true }), ("b", .boolean)])
      (.inst "K" [("u", .list [.tuple [.int 1], .list [.int 1]])]) = false
    ∧ verdict (flat "K" ["u"] [("u", .seqAny .list { uniq := true }), ("b", .boolean)])
      (.inst "K" [("u", .list [.tuple [.int 1], .list [.int 1]])]) = false := by
  rw [flat, verdict_eq _ _ _ _ rfl (by decide +kernel)]
  decide +kernel

def exKm : KeyMap := [("a", "b"), ("i", "inner"), ("t", "T.t")]

/-- a swap-free rename including one onto a dotted key, on the class of `schema_admits_example` -/
theorem admits_renamed_example :
    (match serialize exO exCls exVal with
     | .ok j => renameSafe exKm exCls j
         && jsValidFuel 2 (fixedPtrDefs exCls) exS (dialectFix (classSchemaM false exKm exCls)) (renameDoc exKm j)
         && !jsValidFuel 2 (fixedPtrDefs exCls) exS (dialectFix (classSchemaM false exKm exCls)) j
     | .error _ => false) = true := by decide +kernel

def chainCls : FieldDecl := flat "K" ["a"] [("a", .integer {}), ("b", .integer {})]
def chainKm : KeyMap := [("a", "b"), ("b", "c")]

/-- fixed (was finding `admits:mapper-required-renamed-in-place`): `_serialization_mapper = {"a": "b", "b": "c"}`
    with only `a` required exports `required: ["b"]`; `K(a=1)` serializes to `{"b": 1}`, which validates -/
theorem fixed_mapper_required :
    inSchemaFragment chainCls = true
    ∧ inAdmitRegion anyO chainCls (.inst "K" [("a", .int 1)]) = true
    ∧ requiredFaithful chainKm { name := "K", required := ["a"], accepts := ["K"] } [] ["a", "b"] = true
    ∧ (match serialize anyO chainCls (.inst "K" [("a", .int 1)]) with
       | .ok j => renameSafe chainKm chainCls j
                  && jsValidFuel 0 (fixedPtrDefs chainCls) anyS (dialectFix (classSchemaM false chainKm chainCls))
                    (renameDoc chainKm j)
       | .error _ => false) = true := by decide +kernel

/-- finding `exact:positional-shorter`: positional `Tuple` / `Array` items carry no `minItems`, so
    a shorter array is admitted by the schema and rejected by the Deserializer -/
theorem counterexample_exact_positional_shorter :
    admittedButRejected (flat "K" ["t"] [("t", .tuplePos [.integer {}, .boolean] false), ("b", .boolean)])
      (.dict [(.str "t", .list [.int 1])]) = true := by
  rw [flat, admittedButRejected_eq _ _ _ _ rfl (by decide +kernel)]
  decide +kernel

/-- fixed (was finding `exact:map-size`): `Map(minItems/maxItems)` is exported as `minProperties` /
    `maxProperties`: an over-long object is not admitted, a map inside the bound is -/
theorem fixed_map_size :
    admittedButRejected (flat "K" ["m"] [("m", .mapAny { max := some 1 }), ("b", .boolean)])
      (.dict [(.str "m", .dict [(.str "p", .int 1), (.str "q", .int 2)])]) = false
    ∧ schemaAccepts anyS (flat "K" ["m"] [("m", .mapAny { max := some 1 }), ("b", .boolean)]) 0
      (.dict [(.str "m", .dict [(.str "p", .int 1), (.str "q", .int 2)])]) = false
    ∧ inAdmitRegion anyO (flat "K" ["m"] [("m", .mapAny { max := some 1 }), ("b", .boolean)])
      (.inst "K" [("m", .dict [(.str "p", .int 1)])]) = true
    ∧ verdict (flat "K" ["m"] [("m", .mapAny { max := some 1 }), ("b", .boolean)])
      (.inst "K" [("m", .dict [(.str "p", .int 1)])]) = true := by
  rw [flat, admittedButRejected_eq _ _ _ _ rfl (by decide +kernel)]
  rw [schemaAccepts_eq _ _ _ _ _ _ rfl (by decide +kernel) (by decide +kernel),
    verdict_eq _ _ _ _ rfl (by decide +kernel)]
  decide +kernel

/-- fixed (was finding `admits:null-in-container`): in element position `Optional[X]` is exported as
    `{"anyOf": [X, {"type": "null"}]}`; an array holding None validates (at class level the schema of an
    Optional field stays the schema of X) -/
theorem fixed_null_in_container :
    verdict (flat "K" ["a"] [("a", .seqOf .list (.anyOf [.integer {}, .noneF]) {}), ("o", .anyOf [.integer {}, .noneF])])
      (.inst "K" [("a", .list [.int 1, .none]), ("o", .int 2)]) = true
    ∧ wfOf (flat "K" ["a"] [("a", .seqOf .list (.anyOf [.integer {}, .noneF]) {}), ("o", .anyOf [.integer {}, .noneF])]) = true
    ∧ verdict (flat "K" ["m"] [("m", .mapOf (.string none none none) (.anyOf [.boolean, .noneF]) {}), ("b", .boolean)])
      (.inst "K" [("m", .dict [(.str "k", .none)])]) = true := by
  rw [flat, verdict_eq _ _ _ _ rfl (by decide +kernel)]
  rw [flat, verdict_eq _ _ _ _ rfl (by decide +kernel)]
  refine ⟨?_, schema_wellformed_partial _ ?_, ?_⟩ <;> decide +kernel

/-- finding `exact:enum-null` (since fix 512799b an Enum with a None value is exported, with `null` among the
    enum members): the schema admits `{"d": null}` for a required `d`; the runtime treats a null as an
    absent key and rejects the document -/
theorem counterexample_exact_enum_null :
    raises (flat "K" ["d"] [("d", .enumLit [.int 1, .none]), ("b", .boolean)]) = false
    ∧ admittedButRejected (flat "K" ["d"] [("d", .enumLit [.int 1, .none]), ("b", .boolean)])
      (.dict [(.str "d", .none)]) = true := by
  rw [flat, admittedButRejected_eq _ _ _ _ rfl (by decide +kernel)]
  decide +kernel

end Typedpy.C08
