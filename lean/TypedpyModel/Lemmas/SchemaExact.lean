/-
  Lemmas/SchemaExact.lean — the converse direction on the exact scalar fragment: a document of a scalar
  field (`docOk`, what its schema admits) is accepted by `deserialize_single_field` and then by the
  field's own validation (what the constructor runs).
-/
import TypedpyModel.Lemmas.SchemaAdmits
namespace Typedpy.Sch
open Typedpy

/-- the field accepts the document value: deserialization succeeds and the constructor's
    validation accepts what it produced -/
def Accepted (O : Oracles) (opts : DeserOpts) (ign : Bool) (f : FieldDecl) (v : PyVal) : Prop :=
  ∃ y y', deser O opts ign f v = .ok y ∧ validate O f y = .ok y'

theorem bounds_of_eff (isInt : Bool) (o : NumOpts) (q : Q)
    (hmin : geMin (effMin isInt o) q = true)
    (hmax : leMax (effMax isInt o) (exclEff o) q = true) :
    geMin o.min q = true ∧ leMax o.max o.exclMax q = true := by
  constructor
  · cases hm : o.min with
    | none => rfl
    | some m => simpa [effMin, hm] using hmin
  · cases hm : o.max with
    | none => rfl
    | some m => simpa [effMax, hm, leMax, exclEff] using hmax

/-- on integers the bound substituted for a sign class is exactly the sign condition -/
theorem signOk_of_eff_int (o : NumOpts) (i : Int)
    (hsign : (match o.sign with
      | .any => true
      | .pos | .nonneg => o.min.isNone
      | .neg | .nonpos => o.max.isNone) = true)
    (hmin : geMin (effMin true o) (Q.ofInt i) = true)
    (hmax : leMax (effMax true o) (exclEff o) (Q.ofInt i) = true) :
    signOk o.sign (Q.ofInt i) = true ∧ geMin o.min (Q.ofInt i) = true
      ∧ leMax o.max o.exclMax (Q.ofInt i) = true := by
  obtain ⟨hmin', hmax'⟩ := bounds_of_eff true o _ hmin hmax
  refine ⟨?_, hmin', hmax'⟩
  cases hs : o.sign <;> simp only [hs] at hsign
  · rfl
  · have hm0 : o.min = none := by simpa using hsign
    simp [effMin, hm0, hs, geMin, Q.le, Q.ofInt] at hmin
    simp [signOk, Q.lt, Q.ofInt]; omega
  · have hm0 : o.max = none := by simpa using hsign
    simp [leMax, effMax, hm0, hs, exclEff, Q.le, Q.ofInt] at hmax
    simp [signOk, Q.lt, Q.ofInt]; omega
  · have hm0 : o.max = none := by simpa using hsign
    simp [leMax, effMax, hm0, hs, exclEff] at hmax
    simpa [signOk] using hmax
  · have hm0 : o.min = none := by simpa using hsign
    simp [effMin, hm0, hs, geMin] at hmin
    simpa [signOk] using hmin

theorem jsonEq_pyEq_scalar (v w : PyVal) (hw : enumScalar w = true) (h : jsonEq v w = true) :
    PyVal.pyEq v w = true := by
  cases w with
  | str b | int b | float b => cases v <;> first | exact Bool.noConfusion h | exact h
  | bool b =>
    cases v with
    | bool a => cases a <;> cases b <;> first | exact Bool.noConfusion h | rfl
    | _ => exact Bool.noConfusion h
  | _ => exact Bool.noConfusion hw

theorem jsonMem_pyMem (v : PyVal) : ∀ vs : List PyVal, vs.all enumScalar = true → jsonMem v vs = true →
    PyVal.pyMem v vs = true
  | [], _, h => by simp [jsonMem] at h
  | w :: vs, hv, h => by
    simp only [List.all_cons, Bool.and_eq_true_iff] at hv
    simp only [jsonMem, List.any_cons, Bool.or_eq_true] at h
    simp only [PyVal.pyMem, List.any_cons, Bool.or_eq_true]
    rcases h with h | h
    · left; exact jsonEq_pyEq_scalar v w hv.1 h
    · right; exact jsonMem_pyMem v vs hv.2 h

theorem numOk_full (o : NumOpts) (q : Q) (hm : multOk o.mult q = true) (hmin : geMin o.min q = true)
    (hmax : leMax o.max o.exclMax q = true) (hs : signOk o.sign q = true) : numOk o q = true := by
  simp [numOk, hs, hm, hmin, hmax]

theorem numOk_noSign (o : NumOpts) (q : Q) (hm : multOk o.mult q = true) (hmin : geMin o.min q = true)
    (hmax : leMax o.max o.exclMax q = true) : numOk (noSign o) q = true :=
  numOk_full (noSign o) q hm hmin hmax rfl

theorem exact_integer (O : Oracles) (S) (opts : DeserOpts) (ign : Bool) (o : NumOpts) (v : PyVal)
    (hf : exactScalar (.integer o) = true) (h : docOk S (.integer o) v = true) :
    Accepted O opts ign (.integer o) v := by
  simp only [exactScalar, Bool.and_eq_true_iff] at hf
  rw [docOk] at h
  cases v with
  | int i =>
    obtain ⟨hm, hmin, hmax⟩ := (boundsOk_iff true o _).mp h
    obtain ⟨hs, hmin', hmax'⟩ := signOk_of_eff_int o i hf.2 hmin hmax
    refine ⟨.int i, .int i, ?_, ?_⟩
    · simp [deser, PyVal.isNone, dValidated, vInteger, numOk_noSign o _ hm hmin' hmax']
    · simp [validate, vInteger, numOk_full o _ hm hmin' hmax' hs]
  | _ => exact Bool.noConfusion h

theorem exact_number (O : Oracles) (S) (opts : DeserOpts) (ign : Bool) (o : NumOpts) (v : PyVal)
    (hf : exactScalar (.number o) = true) (h : docOk S (.number o) v = true) :
    Accepted O opts ign (.number o) v := by
  simp only [exactScalar, Bool.and_eq_true_iff] at hf
  have hs : o.sign = .any := by simpa using hf.1.2
  rw [docOk] at h
  have key : ∀ q, v.asNum = some q → jsNum v = some q → boundsOk false o q = true →
      Accepted O opts ign (.number o) v := by
    intro q hq hj hb
    obtain ⟨hm, hmin, hmax⟩ := (boundsOk_iff false o q).mp hb
    obtain ⟨hmin', hmax'⟩ := bounds_of_eff false o q hmin hmax
    have hso : signOk o.sign q = true := by simp [hs, signOk]
    refine ⟨v, v, ?_, ?_⟩
    · cases v <;> simp [jsNum] at hj <;>
        simp [deser, PyVal.isNone, dValidated, vNumber, hq, numOk_noSign o _ hm hmin' hmax']
    · simp [validate, vNumber, hq, numOk_full o _ hm hmin' hmax' hso]
  cases v with
  | int i => exact key (Q.ofInt i) rfl rfl h
  | float q => exact key q rfl rfl h
  | _ => exact Bool.noConfusion h

theorem exact_float (O : Oracles) (S) (opts : DeserOpts) (ign : Bool) (o : NumOpts) (v : PyVal)
    (hf : exactScalar (.float o) = true) (h : docOk S (.float o) v = true) :
    Accepted O opts ign (.float o) v := by
  simp only [exactScalar, Bool.and_eq_true_iff] at hf
  have hs : o.sign = .any := by simpa using hf.1.2
  rw [docOk] at h
  -- an int document is accepted and stored as the float of the same value
  have key : ∀ q, boundsOk false o q = true → numOk (noSign o) q = true ∧ numOk o q = true := by
    intro q hb
    obtain ⟨hm, hmin, hmax⟩ := (boundsOk_iff false o q).mp hb
    obtain ⟨hmin', hmax'⟩ := bounds_of_eff false o _ hmin hmax
    exact ⟨numOk_noSign o _ hm hmin' hmax', numOk_full o _ hm hmin' hmax' (by simp [hs, signOk])⟩
  cases v with
  | int i =>
    obtain ⟨h1, h2⟩ := key _ h
    exact ⟨.int i, .float (Q.ofInt i), by simp [deser, PyVal.isNone, dValidated, vFloat, h1],
      by simp [validate, vFloat, h2]⟩
  | float q =>
    obtain ⟨h1, h2⟩ := key _ h
    exact ⟨.float q, .float q, by simp [deser, PyVal.isNone, dValidated, vFloat, h1], by simp [validate, vFloat, h2]⟩
  | _ => exact Bool.noConfusion h

theorem exact_string (O : Oracles) (S) (opts : DeserOpts) (ign : Bool)
    (hS : ∀ p s, startAnchored p = true → S p s = true → O.reMatch p s = true)
    (lo hi : Option Nat) (pat : Option String) (v : PyVal)
    (hf : exactScalar (.string lo hi pat) = true) (h : docOk S (.string lo hi pat) v = true) :
    Accepted O opts ign (.string lo hi pat) v := by
  rw [docOk] at h
  obtain ⟨s, rfl, hlo, hhi, hp⟩ := (strDoc_iff S lo hi pat v).mp h
  have hvs : vString O lo hi pat (.str s) = .ok (.str s) := by
    simp only [vString, hhi, hlo, Bool.not_true, Bool.false_eq_true, if_false]
    cases pat with
    | none => rfl
    | some p =>
      simp only [exactScalar] at hf
      simp [vPattern, hS p s hf (by simpa using hp)]
  exact ⟨.str s, .str s, by simp [deser, PyVal.isNone, dValidated, hvs], by simp [validate, hvs]⟩

theorem exact_boolean (O : Oracles) (S) (opts : DeserOpts) (ign : Bool) (v : PyVal)
    (h : docOk S .boolean v = true) : Accepted O opts ign .boolean v := by
  rw [docOk] at h
  cases v with
  | bool b => exact ⟨.bool b, .bool b, by simp [deser, PyVal.isNone, dValidated, vBoolean], by simp [validate, vBoolean]⟩
  | _ => exact Bool.noConfusion h

theorem exact_enumLit (O : Oracles) (S) (opts : DeserOpts) (ign : Bool) (vs : List PyVal) (v : PyVal)
    (hf : exactScalar (.enumLit vs) = true) (hnn : v.isNone = false) (h : docOk S (.enumLit vs) v = true) :
    Accepted O opts ign (.enumLit vs) v := by
  simp only [exactScalar, Bool.and_eq_true_iff] at hf
  rw [docOk] at h
  have hm : PyVal.pyMem v vs = true := jsonMem_pyMem v vs hf.2 h
  refine ⟨v, v, ?_, ?_⟩
  · simp [deser, hnn, dValidated, vEnumLit, hm]
  · simp [validate, vEnumLit, hm]

theorem exact_enumCls (O : Oracles) (S) (opts : DeserOpts) (ign : Bool) (cls : String)
    (names : List String) (v : PyVal) (h : docOk S (.enumCls cls names) v = true) :
    Accepted O opts ign (.enumCls cls names) v := by
  rw [docOk] at h
  obtain ⟨n, rfl, hn⟩ := jsonMem_str_inv v names h
  have hn' : n ∈ names := by simpa using hn
  exact ⟨.enumv cls n, .enumv cls n, by simp [deser, PyVal.isNone, dEnumCls, hn'],
    by simp [validate, vEnumCls, hn']⟩

/-- null is no document of an exact scalar (an `Enum` holding None is outside the fragment) -/
theorem docOk_scalar_null (S) (f : FieldDecl) (hf : exactScalar f = true) : docOk S f .none = false := by
  cases f with
  | enumLit vs =>
    simp only [exactScalar, Bool.and_eq_true_iff] at hf
    simp only [docOk, jsonMem, List.any_eq_false]
    intro y hy
    have := List.all_eq_true.mp hf.2 y hy
    cases y <;> first | exact Bool.noConfusion this | exact Bool.noConfusion
  | enumCls _ names => simp [docOk, jsonMem, jsonEq]
  | number _ | integer _ | float _ | string _ _ _ | boolean => rfl
  | _ => exact Bool.noConfusion hf

theorem exactDoc_scalar (O : Oracles) (S : String → String → Bool)
    (hS : ∀ p s, startAnchored p = true → S p s = true → O.reMatch p s = true)
    (opts : DeserOpts) (ign : Bool) (f : FieldDecl) (v : PyVal)
    (hf : exactScalar f = true) (h : docOk S f v = true) : v.isNone = false ∧ Accepted O opts ign f v := by
  have hnn : v.isNone = false := by
    cases v <;> first | rfl | (rw [docOk_scalar_null S f hf] at h; cases h)
  refine ⟨hnn, ?_⟩
  cases f with
  | integer o => exact exact_integer O S opts ign o v hf h
  | number o => exact exact_number O S opts ign o v hf h
  | float o => exact exact_float O S opts ign o v hf h
  | string lo hi pat => exact exact_string O S opts ign hS lo hi pat v hf h
  | boolean => exact exact_boolean O S opts ign v h
  | enumLit vs => exact exact_enumLit O S opts ign vs v hf hnn h
  | enumCls cls names => exact exact_enumCls O S opts ign cls names v h
  | _ => exact Bool.noConfusion hf

theorem exactScalar_uniqSafe (f : FieldDecl) (hf : exactScalar f = true) : uniqSafe f = true := by
  cases f <;> first | rfl | exact Bool.noConfusion hf

theorem exact_scalar (O : Oracles) (R : String → PyVal → Bool) (S : String → String → Bool)
    (hS : ∀ p s, startAnchored p = true → S p s = true → O.reMatch p s = true)
    (opts : DeserOpts) (ign : Bool) (f : FieldDecl) (v : PyVal)
    (hf : exactScalar f = true) (h : jsV R S (emit true f) v = true) : Accepted O opts ign f v :=
  (exactDoc_scalar O S hS opts ign f v hf ((jsV_emit_scalar R S f v (exactScalar_uniqSafe f hf)).symm.trans h)).2

end Typedpy.Sch
