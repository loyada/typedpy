/-
  Lemmas/BridgeWf.lean — helper lemmas for `bridge_wfDecl` (Props/C01.lean): the declaration that a class record of
  the class-definition model denotes (Sem/DefineBridge.lean `ClassDef.toStruct`) is well-formed.
-/
import TypedpyModel.Sem.DefineBridge
namespace Typedpy

theorem c01_dedupStr_nodup : ∀ (l : List String), (dedupStr l).Nodup
  | [] => by simp [dedupStr]
  | x :: xs => by
    simp only [dedupStr, List.nodup_cons, List.mem_filter, bne_iff_ne, ne_eq, not_true_eq_false, and_false,
      not_false_eq_true, true_and]
    exact (c01_dedupStr_nodup xs).filter _

theorem c01_sigOrder_nodup (c : ClassDef) (ord : List String) (hd : (Bridge.defOrder c).Nodup) :
    (Bridge.sigOrder c ord).Nodup := by
  simp only [Bridge.sigOrder]
  rw [List.nodup_append]
  refine ⟨(c01_dedupStr_nodup _).filter _, hd.filter _, ?_⟩
  intro a ha b hb hab
  subst hab
  simp only [List.mem_filter, List.contains_eq_mem, decide_eq_true_eq, Bool.not_eq_true', decide_eq_false_iff_not] at ha hb
  exact hb.2 ha

theorem c01_memberDecls_keys_sublist : ∀ (l : List (String × Member)),
    List.Sublist ((memberDecls l).map (·.1)) (l.map (·.1))
  | [] => by simp [memberDecls]
  | (n, .field d _) :: rest => by
    simp only [memberDecls, List.map_cons]
    exact (c01_memberDecls_keys_sublist rest).cons_cons n
  | (n, .const _) :: rest => by
    simp only [memberDecls, List.map_cons]
    exact (c01_memberDecls_keys_sublist rest).cons n

end Typedpy
