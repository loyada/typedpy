/-
  Lemmas/LiftEquiv.lean — `okEq_field`: the statement of Lemmas/LiftScalars.lean for every declaration of the exact
  fragment, by induction over the declaration; every case hands its induction hypotheses to the lemma of the Lift*
  file for that kind.
-/
import TypedpyModel.Lemmas.LiftMap
import TypedpyModel.Lemmas.LiftStruct
namespace Typedpy

theorem okEq_not_doc (O : Oracles) (opts : DeserOpts) {f : FieldDecl} {d : PyVal}
    (hk : acceptsDoc f (docKind d) = false) (hl : lift O opts f d = none) :
    OkEq (deserThen O opts f d) (liftThen O opts f d) :=
  OkEq.errors (fun _ hz => by
      obtain ⟨y, hy, _⟩ := bindE_eq_ok hz
      rw [c05_deser_ok_kind O opts f d y hy] at hk; cases hk)
    (fun _ hz => by simp [liftThen, hl] at hz)

theorem okEq_field (O : Oracles) (opts : DeserOpts) : ∀ (f : FieldDecl) (d : PyVal),
    exactDecl f = true → strictJson d = true → OkEq (deserThen O opts f d) (liftThen O opts f d) := by
  intro f
  induction f using FieldDecl.induction with
  | number o => exact fun d _ _ => okEq_number O opts o d
  | integer o => exact fun d _ _ => okEq_integer O opts o d
  | float o => exact fun d _ _ => okEq_float O opts o d
  | string lo hi pat => exact fun d _ _ => okEq_string O opts lo hi pat d
  | boolean => exact fun d _ _ => okEq_boolean O opts d
  | enumLit vals => exact fun d _ _ => okEq_enumLit O opts vals d
  | enumCls cls names => exact fun d _ _ => okEq_enumCls O opts cls names d
  | seqOf k f sz ih =>
    intro d hex hj
    have hex := Bool.and_eq_true_iff.mp hex
    cases d with
    | list xs =>
      have hpt : ∀ x ∈ xs, OkEq (deserThen O opts f x) (liftThen O opts f x) := fun x hx =>
        ih x hex.2 (strictJsonList_mem xs hj x hx)
      by_cases hu : sz.uniq = false
      · -- on a list document `deserThen` and `liftThen` unfold to the two sides of `seq_assemble` as they stand
        exact seq_assemble k sz (fun _ => true) (mapE (deser O opts false f)) (mapE (validate O f))
          (mapO (lift O opts f)) hu (mapE_length _) (mapO_length _) xs (lf_list_equiv O opts f xs hpt)
      · have hid : idScalar f = true := ((Bool.or_eq_true _ _).mp hex.1).resolve_left (by simpa using hu)
        exact seq_id_okEq O opts k sz f hid xs hpt
    | _ => first | (cases hj; done) | exact okEq_not_doc O opts rfl rfl
  | seqPos k fs addl sz ih =>
    intro d hex hj
    have hex := Bool.and_eq_true_iff.mp hex
    have hu : sz.uniq = false := by simpa using hex.1
    cases d with
    | list xs =>
      exact seq_assemble k sz (fun n => decide (fs.length ≤ n) && (addl || decide (n ≤ fs.length)))
        (deserZip O opts fs) (validateZip O fs) (liftZip O opts fs) hu
        (deserZip_length O opts fs) (liftZip_length O opts fs) xs (zip_equiv_of O opts fs ih xs hex.2 hj)
    | _ => first | (cases hj; done) | exact okEq_not_doc O opts rfl rfl
  | tupleOf f u ih =>
    intro d hex hj
    have hex := Bool.and_eq_true_iff.mp hex
    cases d with
    | list xs =>
      have hpt : ∀ x ∈ xs, OkEq (deserThen O opts f x) (liftThen O opts f x) := fun x hx =>
        ih x hex.2 (strictJsonList_mem xs hj x hx)
      by_cases hu : u = false
      · exact tuple_assemble u (fun _ => true) (mapE (deser O opts false f)) (mapE (validate O f))
          (mapO (lift O opts f)) hu (mapE_length _) (mapO_length _) xs (lf_list_equiv O opts f xs hpt)
      · have hid : idScalar f = true := ((Bool.or_eq_true _ _).mp hex.1).resolve_left (by simpa using hu)
        exact tuple_id_okEq O opts u f hid xs hpt
    | _ => first | (cases hj; done) | exact okEq_not_doc O opts rfl rfl
  | tuplePos fs u ih =>
    intro d hex hj
    have hex := Bool.and_eq_true_iff.mp hex
    have hu : u = false := by simpa using hex.1
    cases d with
    | list xs =>
      exact tuple_assemble u (fun n => fs.length == n)
        (deserZip O opts fs) (validateZip O fs) (liftZip O opts fs) hu
        (deserZip_length O opts fs) (liftZip_length O opts fs) xs (zip_equiv_of O opts fs ih xs hex.2 hj)
    | _ => first | (cases hj; done) | exact okEq_not_doc O opts rfl rfl
  | struct c fields defaults ih =>
    intro d hex hj
    obtain ⟨hex, hef⟩ := Bool.and_eq_true_iff.mp hex
    obtain ⟨hia, hnd⟩ := Bool.and_eq_true_iff.mp hex
    cases d with
    | dict kvs =>
      rcases strict_kwOfDict kvs (Bool.and_eq_true_iff.mp hj).2 with ⟨doc, hdoc, hall⟩
      rw [okEq_iff, okOf_deserThen_struct O opts c fields defaults doc hdoc hia,
        okOf_liftThen_struct O opts c fields defaults doc hdoc hia]
      exact ctorThen_congr O opts c fields defaults doc _ _
        (fields_then_eq O opts c defaults doc hall fields ih hef (of_decide_eq_true hnd))
    | _ => first | (cases hj; done) | exact okEq_not_doc O opts rfl rfl
  | setOf imm f sz _ =>
    intro d hex hj
    cases d with
    | list xs => exact set_str_okEq O opts imm sz f hex xs
    | _ => first | (cases hj; done) | exact okEq_not_doc O opts rfl rfl
  | mapOf kf vf sz _ ih =>
    intro d hex hj
    have hex := Bool.and_eq_true_iff.mp hex
    cases d with
    | dict kvs =>
      have hj2 := Bool.and_eq_true_iff.mp hj
      exact map_str_okEq O opts kf vf sz hex.1 kvs hj2.1 (fun kv hkv =>
        ih kv.2 hex.2 (strictJsonPairs_mem kvs hj2.2 kv hkv))
    | _ => first | (cases hj; done) | exact okEq_not_doc O opts rfl rfl
  | anyOf fs ih =>
    intro d hex hj
    obtain ⟨g, hO, hp, hexg⟩ := exactOpt_optOf fs hex
    by_cases hn : d.isNone = true
    · rw [isNone_iff.1 hn]
      exact opt_okEq_none O opts fs g hO.shape hp hexg
    · exact opt_okEq_nonNone O opts fs g d hO.shape hp hexg (by simpa using hn) (ih g hO.mem d hexg hj)
  | noneF =>
    intro d _ _
    by_cases hn : d.isNone = true
    · apply OkEq.of_eq
      unfold liftThen lift; simp [deserThen, deser_noneF, validate_noneF, hn, vNone]
    · have hn' : d.isNone = false := by simpa using hn
      apply OkEq.errors <;> intro z hz <;>
        simp [deserThen, liftThen, lift, deser_noneF, validate_noneF, hn', vNone] at hz
  | _ => intro _ hex; cases hex

theorem zip_equiv (O : Oracles) (opts : DeserOpts) : ∀ (fs : List FieldDecl) (xs : List PyVal),
    exactAll fs = true → strictJsonList xs = true →
    ∀ zs, (∃ ys, deserZip O opts fs xs = .ok ys ∧ validateZip O fs ys = .ok zs)
        ↔ (∃ ws, liftZip O opts fs xs = some ws ∧ validateZip O fs ws = .ok zs) :=
  fun fs xs => zip_equiv_of O opts fs (fun f _ => okEq_field O opts f) xs

theorem fields_equiv (O : Oracles) (opts : DeserOpts) (c : ClassOpts) (defaults doc : List (String × PyVal))
    (hall : ∀ a ∈ doc, strictJson a.2 = true) :
    ∀ (fs : List (String × FieldDecl)), exactFields fs = true → (fs.map (·.1)).Nodup →
    ∀ (P P' : List (String × PyVal)), (∀ a ∈ P, a.1 ∉ fs.map (·.1)) → (∀ a ∈ P', a.1 ∉ fs.map (·.1)) →
    ∀ attrs,
      (∃ args, deserFields O opts c doc fs false = .ok args
          ∧ validateFields O c defaults (P ++ args) fs = .ok attrs)
      ↔ (∃ args', liftFields O opts c doc fs = some args'
          ∧ validateFields O c defaults (P' ++ args') fs = .ok attrs) :=
  fun fs hex hnd P P' hP hP' => (fieldsThen_eq_iff O opts c defaults doc fs P P' hP hP').mp
    (fields_then_eq O opts c defaults doc hall fs (fun nf _ => okEq_field O opts nf.2) hex hnd)

end Typedpy
