/-
  Lemmas/DefOrder.lean — one visit of the depth-first emission order of the definitions (`visitDef`, the
  step of `topoOrder`: `_definitions_in_dependency_order`) emits every definition after the definitions
  it refers to, whenever the references have no cycle (`visit_ok`); so does a run of visits over a list
  of names that all rank below a bound (`visitRefs_ok`: the references of one definition, or, for
  `topoOrder`, all names).
-/
import TypedpyModel.Sem.SchemaToCode
namespace Typedpy

theorem visit_unknown (defs : Defs) (fuel : Nat) (r : String) (st : List String × List String)
    (h : knownDef defs r = false) : visitDef defs fuel r st = st := by
  cases fuel with
  | zero => rfl
  | succ f =>
    simp only [knownDef, Option.isSome_eq_false_iff, Option.isNone_iff_eq_none] at h
    simp only [visitDef, h, ite_self]

/-- What a visit started in the state `(S, O)` (`S`: names started, `O`: names emitted) leaves in `st`:
    the emitted names are defined before use and were all started, nothing started or emitted is
    lost, and a name started but not emitted (on the stack of the search) was so before. -/
structure VisitPost (defs : Defs) (S O : List String) (st : List String × List String) : Prop where
  good : definedBeforeUse defs st.2.reverse
  sub : ∀ x ∈ st.2, x ∈ st.1
  monoS : ∀ x ∈ S, x ∈ st.1
  monoO : ∀ x ∈ O, x ∈ st.2
  gray : ∀ g ∈ st.1, g ∉ st.2 → g ∈ S ∧ g ∉ O

theorem visitRefs_ok (defs : Defs) (rk : String → Nat) (fuel : Nat)
    (IH : ∀ n S O, rk n < fuel → definedBeforeUse defs O.reverse → (∀ x ∈ O, x ∈ S) →
      (∀ g ∈ S, g ∉ O → rk n < rk g) →
      VisitPost defs S O (visitDef defs fuel n (S, O)) ∧ (knownDef defs n = true → n ∈ (visitDef defs fuel n (S, O)).2))
    (bound : Nat) (hb : bound ≤ fuel) :
    ∀ (rs : List String) (S1 O1 : List String), (∀ r ∈ rs, knownDef defs r = true → rk r < bound) →
      definedBeforeUse defs O1.reverse → (∀ x ∈ O1, x ∈ S1) → (∀ g ∈ S1, g ∉ O1 → bound ≤ rk g) →
      VisitPost defs S1 O1 (rs.foldl (fun acc r => visitDef defs fuel r acc) (S1, O1))
        ∧ ∀ r ∈ rs, knownDef defs r = true → r ∈ (rs.foldl (fun acc r => visitDef defs fuel r acc) (S1, O1)).2
  | [], S1, O1, _, hg, hs, _ => by
    exact ⟨⟨hg, hs, fun x h => h, fun x h => h, fun g h1 h2 => ⟨h1, h2⟩⟩, by simp⟩
  | r :: rs, S1, O1, hr, hg, hs, hgray => by
    simp only [List.foldl_cons]
    cases hk : knownDef defs r with
    | false =>
      rw [visit_unknown defs fuel r _ hk]
      obtain ⟨p, q⟩ := visitRefs_ok defs rk fuel IH bound hb rs S1 O1 (fun x hx => hr x (by simp [hx])) hg hs hgray
      refine ⟨p, ?_⟩
      intro x hx hkx
      simp only [List.mem_cons] at hx
      rcases hx with rfl | hx
      · rw [hk] at hkx; cases hkx
      · exact q x hx hkx
    | true =>
      have hrk : rk r < bound := hr r (by simp) hk
      obtain ⟨p1, q1⟩ := IH r S1 O1 (by omega) hg hs (fun g h1 h2 => by have := hgray g h1 h2; omega)
      generalize hst : visitDef defs fuel r (S1, O1) = st at p1 q1
      obtain ⟨S2, O2⟩ := st
      obtain ⟨p2, q2⟩ := visitRefs_ok defs rk fuel IH bound hb rs S2 O2 (fun x hx => hr x (by simp [hx]))
        p1.good p1.sub (fun g h1 h2 => by
          obtain ⟨a, b⟩ := p1.gray g h1 h2
          exact hgray g a b)
      refine ⟨⟨p2.good, p2.sub, fun x h => p2.monoS x (p1.monoS x h), fun x h => p2.monoO x (p1.monoO x h), ?_⟩, ?_⟩
      · intro g h1 h2
        obtain ⟨a, b⟩ := p2.gray g h1 h2
        exact p1.gray g a b
      · intro x hx hkx
        simp only [List.mem_cons] at hx
        rcases hx with rfl | hx
        · exact p2.monoO x (q1 hkx)
        · exact q2 x hx hkx

/-- `rk` decreases along references, and every name on the stack ranks above the name visited: a
    reference never leads back into the stack, so all references of `n` are emitted before `n`. -/
theorem visit_ok (defs : Defs) (rk : String → Nat)
    (hrk : ∀ n s, lookup n defs = some s → ∀ r ∈ refsOf s, knownDef defs r = true → rk r < rk n) :
    ∀ (fuel : Nat) (n : String) (S O : List String), rk n < fuel → definedBeforeUse defs O.reverse →
      (∀ x ∈ O, x ∈ S) → (∀ g ∈ S, g ∉ O → rk n < rk g) →
      VisitPost defs S O (visitDef defs fuel n (S, O)) ∧ (knownDef defs n = true → n ∈ (visitDef defs fuel n (S, O)).2)
  | 0, n, S, O, h, _, _, _ => by omega
  | fuel + 1, n, S, O, hf, hg, hs, hgray => by
    have trivialPost : VisitPost defs S O (S, O) := ⟨hg, hs, fun x h => h, fun x h => h, fun g h1 h2 => ⟨h1, h2⟩⟩
    simp only [visitDef]
    by_cases hc : S.contains n = true
    · simp only [hc, if_true]
      refine ⟨trivialPost, fun _ => ?_⟩
      have hn : n ∈ S := by simpa using hc
      apply Classical.byContradiction
      intro hno
      have := hgray n hn hno
      omega
    · simp only [hc, if_false, Bool.false_eq_true]
      cases hl : lookup n defs with
      | none =>
        refine ⟨trivialPost, fun hk => ?_⟩
        simp [knownDef, hl] at hk
      | some s =>
        simp only []
        obtain ⟨p, q⟩ := visitRefs_ok defs rk fuel (visit_ok defs rk hrk fuel) (rk n) (by omega) (refsOf s) (n :: S) O
          (fun r hr hk => hrk n s hl r hr hk) hg (fun x hx => by simp [hs x hx])
          (fun g h1 h2 => by
            simp only [List.mem_cons] at h1
            rcases h1 with rfl | h1
            · exact Nat.le_refl _
            · exact Nat.le_of_lt (hgray g h1 h2))
        generalize (refsOf s).foldl (fun acc r => visitDef defs fuel r acc) (n :: S, O) = st at p q
        obtain ⟨S2, O2⟩ := st
        refine ⟨⟨?_, ?_, fun x h => p.monoS x (by simp [h]), fun x h => by simp [p.monoO x h], ?_⟩, fun _ => by simp⟩
        · simp only [List.reverse_append, List.reverse_cons, List.reverse_nil, List.nil_append, List.singleton_append,
            definedBeforeUse]
          refine ⟨?_, p.good⟩
          intro s' hs' r hr hk
          rw [hl] at hs'
          cases hs'
          simpa using q r hr hk
        · intro x hx
          simp only [List.mem_append, List.mem_singleton] at hx
          rcases hx with hx | rfl
          · exact p.sub x hx
          · exact p.monoS x (by simp)
        · intro g h1 h2
          simp only [List.mem_append, List.mem_singleton, not_or] at h2
          obtain ⟨a, b⟩ := p.gray g h1 h2.1
          simp only [List.mem_cons] at a
          rcases a with rfl | a
          · exact absurd rfl h2.2
          · exact ⟨a, b⟩

end Typedpy
