/-
  Lemmas/JsValid.lean — the draft-4 validator `jsV` on the keyword lists the typedpy mappers emit: what one
  keyword entry means (`jsKws_<keyword>`), the number, string and array groups on the right kind of document as
  equations (the set and tuple groups are array groups: `setKws_eq_arrKws`, `tupKws_eq_arrKws`), and that `default`
  is ignored.  `Lemmas/SchemaDoc.lean` turns them into one equation per group on any document.
-/
import TypedpyModel.Spec.JsValid
import TypedpyModel.Sem.Validate
namespace Typedpy.Sch
open Typedpy

theorem keyIs_iff (s : String) (k : PyVal) : keyIs s k = true ↔ k = .str s := by
  cases k <;> simp [keyIs]

theorem getKw_append (k : String) (a b : List (PyVal × PyVal)) :
    getKw k (a ++ b) = (match getKw k a with | some v => some v | none => getKw k b) := by
  induction a with
  | nil => simp [getKw]
  | cons x xs ih =>
    obtain ⟨k', v⟩ := x
    simp only [List.cons_append, getKw]
    split <;> simp [ih]

theorem getKw_optKw (k k' : String) (ov : Option PyVal) :
    getKw k (optKw k' ov) = if k' == k then ov else none := by
  cases ov <;> simp [optKw, getKw, kw, keyIs]

theorem getKw_kw_cons (k k' : String) (v : PyVal) (rest : List (PyVal × PyVal)) :
    getKw k (kw k' v :: rest) = if k' == k then some v else getKw k rest := by
  simp [getKw, kw, keyIs]

theorem getKw_mem (n : String) (x : PyVal) : ∀ r : List (PyVal × PyVal), getKw n r = some x → (PyVal.str n, x) ∈ r
  | [], h => by cases h
  | (k, v) :: rest, h => by
    rw [getKw] at h
    split at h
    · rename_i hk
      cases h
      rw [(keyIs_iff n k).mp hk]
      exact List.mem_cons_self
    · exact List.mem_cons_of_mem _ (getKw_mem n x rest h)

theorem getKw_isSome_of_mem (n : String) (x : PyVal) : ∀ r : List (PyVal × PyVal), (PyVal.str n, x) ∈ r →
    (getKw n r).isSome = true
  | (k, v) :: rest, h => by
    rw [getKw]
    split
    · rfl
    · rename_i hk
      rcases List.mem_cons.mp h with heq | h'
      · cases heq
        exact absurd ((keyIs_iff n _).mpr rfl) hk
      · exact getKw_isSome_of_mem n x rest h'

theorem jsKws_nil (R S) (ctx : List (PyVal × PyVal)) (d : PyVal) : jsKws R S ctx [] d = true := rfl

theorem jsKws_cons (R S) (ctx rest : List (PyVal × PyVal)) (k v d : PyVal) :
    jsKws R S ctx ((k, v) :: rest) d =
      (kwNode S ctx (kwOf k) v d (jsV R S v) (jsZipV R S v)
        (fun _ => jsAllV R S v d) (fun _ => jsAnyV R S v d) (fun _ => jsCountV R S v d)
        (jsPropsV R S v) (jsPatsV R S v) && jsKws R S ctx rest d) := rfl

theorem jsKws_append (R S) (ctx a b : List (PyVal × PyVal)) (d : PyVal) :
    jsKws R S ctx (a ++ b) d = (jsKws R S ctx a d && jsKws R S ctx b d) := by
  induction a with
  | nil => rfl
  | cons x xs ih =>
    obtain ⟨k, v⟩ := x
    simp only [List.cons_append, jsKws_cons, ih, Bool.and_assoc]

theorem jsV_dict (R S) (kws : List (PyVal × PyVal)) (d : PyVal) (h : getKw "$ref" kws = none) :
    jsV R S (.dict kws) d = jsKws R S kws kws d := by
  simp [jsV, h]

/-! What the validator makes of one entry `kw "<name>" v` of a schema object, for every keyword the
  mappers emit.  The keyword names are compared as strings only in `kwOf_table` (by evaluation); the
  lemmas on keyword groups rewrite with the `jsKws_<keyword>` equations and never unfold `kwOf` /
  `kwNode` / `kwLeaf`. -/

theorem kwOf_table :
    (kwOf (.str "type") = .type ∧ kwOf (.str "enum") = .enum) ∧
    (kwOf (.str "minimum") = .minimum ∧ kwOf (.str "maximum") = .maximum ∧
      kwOf (.str "multipleOf") = .multipleOf ∧ kwOf (.str "exclusiveMaximum") = .other) ∧
    (kwOf (.str "minLength") = .minLength ∧ kwOf (.str "maxLength") = .maxLength ∧
      kwOf (.str "pattern") = .pattern) ∧
    (kwOf (.str "items") = .items ∧ kwOf (.str "additionalItems") = .additionalItems ∧
      kwOf (.str "minItems") = .minItems ∧ kwOf (.str "maxItems") = .maxItems ∧
      kwOf (.str "uniqueItems") = .uniqueItems) ∧
    (kwOf (.str "properties") = .properties ∧ kwOf (.str "patternProperties") = .patternProperties ∧
      kwOf (.str "additionalProperties") = .additionalProperties ∧
      kwOf (.str "required") = .required ∧ kwOf (.str "minProperties") = .minProperties ∧
      kwOf (.str "maxProperties") = .maxProperties) ∧
    (kwOf (.str "allOf") = .allOf ∧ kwOf (.str "anyOf") = .anyOf ∧ kwOf (.str "oneOf") = .oneOf ∧
      kwOf (.str "not") = .not) ∧
    (kwOf (.str "default") = .other ∧ kwOf (.str "$ref") = .other) := by
  decide +kernel

theorem kwOf_type : kwOf (.str "type") = .type := kwOf_table.1.1
theorem kwOf_enum : kwOf (.str "enum") = .enum := kwOf_table.1.2
theorem kwOf_minimum : kwOf (.str "minimum") = .minimum := kwOf_table.2.1.1
theorem kwOf_maximum : kwOf (.str "maximum") = .maximum := kwOf_table.2.1.2.1
theorem kwOf_multipleOf : kwOf (.str "multipleOf") = .multipleOf := kwOf_table.2.1.2.2.1
theorem kwOf_exclusiveMaximum : kwOf (.str "exclusiveMaximum") = .other := kwOf_table.2.1.2.2.2
theorem kwOf_minLength : kwOf (.str "minLength") = .minLength := kwOf_table.2.2.1.1
theorem kwOf_maxLength : kwOf (.str "maxLength") = .maxLength := kwOf_table.2.2.1.2.1
theorem kwOf_pattern : kwOf (.str "pattern") = .pattern := kwOf_table.2.2.1.2.2
theorem kwOf_items : kwOf (.str "items") = .items := kwOf_table.2.2.2.1.1
theorem kwOf_additionalItems : kwOf (.str "additionalItems") = .additionalItems := kwOf_table.2.2.2.1.2.1
theorem kwOf_minItems : kwOf (.str "minItems") = .minItems := kwOf_table.2.2.2.1.2.2.1
theorem kwOf_maxItems : kwOf (.str "maxItems") = .maxItems := kwOf_table.2.2.2.1.2.2.2.1
theorem kwOf_uniqueItems : kwOf (.str "uniqueItems") = .uniqueItems := kwOf_table.2.2.2.1.2.2.2.2
theorem kwOf_properties : kwOf (.str "properties") = .properties := kwOf_table.2.2.2.2.1.1
theorem kwOf_patternProperties : kwOf (.str "patternProperties") = .patternProperties := kwOf_table.2.2.2.2.1.2.1
theorem kwOf_additionalProperties : kwOf (.str "additionalProperties") = .additionalProperties := kwOf_table.2.2.2.2.1.2.2.1
theorem kwOf_required : kwOf (.str "required") = .required := kwOf_table.2.2.2.2.1.2.2.2.1
theorem kwOf_minProperties : kwOf (.str "minProperties") = .minProperties := kwOf_table.2.2.2.2.1.2.2.2.2.1
theorem kwOf_maxProperties : kwOf (.str "maxProperties") = .maxProperties := kwOf_table.2.2.2.2.1.2.2.2.2.2
theorem kwOf_allOf : kwOf (.str "allOf") = .allOf := kwOf_table.2.2.2.2.2.1.1
theorem kwOf_anyOf : kwOf (.str "anyOf") = .anyOf := kwOf_table.2.2.2.2.2.1.2.1
theorem kwOf_oneOf : kwOf (.str "oneOf") = .oneOf := kwOf_table.2.2.2.2.2.1.2.2.1
theorem kwOf_not : kwOf (.str "not") = .not := kwOf_table.2.2.2.2.2.1.2.2.2
theorem kwOf_default : kwOf (.str "default") = .other := kwOf_table.2.2.2.2.2.2.1
theorem kwOf_ref : kwOf (.str "$ref") = .other := kwOf_table.2.2.2.2.2.2.2

section
variable (R : String → PyVal → Bool) (S : String → String → Bool) (ctx rest : List (PyVal × PyVal))
  (v d : PyVal)

theorem jsKws_type (t : String) :
    jsKws R S ctx (kw "type" (.str t) :: rest) d = (typeIs t d && jsKws R S ctx rest d) := by
  rw [kw, jsKws_cons, kwOf_type]; rfl

theorem jsKws_enum (vs : List PyVal) :
    jsKws R S ctx (kw "enum" (.list vs) :: rest) d = (jsonMem d vs && jsKws R S ctx rest d) := by
  rw [kw, jsKws_cons, kwOf_enum]; rfl

theorem jsKws_minimum :
    jsKws R S ctx (kw "minimum" v :: rest) d =
      ((match jsNum d, jsNum v with
        | some x, some m => if boolKw "exclusiveMinimum" ctx then Q.lt m x else Q.le m x
        | none, _ => true
        | some _, none => false) && jsKws R S ctx rest d) := by
  rw [kw, jsKws_cons, kwOf_minimum]; rfl

theorem jsKws_maximum :
    jsKws R S ctx (kw "maximum" v :: rest) d =
      ((match jsNum d, jsNum v with
        | some x, some m => if boolKw "exclusiveMaximum" ctx then Q.lt x m else Q.le x m
        | none, _ => true
        | some _, none => false) && jsKws R S ctx rest d) := by
  rw [kw, jsKws_cons, kwOf_maximum]; rfl

theorem jsKws_multipleOf :
    jsKws R S ctx (kw "multipleOf" v :: rest) d =
      ((match jsNum d, jsNum v with
        | some x, some m => isMult x m
        | none, _ => true
        | some _, none => false) && jsKws R S ctx rest d) := by
  rw [kw, jsKws_cons, kwOf_multipleOf]; rfl

/-- keywords the draft-4 validator does not know by themselves (`exclusiveMaximum` is read by
    `maximum`, `default` is an annotation) accept everything -/
theorem jsKws_exclusiveMaximum :
    jsKws R S ctx (kw "exclusiveMaximum" v :: rest) d = jsKws R S ctx rest d := by
  rw [kw, jsKws_cons, kwOf_exclusiveMaximum]; rfl

theorem jsKws_default : jsKws R S ctx (kw "default" v :: rest) d = jsKws R S ctx rest d := by
  rw [kw, jsKws_cons, kwOf_default]; rfl

theorem jsKws_minLength :
    jsKws R S ctx (kw "minLength" v :: rest) d =
      ((match d, natOf v with
        | .str s, some n => decide (n ≤ s.length)
        | .str _, none => false
        | _, _ => true) && jsKws R S ctx rest d) := by
  rw [kw, jsKws_cons, kwOf_minLength]; rfl

theorem jsKws_maxLength :
    jsKws R S ctx (kw "maxLength" v :: rest) d =
      ((match d, natOf v with
        | .str s, some n => decide (s.length ≤ n)
        | .str _, none => false
        | _, _ => true) && jsKws R S ctx rest d) := by
  rw [kw, jsKws_cons, kwOf_maxLength]; rfl

theorem jsKws_pattern (p : String) :
    jsKws R S ctx (kw "pattern" (.str p) :: rest) d =
      ((match d with | .str s => S p s | _ => true) && jsKws R S ctx rest d) := by
  rw [kw, jsKws_cons, kwOf_pattern]; cases d <;> rfl

theorem jsKws_minItems :
    jsKws R S ctx (kw "minItems" v :: rest) d =
      ((match d, natOf v with
        | .list xs, some n => decide (n ≤ xs.length)
        | .list _, none => false
        | _, _ => true) && jsKws R S ctx rest d) := by
  rw [kw, jsKws_cons, kwOf_minItems]; rfl

theorem jsKws_maxItems :
    jsKws R S ctx (kw "maxItems" v :: rest) d =
      ((match d, natOf v with
        | .list xs, some n => decide (xs.length ≤ n)
        | .list _, none => false
        | _, _ => true) && jsKws R S ctx rest d) := by
  rw [kw, jsKws_cons, kwOf_maxItems]; rfl

theorem jsKws_uniqueItems (b : Bool) :
    jsKws R S ctx (kw "uniqueItems" (.bool b) :: rest) d =
      ((match d with | .list xs => !b || jsonNodup xs | _ => true) && jsKws R S ctx rest d) := by
  rw [kw, jsKws_cons, kwOf_uniqueItems]; cases d <;> rfl

theorem jsKws_items :
    jsKws R S ctx (kw "items" v :: rest) d =
      ((match d with
        | .list xs => (match v with
          | .list _ => jsZipV R S v xs
          | _ => xs.all (jsV R S v))
        | _ => true) && jsKws R S ctx rest d) := by
  rw [kw, jsKws_cons, kwOf_items]; rfl

theorem jsKws_additionalItems :
    jsKws R S ctx (kw "additionalItems" v :: rest) d =
      ((match d, itemsLen ctx with
        | .list xs, some n => (match v with
          | .bool b => b || decide (xs.length ≤ n)
          | _ => (xs.drop n).all (jsV R S v))
        | _, _ => true) && jsKws R S ctx rest d) := by
  rw [kw, jsKws_cons, kwOf_additionalItems]; rfl

theorem jsKws_properties (ps : List (PyVal × PyVal)) :
    jsKws R S ctx (kw "properties" (.dict ps) :: rest) d =
      ((match d with | .dict kvs => jsProps R S ps kvs | _ => true) && jsKws R S ctx rest d) := by
  rw [kw, jsKws_cons, kwOf_properties]; cases d <;> rfl

theorem jsKws_patternProperties (ps : List (PyVal × PyVal)) :
    jsKws R S ctx (kw "patternProperties" (.dict ps) :: rest) d =
      ((match d with | .dict kvs => jsPats R S ps kvs | _ => true) && jsKws R S ctx rest d) := by
  rw [kw, jsKws_cons, kwOf_patternProperties]; cases d <;> rfl

theorem jsKws_additionalProperties :
    jsKws R S ctx (kw "additionalProperties" v :: rest) d =
      ((match d with
        | .dict kvs => (match v with
          | .bool b => b || (extraMembers S ctx kvs).isEmpty
          | _ => (extraMembers S ctx kvs).all (fun kv => jsV R S v kv.2))
        | _ => true) && jsKws R S ctx rest d) := by
  rw [kw, jsKws_cons, kwOf_additionalProperties]; rfl

theorem jsKws_required (names : List PyVal) :
    jsKws R S ctx (kw "required" (.list names) :: rest) d =
      ((match d with
        | .dict kvs => names.all (fun n => match n with | .str s => (getKw s kvs).isSome | _ => false)
        | _ => true) && jsKws R S ctx rest d) := by
  rw [kw, jsKws_cons, kwOf_required]; cases d <;> rfl

theorem jsKws_minProperties :
    jsKws R S ctx (kw "minProperties" v :: rest) d =
      ((match d, natOf v with
        | .dict kvs, some n => decide (n ≤ kvs.length)
        | .dict _, none => false
        | _, _ => true) && jsKws R S ctx rest d) := by
  rw [kw, jsKws_cons, kwOf_minProperties]; rfl

theorem jsKws_maxProperties :
    jsKws R S ctx (kw "maxProperties" v :: rest) d =
      ((match d, natOf v with
        | .dict kvs, some n => decide (kvs.length ≤ n)
        | .dict _, none => false
        | _, _ => true) && jsKws R S ctx rest d) := by
  rw [kw, jsKws_cons, kwOf_maxProperties]; rfl

theorem jsKws_allOf (ss : List PyVal) :
    jsKws R S ctx (kw "allOf" (.list ss) :: rest) d = (jsAllL R S ss d && jsKws R S ctx rest d) := by
  rw [kw, jsKws_cons, kwOf_allOf]; rfl

theorem jsKws_anyOf (ss : List PyVal) :
    jsKws R S ctx (kw "anyOf" (.list ss) :: rest) d = (jsAnyL R S ss d && jsKws R S ctx rest d) := by
  rw [kw, jsKws_cons, kwOf_anyOf]; rfl

theorem jsKws_oneOf (ss : List PyVal) :
    jsKws R S ctx (kw "oneOf" (.list ss) :: rest) d =
      ((jsCount R S ss d == 1) && jsKws R S ctx rest d) := by
  rw [kw, jsKws_cons, kwOf_oneOf]; rfl

theorem jsKws_not :
    jsKws R S ctx (kw "not" v :: rest) d = (!jsV R S v d && jsKws R S ctx rest d) := by
  rw [kw, jsKws_cons, kwOf_not]; rfl

end

theorem typeIs_integer (d : PyVal) : typeIs "integer" d = (match d with | .int _ => true | _ => false) := rfl
theorem typeIs_number (d : PyVal) :
    typeIs "number" d = (match d with | .int _ => true | .float _ => true | _ => false) := rfl
theorem typeIs_string (d : PyVal) : typeIs "string" d = (match d with | .str _ => true | _ => false) := rfl
theorem typeIs_boolean (d : PyVal) : typeIs "boolean" d = (match d with | .bool _ => true | _ => false) := rfl
theorem typeIs_array (d : PyVal) : typeIs "array" d = (match d with | .list _ => true | _ => false) := rfl
theorem typeIs_object (d : PyVal) : typeIs "object" d = (match d with | .dict _ => true | _ => false) := rfl

theorem getKw_ref_numKws (ty : String) (isInt : Bool) (o : NumOpts) :
    getKw "$ref" (numKws true ty isInt o) = none := by
  simp [numKws, getKw_append, getKw_optKw, getKw_kw_cons, multKey]

theorem boolKw_exclMax_numKws (ty : String) (isInt : Bool) (o : NumOpts) :
    boolKw "exclusiveMaximum" (numKws true ty isInt o) = exclEff o := by
  cases h : exclEff o <;>
    simp [boolKw, numKws, getKw_append, getKw_optKw, getKw_kw_cons, multKey, h]

theorem boolKw_exclMin_numKws (ty : String) (isInt : Bool) (o : NumOpts) :
    boolKw "exclusiveMinimum" (numKws true ty isInt o) = false := by
  simp [boolKw, numKws, getKw_append, getKw_optKw, getKw_kw_cons, multKey]

theorem jsNum_numJ (q : Q) : jsNum (numJ q) = some q := by
  unfold numJ
  split
  · rename_i h
    obtain ⟨n, d⟩ := q
    obtain rfl : d = 1 := by simpa using h
    rfl
  · rfl

theorem emod_natAbs_mul (a m : Int) (d : Nat) :
    a % ((Int.ofNat m.natAbs) * (d : Int)) = a % (m * (d : Int)) := by
  rcases Int.natAbs_eq m with h | h
  · simp only [Int.ofNat_eq_natCast]; rw [← h]
  · have : m * (d : Int) = -((Int.ofNat m.natAbs) * (d : Int)) := by
      simp only [Int.ofNat_eq_natCast]; rw [Int.neg_mul_eq_neg_mul]; rw [← h]
    rw [this, Int.emod_neg]

theorem isMult_absJ (q : Q) (m : Int) : isMult q (Q.ofInt (Int.ofNat m.natAbs)) = q.isMultipleOf m := by
  have := emod_natAbs_mul q.num m q.den
  simp only [Int.ofNat_eq_natCast] at this
  simp [isMult, Q.isMultipleOf, Q.ofInt, this]

theorem jsKws_numKws (R S) (ctx : List (PyVal × PyVal)) (ty : String) (isInt : Bool) (o : NumOpts)
    (d : PyVal) (q : Q)
    (hex : boolKw "exclusiveMaximum" ctx = exclEff o) (hem : boolKw "exclusiveMinimum" ctx = false)
    (hq : jsNum d = some q) :
    jsKws R S ctx (numKws true ty isInt o) d =
      (typeIs ty d && multOk o.mult q && geMin (effMin isInt o) q
        && leMax (effMax isInt o) (exclEff o) q) := by
  have h1 : jsKws R S ctx (optKw (multKey true) (o.mult.map absJ)) d = multOk o.mult q := by
    cases o.mult with
    | none => rfl
    | some m =>
      have hji : jsNum (absJ m) = some (Q.ofInt (Int.ofNat m.natAbs)) := rfl
      simp only [Option.map, multKey, if_true, optKw, jsKws_multipleOf, jsKws_nil, hq, hji, Bool.and_true,
        isMult_absJ, multOk]
  have h2 : jsKws R S ctx (optKw "minimum" ((effMin isInt o).map numJ)) d = geMin (effMin isInt o) q := by
    cases effMin isInt o with
    | none => rfl
    | some m =>
      simp only [Option.map, optKw, jsKws_minimum, jsKws_nil, hq, jsNum_numJ, hem, Bool.and_true, geMin,
        Bool.false_eq_true, if_false]
  have h3 : jsKws R S ctx (optKw "maximum" ((effMax isInt o).map numJ)) d
      = leMax (effMax isInt o) (exclEff o) q := by
    cases effMax isInt o with
    | none => rfl
    | some m =>
      simp only [Option.map, optKw, jsKws_maximum, jsKws_nil, hq, jsNum_numJ, hex, Bool.and_true, leMax]
  have h4 : jsKws R S ctx (optKw "exclusiveMaximum" (if exclEff o then some (.bool true) else none)) d = true := by
    cases exclEff o with
    | false => rfl
    | true => exact jsKws_exclusiveMaximum R S ctx [] _ d
  simp only [numKws, jsKws_append, jsKws_type, jsKws_nil, h1, h2, h3, h4, Bool.and_true]

theorem natOf_natJ (n : Nat) : natOf (natJ n) = some n := by
  simp [natOf, natJ]

theorem jsKws_minLength_opt (R S) (ctx : List (PyVal × PyVal)) (o : Option Nat) (s : String) :
    jsKws R S ctx (optKw "minLength" (o.map natJ)) (.str s) = geLen o s.length := by
  cases o with
  | none => rfl
  | some n => simp only [Option.map, optKw, jsKws_minLength, jsKws_nil, natOf_natJ, geLen, Bool.and_true]

theorem jsKws_maxLength_opt (R S) (ctx : List (PyVal × PyVal)) (o : Option Nat) (s : String) :
    jsKws R S ctx (optKw "maxLength" (o.map natJ)) (.str s) = leLen o s.length := by
  cases o with
  | none => rfl
  | some n => simp only [Option.map, optKw, jsKws_maxLength, jsKws_nil, natOf_natJ, leLen, Bool.and_true]

theorem jsKws_strKws (R S) (ctx : List (PyVal × PyVal)) (lo hi : Option Nat) (pat : Option String)
    (s : String) :
    jsKws R S ctx (strKws lo hi pat) (.str s) =
      (geLen lo s.length && leLen hi s.length && (match pat with | none => true | some p => S p s)) := by
  simp only [strKws, jsKws_append, jsKws_type, typeIs_string, jsKws_nil, jsKws_minLength_opt,
    jsKws_maxLength_opt, Bool.true_and]
  cases pat with
  | none => rfl
  | some p => simp only [Option.map, optKw, jsKws_pattern, jsKws_nil, Bool.and_true]

theorem getKw_ref_strKws (lo hi : Option Nat) (pat : Option String) :
    getKw "$ref" (strKws lo hi pat) = none := by
  simp [strKws, getKw_append, getKw_optKw, getKw, kw, keyIs]

theorem jsV_enum (R S) (vs : List PyVal) (d : PyVal) :
    jsV R S (.dict [kw "enum" (.list vs)]) d = jsonMem d vs := by
  rw [jsV_dict _ _ _ _ rfl, jsKws_enum, jsKws_nil, Bool.and_true]

theorem jsV_refTo (R S) (name : String) (d : PyVal) :
    jsV R S (refTo name) d = R ("#/definitions/" ++ name) d := by
  simp [refTo, jsV, getKw, kw, keyIs]

theorem jsV_anyOf (R S) (ss : List PyVal) (d : PyVal) :
    jsV R S (.dict [kw "anyOf" (.list ss)]) d = jsAnyL R S ss d := by
  rw [jsV_dict _ _ _ _ rfl, jsKws_anyOf, jsKws_nil, Bool.and_true]

theorem jsV_allOf (R S) (ss : List PyVal) (d : PyVal) :
    jsV R S (.dict [kw "allOf" (.list ss)]) d = jsAllL R S ss d := by
  rw [jsV_dict _ _ _ _ rfl, jsKws_allOf, jsKws_nil, Bool.and_true]

theorem jsV_oneOf (R S) (ss : List PyVal) (d : PyVal) :
    jsV R S (.dict [kw "oneOf" (.list ss)]) d = (jsCount R S ss d == 1) := by
  rw [jsV_dict _ _ _ _ rfl, jsKws_oneOf, jsKws_nil, Bool.and_true]

theorem jsV_not (R S) (s d : PyVal) : jsV R S (.dict [kw "not" s]) d = !jsV R S s d := by
  rw [jsV_dict _ _ _ _ (by rw [getKw_kw_cons]; rfl), jsKws_not, jsKws_nil, Bool.and_true]

/-- a schema as the mappers emit it: a JSON object (or nothing, when the mapping raises) -/
def dictOrNone : PyVal → Bool
  | .dict _ => true
  | .none => true
  | _ => false

theorem elemWrap_shape (f : FieldDecl) (s : PyVal) (h : dictOrNone s = true) : dictOrNone (elemWrap f s) = true := by
  unfold elemWrap
  split
  · cases s <;> simp_all [dictOrNone]
  · exact h

section
variable (R : String → PyVal → Bool) (S : String → String → Bool) (ctx : List (PyVal × PyVal))

theorem jsKws_minItems_opt (o : Option Nat) (ys : List PyVal) :
    jsKws R S ctx (optKw "minItems" (o.map natJ)) (.list ys) = geLen o ys.length := by
  cases o with
  | none => rfl
  | some n => simp only [Option.map, optKw, jsKws_minItems, jsKws_nil, natOf_natJ, geLen, Bool.and_true]

theorem jsKws_maxItems_opt (o : Option Nat) (ys : List PyVal) :
    jsKws R S ctx (optKw "maxItems" (o.map natJ)) (.list ys) = leLen o ys.length := by
  cases o with
  | none => rfl
  | some n => simp only [Option.map, optKw, jsKws_maxItems, jsKws_nil, natOf_natJ, leLen, Bool.and_true]

theorem jsKws_uniqueItems_opt (u : Bool) (ys : List PyVal) :
    jsKws R S ctx (optKw "uniqueItems" (if u then some (.bool true) else none)) (.list ys)
      = (!u || jsonNodup ys) := by
  cases u with
  | false => rfl
  | true => simp only [if_true, optKw, jsKws_uniqueItems, jsKws_nil, Bool.and_true]

theorem jsKws_minProperties_opt (o : Option Nat) (kvs : List (PyVal × PyVal)) :
    jsKws R S ctx (optKw "minProperties" (o.map natJ)) (.dict kvs) = geLen o kvs.length := by
  cases o with
  | none => rfl
  | some n => simp only [Option.map, optKw, jsKws_minProperties, jsKws_nil, natOf_natJ, geLen, Bool.and_true]

theorem jsKws_maxProperties_opt (o : Option Nat) (kvs : List (PyVal × PyVal)) :
    jsKws R S ctx (optKw "maxProperties" (o.map natJ)) (.dict kvs) = leLen o kvs.length := by
  cases o with
  | none => rfl
  | some n => simp only [Option.map, optKw, jsKws_maxProperties, jsKws_nil, natOf_natJ, leLen, Bool.and_true]

theorem jsKws_items_single (s : PyVal) (hs : dictOrNone s = true) (ys : List PyVal) :
    jsKws R S ctx [kw "items" s] (.list ys) = ys.all (jsV R S s) := by
  rw [jsKws_items, jsKws_nil, Bool.and_true]
  cases s <;> first | rfl | simp [dictOrNone] at hs

theorem jsKws_items_pos (ss ys : List PyVal) :
    jsKws R S ctx [kw "items" (.list ss)] (.list ys) = jsZip R S ss ys := by
  rw [jsKws_items, jsKws_nil, Bool.and_true]; rfl

theorem jsKws_additionalItems_false (n : Nat) (h : itemsLen ctx = some n) (ys : List PyVal) :
    jsKws R S ctx [kw "additionalItems" (.bool false)] (.list ys) = decide (ys.length ≤ n) := by
  simp only [jsKws_additionalItems, jsKws_nil, h, Bool.false_or, Bool.and_true]

theorem jsKws_arrKws (sz : SizeOpts) (addl items : Option PyVal) (ys : List PyVal) :
    jsKws R S ctx (arrKws sz addl items) (.list ys) =
      ((!sz.uniq || jsonNodup ys) && jsKws R S ctx (optKw "additionalItems" addl) (.list ys)
        && leLen sz.max ys.length && geLen sz.min ys.length
        && jsKws R S ctx (optKw "items" items) (.list ys)) := by
  simp only [arrKws, jsKws_append, jsKws_type, jsKws_nil, typeIs_array, jsKws_uniqueItems_opt,
    jsKws_maxItems_opt, jsKws_minItems_opt, Bool.true_and]

end

theorem getKw_ref_arrKws (sz : SizeOpts) (addl items : Option PyVal) :
    getKw "$ref" (arrKws sz addl items) = none := by
  simp [arrKws, getKw_append, getKw_optKw, getKw, kw, keyIs]

theorem itemsLen_arrKws (sz : SizeOpts) (addl : Option PyVal) (ss : List PyVal) :
    itemsLen (arrKws sz addl (some (.list ss))) = some ss.length := by
  cases addl <;>
    simp [itemsLen, arrKws, getKw_append, getKw_optKw, getKw, kw, keyIs]

theorem setKws_eq_arrKws (sz : SizeOpts) (items : Option PyVal) :
    setKws sz items = arrKws { sz with uniq := true } none items := rfl

theorem tupKws_eq_arrKws (u : Bool) (ss : List PyVal) :
    tupKws u ss = arrKws { uniq := u } (some (.bool false)) (some (.list ss)) := by
  cases u <;> rfl

theorem jsPats_single (R S) (pat : String) (s : PyVal) (kvs : List (PyVal × PyVal)) :
    jsPats R S [kw pat s] kvs = kvs.all (fun kv => match docKey kv.1 with
      | some name => !S pat name || jsV R S s kv.2
      | none => true) :=
  Bool.and_true _

theorem c08_getKw_setKw_ne (k k' : String) (v : PyVal) (hne : (k' == k) = false) :
    ∀ kvs : List (PyVal × PyVal), getKw k (setKw k' v kvs) = getKw k kvs
  | [] => by simp [setKw, getKw, kw, keyIs, hne]
  | (a, w) :: rest => by
    simp only [setKw]
    split
    · rename_i h
      obtain rfl := (keyIs_iff _ _).mp h
      simp only [getKw, keyIs, hne, Bool.false_eq_true, if_false]
    · simp only [getKw, c08_getKw_setKw_ne k k' v hne rest]

/-- the two enclosing objects answer every lookup the validator makes in the same way -/
def CtxEq (ctx ctx' : List (PyVal × PyVal)) : Prop :=
  ∀ k : String, ("default" == k) = false → getKw k ctx' = getKw k ctx

theorem c08_kwNode_ctx (S) (ctx ctx' : List (PyVal × PyVal)) (h : CtxEq ctx ctx') (k : Kw) (v d : PyVal)
    (one : PyVal → Bool) (zip : List PyVal → Bool) (allL anyL : Unit → Bool) (cnt : Unit → Nat)
    (props pats : List (PyVal × PyVal) → Bool) :
    kwNode S ctx' k v d one zip allL anyL cnt props pats = kwNode S ctx k v d one zip allL anyL cnt props pats := by
  unfold kwNode kwLeaf extraMembers memberNames boolKw itemsLen
  simp only [h "exclusiveMinimum" (by decide +kernel), h "exclusiveMaximum" (by decide +kernel), h "items" (by decide +kernel),
    h "properties" (by decide +kernel), h "patternProperties" (by decide +kernel)]

theorem c08_jsKws_ctx (R S) (ctx ctx' : List (PyVal × PyVal)) (h : CtxEq ctx ctx') :
    ∀ (kws : List (PyVal × PyVal)) (d : PyVal), jsKws R S ctx' kws d = jsKws R S ctx kws d
  | [], _ => rfl
  | (k, v) :: rest, d => by
    simp only [jsKws_cons, c08_kwNode_ctx S ctx ctx' h, c08_jsKws_ctx R S ctx ctx' h rest d]

theorem c08_jsKws_setKw_default (R S) (ctx : List (PyVal × PyVal)) (v d : PyVal) :
    ∀ kws : List (PyVal × PyVal), jsKws R S ctx (setKw "default" v kws) d = jsKws R S ctx kws d
  | [] => jsKws_default R S ctx [] v d
  | (k, w) :: rest => by
    simp only [setKw]
    split
    · rename_i hk
      obtain rfl := (keyIs_iff _ _).mp hk
      exact (jsKws_default R S ctx rest v d).trans (jsKws_default R S ctx rest w d).symm
    · simp only [jsKws_cons, c08_jsKws_setKw_default R S ctx v d rest]

theorem c08_jsV_addDefault (R S) (s : PyVal) (dv : Option PyVal) (x : PyVal) :
    jsV R S (addDefault s dv) x = jsV R S s x := by
  cases dv with
  | none => rfl
  | some v =>
    cases s with
    | dict kvs =>
      simp only [addDefault, jsV, c08_getKw_setKw_ne "$ref" "default" _ (by decide +kernel) kvs]
      cases getKw "$ref" kvs with
      | some r => rfl
      | none =>
        simp only []
        rw [c08_jsKws_ctx R S kvs (setKw "default" (defaultJ v) kvs)
          (fun k hk => c08_getKw_setKw_ne k "default" _ hk kvs)]
        exact c08_jsKws_setKw_default R S kvs _ x kvs
    | _ => rfl

end Typedpy.Sch
