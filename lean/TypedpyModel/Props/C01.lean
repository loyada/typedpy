/-
  Props/C01.lean — C01: no validating entry point ever yields an instance that violates its
  declaration.

  `conforms` / `wellFormed` (Spec/Conforms.lean) say, recursively through nested collections,
  nested structures and AllOf/AnyOf/OneOf/NotField, what it means for a stored value / an instance
  to satisfy its declaration.  `validate`, `construct` and `runChain` model the code.  For every
  declaration typedpy lets you define (`wfDecl`), every argument value and every chain of entry
  points the result is well-formed; the same with the class's `__validate__` hook, with the Deserializer as an entry
  point, for the extension fields and for classes as the class-definition model records them.  Two companions: hooks of
  nested classes stay satisfied, and a stored value validates again unchanged (on `idemFrag`).
-/
import TypedpyModel.Lemmas.Formats
import TypedpyModel.Lemmas.Decimal
import TypedpyModel.Sem.EntryD
import TypedpyModel.Lemmas.BridgeWf
import TypedpyModel.Lemmas.Idempotent
import TypedpyModel.Lemmas.NestedHooks
import TypedpyModel.Lemmas.Complete
import TypedpyModel.Lemmas.DefineBridge
import TypedpyModel.Lemmas.Sound
import TypedpyModel.Sem.Entry
namespace Typedpy.C01
open Typedpy

theorem validate_sound (O : Oracles) (f : FieldDecl) (v v' : PyVal) (hw : wfDecl f = true)
    (h : validate O f v = .ok v') : conforms O f v' = true := by
  obtain ⟨ha, rfl⟩ := (validate_spec O f v).ok_inv h
  exact norm_conforms O f v hw ha

/-- keyword construction yields a well-formed instance: every required field present, every set
    field conforming, no undeclared attribute unless additional properties are allowed -/
theorem construct_sound (O : Oracles) (cls : FieldDecl) (kw : List (String × PyVal)) (x : PyVal)
    (hw : wfDecl cls = true) (h : construct O cls kw = .ok x) : wellFormed O cls x = true := by
  unfold construct at h
  split at h
  · next c fields defaults =>
    obtain ⟨ha, rfl⟩ := (construct_spec O c fields defaults kw).ok_inv h
    exact normKw_wellFormed O c fields defaults kw hw ha (fun nf _ v => norm_conforms O nf.2 v)
  · cases h

theorem entry_sound (O : Oracles) (cls : FieldDecl) (x y : PyVal) (op : EntryOp)
    (hw : wfDecl cls = true) (hx : wellFormed O cls x = true)
    (h : applyEntry O cls x op = .ok y) : wellFormed O cls y = true := by
  rw [applyEntry_eq] at h
  split at h
  · cases h; exact hx
  · exact construct_sound O cls _ y hw h

/-- **C01**: any chain of validating entry points applied to a well-formed instance yields a
    well-formed instance -/
theorem entry_chain_sound (O : Oracles) (cls : FieldDecl) (hw : wfDecl cls = true) :
    ∀ (chain : List EntryOp) (x y : PyVal), wellFormed O cls x = true →
      runChain O cls x chain = .ok y → wellFormed O cls y = true
  | [], x, y, hx, h => by cases h; exact hx
  | op :: rest, x, y, hx, h => by
    rcases bindE_eq_ok h with ⟨z, hz, h2⟩
    exact entry_chain_sound O cls hw rest z y (entry_sound O cls x z op hw hx hz) h2

theorem construct_then_chain_sound (O : Oracles) (cls : FieldDecl) (kw : List (String × PyVal))
    (chain : List EntryOp) (x y : PyVal) (hw : wfDecl cls = true)
    (h1 : construct O cls kw = .ok x) (h2 : runChain O cls x chain = .ok y) :
    wellFormed O cls y = true :=
  entry_chain_sound O cls hw chain x y (construct_sound O cls kw x hw h1) h2

def exO : Oracles := { reMatch := fun _ _ => true }
def exCls : FieldDecl :=
  .struct { name := "A", required := ["a"], addl := false, accepts := ["A"] }
    [("a", .seqOf .list (.float { min := some ⟨0, 1⟩ }) { max := some 2, uniq := true }),
     ("b", .anyOf [.boolean, .noneF])]
    []

theorem soundness_example :
    wfDecl exCls = true
    ∧ (match construct exO exCls [("a", .list [.int 1, .float ⟨1, 2⟩]), ("b", .str "True")] with
        | .ok x => wellFormed exO exCls x
        | .error _ => false) = true
    ∧ (match runChain exO exCls (.inst "A" [("a", .list [.float ⟨1, 1⟩])])
          [.copy, .shallowClone [("b", .none)], .castTo] with
        | .ok x => wellFormed exO exCls x
        | .error _ => false) = true
    ∧ wellFormed exO exCls (.inst "A" [("a", .list [.int 1])]) = false
    ∧ wellFormed exO exCls (.inst "A" [("b", .bool true)]) = false := by
  decide +kernel

/-! ### the `__validate__` hook clause

The hook is a universally quantified oracle: whatever the class's hook is, every instance obtained through a
validating entry point is one the hook accepts. -/

theorem hookCheck_ok {O : Oracles} {r : R PyVal} {z : PyVal}
    (h : bindE r (hookCheck O) = .ok z) :
    r = .ok z ∧ O.hookOk (instAttrs z) = true := by
  rcases bindE_eq_ok h with ⟨w, hw, h2⟩
  cases hk : O.hookOk (instAttrs w) <;> rw [hookCheck, hk] at h2
  · cases h2
  · cases h2; exact ⟨hw, hk⟩

theorem constructH_sound (O : Oracles) (cls : FieldDecl) (kw : List (String × PyVal)) (x : PyVal)
    (hw : wfDecl cls = true) (h : constructH O cls kw = .ok x) :
    wellFormed O cls x = true ∧ O.hookOk (instAttrs x) = true := by
  obtain ⟨hy, hk⟩ := hookCheck_ok h
  exact ⟨construct_sound O cls kw x hw hy, hk⟩

theorem entryH_sound (O : Oracles) (cls : FieldDecl) (x y : PyVal) (op : EntryOp)
    (hw : wfDecl cls = true) (hx : wellFormed O cls x = true ∧ O.hookOk (instAttrs x) = true)
    (h : applyEntryH O cls x op = .ok y) :
    wellFormed O cls y = true ∧ O.hookOk (instAttrs y) = true := by
  rw [applyEntryH_eq] at h
  split at h
  · cases h; exact hx
  · exact constructH_sound O cls _ y hw h

theorem constructH_no_hook (O : Oracles) (cls : FieldDecl) (kw : List (String × PyVal))
    (h : ∀ s, O.hookOk s = true) : constructH O cls kw = construct O cls kw := by
  unfold constructH
  cases construct O cls kw <;> simp [bindE, h]

/-- a hook that rejects `b == True`: the constructor and an overriding clone are refused, a copy chain of an
    accepted instance is accepted -/
theorem hook_example :
    let O : Oracles := { reMatch := fun _ _ => true,
                         hookOk := fun s => match lookup "b" s with | some (.bool true) => false | _ => true }
    (match constructH O (.struct { name := "A", required := ["a"], addl := false, accepts := ["A"] }
          [("a", .integer {}), ("b", .anyOf [.boolean, .noneF])] []) [("a", .int 1), ("b", .str "True")] with
      | .error .valueErr => true | _ => false) = true
    ∧ (match constructH O (.struct { name := "A", required := ["a"], addl := false, accepts := ["A"] }
          [("a", .integer {}), ("b", .anyOf [.boolean, .noneF])] []) [("a", .int 1), ("b", .bool false)] with
      | .ok (.inst "A" _) => true | _ => false) = true
    ∧ (match runChainH O (.struct { name := "A", required := ["a"], addl := false, accepts := ["A"] }
          [("a", .integer {}), ("b", .anyOf [.boolean, .noneF])] []) (.inst "A" [("a", .int 1), ("b", .bool false)])
          [.copy, .shallowClone [("b", .bool true)]] with
      | .error .valueErr => true | _ => false) = true
    ∧ (match runChainH O (.struct { name := "A", required := ["a"], addl := false, accepts := ["A"] }
          [("a", .integer {}), ("b", .anyOf [.boolean, .noneF])] []) (.inst "A" [("a", .int 1), ("b", .bool false)])
          [.deepcopy, .shallowClone [("a", .int 2)], .castTo] with
      | .ok (.inst "A" _) => true | _ => false) = true := by
  decide +kernel

theorem c01_dClassRef_dict_ok (kvs : List (PyVal × PyVal)) (drop : Bool) (pre : List (String × PyVal) → R Unit)
    (k : List (String × PyVal) → R PyVal) (x : PyVal)
    (h : dClassRef (.dict kvs) drop pre k = .ok x) : ∃ kw, k kw = .ok x := by
  unfold dClassRef at h
  simp only at h
  split at h
  · split at h
    · exact ⟨_, h⟩
    · -- a kept non-string key: whatever `pre` does, the run ends in the TypeError
      rcases bindE_eq_ok h with ⟨_, _, h2⟩
      cases h2
  · exact ⟨_, h⟩

/-- whatever `Deserializer(cls).deserialize` returns - for every document and every flag setting - was built by the
    constructor from some keyword arguments, hence is well-formed -/
theorem deserialize_sound (O : Oracles) (opts : DeserOpts) (cls : FieldDecl) (d x : PyVal)
    (hw : wfDecl cls = true) (h : deserialize O opts cls d = .ok x) : wellFormed O cls x = true := by
  unfold deserialize at h
  split at h
  · split at h
    · next kvs =>
      rcases c01_dClassRef_dict_ok kvs _ _ _ x h with ⟨kw, hk⟩
      rcases bindE_eq_ok hk with ⟨args, _, h2⟩
      exact construct_sound O _ args x hw h2
    · cases h
  · cases h

theorem entryD_sound (O : Oracles) (cls : FieldDecl) (x y : PyVal) (op : EntryOpD)
    (hw : wfDecl cls = true) (hx : wellFormed O cls x = true ∧ O.hookOk (instAttrs x) = true)
    (h : applyEntryD O cls x op = .ok y) :
    wellFormed O cls y = true ∧ O.hookOk (instAttrs y) = true := by
  have key : ∀ (opts : DeserOpts) (d z : PyVal), bindE (deserialize O opts cls d) (hookCheck O) = .ok z →
      wellFormed O cls z = true ∧ O.hookOk (instAttrs z) = true := fun opts d z hz =>
    ⟨deserialize_sound O opts cls d z hw (hookCheck_ok hz).1, (hookCheck_ok hz).2⟩
  cases op with
  | plain op => exact entryH_sound O cls x y op hw hx h
  | deser opts doc => exact key opts doc y h
  | reser opts =>
    rcases bindE_eq_ok h with ⟨d, _, h2⟩
    exact key opts d y h2

/-- **C01 with the Deserializer**: any chain of validating entry points - copies, clones, from_other_class, cast_to,
    `Deserializer.deserialize` of ANY document under any flags, serialize-then-deserialize - yields an instance that
    is well-formed and that the class's hook accepts -/
theorem entryD_chain_sound (O : Oracles) (cls : FieldDecl) (hw : wfDecl cls = true) :
    ∀ (chain : List EntryOpD) (x y : PyVal),
      (wellFormed O cls x = true ∧ O.hookOk (instAttrs x) = true) →
      runChainD O cls x chain = .ok y → wellFormed O cls y = true ∧ O.hookOk (instAttrs y) = true
  | [], x, y, hx, h => by cases h; exact hx
  | op :: rest, x, y, hx, h => by
    rcases bindE_eq_ok h with ⟨z, hz, h2⟩
    exact entryD_chain_sound O cls hw rest z y (entryD_sound O cls x z op hw hx hz) h2

/-- **C01 with the hook clause**: any chain of validating entry points applied to a well-formed instance the hook
    accepts yields an instance that is well-formed and that the class's own `__validate__` hook accepts -/
theorem entryH_chain_sound (O : Oracles) (cls : FieldDecl) (hw : wfDecl cls = true) :
    ∀ (chain : List EntryOp) (x y : PyVal),
      (wellFormed O cls x = true ∧ O.hookOk (instAttrs x) = true) →
      runChainH O cls x chain = .ok y → wellFormed O cls y = true ∧ O.hookOk (instAttrs y) = true :=
  fun chain x y hx h =>
    entryD_chain_sound O cls hw (chain.map .plain) x y hx (runChainD_plain O cls x chain ▸ h)

theorem constructH_then_chain_sound (O : Oracles) (cls : FieldDecl) (kw : List (String × PyVal))
    (chain : List EntryOp) (x y : PyVal) (hw : wfDecl cls = true)
    (h1 : constructH O cls kw = .ok x) (h2 : runChainH O cls x chain = .ok y) :
    wellFormed O cls y = true ∧ O.hookOk (instAttrs y) = true :=
  entryH_chain_sound O cls hw chain x y (constructH_sound O cls kw x hw h1) h2

/-- a chain that STARTS with the Deserializer needs no constructed instance to start from -/
theorem deser_then_chain_sound (O : Oracles) (cls : FieldDecl) (hw : wfDecl cls = true) (opts : DeserOpts)
    (doc x0 y : PyVal) (chain : List EntryOpD)
    (h : runChainD O cls x0 (.deser opts doc :: chain) = .ok y) :
    wellFormed O cls y = true ∧ O.hookOk (instAttrs y) = true := by
  rcases bindE_eq_ok h with ⟨z, hz, h2⟩
  obtain ⟨hd, hk⟩ := hookCheck_ok hz
  exact entryD_chain_sound O cls hw chain z y ⟨deserialize_sound O opts cls doc z hw hd, hk⟩ h2

/-- non-vacuity: a document is deserialized, cloned and cast; an ill-formed document and a hook-rejected one are refused -/
theorem deser_chain_example :
    let O : Oracles := { reMatch := fun _ _ => true,
                         hookOk := fun s => match lookup "b" s with | some (.bool true) => false | _ => true }
    let cls : FieldDecl := .struct { name := "A", required := ["a"], addl := false, accepts := ["A"] }
        [("a", .seqOf .list (.integer { min := some ⟨0, 1⟩ }) {}), ("b", .boolean)] []
    (match runChainD O cls .none [.deser {} (.dict [(.str "a", .list [.int 1, .int 2]), (.str "b", .bool false)]),
          .plain (.shallowClone [("a", .list [.int 3])]), .plain .castTo] with
      | .ok x => wellFormed O cls x | .error _ => false) = true
    ∧ (match runChainD O cls .none [.deser {} (.dict [(.str "a", .list [.int 1, .int (-2)])])] with
      | .error _ => true | .ok _ => false) = true
    ∧ (match runChainD O cls .none [.deser {} (.dict [(.str "a", .list []), (.str "b", .bool true)])] with
      | .error .valueErr => true | _ => false) = true
    ∧ (match runChainD O cls (.inst "A" [("a", .list [.int 5])]) [.plain .copy, .reser {}] with
      | .ok x => wellFormed O cls x | .error _ => false) = true := by
  decide +kernel

theorem wellFormed_field (O : Oracles) (c : ClassOpts) (fields : List (String × FieldDecl))
    (defaults : List (String × PyVal)) (x : PyVal) (h : wellFormed O (.struct c fields defaults) x = true)
    (name : String) (f : FieldDecl) (hm : (name, f) ∈ fields) (v : PyVal)
    (hl : lookup name (instAttrs x) = some v) : conforms O f v = true := by
  rw [wellFormed_struct] at h
  obtain ⟨attrs, rfl, hw⟩ := cInline_iff.1 h
  simp only [wfAttrs, Bool.and_eq_true_iff] at hw
  exact (fieldsConform_iff O _ fields).1 hw.1.2 name f hm v hl

theorem chain_string_field_sound (O : Oracles)
    (c : ClassOpts) (fields : List (String × FieldDecl)) (defaults kw : List (String × PyVal))
    (chain : List EntryOp) (x y : PyVal) (hw : wfDecl (.struct c fields defaults) = true)
    (h1 : construct O (.struct c fields defaults) kw = .ok x)
    (h2 : runChain O (.struct c fields defaults) x chain = .ok y)
    (name : String) (lo hi : Option Nat) (pat : Option String) (hm : (name, .string lo hi pat) ∈ fields)
    (v : PyVal) (hl : lookup name (instAttrs y) = some v) :
    ∃ s, v = .str s ∧ geLen lo s.length = true ∧ leLen hi s.length = true ∧ patOk O pat s = true :=
  aString_inv (wellFormed_field O c fields defaults y
    (construct_then_chain_sound O _ kw chain x y hw h1 h2) name _ hm v hl)

/-- **formatted strings (IPV4)**: whatever a chain of validating entry points yields, a field declared IPV4 that is set
    holds a string of the documented language (four octets 0..255 of ASCII digits joined by single dots), provided
    the oracle decides the token as the model's own `ipv4Ok` does (the driver's oracle does: `fmtMatch`) -/
theorem chain_ipv4_field_sound (O : Oracles) (hO : ∀ s, O.reMatch ipv4Token s = ipv4Ok s)
    (c : ClassOpts) (fields : List (String × FieldDecl)) (defaults kw : List (String × PyVal))
    (chain : List EntryOp) (x y : PyVal) (hw : wfDecl (.struct c fields defaults) = true)
    (h1 : construct O (.struct c fields defaults) kw = .ok x)
    (h2 : runChain O (.struct c fields defaults) x chain = .ok y)
    (name : String) (lo hi : Option Nat) (hm : (name, .string lo hi (some ipv4Token)) ∈ fields)
    (v : PyVal) (hl : lookup name (instAttrs y) = some v) :
    ∃ s, v = .str s ∧ IsIPv4 s ∧ geLen lo s.length = true ∧ leLen hi s.length = true := by
  obtain ⟨s, hv, hlo, hhi, hp⟩ :=
    chain_string_field_sound O c fields defaults kw chain x y hw h1 h2 name lo hi _ hm v hl
  exact ⟨s, hv, (ipv4Ok_iff s).1 ((hO s).symm.trans hp), hlo, hhi⟩

/-- the same for HostName (RFC 952/1123 names) -/
theorem chain_hostname_field_sound (O : Oracles) (hO : ∀ s, O.reMatch hostNameToken s = hostNameOk s)
    (c : ClassOpts) (fields : List (String × FieldDecl)) (defaults kw : List (String × PyVal))
    (chain : List EntryOp) (x y : PyVal) (hw : wfDecl (.struct c fields defaults) = true)
    (h1 : construct O (.struct c fields defaults) kw = .ok x)
    (h2 : runChain O (.struct c fields defaults) x chain = .ok y)
    (name : String) (lo hi : Option Nat) (hm : (name, .string lo hi (some hostNameToken)) ∈ fields)
    (v : PyVal) (hl : lookup name (instAttrs y) = some v) :
    ∃ s, v = .str s ∧ IsHostName s ∧ geLen lo s.length = true ∧ leLen hi s.length = true := by
  obtain ⟨s, hv, hlo, hhi, hp⟩ :=
    chain_string_field_sound O c fields defaults kw chain x y hw h1 h2 name lo hi _ hm v hl
  exact ⟨s, hv, (hostNameOk_iff s).1 ((hO s).symm.trans hp), hlo, hhi⟩

/-- **SizedString** (`maxlen = m` next to `maxLength = hi`: the tighter bound decides): whatever a chain of validating
    entry points yields, the field holds a string of at most `m` and at most `hi` characters -/
theorem chain_sized_field_sound (O : Oracles)
    (c : ClassOpts) (fields : List (String × FieldDecl)) (defaults kw : List (String × PyVal))
    (chain : List EntryOp) (x y : PyVal) (hw : wfDecl (.struct c fields defaults) = true)
    (h1 : construct O (.struct c fields defaults) kw = .ok x)
    (h2 : runChain O (.struct c fields defaults) x chain = .ok y)
    (name : String) (lo : Option Nat) (hi m : Nat) (pat : Option String)
    (hm : (name, .string lo (some (min hi m)) pat) ∈ fields)
    (v : PyVal) (hl : lookup name (instAttrs y) = some v) :
    ∃ s, v = .str s ∧ s.length ≤ m ∧ s.length ≤ hi := by
  obtain ⟨s, hv, _, hhi, _⟩ :=
    chain_string_field_sound O c fields defaults kw chain x y hw h1 h2 name lo _ pat hm v hl
  exact ⟨s, hv, leLen_min hhi⟩

/-- non-vacuity: a class with an IPV4 array and a SizedString, through constructor and clone -/
theorem formatted_example :
    let O : Oracles := { reMatch := fmtMatch fun _ _ => false }
    let cls : FieldDecl := .struct { name := "A", required := ["ips"], addl := false, accepts := ["A"] }
        [("ips", .seqOf .list (.string none none (some ipv4Token)) {}), ("tag", .string none (some (min 5 3)) none)] []
    wfDecl cls = true
    ∧ (match construct O cls [("ips", .list [.str "1.2.3.4", .str "255.0.0.1"]), ("tag", .str "abc")] with
        | .ok x => wellFormed O cls x | .error _ => false) = true
    ∧ (match construct O cls [("ips", .list [.str "1.2.3.4", .str "256.0.0.1"])] with
        | .error .valueErr => true | _ => false) = true
    ∧ (match construct O cls [("ips", .list [.str "1.2.3.4\n"])] with | .error .valueErr => true | _ => false) = true
    ∧ (match runChain O cls (.inst "A" [("ips", .list [.str "1.2.3.4"])]) [.shallowClone [("tag", .str "abcd")]] with
        | .error .valueErr => true | _ => false) = true
    ∧ wellFormed O cls (.inst "A" [("ips", .list [.str "1.2.3"])]) = false
    ∧ wellFormed O cls (.inst "A" [("ips", .list []), ("tag", .str "abcd")]) = false := by
  decide +kernel

/-- **DecimalNumber**: whatever the field stores is a Decimal that satisfies the declared multiplesOf / minimum /
    maximum / exclusiveMaximum (`conforms` of the `number` declaration the field stands for) -/
theorem decimal_field_sound (parse : String → Option Q) (O : Oracles) (o : NumOpts) (v w : PyVal)
    (h : vDecimal parse o v = .ok w) : conforms O (.number o) w = true ∧ ∃ q, w = .dec q := by
  rw [vDecimal_eq] at h
  split at h
  · next q _ =>
    cases hn : numOk o q <;> rw [hn] at h <;> cases h
    exact ⟨hn, q, rfl⟩
  · cases h

/-- a class with DecimalNumber fields (the conversion layer in front of the constructor): whatever it returns is
    well-formed for the class and accepted by the class's hook -/
theorem constructD_sound (parse : String → Option Q) (O : Oracles) (cls : FieldDecl) (decs : List (String × DecPos))
    (kw : List (String × PyVal)) (x : PyVal) (hw : wfDecl cls = true)
    (h : constructD parse O cls decs kw = .ok x) :
    wellFormed O cls x = true ∧ O.hookOk (instAttrs x) = true := by
  unfold constructD at h
  rcases bindE_eq_ok h with ⟨kw', _, h2⟩
  exact constructH_sound O cls kw' x hw h2

/-- the declaration a class record denotes is well-formed (`wfDecl`) as soon as the record is what
    `StructMeta.__new__` leaves behind: distinct member names, the signature demands only declared fields, and the
    members' own declarations are well-formed -/
theorem bridge_wfDecl (c : ClassDef) (ord acc : List String) (hk : KeysNodup c.allFields)
    (hreq : ∀ n ∈ c.sig.req, n ∈ Bridge.defOrder c)
    (hm : ∀ n d dflt, (n, Member.field d dflt) ∈ c.allFields → wfDecl d = true) :
    wfDecl (c.toStruct ord acc) = true := by
  have hd : (Bridge.defOrder c).Nodup := by
    unfold Bridge.defOrder Bridge.fieldDecls
    exact List.Nodup.sublist (c01_memberDecls_keys_sublist c.allFields) hk
  refine Bool.and_eq_true_iff.2 ⟨Bool.and_eq_true_iff.2 ⟨?_, ?_⟩, ?_⟩
  · rw [strNodup_iff, c01_orderBy_names]
    exact (c01_sigOrder_nodup c ord hd).filter _
  · rw [List.all_eq_true]
    intro n hn
    rw [List.contains_iff_mem]
    exact (c14_mem_toStruct_names c ord n).mpr (hreq n hn)
  · apply (wfFields_iff _).2
    intro (n, d) hp
    have := (c14_mem_toStruct_fields c ord (n, d)).mp hp
    rw [Bridge.fieldDecls, c14_lookup_memberDecls hk] at this
    split at this
    · next d' dflt hl => cases this; exact hm n d dflt (lookup_mem hl)
    · cases this

/-- **C01 for classes as the class-definition model records them** (Sem/Define.lean → Sem/DefineBridge.lean): whatever
    `cls(**kw)` returns for a class record `c` - any definition history, any inheritance - is, up to the class's Constants,
    a well-formed instance of the declaration the record denotes -/
theorem bridge_instantiate_sound (O : Oracles) (c : ClassDef) (ord : List String) (kw : List (String × PyVal))
    (x : PyVal) (hw : wfDecl (c.toStruct ord [c.name]) = true) (h : instantiateOrd O c ord kw = .ok x) :
    ∃ x0, x = addConstants c.constants x0 ∧ wellFormed O (c.toStruct ord [c.name]) x0 = true := by
  rcases bindE_eq_ok (ok_of_ite_error (ok_of_ite_error (ok_of_ite_error (ok_of_ite_error h))))
    with ⟨x0, h0, h1⟩
  cases h1
  exact ⟨x0, rfl, construct_sound O _ kw x0 hw h0⟩

/-- … with `wfDecl` discharged by `bridge_wfDecl`: what is assumed speaks of the record alone -/
theorem bridge_instantiate_sound_uncond (O : Oracles) (c : ClassDef) (ord : List String) (kw : List (String × PyVal))
    (x : PyVal) (hk : KeysNodup c.allFields) (hreq : ∀ n ∈ c.sig.req, n ∈ Bridge.defOrder c)
    (hm : ∀ n d dflt, (n, Member.field d dflt) ∈ c.allFields → wfDecl d = true)
    (h : instantiateOrd O c ord kw = .ok x) :
    ∃ x0, x = addConstants c.constants x0 ∧ wellFormed O (c.toStruct ord [c.name]) x0 = true :=
  bridge_instantiate_sound O c ord kw x (bridge_wfDecl c ord [c.name] hk hreq hm) h

/-! ### `__validate__` hooks of NESTED classes

`allInst H v` (Spec/NestedHooks.lean): every Structure instance inside `v`, at any depth, is accepted by the hook of
its class (`H`, universally quantified).  The constructor and the instance-based entry points never build a nested
instance of a hooked class - a ClassReference field stores the instance it is given - so they preserve it.  (The
Deserializer DOES build nested instances; that every nested constructor call runs the hook is executed on the real code
by the nested-hook stream of the check: the Deser model has no nested hooks.) -/

/-- **hooks of nested classes, constructor**: if every Structure instance inside the keyword arguments (and the
    defaults) is accepted by the hook of its class, so is every instance inside the attributes of the instance the
    constructor returns; classes whose fields are `noInline` -/
theorem construct_nested_hooks (O : Oracles) (H : Hooks) (c : ClassOpts) (fields : List (String × FieldDecl))
    (defaults kw : List (String × PyVal)) (x : PyVal)
    (hf : fields.all (fun p => noInline p.2) = true)
    (hkw : allInstAttrs H kw = true) (hd : allInstAttrs H defaults = true)
    (h : construct O (.struct c fields defaults) kw = .ok x) : allInstAttrs H (instAttrs x) = true := by
  obtain ⟨ha, rfl⟩ := (construct_spec O c fields defaults kw).ok_inv h
  simp only [admitsKw, Bool.and_eq_true_iff] at ha
  simp only [normKw, instAttrs]
  rw [c01_allInstAttrs_iff]
  intro e he
  rcases List.mem_append.1 he with h1 | h1
  · exact (c01_allInstAttrs_iff H kw).1 hkw e (List.mem_filter.1 h1).1
  · exact (c01_allInstAttrs_iff H _).1 (c01_normFields_allInst O H c defaults kw hkw hd fields hf ha.2) e h1

/-- the override keywords an entry point is given -/
def opKw : EntryOp → List (String × PyVal)
  | .shallowClone kw => kw
  | .fromOtherClass _ kw => kw
  | .fromMapping _ kw => kw
  | _ => []

theorem c01_entryKw_allInst (H : Hooks) (cls : FieldDecl) (x : PyVal) (op : EntryOp) (kw : List (String × PyVal))
    (hx : allInstAttrs H (instAttrs x) = true) (hd : allInstAttrs H (classDefaults cls) = true)
    (hop : allInstAttrs H (opKw op) = true) (h : entryKw cls x op = some kw) : allInstAttrs H kw = true := by
  have hsf := c01_setFields_allInst H cls x hx
  cases op <;> simp only [entryKw, Option.some.injEq, reduceCtorEq] at h <;> subst h
  case castTo => exact hsf
  -- the other three hand over `base ++ override keywords`: an entry is an override keyword (`inr`), or it is read
  -- from the set fields / the instance / the defaults
  all_goals
    rw [c01_allInstAttrs_iff] at hop ⊢
    intro e he
    rcases List.mem_append.1 he with h1 | h1
    case inr => exact hop e h1
  · exact (c01_allInstAttrs_iff H _).1 hsf e (List.mem_filter.1 h1).1
  · obtain ⟨n, _, rfl⟩ := List.mem_map.1 h1
    exact c01_lookup_getD_allInst H _ n _ hx (c01_lookup_getD_allInst H _ n .none hd rfl)
  · obtain ⟨n, _, rfl⟩ := List.mem_map.1 h1
    exact c01_lookup_getD_allInst H _ n .none hx rfl

theorem entryH_nested_hooks (O : Oracles) (H : Hooks) (c : ClassOpts) (fields : List (String × FieldDecl))
    (defaults : List (String × PyVal)) (x y : PyVal) (op : EntryOp)
    (hf : fields.all (fun p => noInline p.2) = true) (hd : allInstAttrs H defaults = true)
    (hx : allInstAttrs H (instAttrs x) = true) (hop : allInstAttrs H (opKw op) = true)
    (h : applyEntryH O (.struct c fields defaults) x op = .ok y) : allInstAttrs H (instAttrs y) = true := by
  rw [applyEntryH_eq] at h
  split at h
  · cases h; exact hx
  · next kw hk =>
    exact construct_nested_hooks O H c fields defaults kw y hf
      (c01_entryKw_allInst H (.struct c fields defaults) x op kw hx hd hop hk) hd (hookCheck_ok h).1

/-- **C01, hooks of nested classes**: along any chain of entry points whose override keywords hold only hook-accepted
    instances, every instance nested in the result is accepted by the hook of its class -/
theorem chainH_nested_hooks (O : Oracles) (H : Hooks) (c : ClassOpts) (fields : List (String × FieldDecl))
    (defaults : List (String × PyVal)) (hf : fields.all (fun p => noInline p.2) = true)
    (hd : allInstAttrs H defaults = true) :
    ∀ (chain : List EntryOp) (x y : PyVal), allInstAttrs H (instAttrs x) = true →
      (∀ op ∈ chain, allInstAttrs H (opKw op) = true) →
      runChainH O (.struct c fields defaults) x chain = .ok y → allInstAttrs H (instAttrs y) = true
  | [], x, y, hx, _, h => by cases h; exact hx
  | op :: rest, x, y, hx, hops, h => by
    rcases bindE_eq_ok h with ⟨z, hz, h2⟩
    exact chainH_nested_hooks O H c fields defaults hf hd rest z y
      (entryH_nested_hooks O H c fields defaults x z op hf hd hx (hops op (by simp)) hz)
      (fun o ho => hops o (by simp [ho])) h2

/-- non-vacuity: an Outer class holding hooked Range instances (bare and in an Array); a nested instance that the
    hook refuses is noticed by `allInst`, and hook-accepted arguments yield a hook-accepted result through a clone -/
theorem nested_hooks_example :
    let O : Oracles := { reMatch := fun _ _ => true }
    let H : Hooks := fun cls attrs => !(cls == "Range") ||
      (match lookup "lo" attrs, lookup "hi" attrs with | some (.int a), some (.int b) => decide (a ≤ b) | _, _ => true)
    let rng : FieldDecl := .struct { name := "Range", required := ["lo", "hi"], addl := false, accepts := ["Range"] }
        [("lo", .integer {}), ("hi", .integer {})] []
    let good : PyVal := .inst "Range" [("lo", .int 1), ("hi", .int 2)]
    let bad : PyVal := .inst "Range" [("lo", .int 2), ("hi", .int 1)]
    let outer : FieldDecl := .struct { name := "Outer", required := ["f"], addl := false, accepts := ["Outer"] }
        [("f", rng), ("items", .seqOf .list rng {})] []
    allInst H good = true ∧ allInst H bad = false
    ∧ allInst H (.list [good, .dict [(.str "k", bad)]]) = false
    ∧ (match runChainH O outer (.inst "Outer" [("f", good)]) [.shallowClone [("items", .list [good, good])], .castTo] with
        | .ok y => allInstAttrs H (instAttrs y) | .error _ => false) = true := by
  decide +kernel

/-! ### what a field stores validates again, unchanged

Every re-validating entry point (deepcopy, shallow_clone_with_overrides, from_other_class, cast_to,
serialize-then-deserialize) feeds stored values back into the field.  On the fragment `idemFrag` (Lemmas/Idempotent.lean:
every declaration kind except AnyOf and inline StructureReference) the stored value is accepted again and stored
unchanged.  For AnyOf the statement is false as it stands (`anyOf_restores_differently`: the stored
value can match an EARLIER option that converts it - the result is `==` but not identical); for an inline
StructureReference (re-construction from the stored instance's attributes) it is not proved. -/

theorem validate_idempotent_partial (O : Oracles) (f : FieldDecl) (v w : PyVal) (hf : idemFrag f = true)
    (h : validate O f v = .ok w) : validate O f w = .ok w := by
  obtain ⟨ha, rfl⟩ := (validate_spec O f v).ok_inv h
  have st := norm_stable O f v hf ha
  have := (validate_spec O f (norm O f v)).1 st.1
  rw [st.2] at this
  exact this

/-- non-vacuity: a nested positional / homogeneous declaration with conversions at the leaves (int → float,
    'True' → True, a member name → the member) is in the fragment; its stored value validates again unchanged -/
theorem idempotent_example :
    let O : Oracles := { reMatch := fun _ _ => true }
    let f : FieldDecl := .seqOf .list (.tuplePos [.float { min := some ⟨0, 1⟩ }, .boolean, .enumCls "Color" ["RED", "BLUE"],
                                          .oneOf [.boolean, .enumLit [.int 1, .int 3]]] false) { uniq := true }
    let g : FieldDecl := .mapOf .boolean (.setOf true (.float {}) { max := some 2 }) {}
    idemFrag f = true ∧ idemFrag g = true
    ∧ (match validate O g (.dict [(.str "True", .set false [.int 1, .float ⟨1, 1⟩]), (.bool true, .set false [.int 2])]) with
        | .ok w => (match w, validate O g w with
                    | .dict [(.bool true, .set true [.float a])], .ok (.dict [(.bool true, .set true [.float b])]) => a.num == 2 && b.num == 2
                    | _, _ => false)
        | .error _ => false) = true
    ∧ (match validate O f (.list [.tuple [.int 2, .str "True", .str "RED", .str "True"]]) with
        | .ok w => (match validate O f w with
                    | .ok w' => (match w, w' with
                                  | .list [.tuple [.float a, .bool true, .enumv _ _, .str _]], .list [.tuple [.float b, .bool true, .enumv _ _, .str _]] => a.num == b.num
                                  | _, _ => false)
                    | .error _ => false)
        | .error _ => false) = true := by
  decide +kernel

/-- why AnyOf is excluded: AnyOf[Array(items=[Float, Enum[True]]), Array(items=[Integer, Boolean])] given [1, 'True']
    stores [1, True] (second option); that value matches the FIRST option, which stores [1.0, True] - equal under `==`,
    not identical (the real code agrees: deepcopy returns [1.0, True]) -/
theorem anyOf_restores_differently :
    let O : Oracles := { reMatch := fun _ _ => true }
    let f : FieldDecl := .anyOf [.seqPos .list [.float {}, .enumLit [.bool true]] true {},
                                 .seqPos .list [.integer {}, .boolean] true {}]
    (match validate O f (.list [.int 1, .str "True"]) with
      | .ok (.list [.int 1, .bool true]) => true | _ => false) = true
    ∧ (match validate O f (.list [.int 1, .bool true]) with
      | .ok (.list [.float q, .bool true]) => q.num == 1 && q.den == 1 | _ => false) = true
    ∧ PyVal.pyEq (.list [.int 1, .bool true]) (.list [.float ⟨1, 1⟩, .bool true]) = true := by
  decide +kernel

/-! ### OneOf / AllOf keep the value as it was given (fixed in /repo 89fd84a)

For a short while (/repo 95931f6) OneOf / AllOf stored what the matched / first option built; such a value need not be
accepted by the field again (AllOf[Float(minimum=0), Integer(maximum=5)] given 2 stored 2.0; OneOf[Boolean, Enum[1, 3]]
given 'True' stored True), so `copy.deepcopy` and every clone of a valid instance raised.  The construct suite found it
(`copy-raises:deepcopy:{allOf,oneOf}`); since 89fd84a the given value is kept (as a private copy). -/

/-- the two inputs that exposed the regression: what is stored is the input itself, and it is accepted again; a clone
    of the instance succeeds -/
theorem fixed_stored_value_revalidates :
    let O : Oracles := { reMatch := fun _ _ => true }
    let fA : FieldDecl := .allOf [.float { min := some ⟨0, 1⟩ }, .integer { max := some ⟨5, 1⟩ }]
    let fO : FieldDecl := .oneOf [.boolean, .enumLit [.int 1, .int 3]]
    (match validate O fA (.int 2) with | .ok (.int 2) => true | _ => false) = true
    ∧ (match validate O fO (.str "True") with | .ok (.str s) => s == "True" | _ => false) = true
    ∧ (match runChain O (.struct { name := "A", required := [], addl := false, accepts := ["A"] } [("b", fA), ("c", fO)] [])
          (.inst "A" [("b", .int 2), ("c", .str "True")]) [.deepcopy, .shallowClone [], .castTo] with
        | .ok (.inst "A" _) => true | _ => false) = true := by
  decide +kernel

end Typedpy.C01
