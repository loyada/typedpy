/-
  Lemmas/LiftMap.lean — C06 for a Map from strings: the keys pass through unchanged on both sides, the two sides agree
  entry by entry after validation, and the Map sees the entries read only through their number.
-/
import TypedpyModel.Lemmas.LiftLists
namespace Typedpy

/-- one entry through `deserialize_map` (value first, then key) -/
def dPair (O : Oracles) (opts : DeserOpts) (kf vf : FieldDecl) : PyVal × PyVal → R (PyVal × PyVal) :=
  fun kv => bindE (deser O opts false vf kv.2) fun v' =>
    bindE (deser O opts false kf kv.1) fun k' => .ok (k', v')

def lPair (O : Oracles) (opts : DeserOpts) (kf vf : FieldDecl) : PyVal × PyVal → Option (PyVal × PyVal) :=
  fun kv => match lift O opts kf kv.1, lift O opts vf kv.2 with
    | some k', some v' => some (k', v')
    | _, _ => none

/-- one entry through `Map.__set__` (key field, then value field) -/
def vPair (O : Oracles) (kf vf : FieldDecl) : PyVal × PyVal → R (PyVal × PyVal) :=
  fun kv => bindE (validate O kf kv.1) fun k' => bindE (validate O vf kv.2) fun v' => .ok (k', v')

theorem dPair_ok (O : Oracles) (opts : DeserOpts) (kf vf : FieldDecl) (hid : idScalar kf = true)
    (kv p : PyVal × PyVal) (h : dPair O opts kf vf kv = .ok p) : p.1 = kv.1 := by
  unfold dPair at h
  rcases bindE_eq_ok h with ⟨v', _, h2⟩
  rcases bindE_eq_ok h2 with ⟨k', hk', h3⟩
  cases h3
  exact idScalar_deser O opts kf kv.1 k' hid hk'

theorem lPair_ok (O : Oracles) (opts : DeserOpts) (kf vf : FieldDecl) (hid : idScalar kf = true)
    (kv p : PyVal × PyVal) (h : lPair O opts kf vf kv = some p) : p.1 = kv.1 := by
  unfold lPair at h
  rw [idScalar_lift O opts kf kv.1 hid] at h
  cases hl : lift O opts vf kv.2 <;> rw [hl] at h <;> cases h
  rfl

theorem mapO_keys {A : PyVal × PyVal → Option (PyVal × PyVal)} (hA : ∀ kv p, A kv = some p → p.1 = kv.1) :
    ∀ kvs r, mapO A kvs = some r → r.map (·.1) = kvs.map (·.1) :=
  fun _ _ h => ((mapO_eq_some_iff.1 h).flip.imp fun p _ kv _ hp => hA kv p hp).map_eq

theorem okOf_vMap (sz : SizeOpts) (g : List (PyVal × PyVal) → R (List (PyVal × PyVal))) (r : List (PyVal × PyVal)) :
    okOf (vMap sz g (.dict r)) = if sizeOk sz r.length = true then
      (okOf (g r)).bind fun zs => if sizeOk sz (dictOfPairs zs).length = true then some (.dict (dictOfPairs zs)) else none
      else none := by
  unfold vMap
  simp only [okOf_guard, okOf_bindE, okOf_ok]

/-- Map from strings: the keys pass through unchanged on both sides, and the key and the value of an entry are read
    and validated independently of each other, so the two sides agree entry by entry.  A JSON object cannot hold one
    key twice (`hdist`), so no entry is overwritten when the dict is built from the entries read, and the Map sees
    the entries themselves only through their number -/
theorem map_str_okEq (O : Oracles) (opts : DeserOpts) (kf vf : FieldDecl) (sz : SizeOpts)
    (hs : isStringDecl kf = true) (kvs : List (PyVal × PyVal)) (hdist : strKeysDistinct kvs = true)
    (hv : ∀ kv ∈ kvs, OkEq (deserThen O opts vf kv.2)
                            (liftThen O opts vf kv.2)) :
    OkEq (deserThen O opts (.mapOf kf vf sz) (.dict kvs)) (liftThen O opts (.mapOf kf vf sz) (.dict kvs)) := by
  have hid := isStringDecl_id kf hs
  have hk : ∀ k, OkEq (deserThen O opts kf k) (liftThen O opts kf k) := by
    cases kf <;> first | (cases hs; done) | exact fun k => okEq_string O opts _ _ _ k
  rw [okEq_iff, okOf_deserThen, okOf_liftThen]
  have hD : okOf (deser O opts false (.mapOf kf vf sz) (.dict kvs))
      = (mapO (fun kv => okOf (dPair O opts kf vf kv)) kvs).bind fun r =>
        if r.any (fun kv => unhashable kv.1) = true then none else some (.dict (dictOfPairs r)) := by
    simp only [deser_mapOf, PyVal.isNone, Bool.false_and, Bool.false_eq_true, if_false, dMap, okOf_bindE]
    rw [show (mapE (fun kv : PyVal × PyVal => bindE (deser O opts false vf kv.2) fun v' =>
        bindE (deser O opts false kf kv.1) fun k' => .ok (k', v')) kvs) = mapE (dPair O opts kf vf) kvs from rfl,
      okOf_mapE]
    refine Option.bind_congr fun r _ => ?_
    cases r.any fun kv => unhashable kv.1 <;> rfl
  have hL : lift O opts (.mapOf kf vf sz) (.dict kvs)
      = (mapO (lPair O opts kf vf) kvs).bind fun r =>
        if r.any (fun kv => unhashable kv.1) = true then none else some (.dict (dictOfPairs r)) := by
    unfold lift; rfl
  have built : ∀ r : List (PyVal × PyVal), r.map (·.1) = kvs.map (·.1) →
      ((if r.any (fun kv => unhashable kv.1) = true then none else some (PyVal.dict (dictOfPairs r))).bind
        fun w => okOf (validate O (.mapOf kf vf sz) w))
      = okOf (vMap sz (mapE (vPair O kf vf)) (.dict r)) := fun r hr => by
    obtain ⟨h1, h2⟩ := strKeys_good kvs hdist r hr
    rw [h1, h2]; rfl
  have hpair : ∀ kv ∈ kvs, ((okOf (dPair O opts kf vf kv)).bind fun p => okOf (vPair O kf vf p))
      = (lPair O opts kf vf kv).bind fun p => okOf (vPair O kf vf p) := by
    intro kv hkv
    have hl : lPair O opts kf vf kv
        = (lift O opts kf kv.1).bind fun k' => (lift O opts vf kv.2).bind fun v' => some (k', v') := by
      unfold lPair; cases lift O opts kf kv.1 <;> cases lift O opts vf kv.2 <;> rfl
    simp only [dPair, vPair, hl, okOf_bindE, okOf_ok, Option.bind_assoc, Option.bind_some]
    -- the deserializer reads the value first, the lifting the key: swap, then pair each read with its validation
    rw [Option.bind_comm,
      bind_bind_comm (okOf (deser O opts false kf kv.1)) (okOf (deser O opts false vf kv.2))
        (fun y => okOf (validate O kf y)) (fun y => okOf (validate O vf y)) (fun k'' v'' => some (k'', v'')),
      okEq_then (hk kv.1), okEq_then (hv kv hkv), ← bind_bind_comm]
  have keys : ∀ r, mapO (fun kv => okOf (dPair O opts kf vf kv)) kvs = some r ∨ mapO (lPair O opts kf vf) kvs = some r →
      r.map (·.1) = kvs.map (·.1) := fun r hr =>
    hr.elim (mapO_keys (fun kv p h => dPair_ok O opts kf vf hid kv p (okOf_eq_some.mp h)) kvs r)
      (mapO_keys (lPair_ok O opts kf vf hid) kvs r)
  rw [hD, hL, Option.bind_assoc, Option.bind_assoc]
  refine bind_eq_of_bind_eq (VF := fun r => okOf (mapE (vPair O kf vf) r))
    (by rw [← okOf_mapE]; exact mapE_then_eq _ _ _ kvs hpair) (fun r hr h => ?_) (fun r r' hr hr' h => ?_)
  · rw [built r (keys r hr), okOf_vMap, h]; simp only [Option.bind_none, ite_self]
  · have hlen : r.length = r'.length := by
      simpa using congrArg List.length ((keys r (.inl hr)).trans (keys r' (.inr hr')).symm)
    rw [built r (keys r (.inl hr)), built r' (keys r' (.inr hr')), okOf_vMap, okOf_vMap, h, hlen]

end Typedpy
