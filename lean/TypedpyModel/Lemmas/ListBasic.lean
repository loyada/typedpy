/-
  Lemmas/ListBasic.lean — facts about lists that mention nothing of the model.

  A structural recursion over a nested inductive (declarations, values) cannot go through `List.all`, so the model spells
  `List.all` out next to each such function (`wfDecls`, `okVals`, `allInstList` …); it also has its own Boolean tests for
  duplicates (`strNodup`, `nodupB`, `nodupS`, `nodupL`, `dupFree`, `keysDistinct` …) and its own deduplications (the two
  `dedupS`).  `allB_iff` and `mem_dedupLast` are stated about ANY function with the defining equations in question, so
  that every copy gets its characterisation by handing over its two equations.

  `Pointwise R xs ys`: `ys` is `xs` element by element through `R` (core has no `List.Forall₂`).  A successful pass of
  `mapE` or `mapO` over a list is such a relation (`mapE_eq_ok_iff`, Lemmas/Basic.lean; `mapO_eq_some_iff`,
  Lemmas/LiftLists.lean); what the lemma files need of a pass over the members of a collection (same length, a property
  of every result, a second pass over the results, the same pass by another function) is a fact about `Pointwise`.
-/
namespace Typedpy

theorem allB_iff {α} {F : List α → Bool} {p : α → Bool} (hnil : F [] = true)
    (hcons : ∀ x xs, F (x :: xs) = (p x && F xs)) : ∀ xs, F xs = true ↔ ∀ x ∈ xs, p x = true
  | [] => by simp only [hnil, List.not_mem_nil, false_imp_iff, implies_true]
  | x :: xs => by simp only [hcons, Bool.and_eq_true, List.forall_mem_cons, allB_iff hnil hcons xs]

theorem map_id_of_mem {α} {g : α → α} {xs : List α} (h : ∀ x ∈ xs, g x = x) : xs.map g = xs :=
  (List.map_congr_left h).trans (List.map_id xs)

/-- the cons step of a Boolean test for duplicates (`x :: xs ↦ !xs.contains x && test xs`), with `b` for the test on the
    tail: a copy's equivalence with `List.Nodup` is a two-line recursion through this (`strNodup_iff`) -/
theorem nodupBool_cons {α} [BEq α] [LawfulBEq α] {x : α} {xs : List α} {b : Bool} (ih : b = true ↔ xs.Nodup) :
    (!xs.contains x && b) = true ↔ (x :: xs).Nodup := by
  rw [Bool.and_eq_true, Bool.not_eq_true', List.contains_eq_mem, decide_eq_false_iff_not, List.nodup_cons, ih]

/-- `f` drops an element that occurs again later (the model's `set(xs)` as a duplicate-free list) -/
theorem mem_dedupLast {α} [BEq α] [LawfulBEq α] {f : List α → List α} (hnil : f [] = [])
    (hcons : ∀ x xs, f (x :: xs) = if xs.contains x then f xs else x :: f xs) (k : α) :
    ∀ l, k ∈ f l ↔ k ∈ l
  | [] => by rw [hnil]
  | x :: xs => by
    rw [hcons, List.mem_cons]
    split
    · rw [mem_dedupLast hnil hcons k xs]
      exact ⟨Or.inr, fun h => h.elim (fun e => e ▸ List.contains_iff_mem.mp ‹_›) id⟩
    · rw [List.mem_cons, mem_dedupLast hnil hcons k xs]

universe u v w
variable {α : Type u} {β : Type v} {γ : Type w}

inductive Pointwise (R : α → β → Prop) : List α → List β → Prop
  | nil : Pointwise R [] []
  | cons {x y xs ys} : R x y → Pointwise R xs ys → Pointwise R (x :: xs) (y :: ys)

namespace Pointwise
variable {R : α → β → Prop} {xs : List α} {ys : List β}

theorem length_eq (h : Pointwise R xs ys) : ys.length = xs.length := by
  induction h with
  | nil => rfl
  | cons _ _ ih => rw [List.length_cons, List.length_cons, ih]

/-- the members of the two lists may be used: this is how an induction hypothesis `∀ x ∈ xs, …` enters -/
theorem imp {S : α → β → Prop} (h : Pointwise R xs ys) (hi : ∀ x ∈ xs, ∀ y ∈ ys, R x y → S x y) :
    Pointwise S xs ys := by
  induction h with
  | nil => exact .nil
  | cons hr _ ih =>
    exact .cons (hi _ List.mem_cons_self _ List.mem_cons_self hr)
      (ih fun x hx y hy => hi x (List.mem_cons_of_mem _ hx) y (List.mem_cons_of_mem _ hy))

theorem flip (h : Pointwise R xs ys) : Pointwise (fun y x => R x y) ys xs := by
  induction h with
  | nil => exact .nil
  | cons hr _ ih => exact .cons hr ih

theorem mem_left (h : Pointwise R xs ys) : ∀ x ∈ xs, ∃ y ∈ ys, R x y := by
  induction h with
  | nil => exact fun _ hx => nomatch hx
  | cons hr _ ih =>
    intro x hx
    rcases List.mem_cons.1 hx with rfl | hx
    · exact ⟨_, List.mem_cons_self, hr⟩
    · obtain ⟨y, hy, hxy⟩ := ih x hx
      exact ⟨y, List.mem_cons_of_mem _ hy, hxy⟩

theorem mem_right (h : Pointwise R xs ys) : ∀ y ∈ ys, ∃ x ∈ xs, R x y :=
  h.flip.mem_left

/-- choice along a list needs no axiom -/
theorem of_forall_exists : ∀ {xs : List α}, (∀ x ∈ xs, ∃ y, R x y) → ∃ ys, Pointwise R xs ys
  | [], _ => ⟨[], .nil⟩
  | x :: xs, h =>
    let ⟨y, hy⟩ := h x List.mem_cons_self
    let ⟨ys, hys⟩ := of_forall_exists (xs := xs) fun z hz => h z (List.mem_cons_of_mem x hz)
    ⟨y :: ys, .cons hy hys⟩

theorem eq_self {xs ys : List α} : Pointwise (fun x y => y = x) xs ys ↔ ys = xs := by
  constructor
  · intro h
    induction h with
    | nil => rfl
    | cons hr _ ih => rw [hr, ih]
  · rintro rfl
    induction ys with
    | nil => exact .nil
    | cons x xs ih => exact .cons rfl ih

theorem of_map {f : α → β} : ∀ {xs : List α}, (∀ x ∈ xs, R x (f x)) → Pointwise R xs (xs.map f)
  | [], _ => .nil
  | x :: _, h => .cons (h x List.mem_cons_self) (of_map fun z hz => h z (List.mem_cons_of_mem x hz))

theorem refl {R : α → α → Prop} {xs : List α} (h : ∀ x ∈ xs, R x x) : Pointwise R xs xs :=
  (eq_self.2 rfl).imp fun x hx _ _ e => e ▸ h x hx

theorem comp_iff {S : β → γ → Prop} {zs : List γ} :
    (∃ ys, Pointwise R xs ys ∧ Pointwise S ys zs) ↔ Pointwise (fun x z => ∃ y, R x y ∧ S y z) xs zs := by
  constructor
  · rintro ⟨ys, h, h'⟩
    induction h generalizing zs with
    | nil => cases h'; exact .nil
    | cons hr _ ih => cases h' with | cons hs h' => exact .cons ⟨_, hr, hs⟩ (ih h')
  · intro h
    induction h with
    | nil => exact ⟨[], .nil, .nil⟩
    | cons hr _ ih =>
      obtain ⟨y, hr, hs⟩ := hr
      obtain ⟨ys, h1, h2⟩ := ih
      exact ⟨y :: ys, .cons hr h1, .cons hs h2⟩

theorem map_eq {f : α → γ} {g : β → γ} (h : Pointwise (fun x y => f x = g y) xs ys) : xs.map f = ys.map g := by
  induction h with
  | nil => rfl
  | cons hr _ ih => rw [List.map_cons, List.map_cons, hr, ih]

end Pointwise

end Typedpy
