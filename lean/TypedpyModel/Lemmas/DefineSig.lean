/-
  Lemmas/DefineSig.lean — the constructor signature of every class of a reachable world names only
  declared, non-Constant fields, and `_constants` is exactly the Constant members of `_field_by_name`
  (`SigOk`, an invariant of every history).  Consequence: the two views of a class agree
  (`Bridge.wf`), so the constructor theorems of C14 need no such hypothesis.
-/
import TypedpyModel.Lemmas.DefineBridge
import TypedpyModel.Lemmas.DefineWorld
namespace Typedpy

structure SigOk (c : ClassDef) : Prop where
  names : ∀ n, n ∈ c.sig.req ∨ n ∈ c.sig.opt → n ∈ c.fieldNames ∧ (lookup n c.constants).isNone = true
  consts : c.constants = constantsOf c.allFields

def WorldSigOk (w : World) : Prop := ∀ n c, w.find n = some c → SigOk c

theorem c14_wf_of_sigOk {c : ClassDef} (hk : KeysNodup c.allFields) (hs : SigOk c) : Bridge.wf c = true := by
  simp only [Bridge.wf_iff, c14_mem_defOrder hk, hs.consts, c14_lookup_constantsOf hk]
  refine ⟨fun n hn => ?_, fun n ⟨d, dflt, hl⟩ => by rw [hl]⟩
  -- a required parameter is a field name that is no Constant, so its member is a Field
  rcases hs.names n (Or.inl hn) with ⟨hf, hc⟩
  rw [hs.consts, c14_lookup_constantsOf hk] at hc
  rcases mem_keys_iff_lookup.mp hf with ⟨_ | v, hl⟩
  · exact ⟨_, _, hl⟩
  · rw [hl] at hc; cases hc

theorem c14_mem_ownMembers_names {n : String} : ∀ {es : List (String × SrcEntry)},
    n ∈ (ownMembers es).map (·.1) → ∃ m, (n, m) ∈ ownMembers es := by
  intro es h
  rcases List.mem_map.mp h with ⟨p, hp, rfl⟩
  exact ⟨p.2, hp⟩

theorem c14_basesParams_fields {w : World} {src : ClassSrc} (hw : WorldOk w) (hs : WorldSigOk w)
    (hf : DefFacts w src) {n : String} (hn : n ∈ (basesParams w src).map (·.1)) :
    n ∈ (build w src).fieldNames := by
  rcases mem_basesParams_names.mp hn with ⟨bd, hbd, hsig⟩
  rcases mem_baseDefs.mp (List.mem_filter.mp hbd).1 with ⟨b, hb, hfb⟩
  exact build_fields_of_base hw hf hb hfb ((hs b bd hfb).names n hsig).1

theorem c14_build_sigOk {O : Oracles} {w : World} {src : ClassSrc} (hw : WorldOk w) (hs : WorldSigOk w)
    (hc : runChecks (checks O w src) = .ok ()) : SigOk (build w src) where
  consts := by rw [build_constants, build_allFields]; rfl
  names := by
    intro n hn
    have hcover := mem_sigOf.mp hn
    refine ⟨hcover.1.elim (fun h => (mem_build_fieldNames w src n).mpr (.inl h))
      (c14_basesParams_fields hw hs (defFacts hc)), ?_⟩
    rw [build_constants, lookup_none_of_not_mem hcover.2]; rfl

theorem c14_sigOk_simple {c : ClassDef} (hs : c.sig = {}) (hc : c.constants = []) (ha : c.allFields = []) :
    SigOk c where
  consts := by rw [hc, ha]; rfl
  names := by
    intro n hn
    rw [hs] at hn
    rcases hn with h | h <;> cases h

theorem reachable_sigOk {O : Oracles} {w : World} (h : Reachable O w) : WorldSigOk w := by
  refine Reachable.all_classes (P := fun _ c => SigOk c) ?_ ?_ ?_ (fun _ _ h => h) h
  · intro _ _ c hc
    rcases mem_init_classes hc with ⟨_, _, rfl | rfl⟩ <;> exact c14_sigOk_simple rfl rfl rfl
  · exact fun _ _ => c14_sigOk_simple rfl rfl rfl
  · exact fun hr hs hc _ => c14_build_sigOk (reachable_ok hr) hs hc

theorem reachable_bridge_wf {O : Oracles} {w : World} (h : Reachable O w) {n : String} {c : ClassDef}
    (hc : w.find n = some c) : Bridge.wf c = true :=
  c14_wf_of_sigOk (classOk_keysNodup (reachable_ok h n c hc)) (reachable_sigOk h n c hc)

end Typedpy
