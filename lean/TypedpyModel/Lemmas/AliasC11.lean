/-
  The copy walk of Sem/AliasC11.lean
  * never touches a pre-existing cell, whatever the table, and in strict mode returns only what it allocated,
    unconditionally: the region allocated by the walk is closed under references and holds the result — one pass along
    the branches of `dcWrapper` and `dcNode` with the triple of Lemmas/Alias (`dcItem_tr`; `dcItem_frame`, `dcItem_fresh`);
  * a successful strict walk is the real walk (`dcItem_strict_agree`), a second pass along the same branches.

  The conditions are taken apart by `cases` / `by_cases` + `rw [if_pos _]` on the discriminant itself: `split` on an `if`
  with branches this large is slow to check.
-/
import TypedpyModel.Sem.AliasC11
import TypedpyModel.Lemmas.Alias
namespace Typedpy.AliasC11
open Typedpy.Alias

theorem no_result {α : Type} {C : Prop} {h h' : Heap} {x : α} (e : ((h, none) : R α) = (h', some x)) : C :=
  nomatch (Prod.mk.inj e).2

theorem mapItems_cons_some {f : Heap → Item → R Item} {h h' : Heap} {k : String} {i : Item}
    {rest r : List (String × Item)} (e : mapItems f h ((k, i) :: rest) = (h', some r)) :
    ∃ h1 i' r', f h i = (h1, some i') ∧ mapItems f h1 rest = (h', some r') ∧ r = (k, i') :: r' := by
  simp only [mapItems] at e
  rcases e1 : f h i with ⟨h1, _ | i'⟩ <;> rw [e1] at e
  · exact no_result e
  · dsimp only at e
    rcases e2 : mapItems f h1 rest with ⟨h2, _ | r'⟩ <;> rw [e2] at e
    · exact no_result e
    · cases e
      exact ⟨_, _, _, rfl, e2, rfl⟩

/-- every new object the memo names lies in the region -/
def MemoIn (n0 : Nat) (h : Heap) (memo : List (Nat × Nat)) : Prop :=
  ∀ p, p ∈ memo → n0 ≤ p.2 ∧ p.2 < h.next

theorem MemoIn.itemIn {n0 : Nat} {h h1 : Heap} {memo : List (Nat × Nat)} (hm : MemoIn n0 h memo)
    (le : h.next ≤ h1.next) {o n : Nat} (e : memoFind memo o = some n) : ItemIn n0 h1 (.ref n) := by
  unfold memoFind at e
  split at e
  · rename_i p hp
    cases e
    intro a ea
    cases ea
    have := hm p (List.mem_of_find?_eq_some hp)
    exact ⟨this.1, Nat.lt_of_lt_of_le this.2 le⟩
  · cases e

theorem itemsIn_snoc {n0 : Nat} {h : Heap} {its : List (String × Item)} (ha : ItemsIn n0 h its) (k : String)
    {i : Item} (hi : ItemIn n0 h i) : ItemsIn n0 h (its ++ [(k, i)]) := by
  intro p hp
  rcases List.mem_append.1 hp with h1 | h1
  · exact ha p h1
  · cases List.mem_singleton.1 h1
    exact hi

/-- the strict walk allocates what it returns; the real walk at least leaves what existed alone -/
def Copies (n0 : Nat) (strict : Bool) (f : Heap → Item → R Item) : Prop :=
  ∀ h i, Tr n0 (strict = true) h (f h i) (ItemIn n0)

theorem dcWrapper_tr {n0 : Nat} {strict : Bool} {rec : Heap → Item → R Item} (hr : Copies n0 strict rec) (B : BackRef)
    (memo : List (Nat × Nat)) (h : Heap) (w : Nat) :
    Tr n0 (strict = true ∧ MemoIn n0 h memo) h (dcWrapper rec strict B memo h w) (ItemIn n0) := by
  unfold dcWrapper
  have t := (Tr.mapItems (P := fun _ _ => strict = true) (fun _ _ _ _ s => s) hr (elemsOf (h.cells w).items) h).mono
    (P' := strict = true ∧ MemoIn n0 h memo) fun _ p _ _ => p.1
  rcases hm : mapItems rec h (elemsOf (h.cells w).items) with ⟨h1, _ | its⟩ <;> rw [hm] at t
  · exact t.seq_none
  refine t.seq ?_
  have m1 := (t.frame rfl).1
  -- on `h1` every branch allocates (`fa`; `fm` when the memo names the new owner), gives up where the old owner would be
  -- kept (`fo`), or first copies the owner
  have fa {tag its'} (hi : (strict = true ∧ MemoIn n0 h memo) ∧ ItemsIn n0 h1 its → ItemsIn n0 h1 its') :
      Tr n0 ((strict = true ∧ MemoIn n0 h memo) ∧ ItemsIn n0 h1 its) h1 (allocLike h1 tag its') (ItemIn n0) :=
    (Tr.alloc tag its').mono fun _ => hi
  have fo {tag its'} : Tr n0 ((strict = true ∧ MemoIn n0 h memo) ∧ ItemsIn n0 h1 its) h1
      (if strict then (h1, none) else allocLike h1 tag its') (ItemIn n0) := by
    cases strict
    · exact Tr.of_frame (frame_alloc _ _) fun p => nomatch p.1.1
    · exact Tr.fail
  have fm {tag o n} (hn : memoFind memo o = some n) := fa (tag := tag) fun p => itemsIn_snoc p.2 backKey (p.1.2.itemIn m1 hn)
  rcases backOf (h.cells w).items with _ | v | o
  · exact fa And.right
  · exact fa fun p => itemsIn_snoc p.2 _ (itemIn_atom _ _ _)
  dsimp only
  cases B with
  | detach => exact fa And.right
  | owner => exact fo
  | memoOrOwner =>
    cases hn : memoFind memo o with
    | some n => exact fm hn
    | none => exact fo
  | memoOrDetach =>
    cases hn : memoFind memo o with
    | some n => exact fm hn
    | none =>
      cases (h.cells o).tag == "ScratchStructure" with
      | true => exact fo
      | false => exact fa And.right
  | memoOrCopyOwner =>
    cases hn : memoFind memo o with
    | some n => exact fm hn
    | none =>
      have t2 := (hr h1 (.ref o)).mono (P' := (strict = true ∧ MemoIn n0 h memo) ∧ ItemsIn n0 h1 its) fun _ p => p.1.1
      rcases hc : rec h1 (.ref o) with ⟨h2, _ | io⟩ <;> rw [hc] at t2
      · exact t2.seq_none
      · exact t2.seq ((Tr.alloc _ _).mono fun _ p => itemsIn_snoc (p.1.2.mono (t2.frame rfl).1) _ p.2)

theorem dcAttr_tr {n0 : Nat} {strict : Bool} {rec : Heap → Item → R Item} (hr : Copies n0 strict rec)
    (T : CKind → KindRow) (self new : Nat) (h : Heap) :
    ∀ i, Tr n0 (strict = true ∧ n0 ≤ new ∧ new < h.next) h (dcAttr rec strict T self new h i) (ItemIn n0)
  | .atom v => Tr.pure fun _ _ => itemIn_atom _ _ _
  | .ref v => by
    simp only [dcAttr]
    split
    · exact (dcWrapper_tr hr _ _ _ _).mono fun _ p => ⟨p.1, fun q hq => by cases List.mem_singleton.1 hq; exact p.2⟩
    · exact (hr _ _).mono fun _ p => p.1

theorem dcNode_tr {n0 : Nat} {strict : Bool} {rec recV : Heap → Item → R Item} (hr : Copies n0 strict rec)
    (hv : Copies n0 strict recV) (T : CKind → KindRow) (via : Bool) (h : Heap) (a : Nat) :
    Tr n0 (strict = true) h (dcNode rec recV strict T via h a) (ItemIn n0) := by
  unfold dcNode
  have wr {rec'} (hr' : Copies n0 strict rec') (B) := (dcWrapper_tr hr' B [] h a).mono (P' := strict = true)
    fun _ p => ⟨p, fun q hq => nomatch hq⟩
  by_cases hs : (kindOfTag (h.cells a).tag).isStruct = true
  · rw [if_pos hs]
    cases (T (kindOfTag (h.cells a).tag)).mode with
    | self_ => cases strict <;> first | exact Tr.fail | exact Tr.of_frame (Frame.rfl' _) (fun p => nomatch p)
    | shallow => cases strict <;> first | exact Tr.fail | exact Tr.of_frame (frame_alloc _ _) (fun p => nomatch p)
    | deep =>
      dsimp only
      -- the placeholder `h.next` is allocated first: it lies in the region while the entries are copied, then it is filled
      have ta : Tr n0 (strict = true) h (allocLike h (h.cells a).tag []) (ItemIn n0) :=
        (Tr.alloc _ []).mono fun _ _ p hp => nomatch hp
      have tm := Tr.mapItems (n0 := n0) (P := fun h' _ => strict = true ∧ n0 ≤ h.next ∧ h.next < h'.next)
        (fun _ _ _ m p => ⟨p.1, p.2.1, Nat.lt_of_lt_of_le p.2.2 m⟩) (fun h' i => dcAttr_tr hv T a h.next h' i)
        (h.cells a).items (h.alloc ⟨(h.cells a).tag, []⟩).1
      have t := ta.seq (tm.mono fun rg p _ _ => ⟨p.1, (p.2 _ rfl).1, Nat.lt_succ_self _⟩)
      have f2 := (tm.frame rfl).1
      rcases hm : mapItems (dcAttr recV strict T a h.next) (h.alloc ⟨(h.cells a).tag, []⟩).1 (h.cells a).items
        with ⟨h2, _ | its⟩ <;> rw [hm] at t f2
      · exact t.seq_none
      · exact t.fill (Nat.le_refl _) f2 _
  · rw [if_neg hs]
    by_cases hw : (kindOfTag (h.cells a).tag).isWrapper = true
    · rw [if_pos hw]
      by_cases hvia : via = true
      · rw [if_pos hvia]; exact wr hv _
      · rw [if_neg hvia]; exact wr hr _
    · rw [if_neg hw]
      -- a plain container: `rebuildWith (mapItems rec)`, by computation
      exact rebuildWith_tr (tf := mapItems rec)
        ((Tr.mapItems (P := fun _ _ => strict = true) (fun _ _ _ _ s => s) hr _ h).mono fun _ p _ _ => p)

theorem dcItem_tr (n0 : Nat) (strict : Bool) (T : CKind → KindRow) : ∀ n via, Copies n0 strict (dcItem strict T n via)
  | 0, _, _, .atom _ | _ + 1, _, _, .atom _ => Tr.pure fun _ _ => itemIn_atom _ _ _
  | 0, _, _, .ref _ => Tr.fail
  | n + 1, via, h, .ref a => dcNode_tr (dcItem_tr n0 strict T n via) (dcItem_tr n0 strict T n true) T via h a

theorem dcItem_frame (strict : Bool) (T : CKind → KindRow) : ∀ n via, FrameSpec (dcItem strict T n via) :=
  fun n via h i _ _ e => (dcItem_tr 0 strict T n via h i).frame e

theorem dcItem_fresh (n0 : Nat) (T : CKind → KindRow) : ∀ n via, FreshSpec n0 (dcItem true T n via) :=
  fun n via h i _ _ le nc e => (dcItem_tr n0 true T n via h i).post le nc rfl e

theorem dcItem_isolated {T : CKind → KindRow} {fuel : Nat} {via : Bool} {h h' : Heap} {x y : Item}
    (e : dcItem true T fuel via h x = (h', some y)) : Isolated h h' y :=
  (dcItem_tr h.next true T fuel via h x).isolated rfl e

def AgreeSpec (f g : Heap → Item → R Item) : Prop :=
  ∀ h i h' i', f h i = (h', some i') → g h i = (h', some i')

theorem mapItems_agree {f g : Heap → Item → R Item} (hfg : AgreeSpec f g) :
    ∀ its h h' r, mapItems f h its = (h', some r) → mapItems g h its = (h', some r) := by
  intro its
  induction its with
  | nil => exact fun _ _ _ e => e
  | cons p rest ih =>
    intro h h' r e
    obtain ⟨h1, i', r', e1, e2, rfl⟩ := mapItems_cons_some e
    simp only [mapItems, hfg _ _ _ _ e1, ih _ _ _ e2]

theorem dcWrapper_agree {f g : Heap → Item → R Item} (hfg : AgreeSpec f g) (B : BackRef)
    (memo : List (Nat × Nat)) (h : Heap) (w : Nat) :
    ∀ h' i', dcWrapper f true B memo h w = (h', some i') → dcWrapper g false B memo h w = (h', some i') := by
  unfold dcWrapper
  rcases hm : mapItems f h (elemsOf (h.cells w).items) with ⟨h1, _ | its⟩
  · exact fun _ _ => no_result
  -- from here on the two walks take the same branch: they end alike, or the strict one has given up
  rw [mapItems_agree hfg _ _ _ _ hm]
  rcases backOf (h.cells w).items with _ | v | o
  · exact fun _ _ e => e
  · exact fun _ _ e => e
  dsimp only
  cases B with
  | detach => exact fun _ _ e => e
  | owner => exact fun _ _ => no_result
  | memoOrOwner =>
    cases memoFind memo o with
    | some n => exact fun _ _ e => e
    | none => exact fun _ _ => no_result
  | memoOrDetach =>
    cases memoFind memo o with
    | some n => exact fun _ _ e => e
    | none =>
      cases (h.cells o).tag == "ScratchStructure" with
      | true => exact fun _ _ => no_result
      | false => exact fun _ _ e => e
  | memoOrCopyOwner =>
    cases memoFind memo o with
    | some n => exact fun _ _ e => e
    | none =>
      rcases hc : f h1 (.ref o) with ⟨h2, _ | io⟩
      · exact fun _ _ => no_result
      · rw [hfg _ _ _ _ hc]
        exact fun _ _ e => e

theorem dcAttr_agree {f g : Heap → Item → R Item} (hfg : AgreeSpec f g) (T : CKind → KindRow) (self new : Nat) :
    AgreeSpec (dcAttr f true T self new) (dcAttr g false T self new) := by
  intro h i
  cases i with
  | atom v => exact fun _ _ e => e
  | ref v =>
    simp only [dcAttr]
    by_cases hw : (kindOfTag (h.cells v).tag).isWrapper = true
    · rw [if_pos hw, if_pos hw]
      exact dcWrapper_agree hfg _ _ _ _
    · rw [if_neg hw, if_neg hw]
      exact hfg _ _

theorem dcNode_agree {f g fV gV : Heap → Item → R Item} (hfg : AgreeSpec f g) (hv : AgreeSpec fV gV)
    (T : CKind → KindRow) (via : Bool) (h : Heap) (a : Nat) :
    ∀ h' i', dcNode f fV true T via h a = (h', some i') → dcNode g gV false T via h a = (h', some i') := by
  unfold dcNode
  by_cases hs : (kindOfTag (h.cells a).tag).isStruct = true
  · rw [if_pos hs, if_pos hs]
    cases (T (kindOfTag (h.cells a).tag)).mode with
    | self_ => exact fun _ _ => no_result
    | shallow => exact fun _ _ => no_result
    | deep =>
      rcases hm : mapItems (dcAttr fV true T a h.next) (h.alloc ⟨(h.cells a).tag, []⟩).1 (h.cells a).items
        with ⟨h2, _ | its⟩
      · exact fun _ _ => no_result
      · rw [mapItems_agree (dcAttr_agree hv T a h.next) _ _ _ _ hm]
        exact fun _ _ e => e
  · rw [if_neg hs, if_neg hs]
    by_cases hw : (kindOfTag (h.cells a).tag).isWrapper = true
    · rw [if_pos hw, if_pos hw]
      by_cases hvia : via = true
      · rw [if_pos hvia, if_pos hvia]
        exact dcWrapper_agree hv _ _ _ _
      · rw [if_neg hvia, if_neg hvia]
        exact dcWrapper_agree hfg _ _ _ _
    · rw [if_neg hw, if_neg hw]
      rcases hm : mapItems f h (h.cells a).items with ⟨h1, _ | its⟩
      · exact fun _ _ => no_result
      · rw [mapItems_agree hfg _ _ _ _ hm]
        exact fun _ _ e => e

theorem dcItem_strict_agree (T : CKind → KindRow) :
    ∀ n via, AgreeSpec (dcItem true T n via) (dcItem false T n via) := by
  intro n
  induction n <;> intro via h i <;> cases i
  case zero.atom | succ.atom => exact fun _ _ e => e
  case zero.ref => exact fun _ _ => no_result
  case succ.ref n ih a => exact dcNode_agree (ih via) (ih true) T via h a

end Typedpy.AliasC11
