/-
  Lemmas/NestedHooks.lean — `__validate__` hooks of NESTED classes: `allInst H v` says that every Structure instance
  inside the value `v` (at any depth: attributes, elements, keys, values) is accepted by the hook of its class
  (`H : class name → attribute state → Bool`, universally quantified).  Validation never builds a nested instance of a
  hooked class (a ClassReference field stores the instance it is given; only an inline StructureReference - which has no
  hook - is constructed), so it preserves `allInst`: `norm_allInst`, on declarations without inline StructureReference
  (`noInline`), a mutual structural recursion with `normZip_allInst` and `normAny_allInst`.
-/
import TypedpyModel.Spec.NestedHooks
import TypedpyModel.Lemmas.Sound
import TypedpyModel.Sem.Entry
namespace Typedpy
open PyVal (pyEq)

theorem c01_allInstList_iff (H : Hooks) : ∀ xs, allInstList H xs = true ↔ ∀ x ∈ xs, allInst H x = true :=
  allB_iff rfl fun _ _ => rfl

theorem c01_allInstAttrs_iff (H : Hooks) : ∀ xs : List (String × PyVal),
    allInstAttrs H xs = true ↔ ∀ e ∈ xs, allInst H e.2 = true :=
  allB_iff (p := fun e : String × PyVal => allInst H e.2) rfl fun (_, _) _ => rfl

theorem c01_allInstPairs_iff (H : Hooks) : ∀ xs : List (PyVal × PyVal),
    allInstPairs H xs = true ↔ ∀ e ∈ xs, allInst H e.1 = true ∧ allInst H e.2 = true := fun xs =>
  (allB_iff (p := fun e : PyVal × PyVal => allInst H e.1 && allInst H e.2) rfl
    (fun (_, _) _ => rfl) xs).trans (by simp only [Bool.and_eq_true])

mutual
/-- no inline StructureReference where `norm` descends: the options of OneOf / AllOf / NotField and the fields of a
    referenced class are not looked at, a value that meets them is stored as it was given -/
def noInline : FieldDecl → Bool
  | .seqOf _ f _ => noInline f
  | .seqPos _ fs _ _ => noInlines fs
  | .setOf _ f _ => noInline f
  | .tupleOf f _ => noInline f
  | .tuplePos fs _ => noInlines fs
  | .mapOf kf vf _ => noInline kf && noInline vf
  | .struct c _ _ => !c.inline
  | .anyOf fs => noInlines fs
  | .oneOf _ => true
  | .allOf _ => true
  | .notF _ => true
  | .number _ => true
  | .integer _ => true
  | .float _ => true
  | .string _ _ _ => true
  | .boolean => true
  | .enumLit _ => true
  | .enumCls _ _ => true
  | .seqAny _ _ => true
  | .setAny _ _ => true
  | .mapAny _ => true
  | .noneF => true
  | .anything => true
termination_by structural f => f
def noInlines : List FieldDecl → Bool
  | [] => true
  | f :: fs => noInline f && noInlines fs
termination_by structural fs => fs
end

theorem noInlines_iff : ∀ fs : List FieldDecl, noInlines fs = true ↔ ∀ f ∈ fs, noInline f = true :=
  allB_iff rfl fun _ _ => rfl

theorem c01_mkSeq_allInst (H : Hooks) (k : SeqKind) (xs : List PyVal) : allInst H (mkSeq k xs) = allInstList H xs := by
  cases k <;> rfl

theorem c01_map_allInst (H : Hooks) {a : PyVal → Bool} {n : PyVal → PyVal}
    (hn : ∀ x, a x = true → allInst H x = true → allInst H (n x) = true) (xs : List PyVal)
    (ha : xs.all a = true) (hx : allInstList H xs = true) : allInstList H (xs.map n) = true := by
  rw [c01_allInstList_iff] at hx ⊢
  intro y hy
  rcases List.mem_map.1 hy with ⟨x, hxm, rfl⟩
  exact hn x ((List.all_eq_true.1 ha) x hxm) (hx x hxm)

theorem c01_dedup_allInst (H : Hooks) (xs : List PyVal) (h : allInstList H xs = true) : allInstList H (dedup xs) = true := by
  rw [c01_allInstList_iff] at h ⊢
  exact fun y hy => h y (c01_mem_dedup xs y hy)

theorem c01_dictOfPairs_allInst (H : Hooks) (l : List (PyVal × PyVal)) (h : allInstPairs H l = true) :
    allInstPairs H (dictOfPairs l) = true := by
  rw [c01_allInstPairs_iff] at h ⊢
  exact c01_dictOfPairs_forall (fun k => allInst H k = true) (fun v => allInst H v = true) l h

theorem c01_nSeq_allInst (H : Hooks) {k : SeqKind} {sz : SizeOpts} {pre a : List PyVal → Bool}
    {n : List PyVal → List PyVal} {v : PyVal}
    (hn : ∀ xs, a xs = true → allInstList H xs = true → allInstList H (n xs) = true)
    (ha : aSeq k sz pre a n v = true) (h : allInst H v = true) : allInst H (nSeq k n v) = true := by
  obtain ⟨xs, hs, _, _, _, hax, _⟩ := aSeq_inv ha
  rw [nSeq_of_seqElems n hs, c01_mkSeq_allInst]
  rw [seqElems_eq_some.1 hs, c01_mkSeq_allInst] at h
  exact hn xs hax h

/-! `allInst H` of a set, tuple or dict IS `allInstList H` / `allInstPairs H` of its parts, by definition. -/

theorem c01_nSet_allInst (H : Hooks) {imm : Bool} {sz : SizeOpts} {a : List PyVal → Bool}
    {n : List PyVal → List PyVal} {v : PyVal}
    (hn : ∀ xs, a xs = true → allInstList H xs = true → allInstList H (n xs) = true)
    (ha : aSet sz a n v = true) (h : allInst H v = true) : allInst H (nSet imm n v) = true := by
  obtain ⟨fr, xs, rfl, _, hax, _⟩ := aSet_inv ha
  exact c01_dedup_allInst H _ (hn xs hax h)

theorem c01_nTuple_allInst (H : Hooks) {uniq : Bool} {pre a : List PyVal → Bool}
    {n : List PyVal → List PyVal} {v : PyVal}
    (hn : ∀ xs, a xs = true → allInstList H xs = true → allInstList H (n xs) = true)
    (ha : aTuple uniq pre a n v = true) (h : allInst H v = true) : allInst H (nTuple n v) = true := by
  obtain ⟨xs, rfl, _, _, hax, _⟩ := aTuple_inv ha
  exact hn xs hax h

theorem c01_nMap_allInst (H : Hooks) {sz : SizeOpts} {a : List (PyVal × PyVal) → Bool}
    {n : List (PyVal × PyVal) → List (PyVal × PyVal)} {v : PyVal}
    (hn : ∀ kvs, a kvs = true → allInstPairs H kvs = true → allInstPairs H (n kvs) = true)
    (ha : aMap sz a n v = true) (h : allInst H v = true) : allInst H (nMap n v) = true := by
  obtain ⟨kvs, rfl, _, hax, _⟩ := aMap_inv ha
  exact c01_dictOfPairs_allInst H _ (hn kvs hax h)

mutual
theorem norm_allInst (O : Oracles) (H : Hooks) : ∀ (f : FieldDecl) (v : PyVal), noInline f = true →
    admits O f v = true → allInst H v = true → allInst H (norm O f v) = true := by
  intro f
  cases f with
  | float o =>
    intro v _ ha _
    obtain ⟨q, hq, _⟩ := cFloat_inv (cFloat_nFloat o v ha)
    rw [norm_float, hq]; rfl
  | boolean =>
    intro v _ ha _
    obtain ⟨b, hb⟩ := cBoolean_inv (cBoolean_nBoolean v ha)
    rw [norm_boolean, hb]; rfl
  | enumCls cls names =>
    intro v _ ha _
    obtain ⟨n, hn, _⟩ := cEnumCls_inv (cEnumCls_nEnumCls cls names v ha)
    rw [norm_enumCls, hn]; rfl
  | seqAny k sz => exact fun v _ ha h => c01_nSeq_allInst H (fun _ _ hx => hx) ha h
  | seqOf k f sz =>
    exact fun v hf ha h => c01_nSeq_allInst H
      (c01_map_allInst H fun x => norm_allInst O H f x hf) ha h
  | seqPos k fs addl sz =>
    exact fun v hf ha h => c01_nSeq_allInst H (normZip_allInst O H fs · hf) ha h
  | setAny imm sz => exact fun v _ ha h => c01_nSet_allInst H (fun _ _ hx => hx) ha h
  | setOf imm f sz =>
    exact fun v hf ha h => c01_nSet_allInst H
      (c01_map_allInst H fun x => norm_allInst O H f x hf) ha h
  | tupleOf f uniq =>
    exact fun v hf ha h => c01_nTuple_allInst H
      (c01_map_allInst H fun x => norm_allInst O H f x hf) ha h
  | tuplePos fs uniq =>
    exact fun v hf ha h => c01_nTuple_allInst H (normZip_allInst O H fs · hf) ha h
  | mapAny sz => exact fun v _ ha h => c01_nMap_allInst H (fun _ _ hx => hx) ha h
  | mapOf kf vf sz =>
    intro v hf ha h
    -- `noInline (.mapOf kf vf sz)` unfolds to the conjunction (`rw [noInline]` has Lean prove all its equations first)
    have hf := Bool.and_eq_true_iff.1 hf
    refine c01_nMap_allInst H (fun kvs hax hx => ?_) ha h
    rw [c01_allInstPairs_iff] at hx ⊢
    intro e he
    rcases List.mem_map.1 he with ⟨kv, hkv, rfl⟩
    have hadm := Bool.and_eq_true_iff.1 (List.all_eq_true.1 hax kv hkv)
    exact ⟨norm_allInst O H kf kv.1 hf.1 hadm.1 (hx kv hkv).1, norm_allInst O H vf kv.2 hf.2 hadm.2 (hx kv hkv).2⟩
  | struct c fields defaults =>
    intro v hf _ h
    have hf := (Bool.not_eq_true' _).mp hf
    simp only [norm_struct, hf, Bool.false_eq_true, if_false]; exact h
  | anyOf fs => exact fun v hf _ h => normAny_allInst O H fs v hf h
  | _ => exact fun v _ _ h => h
termination_by structural f => f

theorem normZip_allInst (O : Oracles) (H : Hooks) : ∀ (fs : List FieldDecl) (xs : List PyVal), noInlines fs = true →
    admitsZip O fs xs = true → allInstList H xs = true → allInstList H (normZip O fs xs) = true
  | [], xs, _, _, h => h
  | _ :: _, [], _, _, _ => rfl
  | f :: fs, x :: xs, hf, ha, h => by
    have hf := Bool.and_eq_true_iff.1 hf
    rw [admitsZip_cons_cons, Bool.and_eq_true_iff] at ha
    have h := Bool.and_eq_true_iff.1 h
    exact Bool.and_eq_true_iff.2 ⟨norm_allInst O H f x hf.1 ha.1 h.1, normZip_allInst O H fs xs hf.2 ha.2 h.2⟩
termination_by structural fs => fs

theorem normAny_allInst (O : Oracles) (H : Hooks) : ∀ (fs : List FieldDecl) (v : PyVal), noInlines fs = true →
    allInst H v = true → allInst H (normAny O fs v) = true
  | [], v, _, h => h
  | f :: fs, v, hf, h => by
    have hf := Bool.and_eq_true_iff.1 hf
    rw [normAny_cons]
    cases ha : admits O f v
    · exact normAny_allInst O H fs v hf.2 h
    · exact norm_allInst O H f v hf.1 ha h
termination_by structural fs => fs
end

theorem c01_argFor_allInst (H : Hooks) (c : ClassOpts) (defaults kw : List (String × PyVal)) (name : String) (v : PyVal)
    (hkw : allInstAttrs H kw = true) (hd : allInstAttrs H defaults = true)
    (h : argFor c defaults kw name = some v) : allInst H v = true :=
  (c01_argFor_mem h).elim ((c01_allInstAttrs_iff H kw).1 hkw (name, v))
    ((c01_allInstAttrs_iff H defaults).1 hd (name, v))

theorem c01_normFields_allInst (O : Oracles) (H : Hooks) (c : ClassOpts) (defaults kw : List (String × PyVal))
    (hkw : allInstAttrs H kw = true) (hd : allInstAttrs H defaults = true) :
    ∀ fields : List (String × FieldDecl), fields.all (fun p => noInline p.2) = true →
      admitsFields O c defaults kw fields = true → allInstAttrs H (normFields O c defaults kw fields) = true
  | [], _, _ => rfl
  | (name, f) :: rest, hf, ha => by
    simp only [List.all_cons, Bool.and_eq_true_iff] at hf
    rw [admitsFields_cons, Bool.and_eq_true_iff] at ha
    rw [normFields_cons]
    cases hA : argFor c defaults kw name with
    | none => exact c01_normFields_allInst O H c defaults kw hkw hd rest hf.2 ha.2
    | some v =>
      have hadm : admits O f v = true := by have := ha.1; rw [hA] at this; exact this
      exact Bool.and_eq_true_iff.2 ⟨norm_allInst O H f v hf.1 hadm (c01_argFor_allInst H c defaults kw name v hkw hd hA),
        c01_normFields_allInst O H c defaults kw hkw hd rest hf.2 ha.2⟩

theorem c01_setFields_allInst (H : Hooks) (cls : FieldDecl) (x : PyVal)
    (hx : allInstAttrs H (instAttrs x) = true) : allInstAttrs H (setFields cls x) = true := by
  rw [c01_allInstAttrs_iff] at hx ⊢
  intro e he
  simp only [setFields, List.mem_filterMap] at he
  rcases he with ⟨n, _, hn⟩
  cases hl : lookup n (instAttrs x) with
  | none => simp [hl] at hn
  | some v =>
    simp only [hl] at hn
    split at hn
    · cases hn
    · cases hn
      exact hx (n, v) (lookup_mem hl)

theorem c01_lookup_getD_allInst (H : Hooks) (a : List (String × PyVal)) (n : String) (d : PyVal)
    (ha : allInstAttrs H a = true) (hd : allInst H d = true) : allInst H ((lookup n a).getD d) = true := by
  cases hl : lookup n a with
  | none => exact hd
  | some v => exact (c01_allInstAttrs_iff H a).1 ha (n, v) (lookup_mem hl)

end Typedpy
