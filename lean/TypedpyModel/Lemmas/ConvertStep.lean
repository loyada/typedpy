/-
  Lemmas/ConvertStep.lean — the documented single-step contract (`Spec/ConvertSpec.lean`, `stepViolations`) holds of
  the model of `_convert` for every mapping that is a Python dict at every nesting level (`keysOk`, `wfDeepList`),
  whatever its user functions, and every document.
  The contract judges an entry knowing the entries written before it, so the entry sits at a position,
  `m = mp ++ (k, e) :: mr`, and the guards of the contract (counts over `keyed q (postMap …)`) are turned into facts
  about `mp` and `mr`.  `get_after_step1` reduces the value of `k` at the end to what the entry's own step of loop 1
  wrote; then one lemma per clause (`c17_const_ok`, `c17_fn_ok`, `c17_move_ok`, `c17_sub_clause`; `c17_entry_ok` for
  all).  The contracts of the nested mappings are the hypothesis `SubOk`, discharged by the recursion over `Entry`
  (`c17_contract_list`).
-/
import TypedpyModel.Lemmas.Convert
namespace Typedpy.Convert

theorem pyEq_refl (a : Json) : pyEq a a = true := Json.beq_refl _

theorem optBeq_refl (x : Option Json) : optBeq x x = true := by
  cases x <;> simp [optBeq, pyEq_refl]

theorem isSub_toPost (e : Entry) : e.toPost.isSub = e.isSub := by
  cases e <;> rfl

theorem PEntry.writer1_not_move_deleted {pe : PEntry} (h : pe.isWriter1 = true) : pe.isMove = false ∧ pe.isDeleted = false := by
  cases pe <;> simp_all [PEntry.isWriter1, PEntry.isMove, PEntry.isDeleted]

theorem PEntry.sub_not_move_deleted {pe : PEntry} (h : pe.isSub = true) : pe.isMove = false ∧ pe.isDeleted = false := by
  cases pe <;> simp_all [PEntry.isSub, PEntry.isMove, PEntry.isDeleted]

theorem postMap_eq_map (m : Mapping) : postMap m = m.map fun p => (p.1, p.2.toPost) := by
  induction m with
  | nil => rfl
  | cons p r ih => rw [postMap_cons, ih]; rfl

theorem postMap_append (a b : Mapping) : postMap (a ++ b) = postMap a ++ postMap b := by
  simp only [postMap_eq_map, List.map_append]

theorem keyed_cons (q k : String) (e : PEntry) (r : List (String × PEntry)) :
    keyed q ((k, e) :: r) = if k == q then e :: keyed q r else keyed q r := by
  simp only [keyed, List.filter_cons]
  split <;> simp

theorem keyed_append (q : String) (a b : List (String × PEntry)) : keyed q (a ++ b) = keyed q a ++ keyed q b := by
  simp [keyed, List.filter_append]

theorem keyed_at_self (k : String) (e : Entry) (mp mr : Mapping) :
    keyed k (postMap (mp ++ (k, e) :: mr)) = keyed k (postMap mp) ++ e.toPost :: keyed k (postMap mr) := by
  rw [postMap_append, keyed_append, postMap_cons, keyed_cons, if_pos (key_beq_self k)]

theorem keyed_at_other {x k : String} (h : k ≠ x) (e : Entry) (mp mr : Mapping) :
    keyed x (postMap (mp ++ (k, e) :: mr)) = keyed x (postMap mp) ++ keyed x (postMap mr) := by
  rw [postMap_append, keyed_append, postMap_cons, keyed_cons, if_neg (by simpa using h)]

theorem mem_keyed_postMap {q : String} {e : Entry} {m : Mapping} (h : (q, e) ∈ m) : e.toPost ∈ keyed q (postMap m) := by
  simp only [keyed, postMap_eq_map, List.mem_map, List.mem_filter]
  exact ⟨(q, e.toPost), ⟨⟨(q, e), h, rfl⟩, key_beq_self q⟩, rfl⟩

theorem mem_keyed_postMap_inv {q : String} {pe : PEntry} {m : Mapping} (h : pe ∈ keyed q (postMap m)) :
    ∃ e, (q, e) ∈ m ∧ pe = e.toPost := by
  simp only [keyed, postMap_eq_map, List.mem_map, List.mem_filter, beq_iff_eq] at h
  obtain ⟨_, ⟨⟨⟨k, e⟩, he, rfl⟩, hk⟩, rfl⟩ := h
  exact ⟨e, hk ▸ he, rfl⟩

theorem no_entry_of_keyed_nil {q : String} {m : Mapping} (h : (keyed q (postMap m)).length = 0) (e : Entry) :
    (q, e) ∉ m := fun hm => by
  have := mem_keyed_postMap hm
  rw [List.length_eq_zero_iff.mp h] at this
  cases this

theorem kind_false_of_filter_nil {x : String} {m : Mapping} {pk : PEntry → Bool}
    (h : (keyed x (postMap m)).filter pk = []) (e : Entry) (he : (x, e) ∈ m) : pk e.toPost = false :=
  Bool.eq_false_iff.mpr (List.filter_eq_nil_iff.mp h _ (mem_keyed_postMap he))

/-- as many entries of kind `pk` keyed `x` up to a position as in the whole mapping: none after it -/
theorem kind_false_after {x k : String} {pk : PEntry → Bool} (hk : k ≠ x) {e : Entry} {mp mr : Mapping}
    (h : ((keyed x (postMap (mp ++ (k, e) :: mr))).filter pk).length = ((keyed x (postMap mp)).filter pk).length)
    (e' : Entry) (he' : (x, e') ∈ mr) : pk e'.toPost = false := by
  rw [keyed_at_other hk, List.filter_append, List.length_append] at h
  exact kind_false_of_filter_nil (List.length_eq_zero_iff.mp (by omega)) e' he'

theorem keyed_len1_split {k : String} {e : Entry} {mp mr : Mapping}
    (h : (keyed k (postMap (mp ++ (k, e) :: mr))).length = 1) :
    (∀ e', (k, e') ∉ mp) ∧ (∀ e', (k, e') ∉ mr) := by
  rw [keyed_at_self, List.length_append, List.length_cons] at h
  have hz : (keyed k (postMap mp)).length = 0 ∧ (keyed k (postMap mr)).length = 0 := by omega
  exact ⟨no_entry_of_keyed_nil hz.1, no_entry_of_keyed_nil hz.2⟩

theorem keyed_last_split {k : String} {e : Entry} {mp mr : Mapping}
    (h : (keyed k (postMap (mp ++ (k, e) :: mr))).length = (keyed k (postMap mp)).length + 1) :
    ∀ e', (k, e') ∉ mr := by
  rw [keyed_at_self, List.length_append, List.length_cons] at h
  exact no_entry_of_keyed_nil (by omega)

theorem forall_keyed_at {k : String} {e : Entry} {mp mr : Mapping} {P : Entry → Prop}
    (hp : ∀ e', (k, e') ∈ mp → P e') (he : P e) (hr : ∀ e', (k, e') ∈ mr → P e') :
    ∀ e', (k, e') ∈ mp ++ (k, e) :: mr → P e' := by
  intro e' h
  rcases List.mem_append.mp h with h | h
  · exact hp e' h
  · rcases List.mem_cons.mp h with h | h
    · cases h; exact he
    · exact hr e' h

theorem keysOk_split {k : String} {e : Entry} {mp mr : Mapping} (h : keysOk (mp ++ (k, e) :: mr) = true) :
    (∀ e', (k, e') ∈ mp → e'.isSub ≠ e.isSub) ∧ (∀ e', (k, e') ∈ mr → e'.isSub ≠ e.isSub) := by
  simp only [keysOk, List.all_eq_true] at h
  have h1 := h (k, e) (by simp)
  -- the entries with the Python key of `(k, e)` number one over `mp ++ (k, e) :: mr`, and `(k, e)` is one of them
  simp only [List.filter_append, List.filter_cons, beq_self_eq_true, Bool.and_self, if_true,
    List.length_append, List.length_cons, beq_iff_eq] at h1
  have hno : ∀ l : Mapping, (l.filter fun p' => p'.1 == k && p'.2.isSub == e.isSub).length = 0 →
      ∀ e', (k, e') ∈ l → e'.isSub ≠ e.isSub := fun l hl e' he' heq =>
    List.filter_eq_nil_iff.mp (List.length_eq_zero_iff.mp hl) (k, e') he'
      (by simp only [heq, beq_self_eq_true, Bool.and_self])
  exact ⟨hno mp (by omega), hno mr (by omega)⟩

theorem keysOk_others_sub {k : String} {e : Entry} {mp mr : Mapping} (h : keysOk (mp ++ (k, e) :: mr) = true)
    (he : e.isSub = false) :
    (∀ e', (k, e') ∈ mp → e'.toPost.isSub = true) ∧ (∀ e', (k, e') ∈ mr → e'.toPost.isSub = true) := by
  have hs := keysOk_split h
  rw [he] at hs
  exact ⟨fun e' he' => by simpa [isSub_toPost] using hs.1 e' he',
    fun e' he' => by simpa [isSub_toPost] using hs.2 e' he'⟩

theorem loop1_append (a b : CMapping) (inp out : Obj) :
    loop1 (a ++ b) inp out = bindE (loop1 a inp out) fun o => loop1 b inp o := by
  induction a generalizing out with
  | nil => rfl
  | cons p a ih =>
    rw [List.cons_append, loop1_cons, loop1_cons]
    cases step1 p.1 p.2 inp out with
    | error x => rfl
    | ok o => exact ih o

theorem loop2_append (a b : CMapping) (out : Obj) : loop2 (a ++ b) out = loop2 b (loop2 a out) := by
  induction a generalizing out with
  | nil => rfl
  | cons p a ih => rw [List.cons_append, loop2_cons, loop2_cons, ih]

/-- `hin` asks of the later entries keyed `k` that they do nothing in loop 1 ON THIS INPUT, which is weaker than
    `isWriter1 = false`: a later `._mapper` entry does nothing when the input has no sub-document at `k`
    (`step1_sub_inert`), the case the constant clause needs -/
theorem get_after_step1 {k : String} {e : Entry} {mp mr : Mapping} {b o1 : Obj}
    {m : Mapping} (hm : m = mp ++ (k, e) :: mr)
    (h1 : loop1 (compileMap m) b b = .ok o1)
    (hnm : ∀ e', (k, e') ∈ m → e'.toPost.isMove = false ∧ e'.toPost.isDeleted = false)
    (hin : ∀ e', (k, e') ∈ mr → ∀ o, step1 k e'.compile b o = .ok o) :
    ∃ op o2, loop1 (compileMap mp) b b = .ok op ∧ step1 k e.compile b op = .ok o2
      ∧ get k (loop3 (compileMap m) (loop2 (compileMap m) o1)) = get k o2 := by
  subst hm
  rw [get_loop3_loop2 o1 (fun e' he' => (hnm e' he').1) (fun e' he' => (hnm e' he').2)]
  rw [compileMap_append, loop1_append] at h1
  rcases bindE_eq_ok h1 with ⟨op, hp, h2⟩
  rw [compileMap_cons, loop1_cons] at h2
  rcases bindE_eq_ok h2 with ⟨o2, hs, h3⟩
  exact ⟨op, o2, hp, hs, loop1_frame_of_inert mr b o2 o1 hin h3⟩

theorem deepGet_cons_obj (o : Obj) (h : String) (t : List String) :
    deepGet (.obj o) (h :: t) = t.foldl (fun acc k => if truthy acc then getNext k acc else .null) (getD h o) := by
  simp only [deepGet, List.foldl_cons]
  cases o <;> rfl

theorem deepGet_congr {o o' : Obj} {h : String} (t : List String) (hg : get h o = get h o') :
    deepGet (.obj o) (h :: t) = deepGet (.obj o') (h :: t) := by
  rw [deepGet_cons_obj, deepGet_cons_obj]
  simp only [getD, hg]

/-- the guards of the contract are long: this takes one `if` apart without `split` on the whole goal -/
theorem ite_nil {α} {c : Prop} [Decidable c] {x y : List α} (hx : c → x = []) (hy : ¬ c → y = []) :
    (if c then x else y) = [] :=
  iteInduction (motive := (· = [])) hx hy

theorem toPost_eq_const {e : Entry} {v : Json} (h : e.toPost = .const v) : e = .const v := by
  cases e <;> cases h
  rfl

theorem loop1_const_of_sole_writer {x : String} {v : Json} (mp : Mapping) (b out op : Obj)
    (h : loop1 (compileMap mp) b out = .ok op)
    (hf : (keyed x (postMap mp)).filter PEntry.isWriter1 = [PEntry.const v]) : get x op = some v := by
  have hin : ∀ pe, pe ∈ (keyed x (postMap mp)).filter PEntry.isWriter1 ↔ pe = .const v := fun pe => by
    rw [hf, List.mem_singleton]
  refine loop1_const mp b out op (fun e he hw => ?_) h (.inl ?_)
  · exact toPost_eq_const ((hin _).mp (List.mem_filter.mpr ⟨mem_keyed_postMap he, hw⟩))
  · obtain ⟨e, he, hc⟩ := mem_keyed_postMap_inv (List.mem_filter.mp ((hin _).mpr rfl)).1
    rw [← toPost_eq_const hc.symm]
    exact he

/-- the value the contract assumes for an argument key is the value loop 1 has there when the entry runs (`op`) -/
theorem c17_argVal {k x : String} {e : Entry} {mp mr : Mapping} {b op o1 a' : Obj} {v : Json}
    {m : Mapping} (hm : m = mp ++ (k, e) :: mr)
    (hu : ∀ e', (k, e') ∉ mp) (hp : loop1 (compileMap mp) b b = .ok op)
    (h1 : loop1 (compileMap m) b b = .ok o1)
    (hax : ∀ q, q = k ∨ q ≠ "version" → get q a' = get q (loop3 (compileMap m) (loop2 (compileMap m) o1)))
    (h : argValOf k (postMap m) (postMap mp) b a' x = some v) : getD x op = v := by
  subst hm
  unfold argValOf at h
  simp only [getD] at h ⊢
  split at h
  next hxk =>
    cases h
    obtain rfl : x = k := by simpa using hxk
    rw [loop1_frame mp b b op (fun e he => absurd he (hu e)) hp]
  next hxk =>
    have hxk : x ≠ k := by simpa using hxk
    split at h
    next hnil =>
      cases h
      rw [loop1_frame mp b b op (kind_false_of_filter_nil hnil) hp]
    next v' hone =>
      cases h
      rw [loop1_const_of_sole_writer mp b b op hp hone]
      rfl
    next =>
      split at h
      next hcond =>
        cases h
        simp only [Bool.and_eq_true, bne_iff_ne, ne_eq, beq_iff_eq] at hcond
        obtain ⟨⟨hxv, hlen⟩, hallw⟩ := hcond
        -- every entry keyed `x` is written in loop 1 (so is no move / `Deleted`), none of them after this entry
        have hnm := fun (e' : Entry) (he' : (x, e') ∈ mp ++ (k, e) :: mr) =>
          PEntry.writer1_not_move_deleted (List.all_eq_true.mp hallw _ (mem_keyed_postMap he'))
        rw [compileMap_append, loop1_append, hp, bindE_ok] at h1
        rw [compileMap_cons, loop1_cons] at h1
        rcases bindE_eq_ok h1 with ⟨o2, hs, h3⟩
        rw [hax x (.inr hxv), get_loop3_loop2 o1 (fun e' he' => (hnm e' he').1) (fun e' he' => (hnm e' he').2),
          loop1_frame mr b o2 o1 (kind_false_after (Ne.symm hxk) hlen) h3, step1_frame _ b op o2 (Ne.symm hxk) hs]
      next => cases h

theorem optMapM_eq_map {α β} {f : α → Option β} {g : α → β} (hfg : ∀ x v, f x = some v → g x = v)
    (l : List α) (vs : List β) (h : optMapM f l = some vs) : vs = l.map g := by
  induction l generalizing vs with
  | nil => cases h; rfl
  | cons a as ih =>
    unfold optMapM at h
    cases hfa : f a with
    | none => simp [hfa] at h
    | some b =>
      simp only [hfa] at h
      cases hr : optMapM f as with
      | none => simp [hr] at h
      | some bs =>
        simp only [hr] at h
        cases h
        simp only [List.map_cons, hfg a b hfa, ih bs hr]

theorem zipPosts_nil {f : Json → R Json} {post : Json → Json → List String}
    (hf : ∀ x y, f x = .ok y → post x y = []) (xs ys : List Json) (h : mapE f xs = .ok ys) :
    zipPosts post xs ys = [] := by
  induction xs generalizing ys with
  | nil => cases h; rfl
  | cons x xs ih =>
    unfold mapE at h
    rcases bindE_eq_ok h with ⟨y, hy, h2⟩
    rcases bindE_eq_ok h2 with ⟨ys', hys, h3⟩
    cases h3
    unfold zipPosts
    rw [ih ys' hys, List.append_nil]
    cases x <;> simp [hf _ _ hy]

/-- the contracts of the nested mappings: a hypothesis of every clause lemma, and the induction hypothesis of the
    recursion over `Entry` that discharges it (`c17_contract_list`) -/
def SubOk (m : Mapping) : Prop :=
  ∀ k m', (k, Entry.sub m') ∈ m → ∀ x y, convert m' x = .ok y → postShape false (postMap m') x y = []

theorem step1_sub_inert {k : String} {e : Entry} {b : Obj} (hs : e.toPost.isSub = true)
    (hc : absentOrNull (get k b) = true) (o : Obj) : step1 k e.compile b o = .ok o := by
  cases e with
  | sub m' =>
    simp only [Entry.compile_sub, step1]
    cases hgb : get k b with
    | none => rfl
    | some c => rw [hgb] at hc; cases c <;> first | (cases hc; done) | rfl
  | _ => cases hs

/-- both guards of the `.sub` clause of `entryViolations` come down to these hypotheses: `alone` — the only entry for
    `k`; else the last one, all entries for `k` being loop-1 writers -/
theorem c17_sub_clause (mp mr : Mapping) (k : String) (msub : Mapping) (b o1 a' : Obj) (alone : Bool)
    {m : Mapping} (hm : m = mp ++ (k, Entry.sub msub) :: mr)
    (hsub : SubOk m) (h1 : loop1 (compileMap m) b b = .ok o1)
    (ha : get k a' = get k (loop3 (compileMap m) (loop2 (compileMap m) o1)))
    (hu2 : ∀ e', (k, e') ∉ mr)
    (hnm : ∀ e', (k, e') ∈ m → e'.toPost.isMove = false ∧ e'.toPost.isDeleted = false)
    (hal : alone = true → ∀ e', (k, e') ∉ mp) :
    subViolations (postShape false (postMap msub)) k b a' alone = [] := by
  subst hm
  have hnest := hsub k msub (by simp)
  rcases get_after_step1 rfl h1 hnm
    (fun e' he' => absurd he' (hu2 e')) with ⟨op, o2, hp, hs2, hg⟩
  have hka : get k a' = get k o2 := ha.trans hg
  -- with `k._mapper` the only entry for `k`, the earlier entries left `k` as it was before the step
  have hop : alone = true → get k op = get k b := fun hal' =>
    loop1_frame mp b b op (fun e' he' => absurd he' (hal hal' e')) hp
  simp only [Entry.compile_sub, step1] at hs2
  simp only [subViolations]
  cases hgb : get k b with
  | none =>
    simp only [hgb] at hs2
    cases hs2
    cases alone with
    | false => simp
    | true => simp [hka, hop rfl, hgb]
  | some c =>
    cases c with
    | null =>
      simp only [hgb] at hs2
      cases hs2
      cases alone with
      | false => simp
      | true => simp [hka, hop rfl, hgb, optBeq_refl]
    | list xs =>
      simp only [hgb] at hs2
      rcases bindE_eq_ok hs2 with ⟨ys, hys, hs3⟩
      cases hs3
      simp [hka, get_set_same, zipPosts_nil hnest xs ys hys]
    | obj kvs =>
      simp only [hgb] at hs2
      rcases bindE_eq_ok hs2 with ⟨y, hy, hs3⟩
      cases hs3
      simp [hka, get_set_same, hnest (.obj kvs) y hy]
    | _ => simp

/-- the constant clause: entries act in the order written, so the Constant stands unless a `._mapper` entry written
    after it finds a sub-document to convert -/
theorem c17_const_ok (mp mr : Mapping) (k : String) (v : Json)
    {m : Mapping} (hm : m = mp ++ (k, Entry.const v) :: mr)
    (hwf : keysOk m = true) (b o1 a' : Obj)
    (h1 : loop1 (compileMap m) b b = .ok o1)
    (ha : get k a' = get k (loop3 (compileMap m) (loop2 (compileMap m) o1))) :
    entryViolations (postMap m) (postMap mp) b a' k (.const v) = [] := by
  subst hm
  simp only [entryViolations]
  refine ite_nil (fun hgd => ?_) (fun _ => rfl)
  · obtain ⟨hkp, hkr⟩ := keysOk_others_sub hwf (e := .const v) rfl
    have hnm : ∀ e', (k, e') ∈ mp ++ (k, Entry.const v) :: mr →
        e'.toPost.isMove = false ∧ e'.toPost.isDeleted = false :=
      forall_keyed_at (fun e' h => PEntry.sub_not_move_deleted (hkp e' h)) ⟨rfl, rfl⟩ (fun e' h => PEntry.sub_not_move_deleted (hkr e' h))
    -- the later entries keyed `k` do nothing in loop 1
    have hin : ∀ e', (k, e') ∈ mr → ∀ o, step1 k e'.compile b o = .ok o := by
      intro e' he' o
      simp only [Bool.or_eq_true, Bool.not_eq_true'] at hgd
      rcases hgd with (hA | hB) | hC
      · -- no `._mapper` entry for `k` at all
        exact absurd (hkr e' he')
          (List.any_eq_false.mp hA _ (mem_keyed_postMap (List.mem_append_right _ (.tail _ he'))))
      · -- the `._mapper` entry is written before the Constant: a dict has no second one
        rcases List.any_eq_true.mp hB with ⟨pe, hpe, hps⟩
        rcases mem_keyed_postMap_inv hpe with ⟨es, hes, rfl⟩
        rcases List.append_of_mem hes with ⟨a1, b1, rfl⟩
        rw [List.append_assoc, List.cons_append] at hwf
        refine absurd ?_ ((keysOk_split hwf).2 e' (List.mem_append_right _ (.tail _ he')))
        rw [← isSub_toPost, ← isSub_toPost, hps, hkr e' he']
      · exact step1_sub_inert (hkr e' he') hC o
    rcases get_after_step1 rfl h1 hnm hin with ⟨op, o2, _, hs2, hg⟩
    cases hs2
    simp [ha, hg, get_set_same, optBeq_refl]

theorem c17_fn_ok (mp mr : Mapping) (k : String) (g : UserFn) (args : List String) (b o1 a' : Obj)
    {m : Mapping} (hm : m = mp ++ (k, Entry.fn g args) :: mr)
    (h1 : loop1 (compileMap m) b b = .ok o1)
    (hax : ∀ q, q = k ∨ q ≠ "version" → get q a' = get q (loop3 (compileMap m) (loop2 (compileMap m) o1))) :
    entryViolations (postMap m) (postMap mp) b a' k (.fn g args) = [] := by
  subst hm
  simp only [entryViolations]
  refine ite_nil (fun hl => ?_) (fun _ => rfl)
  · have hu := keyed_len1_split (beq_iff_eq.mp hl)
    rcases get_after_step1 rfl h1 (forall_keyed_at (fun e' h => absurd h (hu.1 e')) ⟨rfl, rfl⟩ (fun e' h => absurd h (hu.2 e')))
      (fun e' he' => absurd he' (hu.2 e')) with ⟨op, o2, hp, hs2, hg⟩
    simp only [Entry.compile_fn, step1] at hs2
    rcases bindE_eq_ok hs2 with ⟨r, hr, hs3⟩
    cases hs3
    have hka : get k a' = some r := by rw [hax k (.inl rfl), hg, get_set_same]
    cases hm : optMapM (argValOf k (postMap (mp ++ (k, Entry.fn g args) :: mr)) (postMap mp) b a')
        (if args.isEmpty then [k] else args) with
    | none => rfl
    | some vals =>
      have hv := optMapM_eq_map (g := fun a => getD a op) (fun x v hx => c17_argVal rfl hu.1 hp h1 hax hx) _ _ hm
      subst hv
      simp only [hr, hka, optBeq_refl, if_true]

/-- `k` ends up holding what the path held when this move ran (`hkfin`); each of the two guards identifies what the
    first key of the path held at that moment: its value before the step, resp. its value at the end -/
theorem c17_move_ok (mp mr : Mapping) (k h : String) (t : List String)
    {m : Mapping} (hm : m = mp ++ (k, Entry.move (h :: t)) :: mr)
    (hwf : keysOk m = true) (b o1 a' : Obj)
    (h1 : loop1 (compileMap m) b b = .ok o1)
    (hax : ∀ q, q = k ∨ q ≠ "version" → get q a' = get q (loop3 (compileMap m) (loop2 (compileMap m) o1))) :
    entryViolations (postMap m) (postMap mp) b a' k (.move (h :: t)) = [] := by
  subst hm
  simp only [entryViolations]
  obtain ⟨hkp, hkr⟩ := keysOk_others_sub hwf (e := .move (h :: t)) rfl
  have hl2 : loop2 (compileMap (mp ++ (k, Entry.move (h :: t)) :: mr)) o1
      = loop2 (compileMap mr) (set k (deepGet (.obj (loop2 (compileMap mp) o1)) (h :: t)) (loop2 (compileMap mp) o1)) := by
    rw [compileMap_append, loop2_append]
    rfl
  -- `k` holds what the path held when this move ran: a `._mapper` entry keyed alike is neither a move nor `Deleted`
  have hkfin : get k a' = some (deepGet (.obj (loop2 (compileMap mp) o1)) (h :: t)) := by
    rw [hax k (.inl rfl), loop3_frame _ _ (forall_keyed_at (fun e' h' => (PEntry.sub_not_move_deleted (hkp e' h')).2) rfl
        (fun e' h' => (PEntry.sub_not_move_deleted (hkr e' h')).2)), hl2,
      loop2_frame mr _ (fun e' he' => (PEntry.sub_not_move_deleted (hkr e' he')).1), get_set_same]
  refine ite_nil (fun hg1 => ?_) (fun _ => ite_nil (fun hg2 => ?_) (fun _ => rfl))
  · -- the first key of the path is written by nobody in loop 1, and by no move before this entry
    simp only [Bool.and_eq_true, List.isEmpty_iff] at hg1
    have hb : get h (loop2 (compileMap mp) o1) = get h b := by
      rw [loop2_frame mp o1 (kind_false_of_filter_nil hg1.2), loop1_frame _ b b o1 (kind_false_of_filter_nil hg1.1) h1]
    rw [deepGet_congr t hb] at hkfin
    simp [hkfin, optBeq_refl]
  · -- no move onto `h` after this entry, `h` is not deleted
    simp only [Bool.and_eq_true, bne_iff_ne, ne_eq, beq_iff_eq, Bool.not_eq_true'] at hg2
    obtain ⟨⟨⟨hhk, hhv⟩, hlen⟩, hnd⟩ := hg2
    have hfin : get h a' = get h (loop2 (compileMap mp) o1) := by
      rw [hax h (.inr hhv), loop3_frame _ _ (fun e' he' =>
          Bool.eq_false_iff.mpr (List.any_eq_false.mp hnd _ (mem_keyed_postMap he'))), hl2,
        loop2_frame mr _ (kind_false_after (Ne.symm hhk) hlen), get_set_other _ (Ne.symm hhk)]
    rw [← deepGet_congr t hfin] at hkfin
    simp [hkfin, optBeq_refl]

/-- `a'` = the result up to the `version` key, which `convert_dict` rewrites after a top-level step; `hax` still
    covers `q = k`, because an entry keyed `version` is not judged at top level -/
theorem c17_entry_ok (mp mr : Mapping) (k : String) (e : Entry) {m : Mapping} (hm : m = mp ++ (k, e) :: mr)
    (hwf : keysOk m = true) (hsub : SubOk m) (b o1 a' : Obj)
    (h1 : loop1 (compileMap m) b b = .ok o1)
    (hax : ∀ q, q = k ∨ q ≠ "version" → get q a' = get q (loop3 (compileMap m) (loop2 (compileMap m) o1))) :
    entryViolations (postMap m) (postMap mp) b a' k e.toPost = [] := by
  subst hm
  have ha := hax k (.inl rfl)
  cases e with
  | deleted =>
    have : get k a' = none := by
      rw [ha]
      exact loop3_deleted _ _ (.inl (by simp))
    show entryViolations _ _ b a' k .deleted = []
    simp [entryViolations, this]
  | const v => exact c17_const_ok mp mr k v rfl hwf b o1 a' h1 ha
  | fn g args => exact c17_fn_ok mp mr k g args b o1 a' rfl h1 hax
  | move p =>
    cases p with
    | nil => show entryViolations _ _ b a' k (.move []) = []; simp [entryViolations]
    | cons h t => exact c17_move_ok mp mr k h t rfl hwf b o1 a' h1 hax
  | sub msub =>
    show entryViolations _ _ b a' k (.sub (postShape false (postMap msub))) = []
    simp only [entryViolations]
    refine ite_nil (fun hl => ?_) (fun _ => ite_nil (fun hg2 => ?_) (fun _ => rfl))
    · have hu := keyed_len1_split (beq_iff_eq.mp hl)
      exact c17_sub_clause mp mr k msub b o1 a' true rfl hsub h1 ha hu.2
        (forall_keyed_at (fun e' h => absurd h (hu.1 e')) ⟨rfl, rfl⟩ (fun e' h => absurd h (hu.2 e'))) (fun _ => hu.1)
    · -- the last entry for the key, all of them written in loop 1
      simp only [Bool.and_eq_true, beq_iff_eq] at hg2
      exact c17_sub_clause mp mr k msub b o1 a' false rfl hsub h1 ha (keyed_last_split hg2.1)
        (fun e' he' => PEntry.writer1_not_move_deleted (List.all_eq_true.mp hg2.2 _ (mem_keyed_postMap he')))
        (fun h => nomatch h)

theorem c17_entries_ok (top : Bool) (m : Mapping) (hwf : keysOk m = true) (hsub : SubOk m) (b o1 a' : Obj)
    (h1 : loop1 (compileMap m) b b = .ok o1)
    (ha : ∀ k, (top && k == "version") = false →
      get k a' = get k (loop3 (compileMap m) (loop2 (compileMap m) o1))) :
    ∀ (mr mp : Mapping), m = mp ++ mr → entriesViolations top (postMap m) b a' (postMap mp) (postMap mr) = [] := by
  intro mr
  induction mr with
  | nil => intro mp _; rfl
  | cons p mr ih =>
    intro mp hm
    obtain ⟨k, e⟩ := p
    rw [postMap_cons]
    unfold entriesViolations
    have ih' := ih (mp ++ [(k, e)]) (by simp [hm])
    rw [postMap_append] at ih'
    simp only [postMap_cons, postMap_nil] at ih'
    rw [ih', List.append_nil]
    split
    next => rfl
    next ht =>
      refine c17_entry_ok mp mr k e hm hwf hsub b o1 a' h1 (fun q hq => ha q ?_)
      rcases hq with rfl | hq
      · simpa using ht
      · simp [hq]

theorem c17_frame_ok (m : Mapping) (b a' : Obj)
    (hf : ∀ q, q ≠ "version" → (keyed q (postMap m)).length = 0 → get q a' = get q b) :
    frameViolations (postMap m) b a' = [] := by
  simp only [frameViolations]
  apply List.filterMap_eq_nil_iff.mpr
  intro q _
  by_cases hq : q = "version"
  · simp [hq]
  · by_cases hl : (keyed q (postMap m)).length = 0
    · simp [hq, hl, hf q hq hl, optBeq_refl]
    · simp [hq, hl]

/-- `a'` = the result, possibly with the `version` key rewritten by the caller (`ht`: at top level only) -/
theorem c17_shape_ok (top : Bool) (m : Mapping) (hwf : keysOk m = true) (hsub : SubOk m) (b a a' : Obj)
    (hc : convert m (.obj b) = .ok (.obj a)) (ha : ∀ k, k ≠ "version" → get k a' = get k a)
    (ht : top = true ∨ a' = a) : postShape top (postMap m) (.obj b) (.obj a') = [] := by
  rcases convert_obj_eq hc with ⟨o1, h1, hr⟩
  cases hr
  simp only [postShape]
  have he := c17_entries_ok top m hwf hsub b o1 a' h1 (by
    intro k hk
    rcases ht with rfl | rfl
    · exact ha k (by simpa using hk)
    · rfl) m [] (by simp)
  simp only [postMap_nil] at he
  rw [he, List.nil_append]
  apply c17_frame_ok
  intro q hq hl
  rw [ha q hq, get_of_no_entry (no_entry_of_keyed_nil hl) h1]

theorem c17_contract_of_subOk (m : Mapping) (hwf : keysOk m = true) (hsub : SubOk m) (x y : Json)
    (hxy : convert m x = .ok y) : postShape false (postMap m) x y = [] := by
  cases x with
  | obj b =>
    obtain ⟨o1, _, rfl⟩ := convert_obj_eq hxy
    exact c17_shape_ok false m hwf hsub b _ _ hxy (fun _ _ => rfl) (Or.inr rfl)
  | _ => simp [postShape]

/- structural recursion over the nested inductive `Entry` together with its lists: the member for entries must be
   stated of an `Entry`, and says something of `.sub` only -/
mutual
theorem c17_contract_entry : ∀ (e : Entry), e.wfDeep = true → ∀ m', e = .sub m' →
    ∀ x y, convert m' x = .ok y → postShape false (postMap m') x y = []
  | .sub m, hw, m', he, x, y, hxy => by
    cases he
    have hw := Bool.and_eq_true_iff.mp hw
    exact c17_contract_of_subOk m hw.1 (c17_contract_list m hw.2) x y hxy
  | .const _, _, _, he, _, _, _ => by cases he
  | .deleted, _, _, he, _, _, _ => by cases he
  | .move _, _, _, he, _, _, _ => by cases he
  | .fn _ _, _, _, he, _, _, _ => by cases he
theorem c17_contract_list : ∀ (m : List (String × Entry)), wfDeepList m = true → SubOk m
  | [], _ => by intro k m' h; cases h
  | (k, e) :: r, hw => by
    have hw := Bool.and_eq_true_iff.mp hw
    have ihe := c17_contract_entry e hw.1
    have ihr := c17_contract_list r hw.2
    intro k' m' hmem x y hxy
    rcases List.mem_cons.mp hmem with h | h
    · have h2 : e = Entry.sub m' := by cases h; rfl
      exact ihe m' h2 x y hxy
    · exact ihr k' m' h x y hxy
end

theorem c17_step_contract_top (m : Mapping) (hwf : wfMapping m = true) {d d'' : Json} {v : Int}
    (h : stepSpec m v d = .ok d'') : stepViolationsTop m d d'' = [] := by
  simp only [wfMapping, Bool.and_eq_true] at hwf
  obtain ⟨a, hc, rfl⟩ := stepSpec_ok h
  cases d with
  | obj b =>
    exact c17_shape_ok true m hwf.1 (c17_contract_list m hwf.2) b a _ hc
      (fun k hk => get_set_other _ (Ne.symm hk) a) (Or.inl rfl)
  | _ => rfl

end Typedpy.Convert
