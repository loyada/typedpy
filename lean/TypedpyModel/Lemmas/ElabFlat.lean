/-
  typing's / Python's flattening of directly nested `Union[…]` / `Optional[…]` / PEP 604 `|` between non-field operands:
  a tree of such unions over supported, pairwise distinct leaves evaluates to ONE union object of the leaves' objects
  (`ev_flatten`), which `get_typing_lib_info` maps to the AnyOf of the flattened documented alternatives (`gtli_flatten`).
  Induction over the tree (`flat_inv`) carrying the operand kind (`KindOk` in `FlatInv`), on the object-level lemmas of
  `Lemmas/Elab`.  Then what the class level of `Props/C13` needs: the field / class level over the union of both proved
  regions (`elabFieldAt_meaningX`, `elabFields_sameX`), and `_required` written out (`finishClass_explicit`).
-/
import TypedpyModel.Lemmas.Elab
namespace Typedpy.Elab
open Typedpy

theorem pipeKind_typing_or_plain {a b : UKind} (h : pipeKind a b ≠ .bad) : pipeKind a b = .typing ∨ pipeKind a b = .plain := by
  cases a <;> cases b <;> first | exact absurd rfl h | exact .inl rfl | exact .inr rfl

/-- the constructors that `flatObjs`, `flatAlts`, `leavesOk` and `nodeKind` recurse through or treat specially; on all
    others they take their catch-all arm -/
def isTreeNode : Sp → Bool
  | .optional _ | .union _ _ | .pipe _ _ | .noneLit => true
  | _ => false

/-- What the induction over a union tree carries: the object the tree evaluates to has the leaf objects as members,
    these map to the flattened alternatives, and the object is of the kind `nodeKind` predicts (which decides how an
    enclosing `|` combines it). -/
def FlatInv (s : Sp) : Prop :=
    ∃ o, ev ptm s = .ok o ∧ unionMembers o = flatObjs ptm s
      ∧ gtliArgs ptm true (flatObjs ptm s) = .ok (flatAlts s) ∧ 1 ≤ (flatObjs ptm s).length
      ∧ KindOk (nodeKind s) o
      ∧ (isUnionTree s = true → o = treeObj (nodeKind s) (flatObjs ptm s))

/-- any other spelling is a tree of one leaf.  (The catch-all equations of the tree functions are used in their generic
    form `f.eq_n`: unfolding the functions once for every leaf constructor is slow to check.) -/
theorem flat_leaf {s : Sp} (hn : isTreeNode s = false) (hl : leavesOk ptm s = true) : FlatInv s := by
  have h₁ : ∀ x, s = .optional x → False := fun x h => by subst h; cases hn
  have h₂ : ∀ x y, s = .union x y → False := fun x y h => by subst h; cases hn
  have h₃ : ∀ x y, s = .pipe x y → False := fun x y h => by subst h; cases hn
  have h₄ : s = .noneLit → False := fun h => by subst h; cases hn
  rw [leavesOk.eq_5 _ _ h₁ h₂ h₃ h₄, Bool.and_eq_true, Bool.not_eq_true'] at hl
  obtain ⟨o, hev, g⟩ := ev_good s hl.1
  rw [FlatInv, flatObjs.eq_5 _ _ h₁ h₂ h₃ h₄, flatAlts.eq_5 _ h₁ h₂ h₃ h₄, nodeKind.eq_4 _ h₁ h₂ h₃, isUnionTree.eq_4 _ h₁ h₂ h₃, hev]
  exact ⟨o, rfl, g.members hl.2, gtliArgs_one true g.gt, Nat.le_refl 1, g.kd, nofun⟩

theorem flat_inv : ∀ s : Sp, leavesOk ptm s = true → allDistinct (flatObjs ptm s) = true → FlatInv s := by
  intro s
  induction s with
  | optional x ih =>
    intro hl hd
    simp only [FlatInv, flatObjs] at hd ⊢
    obtain ⟨ox, hev, hm, hg, hn, -, -⟩ := ih hl (allDistinct_append _ _ hd).1
    have hlen : 2 ≤ (flatObjs ptm x ++ [Obj.noneTy]).length := by
      simp only [List.length_append, List.length_singleton]; omega
    exact ⟨_, by simp only [ev, hev, bindE_ok, hm, mkUnion_of_distinct hd hlen], unionMembers_treeObj _ _,
      gtliArgs_append true hg rfl, Nat.le_of_succ_le hlen, kindOk_treeObj (.inl rfl) _, fun _ => rfl⟩
  | union x y ihx ihy =>
    intro hl hd
    simp only [leavesOk, Bool.and_eq_true] at hl
    simp only [FlatInv, flatObjs] at hd ⊢
    obtain ⟨ox, hevx, hmx, hgx, hnx, -, -⟩ := ihx hl.1 (allDistinct_append _ _ hd).1
    obtain ⟨oy, hevy, hmy, hgy, hny, -, -⟩ := ihy hl.2 (allDistinct_append _ _ hd).2
    have hlen : 2 ≤ (flatObjs ptm x ++ flatObjs ptm y).length := by simp only [List.length_append]; omega
    exact ⟨_, by simp only [ev, hevx, hevy, bindE_ok, hmx, hmy, mkUnion_of_distinct hd hlen], unionMembers_treeObj _ _,
      gtliArgs_append true hgx hgy, Nat.le_of_succ_le hlen, kindOk_treeObj (.inl rfl) _, fun _ => rfl⟩
  | noneLit => exact fun _ _ => ⟨.noneV, rfl, rfl, rfl, Nat.le_refl 1, rfl, nofun⟩
  | pipe x y ihx ihy =>
    intro hl hd
    by_cases hfx : isFieldExpr x = true
    · -- `Field | …` is a field: a leaf of the tree
      simp only [leavesOk, hfx, if_true] at hl
      simp only [FlatInv, flatObjs, flatAlts, nodeKind, isUnionTree, hfx, if_true]
      obtain ⟨o, hev, g⟩ := ev_good _ hl
      rw [hev]
      exact ⟨o, rfl, g.members (fieldExpr_shape (s := .pipe x y) hfx).2, gtliArgs_one true g.gt, Nat.le_refl 1,
        trivial, nofun⟩
    · rw [Bool.not_eq_true] at hfx
      simp only [leavesOk, hfx, Bool.false_eq_true, if_false, Bool.and_eq_true] at hl
      simp only [FlatInv, flatObjs, flatAlts, nodeKind, hfx, Bool.false_eq_true, if_false] at hd ⊢
      obtain ⟨⟨hlx, hly⟩, hk⟩ := hl
      have hk := bne_iff_ne.1 hk
      obtain ⟨ox, hevx, hmx, hgx, hnx, kx, -⟩ := ihx hlx (allDistinct_append _ _ hd).1
      obtain ⟨oy, hevy, hmy, hgy, hny, ky, -⟩ := ihy hly (allDistinct_append _ _ hd).2
      have hlen : 2 ≤ (flatObjs ptm x ++ flatObjs ptm y).length := by simp only [List.length_append]; omega
      have hp := pipeObj_tree hk kx ky (by rw [hmx, hmy]; exact hd) (by rw [hmx, hmy]; exact hlen)
      rw [hmx, hmy] at hp
      exact ⟨_, by simp only [ev, hevx, hevy, bindE_ok, hp], unionMembers_treeObj _ _,
        gtliArgs_append true hgx hgy, Nat.le_of_succ_le hlen, kindOk_treeObj (pipeKind_typing_or_plain hk) _, fun _ => rfl⟩
  | _ => exact fun hl _ => flat_leaf rfl hl

theorem ev_flatten (s : Sp) (ht : isUnionTree s = true) (hl : leavesOk ptm s = true)
    (hd : allDistinct (flatObjs ptm s) = true) : ev ptm s = .ok (treeObj (nodeKind s) (flatObjs ptm s)) := by
  obtain ⟨o, hev, -, -, -, -, ho⟩ := flat_inv s hl hd
  rw [hev, ho ht]

theorem gtli_flatten (s : Sp) (hl : leavesOk ptm s = true) (hd : allDistinct (flatObjs ptm s) = true) :
    gtli ptm (treeObj (nodeKind s) (flatObjs ptm s)) = .ok (some (.anyOf (flatAlts s))) := by
  obtain ⟨-, -, -, hg, hn, -⟩ := flat_inv s hl hd
  exact gtli_treeObj _ hg hn

theorem elaborateAnn_flatten (s : Sp) (ht : isUnionTree s = true) (hl : leavesOk ptm s = true)
    (hd : allDistinct (flatObjs ptm s) = true) :
    bindE (ev ptm s) (gtli ptm) = .ok (some (.anyOf (flatAlts s))) := by
  rw [ev_flatten s ht hl hd]
  exact gtli_flatten s hl hd

theorem flatten_equiv (s t : Sp) (hs : isUnionTree s = true) (ht : isUnionTree t = true)
    (ls : leavesOk ptm s = true) (lt : leavesOk ptm t = true)
    (ds : allDistinct (flatObjs ptm s) = true) (dt : allDistinct (flatObjs ptm t) = true)
    (h : flatAlts s = flatAlts t) :
    bindE (ev ptm s) (gtli ptm) = bindE (ev ptm t) (gtli ptm) := by
  rw [elaborateAnn_flatten s hs ls ds, elaborateAnn_flatten t ht lt dt, h]

theorem elabField_flatMeaning (O : Oracles) (future : Bool) (fs : FieldSp) (h : flatRegion ptm fs = true) :
    elabField O ptm future fs = flatMeaning O fs := by
  simp only [flatRegion, Bool.and_eq_true, beq_iff_eq] at h
  obtain ⟨⟨⟨⟨hm, ht⟩, hl⟩, hd⟩, hdf⟩ := h
  rw [flatMeaning_eq_meaningOf, elabField_of_obj O future fs (ev_flatten _ ht hl hd) (gtli_flatten _ hl hd)
    (fun e => by rw [hm] at e; cases e)
    (by revert hdf; cases fs.dflt <;> simp only [hm, and_true] <;> first | exact id | nofun),
    hm, isFieldObj_treeObj, isSclsObj_treeObj, Bool.or_comm]
  rfl

theorem elabFieldAt_meaningX (sc : Scope) (O : Oracles) (future : Bool) (fs : FieldSp)
    (h : fieldRegionX O ptm sc future fs = true) : elabFieldAt sc O ptm future fs = fieldMeaningX O ptm fs := by
  unfold fieldMeaningX
  by_cases hf : flatRegion ptm fs = true
  · have hs : stringOk sc future fs = true := by
      simp only [fieldRegionX, Bool.or_eq_true, Bool.and_eq_true, fieldSupportedAt] at h
      exact h.elim And.right And.right
    rw [elabFieldAt_eq_elabField sc O future fs hs, elabField_flatMeaning O future fs hf, if_pos hf]
  · simp only [fieldRegionX, Bool.eq_false_iff.2 hf, Bool.false_and, Bool.false_or, fieldSupportedAt, Bool.and_eq_true] at h
    rw [elabFieldAt_eq_elabField sc O future fs h.2, elabField_fieldMeaning O future fs h.1, if_neg hf]

theorem meaningOf_isField {O : Oracles} {d : FieldDecl} {opt : Bool} {val : Option (PyVal × PyVal)} {r : FieldRes}
    (h : meaningOf O d opt val = .ok r) : isField r = true := by
  unfold meaningOf at h
  cases val with
  | none => cases h; rfl
  | some p =>
    obtain ⟨_, -, h⟩ := bindE_eq_ok h
    cases h
    unfold eqResult
    split <;> rfl

theorem fieldMeaningX_isField (O : Oracles) (a : FieldSp) {r : FieldRes} (h : fieldMeaningX O ptm a = .ok r) :
    isField r = true := by
  unfold fieldMeaningX at h
  split at h
  · exact meaningOf_isField (flatMeaning_eq_meaningOf O a ▸ h)
  · exact meaningOf_isField (fieldMeaning_eq_meaningOf O a ▸ h)

theorem elabFields_sameX (O : Oracles) (s₁ s₂ : Scope) (f₁ f₂ : Bool) {as bs : List FieldSp}
    (h : ClassSameX O ptm as bs)
    (ha : as.all (fieldRegionX O ptm s₁ f₁) = true) (hb : bs.all (fieldRegionX O ptm s₂ f₂) = true) :
    elabFields O ptm s₁ f₁ as = elabFields O ptm s₂ f₂ bs := by
  induction h with
  | nil => rfl
  | cons hab _ ih =>
    simp only [List.all_cons, Bool.and_eq_true] at ha hb
    simp only [elabFields, elabFieldAt_meaningX _ O _ _ ha.1, elabFieldAt_meaningX _ O _ _ hb.1, hab.meaning, hab.name]
    rw [ih ha.2 hb.2]

theorem elabFields_allFieldX (O : Oracles) (sc : Scope) (f : Bool) : ∀ (as : List FieldSp) (rs : List (String × FieldRes)),
    as.all (fieldRegionX O ptm sc f) = true → elabFields O ptm sc f as = .ok rs → rs.all (fun p => isField p.2) = true := by
  intro as
  induction as with
  | nil => intro rs _ h; cases h; rfl
  | cons a as ih =>
    intro rs hs h
    simp only [List.all_cons, Bool.and_eq_true] at hs
    simp only [elabFields, elabFieldAt_meaningX _ O _ _ hs.1] at h
    obtain ⟨r, hm, h⟩ := bindE_eq_ok h
    obtain ⟨rs', hr, h⟩ := bindE_eq_ok h
    cases h
    simp only [List.all_cons, Bool.and_eq_true]
    exact ⟨fieldMeaningX_isField O a hm, ih rs' hs.2 hr⟩

theorem fieldRegionX_of_supported {O : Oracles} {sc : Scope} {f : Bool} {a : FieldSp}
    (h : fieldSupportedAt O ptm sc f a = true) : fieldRegionX O ptm sc f a = true := by
  simp only [fieldRegionX, h, Bool.or_true]

theorem all_regionX {O : Oracles} {sc : Scope} {f : Bool} {as : List FieldSp}
    (h : as.all (fieldSupportedAt O ptm sc f) = true) : as.all (fieldRegionX O ptm sc f) = true :=
  List.all_eq_true.2 fun a ha => fieldRegionX_of_supported (List.all_eq_true.1 h a ha)

theorem elabFields_allField (O : Oracles) (sc : Scope) (f : Bool) : ∀ (as : List FieldSp) (rs : List (String × FieldRes)),
    as.all (fieldSupportedAt O ptm sc f) = true → elabFields O ptm sc f as = .ok rs → rs.all (fun p => isField p.2) = true :=
  fun as rs hs => elabFields_allFieldX O sc f as rs (all_regionX hs)

/-- inside the supported region the meaning over both regions is the plain one, also where the regions overlap
    (`Union[int, str]` is supported and a union tree): both are what the declaration elaborates to -/
theorem fieldMeaningX_of_supported (O : Oracles) (sc : Scope) (f : Bool) (a : FieldSp)
    (h : fieldSupportedAt O ptm sc f a = true) : fieldMeaningX O ptm a = fieldMeaning O a := by
  have hx := elabFieldAt_meaningX sc O f a (fieldRegionX_of_supported h)
  simp only [fieldSupportedAt, Bool.and_eq_true] at h
  rw [← hx, elabFieldAt_eq_elabField sc O f a h.2, elabField_fieldMeaning O f a h.1]

theorem classSame_sameX (O : Oracles) (s₁ s₂ : Scope) (f₁ f₂ : Bool) {as bs : List FieldSp} (h : ClassSame as bs)
    (ha : as.all (fieldSupportedAt O ptm s₁ f₁) = true) (hb : bs.all (fieldSupportedAt O ptm s₂ f₂) = true) :
    ClassSameX O ptm as bs := by
  induction h with
  | nil => exact .nil
  | cons hab _ ih =>
    simp only [List.all_cons, Bool.and_eq_true] at ha hb
    exact .cons ⟨hab.name, by rw [fieldMeaningX_of_supported O s₁ f₁ _ ha.1, fieldMeaningX_of_supported O s₂ f₂ _ hb.1,
      fieldMeaning_same O hab]⟩ (ih ha.2 hb.2)

theorem explicitReq_eq (R : List String) (rs : List (String × FieldRes))
    (h : ∀ n, n ∈ requiredOf rs → R.contains n = true) (hc : conflictOpt R rs = false) :
    explicitReq R rs = requiredOf rs := by
  induction rs with
  | nil => rfl
  | cons p rest ih =>
    obtain ⟨n, _ | ⟨d, _ | _, _ | _⟩⟩ := p
    case field.true.none =>
      show (if R.contains n = true then n :: explicitReq R rest else explicitReq R rest) = n :: requiredOf rest
      rw [if_pos (h n List.mem_cons_self), ih (fun m hm => h m (List.mem_cons_of_mem _ hm)) hc]
    case field.false.none =>
      have hc : (R.contains n || conflictOpt R rest) = false := hc
      rw [Bool.or_eq_false_iff] at hc
      show (if R.contains n = true then n :: explicitReq R rest else explicitReq R rest) = requiredOf rest
      rw [hc.1, if_neg Bool.false_ne_true, ih h hc.2]
    all_goals exact ih h hc

theorem isFieldName_cons (p : String × FieldRes) (rest : List (String × FieldRes)) (n : String) :
    isFieldName (p :: rest) n = ((p.1 == n && isField p.2) || isFieldName rest n) := by
  simp only [isFieldName, List.any_cons]

theorem requiredOf_names (rs : List (String × FieldRes)) (n : String) (h : n ∈ requiredOf rs) :
    isFieldName rs n = true := by
  induction rs with
  | nil => nomatch h
  | cons p rest ih =>
    rw [isFieldName_cons]
    obtain ⟨m, _ | ⟨d, _ | _, _ | _⟩⟩ := p
    case field.true.none =>
      rcases List.mem_cons.1 h with h | h
      · subst h; simp only [beq_self_eq_true, isField, Bool.and_self, Bool.true_or]
      · rw [ih h, Bool.or_true]
    all_goals rw [ih h, Bool.or_true]

theorem finishClass_explicit (opt : List String) (rs : List (String × FieldRes))
    (hc : conflictOpt (requiredOf rs) rs = false) (hd : conflictDropped (requiredOf rs) opt rs = false) :
    finishClass (some (requiredOf rs)) opt rs = finishClass none opt rs := by
  have h1 := explicitReq_eq (requiredOf rs) rs (fun _ hn => List.contains_iff_mem.2 hn) hc
  have h2 : (requiredOf rs).filter (fun n => !isFieldName rs n) = [] := by
    rw [List.filter_eq_nil_iff]
    intro n hn
    simp [requiredOf_names rs n hn]
  simp [finishClass, hc, hd, h1, h2, classOfReq, classOf]

theorem conflictDropped_allField (R opt : List String) (rs : List (String × FieldRes))
    (h : rs.all (fun p => isField p.2) = true) : conflictDropped R opt rs = false := by
  induction rs with
  | nil => rfl
  | cons p rs ih =>
    simp only [List.all_cons, Bool.and_eq_true] at h
    have ih := ih h.2
    unfold conflictDropped at ih ⊢
    rw [List.any_cons, ih, h.1]
    rfl

/-- with every declaration declaring a field, the `_optional` list only matters through the fields' own results -/
theorem finishClass_opt_irrelevant (req : Option (List String)) (o₁ o₂ : List String) (rs : List (String × FieldRes))
    (h : rs.all (fun p => isField p.2) = true) : finishClass req o₁ rs = finishClass req o₂ rs := by
  cases req with
  | none => rfl
  | some R => simp [finishClass, conflictDropped_allField R _ rs h]

end Typedpy.Elab
