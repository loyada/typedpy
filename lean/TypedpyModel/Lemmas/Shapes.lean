/-
  Lemmas/Shapes.lean — when does a shape function of the validator succeed, and with what; what does a value look like
  that conforms to a declaration of a given kind.

  Sem/Validate.lean gives every field kind a non-recursive shape function that decides by a match on the value and takes
  the validator of the parts as a parameter; Spec/Conforms.lean does the same for the stored form.  Here is one lemma
  for each of `vSeq`, `vTuple`, `vConstruct` and `cSeq`, `cSet`, `cTuple`, `cMap`, `cInline`: `f … v = .ok u ↔` (resp.
  `= true ↔`) the form of `v`, the guards that passed, the result of the parameter, the form of `u`.  Read left to right
  it follows a successful run, right to left it builds one, and a proof never looks at the thirteen forms a value cannot
  have.  `conforms_<kind>_iff` put the second group together with the equations of `conforms`.  The shape functions of
  the serializer and deserializer: Lemmas/SerdeBasic.lean.
-/
import TypedpyModel.Lemmas.Basic
namespace Typedpy
open PyVal (pyEq pyMem pyNodup)

theorem seqElems_eq_some {k : SeqKind} {v : PyVal} {xs : List PyVal} : seqElems k v = some xs ↔ v = mkSeq k xs := by
  cases k <;> cases v <;> simp [seqElems, mkSeq]

theorem seqElems_mkSeq (k : SeqKind) (xs : List PyVal) : seqElems k (mkSeq k xs) = some xs :=
  seqElems_eq_some.2 rfl

theorem mkSeq_nonNone (k : SeqKind) (xs : List PyVal) : (mkSeq k xs).isNone = false := by
  cases k <;> rfl

theorem vSeq_eq_ok_iff {k : SeqKind} {sz : SizeOpts} {pre : List PyVal → Bool}
    {g : List PyVal → R (List PyVal)} {v u : PyVal} :
    vSeq k sz pre g v = .ok u ↔ ∃ xs ys, v = mkSeq k xs ∧ uniqOk sz.uniq xs = true ∧ sizeOk sz xs.length = true
      ∧ pre xs = true ∧ g xs = .ok ys ∧ uniqOk sz.uniq ys = true ∧ u = mkSeq k ys := by
  unfold vSeq
  cases h : seqElems k v with
  | none =>
    refine ⟨fun hf => (nomatch hf), fun ⟨xs, _, hv, _⟩ => ?_⟩
    rw [seqElems_eq_some.2 hv] at h; cases h
  | some xs =>
    obtain rfl := seqElems_eq_some.1 h
    simp only [guard_eq_ok_iff, bindE_eq_ok_iff, Except.ok.injEq]
    constructor
    · rintro ⟨hu, hs, hp, ys, hg, hu', rfl⟩
      exact ⟨xs, ys, rfl, hu, hs, hp, hg, hu', rfl⟩
    · rintro ⟨xs', ys, hv, hu, hs, hp, hg, hu', rfl⟩
      cases (seqElems_eq_some.2 hv).symm.trans h
      exact ⟨hu, hs, hp, ys, hg, hu', rfl⟩

theorem vTuple_eq_ok_iff {uniq : Bool} {pre : List PyVal → Bool} {g : List PyVal → R (List PyVal)} {v u : PyVal} :
    vTuple uniq pre g v = .ok u ↔ ∃ xs ys, v = .tuple xs ∧ uniqOk uniq xs = true ∧ pre xs = true
      ∧ g xs = .ok ys ∧ uniqOk uniq ys = true ∧ u = .tuple ys := by
  unfold vTuple
  split
  · next xs =>
    simp only [guard_eq_ok_iff, bindE_eq_ok_iff, Except.ok.injEq, PyVal.tuple.injEq]
    constructor
    · rintro ⟨hu, hp, ys, hg, hu', rfl⟩; exact ⟨xs, ys, rfl, hu, hp, hg, hu', rfl⟩
    · rintro ⟨_, ys, rfl, hu, hp, hg, hu', rfl⟩; exact ⟨hu, hp, ys, hg, hu', rfl⟩
  · next hne => exact ⟨fun h => (nomatch h), fun ⟨xs, _, hv, _⟩ => absurd hv (hne xs)⟩

theorem vConstruct_eq_ok_iff {c : ClassOpts} {names : List String} {kw : List (String × PyVal)}
    {g : R (List (String × PyVal))} {u : PyVal} :
    vConstruct c names kw g = .ok u ↔ bindOk c names kw = true
      ∧ ∃ attrs, g = .ok attrs ∧ u = .inst c.name (extrasOf c names kw ++ attrs) := by
  unfold vConstruct
  simp only [guard_eq_ok_iff, bindE_eq_ok_iff, Except.ok.injEq, eq_comm (a := u)]

theorem cSeq_iff {k : SeqKind} {sz : SizeOpts} {pre c : List PyVal → Bool} {v : PyVal} :
    cSeq k sz pre c v = true ↔ ∃ xs, v = mkSeq k xs ∧ uniqOk sz.uniq xs = true ∧ sizeOk sz xs.length = true
      ∧ pre xs = true ∧ c xs = true := by
  unfold cSeq
  cases h : seqElems k v with
  | none =>
    refine ⟨fun hf => (nomatch hf), fun ⟨xs, hv, _⟩ => ?_⟩
    rw [seqElems_eq_some.2 hv] at h; cases h
  | some xs =>
    obtain rfl := seqElems_eq_some.1 h
    simp only [Bool.and_eq_true_iff, and_assoc]
    refine ⟨fun hc => ⟨xs, rfl, hc⟩, fun ⟨ys, hv, hc⟩ => ?_⟩
    cases (seqElems_eq_some.2 hv).symm.trans h
    exact hc

theorem cTuple_iff {uniq : Bool} {pre c : List PyVal → Bool} {v : PyVal} :
    cTuple uniq pre c v = true ↔ ∃ xs, v = .tuple xs ∧ uniqOk uniq xs = true ∧ pre xs = true ∧ c xs = true := by
  unfold cTuple
  split
  · next xs =>
    simp only [Bool.and_eq_true_iff, and_assoc, PyVal.tuple.injEq]
    exact ⟨fun h => ⟨xs, rfl, h⟩, fun ⟨_, e, h⟩ => e ▸ h⟩
  · next hne => exact ⟨fun h => (nomatch h), fun ⟨xs, hv, _⟩ => absurd hv (hne xs)⟩

theorem cSet_iff {imm : Bool} {sz : SizeOpts} {c : List PyVal → Bool} {v : PyVal} :
    cSet imm sz c v = true ↔ ∃ fr xs, v = .set fr xs ∧ (!imm || fr) = true ∧ sizeOk sz xs.length = true
      ∧ c xs = true := by
  unfold cSet
  split
  · next fr xs =>
    simp only [Bool.and_eq_true_iff, and_assoc, PyVal.set.injEq]
    exact ⟨fun h => ⟨fr, xs, rfl, rfl, h⟩, fun ⟨_, _, e1, e2, h⟩ => e1 ▸ e2 ▸ h⟩
  · next hne => exact ⟨fun h => (nomatch h), fun ⟨fr, xs, hv, _⟩ => absurd hv (hne fr xs)⟩

theorem cMap_iff {sz : SizeOpts} {c : List (PyVal × PyVal) → Bool} {v : PyVal} :
    cMap sz c v = true ↔ ∃ kvs, v = .dict kvs ∧ sizeOk sz kvs.length = true ∧ c kvs = true := by
  unfold cMap
  split
  · next kvs =>
    simp only [Bool.and_eq_true_iff, PyVal.dict.injEq]
    exact ⟨fun h => ⟨kvs, rfl, h⟩, fun ⟨_, e, h⟩ => e ▸ h⟩
  · next hne => exact ⟨fun h => (nomatch h), fun ⟨kvs, hv, _⟩ => absurd hv (hne kvs)⟩

theorem cInline_iff {c : ClassOpts} {k : List (String × PyVal) → Bool} {v : PyVal} :
    cInline c v k = true ↔ ∃ attrs, v = .inst c.name attrs ∧ k attrs = true := by
  unfold cInline
  split
  · next c' attrs =>
    simp only [Bool.and_eq_true_iff, beq_iff_eq, PyVal.inst.injEq]
    exact ⟨fun ⟨e, h⟩ => ⟨attrs, ⟨e, rfl⟩, h⟩, fun ⟨_, ⟨e1, e2⟩, h⟩ => ⟨e1, e2 ▸ h⟩⟩
  · next hne => exact ⟨fun h => (nomatch h), fun ⟨attrs, hv, _⟩ => absurd hv (hne _ attrs)⟩

variable {O : Oracles}

theorem conforms_seqOf_iff {k f sz v} : conforms O (.seqOf k f sz) v = true ↔
    ∃ xs, v = mkSeq k xs ∧ uniqOk sz.uniq xs = true ∧ sizeOk sz xs.length = true
      ∧ ∀ x ∈ xs, conforms O f x = true := by
  simp only [conforms_seqOf, cSeq_iff, true_and, List.all_eq_true]

theorem conforms_seqPos_iff {k fs addl sz v} : conforms O (.seqPos k fs addl sz) v = true ↔
    ∃ xs, v = mkSeq k xs ∧ uniqOk sz.uniq xs = true ∧ sizeOk sz xs.length = true
      ∧ (fs.length ≤ xs.length ∧ (addl = true ∨ xs.length ≤ fs.length)) ∧ conformsZip O fs xs = true := by
  simp only [conforms_seqPos, cSeq_iff, Bool.and_eq_true_iff, Bool.or_eq_true, decide_eq_true_eq]

theorem conforms_tupleOf_iff {f uniq v} : conforms O (.tupleOf f uniq) v = true ↔
    ∃ xs, v = .tuple xs ∧ uniqOk uniq xs = true ∧ ∀ x ∈ xs, conforms O f x = true := by
  simp only [conforms_tupleOf, cTuple_iff, true_and, List.all_eq_true]

theorem conforms_tuplePos_iff {fs uniq v} : conforms O (.tuplePos fs uniq) v = true ↔
    ∃ xs, v = .tuple xs ∧ uniqOk uniq xs = true ∧ fs.length = xs.length ∧ conformsZip O fs xs = true := by
  simp only [conforms_tuplePos, cTuple_iff, beq_iff_eq]

theorem conforms_setOf_iff {imm f sz v} : conforms O (.setOf imm f sz) v = true ↔
    ∃ fr xs, v = .set fr xs ∧ (!imm || fr) = true ∧ sizeOk sz xs.length = true
      ∧ ∀ x ∈ xs, conforms O f x = true := by
  simp only [conforms_setOf, cSet_iff, List.all_eq_true]

theorem conforms_mapOf_iff {kf vf sz v} : conforms O (.mapOf kf vf sz) v = true ↔
    ∃ kvs, v = .dict kvs ∧ sizeOk sz kvs.length = true
      ∧ ∀ kv ∈ kvs, conforms O kf kv.1 = true ∧ conforms O vf kv.2 = true := by
  simp only [conforms_mapOf, cMap_iff, List.all_eq_true, Bool.and_eq_true_iff]

end Typedpy
