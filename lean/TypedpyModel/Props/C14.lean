/-
  Props/C14.lean — C14: inheritance only adds strictness; invalid class definitions fail when
  defined.

  `defineClass` (Sem/Define.lean) mirrors `StructMeta.__new__` and its helpers.  The theorems
  quantify over every world reachable by class statements (`WorldOk`, established for all histories
  by `reachable_ok`), every class source, every hierarchy shape (any depth, multiple bases,
  mixins: the MRO is Python's C3 linearisation) and every value.

  Where the code violates the statement (the faults clause), the full statement is a `def … : Prop`
  (`fault_rejected_statement`), the theorem proved is the `_partial` one with the explicit exclusion,
  and a kernel-checked counterexample shows the full statement false of the model (= known
  findings); repaired findings are `fixed_*` theorems.

  Constructors go through the bridge Sem/DefineBridge.lean (class record → `FieldDecl.struct` →
  `construct` of Sem/Validate.lean); the order of the required parameters (a Python set) is an
  oracle argument everywhere.
-/
import TypedpyModel.Lemmas.DefineSig
import TypedpyModel.Lemmas.DefineWorld
import TypedpyModel.Lemmas.DefineBridge
namespace Typedpy.C14
open Typedpy

/-! ### inheritance only adds fields; inherited fields are the base's objects -/

theorem ancestor_fields_subset {w : World} (hw : WorldOk w) {c a : ClassDef} {cn : String}
    (hc : w.find cn = some c) (ha : w.find a.name = some a) (hmem : a.name ∈ c.mro) :
    ∀ n ∈ a.fieldNames, n ∈ c.fieldNames := by
  intro n hn
  have hcok := hw cn c hc
  -- the owner along the ancestor's MRO is in the class's MRO
  rw [fieldName_iff_owner (hw a.name a ha)] at hn
  rw [fieldName_iff_owner hcok]
  rcases hcok.closed a.name hmem with ⟨ad, had, hsub⟩
  rw [ha] at had; cases had
  exact firstOwner_isSome_mono hsub.subset hn

/-- If the class that provides field `n` to `c` (the first owner along `c`'s MRO) is the ancestor
    `a` or one of `a`'s ancestors, then `c` holds for `n` the identical Field object — declaration
    and default — that `a` holds. -/
theorem ancestor_field_same {w : World} (hw : WorldOk w) {c a : ClassDef} {cn k n : String}
    (hc : w.find cn = some c) (ha : w.find a.name = some a) (hmem : a.name ∈ c.mro)
    (hk : firstOwner (ownRev w) n c.mro = some k) (hka : k ∈ a.mro) :
    lookup n c.allFields = lookup n a.allFields := by
  have hcok := hw cn c hc
  have haok := hw a.name a ha
  rcases hcok.closed a.name hmem with ⟨ad, had, hsub⟩
  rw [ha] at had; cases had
  rw [lookup_allFields hcok, lookup_allFields haok, hk, firstOwner_sublist hsub hcok.nodup hk hka]

theorem defined_class_ok {O : Oracles} {w : World} {src : ClassSrc} {cd : ClassDef}
    (hw : WorldOk w) (h : defineClass O w src = .ok cd) (hfresh : w.find src.name = none) :
    WorldOk (w.add cd) ∧ (w.add cd).find cd.name = some cd ∧ cd.mro = src.name :: mroTail w src := by
  rcases defineClass_ok h with ⟨hc, rfl⟩
  exact ⟨worldOk_add_build hw hc hfresh, find_add_fresh (d := build w src) hfresh, rfl⟩

theorem base_in_mro {O : Oracles} {w : World} {src : ClassSrc} {cd : ClassDef}
    (h : defineClass O w src = .ok cd) {b : String} (hb : b ∈ src.bases) : b ∈ cd.mro := by
  rcases defineClass_ok h with ⟨hc, rfl⟩
  exact List.mem_cons_of_mem _ ((bases_sublist_mroTail (defFacts hc).c3ok).subset hb)

/-- C14 (fields): a subclass has every field of each of its bases. -/
theorem sub_fields_superset {O : Oracles} {w : World} {src : ClassSrc} {cd bd : ClassDef}
    (hw : WorldOk w) (h : defineClass O w src = .ok cd) (hfresh : w.find src.name = none)
    {b : String} (hb : b ∈ src.bases) (hbd : w.find b = some bd) :
    ∀ n ∈ bd.fieldNames, n ∈ cd.fieldNames := by
  rcases defineClass_ok h with ⟨hc, rfl⟩
  exact fun _ hn => build_fields_of_base hw (defFacts hc) hb hbd hn

theorem not_owned_of_not_declared {w : World} {cd : ClassDef} {n : String}
    (hself : w.find cd.name = some cd) (hn : n ∉ cd.own.map (·.1)) :
    (lookup n (ownRev w cd.name)).isSome = false := by
  have : n ∉ (ownRev w cd.name).map (·.1) := by
    simpa only [ownRev, ownOf, hself, List.map_reverse, List.mem_reverse] using hn
  rw [lookup_none_of_not_mem this]; rfl

/-- C14 (inherited fields, single structure base — with any mixins — at every level, hence chains
    of any depth by `ancestor_field_same`): a field the class body does not redeclare is the
    base's Field object: same declaration, same default. -/
theorem inherited_field_same {O : Oracles} {w : World} {src : ClassSrc} {cd bd : ClassDef}
    (hw : WorldOk w) (h : defineClass O w src = .ok cd) (hfresh : w.find src.name = none)
    {b n : String} (hb : b ∈ src.bases) (hbd : w.find b = some bd)
    (honly : ∀ b' ∈ src.bases, b' ≠ b → ∀ bd', w.find b' = some bd' → bd'.mro = [b'] ∧ bd'.own = [])
    (hn : n ∉ (ownMembers src.entries).map (·.1)) :
    lookup n cd.allFields = lookup n bd.allFields := by
  rcases defineClass_ok h with ⟨hc, rfl⟩
  have hf := defFacts hc
  have hsub := baseMro_sublist_mroTail hf.c3ok hb hbd
  -- a class of the new MRO outside `b`'s MRO comes from another base, a field-less mixin
  have others : ∀ k ∈ mroTail w src, k ∉ bd.mro → lookup n (ownRev w k) = none := by
    intro k hkt hkb
    rcases mroTail_origin hw hf hkt with ⟨b', hb', bd', hfb', hk'⟩
    have hmix := honly b' hb' (fun e => hkb (by subst e; rw [hbd] at hfb'; cases hfb'; exact hk')) bd' hfb'
    rw [hmix.1, List.mem_singleton] at hk'
    simp only [hk', ownRev, ownOf, hfb', hmix.2, List.reverse_nil, lookup]
  -- so the first owner of `n` is found along `b`'s MRO, where `b` itself looks it up
  rw [build_allFields, lookup_allFieldsOf,
    lookup_none_of_not_mem (by rwa [List.map_reverse, List.mem_reverse]), Option.orElse_none,
    firstOwner_sublist_of_empty hsub (mroTail_nodup hf) others, lookup_allFields (hw b bd hbd)]

/-- C14 (required; since the repair of `required-not-superset:optional-in-earlier-base` for EVERY
    base, whatever the bases listed before it declare): a parameter the constructor of a base
    demands is in the subclass's `_required`, and unless the subclass turns it into a Constant its
    constructor demands it too. -/
theorem sub_required_superset {O : Oracles} {w : World} {src : ClassSrc} {cd bd : ClassDef}
    (h : defineClass O w src = .ok cd) (hb : bd ∈ structBases w src) {n : String} (hn : n ∈ bd.sig.req) :
    n ∈ cd.required ∧ (n ∉ cd.constants.map (·.1) → n ∈ cd.sig.req) := by
  rcases defineClass_ok h with ⟨_, rfl⟩
  have hbr := basesRequired_of_req hb hn
  have hreq : n ∈ requiredOf w src := mem_requiredOf.mpr (.inl hbr)
  rw [build_required, build_constants, build_sig]
  exact ⟨hreq, fun hc => mem_sigOf_req.mpr ⟨hc, .inr (basesRequired_sub_basesParams hbr), hreq⟩⟩

theorem sub_required_superset_partial {O : Oracles} {w : World} {src : ClassSrc} {cd bd : ClassDef}
    (h : defineClass O w src = .ok cd) {pre post : List ClassDef}
    (hb : structBases w src = pre ++ bd :: post) {n : String} (hn : n ∈ bd.sig.req) :
    n ∈ cd.required ∧ (n ∉ cd.constants.map (·.1) → n ∈ cd.sig.req) :=
  sub_required_superset h (by rw [hb]; simp) hn

/-- the "required" statement over `_required` (not only over the constructor parameters, which is
    `sub_required_superset`).  Since /repo d18be04 + 82de3b9 the two findings that refuted it are
    repaired (`fixed_second_base_required_kept`, `fixed_constant_required_kept`); what still refutes
    it is by design: a subclass (or a branch earlier in the MRO) may REPLACE a base's required
    Constant by a Field of its own that is optional (`fixed_constant_required_kept`, class `T`) -/
def sub_required_superset_statement : Prop :=
  ∀ (O : Oracles) (w : World) (src : ClassSrc) (cd bd : ClassDef), WorldOk w →
    defineClass O w src = .ok cd → bd ∈ structBases w src →
    ∀ n ∈ bd.required, n ∈ bd.fieldNames → n ∈ cd.required

def fieldValidate (O : Oracles) (c : ClassDef) (n : String) (v : PyVal) : Option (R PyVal) :=
  match lookup n c.allFields with
  | some (.field d _) => some (validate O d v)
  | _ => none

def fieldDefault (c : ClassDef) (n : String) : Option Dflt :=
  match lookup n c.allFields with
  | some (.field _ d) => d
  | _ => none

/-- same object, hence the same accept / reject / normal form for every value and the same
    default -/
theorem same_field_same_behaviour (O : Oracles) {c a : ClassDef} {n : String}
    (h : lookup n c.allFields = lookup n a.allFields) :
    (∀ v, fieldValidate O c n v = fieldValidate O a n v) ∧ fieldDefault c n = fieldDefault a n := by
  simp only [fieldValidate, fieldDefault, h]
  exact ⟨fun _ => trivial, trivial⟩

/-! ### invalid definitions fail when defined -/

/-- the full statement: every fault of the vocabulary makes the class statement raise — false of
    the code (see the counterexamples) -/
def fault_rejected_statement : Prop :=
  ∀ (O : Oracles) (w : World) (src : ClassSrc) (f : Fault), f.applies O w src = true →
    ∃ e, defineClass O w (inject f src) = .error e

/-- C14 (faults): for every class source whatsoever, every world and both guard settings, a
    single fault of any kind — outside the two known holes — makes the class statement raise. -/
theorem fault_rejected_partial (O : Oracles) (w : World) (src : ClassSrc) (f : Fault)
    (ha : f.applies O w src = true) (hk : f.knownHole O = false) :
    ∃ e, defineClass O w (inject f src) = .error e := by
  cases f with
  | defaultKw n d v =>
    exact kw_default_rejected (mem_entries_addEntry src n _) (by simpa [Fault.knownHole] using hk) ha
  | defaultEq n d v => exact eq_default_rejected (mem_entries_addEntry src n _) rfl (.inr ha)
  | defaultClassForm n d v =>
    -- `F(default=v)` built by the metaclass: a truthy `v` is validated by `Field.__init__`, a falsy one
    -- as the `=` default
    cases ht : pyTruthy v with
    | true => exact kw_default_rejected (kw := .lit v) (mem_entries_addEntry src n _) ht ha
    | false => exact eq_default_rejected (eq := .lit v) (mem_entries_addEntry src n _) ht (.inr ha)
  | mutableEq n d v => exact eq_default_rejected (mem_entries_addEntry src n _) rfl (.inl ha)
  | mutableClassForm n d v =>
    cases ht : pyTruthy v with
    | true =>
      have hv : isError (validate O d v) = true := by simpa [Fault.knownHole, ht] using hk
      exact kw_default_rejected (kw := .lit v) (mem_entries_addEntry src n _) ht hv
    | false => exact eq_default_rejected (eq := .lit v) (mem_entries_addEntry src n _) ht (.inl ha)
  | badName n e =>
    exact defineClass_error_of_check (mem_checks_name (mem_entries_addEntry src n e))
      (e := .valueErr) (if_pos ha)
  | optionalRequired n =>
    refine defineClass_error_of_check mem_checks_optional (e := .valueErr) (if_pos ?_)
    rw [inject, List.any_cons, Bool.or_eq_true]
    left
    rcases (Bool.or_eq_true _ _).mp ha with h1 | h1
    · rw [Bool.and_eq_true] at h1
      rw [requiredEff_optional _ h1.1, h1.2]; rfl
    · exact (Bool.or_eq_true _ _).mpr (.inr h1)
  | sealedBase b =>
    exact sealed_in_tail_rejected O
      (fun h => (bases_sublist_mroTail h).subset (List.mem_append_right _ List.mem_cons_self)) ha
  | badConstant n v =>
    exact defineClass_error_of_check (mem_checks_const (mem_resolvedFields_last w src n (.const v)))
      (e := .typeErr) (if_neg (by simpa [Fault.applies] using ha))
  | keysOfMissing before m₁ n m₂ after =>
    refine defineClass_error_of_check mem_checks_keysOf (e := .typeErr) (if_neg fun hall => ?_)
    have h1 := List.all_eq_true.mp (List.all_eq_true.mp hall (m₁ ++ n :: m₂) (by simp [inject])) n
      (by simp)
    simp only [Fault.applies, Bool.not_eq_true'] at ha
    exact Bool.false_ne_true (ha.symm.trans h1)
  | unknownAttr n a =>
    exact defineClass_error_of_check (mem_checks_block (mem_entries_addEntry src n _))
      (e := .valueErr) (if_pos ha)
  | bareType n a =>
    refine defineClass_error_of_check (mem_checks_nonTypedpy (mem_entries_addEntry src n _))
      (e := .typeErr) (if_pos ?_)
    -- the same four conditions in another order
    have hb : isBareType a = nonTypedpyType a := by cases a <;> rfl
    rw [← ha, hb, Fault.applies]
    ac_rfl

theorem fault_yields_no_class (O : Oracles) (w : World) (src : ClassSrc) (f : Fault)
    (ha : f.applies O w src = true) (hk : f.knownHole O = false) :
    stepWorld O w (.define (inject f src)) = w :=
  stepWorld_define_error (fault_rejected_partial O w src f ha hk)

theorem immutableField_subclass_rejected (fw : List FieldCls) (name b : String) (bases : List String)
    (hb : b ∈ bases) (hs : sealedFieldCls fw b = true) :
    ∃ e, defineFieldClass fw name bases = .error e := by
  unfold defineFieldClass
  split
  · exact ⟨_, rfl⟩
  · rename_i tail hc
    -- the bases are one of the merged sequences, so the sealed one is in the linearisation
    have hsub : bases.Sublist tail := c3merge_sublist _ _ _ hc _ (by simp)
    rw [if_pos (List.any_eq_true.mpr ⟨b, hsub.subset hb, hs⟩)]
    exact ⟨_, rfl⟩

theorem isAbstract_of {c : ClassDef} (h : c.name = "AbstractStructure" ∨ "AbstractStructure" ∈ c.bases) :
    c.isAbstract = true := by
  unfold ClassDef.isAbstract
  rcases h with h | h <;> simp [h]

/-- C14 (abstract): AbstractStructure itself and every class whose direct bases include it cannot
    be instantiated, whatever the arguments -/
theorem abstract_not_instantiable (O : Oracles) (c : ClassDef) (kw : List (String × PyVal))
    (h : c.name = "AbstractStructure" ∨ "AbstractStructure" ∈ c.bases) :
    instantiate O c kw = .error .typeErr := by
  unfold instantiate instantiateOrd
  rw [if_pos (isAbstract_of h)]

theorem abstract_subclass_not_instantiable {O : Oracles} {w : World} {src : ClassSrc} {cd : ClassDef}
    (h : defineClass O w src = .ok cd) (hb : "AbstractStructure" ∈ src.bases)
    (kw : List (String × PyVal)) : instantiate O cd kw = .error .typeErr := by
  rcases defineClass_ok h with ⟨_, rfl⟩
  exact abstract_not_instantiable O _ kw (Or.inr hb)

/-- C14 (abstract, every entry point): whichever class-level way of obtaining an instance is used
    — constructor, `from_other_class`, `cast_to`, the class-level trust flag, `from_trusted_data` with
    keywords or a mapping, trusted deserialization — an abstract class is refused with TypeError,
    whatever the arguments and whatever the order oracle. -/
theorem abstract_not_instantiable_via (O : Oracles) (c : ClassDef) (ord : List String) (e : Entry)
    (kw : List (String × PyVal)) (h : c.name = "AbstractStructure" ∨ "AbstractStructure" ∈ c.bases) :
    instantiateVia O c ord e kw = .error .typeErr := by
  unfold instantiateVia
  rw [if_pos (isAbstract_of h)]

theorem concrete_trusted_entry_instantiates (O : Oracles) (c : ClassDef) (ord : List String) (e : Entry)
    (kw : List (String × PyVal)) (h : c.isAbstract = false) (he : e.validates = false) :
    instantiateVia O c ord e kw = .ok (.inst c.name kw) := by
  unfold instantiateVia
  rw [if_neg (by simp [h])]
  cases e <;> simp_all [Entry.validates]

/-! ### inheritance only adds strictness: constructors (through the bridge, Sem/DefineBridge.lean) -/

/-- C14 (constructors, any two classes of any world): what `S(**kw)` accepts, `B` accepts on the
    keywords that are its fields, when `B`'s fields are the same Field objects in `S`, `B` demands
    no parameter `S` does not, and `S` does not switch `_ignore_none` on — for every order of the
    required parameters on either side. -/
theorem ctor_accepts_restricted (O : Oracles) {S B : ClassDef}
    (hkS : KeysNodup S.allFields) (hkB : KeysNodup B.allFields)
    (hsame : ∀ n ∈ Bridge.defOrder B, lookup n S.allFields = lookup n B.allFields)
    (hreq : ∀ n ∈ B.sig.req, n ∈ S.sig.req)
    (hwf : Bridge.wf B = true) (hign : S.ignoreNone = true → B.ignoreNone = true)
    (hB : B.isAbstract = false)
    (ordS ordB : List String) (kw : List (String × PyVal)) {x : PyVal}
    (h : instantiateOrd O S ordS kw = .ok x) :
    ∃ y, instantiateOrd O B ordB (restrictKw B kw) = .ok y := by
  have hwf' := Bridge.wf_iff.mp hwf
  -- the subclass got through its guards to `construct`; so does the base on the restricted arguments
  rcases (instantiateOrd_ok_iff O S ordS kw).mp ⟨x, h⟩ with ⟨_, x0, hx0⟩
  rcases c14_construct_restrict O hkS hkB hsame hreq hwf'.1 hign ordS [S.name] ordB [B.name] kw hx0 with ⟨y0, hy0⟩
  refine (instantiateOrd_ok_iff O B ordB _).mpr ⟨⟨hB, ?_, ?_, ?_⟩, y0, hy0⟩
  · rw [← ((c14_construct_ok_iff O _ _ _ _).mp ⟨y0, hy0⟩).1]
    exact (c14_bindOk_names_congr _ _ (c14_mem_toStruct_names B ordB)).symm
  · exact Bool.and_eq_false_imp.mpr fun _ => List.any_eq_false.mpr fun a ha => by
      simpa using c14_defOrder_sub_fieldNames hkB (mem_restrictKw ha)
  · exact List.any_eq_false.mpr fun a ha => by rw [hwf'.2 a.1 (mem_restrictKw ha)]; exact Bool.false_ne_true

/-- a class inherits every declared field of ancestor `a` unchanged: along the class's MRO the first
    class that owns the name is `a` or one of `a`'s ancestors (nobody in between redeclares it) -/
def inheritsUnchanged (w : World) (c a : ClassDef) : Bool :=
  (Bridge.defOrder a).all fun n =>
    match firstOwner (ownRev w) n c.mro with
    | some k => a.mro.contains k
    | none => false

/-- C14 (constructors, every hierarchy a history can define): for a class `c` and any ancestor `a`
    at any depth (multiple bases, mixins, diamonds) whose declared fields `c` inherits unchanged:
    what `c`'s constructor accepts, `a`'s accepts on the arguments restricted to `a`'s fields.
    Exclusions (all decidable): a parameter `a` demands and `c` does not
    (`sub_required_superset` rules it out for a direct base: `direct_sub_accepts_base_accepts`),
    `c` switching `_ignore_none` on (necessary: `ignore_none_exclusion_necessary`), `a` abstract,
    `a`'s two field views disagreeing (`Bridge.wf`; never in a reachable world). -/
theorem sub_accepts_base_accepts (O : Oracles) {w : World} (hw : WorldOk w) {c a : ClassDef} {cn : String}
    (hc : w.find cn = some c) (ha : w.find a.name = some a) (hmem : a.name ∈ c.mro)
    (hinh : inheritsUnchanged w c a = true)
    (hreq : ∀ n ∈ a.sig.req, n ∈ c.sig.req)
    (hwf : Bridge.wf a = true) (hign : c.ignoreNone = true → a.ignoreNone = true)
    (hA : a.isAbstract = false)
    (ordC ordA : List String) (kw : List (String × PyVal)) {x : PyVal}
    (h : instantiateOrd O c ordC kw = .ok x) :
    ∃ y, instantiateOrd O a ordA (restrictKw a kw) = .ok y := by
  have hcok := hw cn c hc
  have haok := hw a.name a ha
  refine ctor_accepts_restricted O (classOk_keysNodup hcok) (classOk_keysNodup haok) ?_ hreq hwf hign hA
    ordC ordA kw h
  intro n hn
  have := (List.all_eq_true.mp hinh) n hn
  cases hk : firstOwner (ownRev w) n c.mro with
  | none => simp [hk] at this
  | some k =>
    simp only [hk, List.contains_eq_mem, decide_eq_true_eq] at this
    exact ancestor_field_same hw hc ha hmem hk this

/-- C14 (constructors, every history): the same for every world reachable by class statements with
    no hypothesis about the class records at all — that the signature of every class names only
    declared non-Constant fields and that `_constants` are the Constant members of `_field_by_name`
    (`Bridge.wf`) is an invariant of every history (`reachable_sigOk`, since the repair of
    `names-mismatch:constant-shadowed-in-diamond`). -/
theorem sub_accepts_base_accepts_reachable (O : Oracles) {w : World} (hr : Reachable O w) {c a : ClassDef}
    {cn : String} (hc : w.find cn = some c) (ha : w.find a.name = some a) (hmem : a.name ∈ c.mro)
    (hinh : inheritsUnchanged w c a = true) (hreq : ∀ n ∈ a.sig.req, n ∈ c.sig.req)
    (hign : c.ignoreNone = true → a.ignoreNone = true) (hA : a.isAbstract = false)
    (ordC ordA : List String) (kw : List (String × PyVal)) {x : PyVal}
    (h : instantiateOrd O c ordC kw = .ok x) :
    ∃ y, instantiateOrd O a ordA (restrictKw a kw) = .ok y :=
  sub_accepts_base_accepts O (reachable_ok hr) hc ha hmem hinh hreq (reachable_bridge_wf hr ha) hign hA
    ordC ordA kw h

/-- C14 (constructors, one class statement): `class S(…mixins…, B, …mixins…)` that redeclares none of
    `B`'s fields and does not switch `_ignore_none` on: whatever `S(**kw)` accepts, `B` accepts on
    the arguments that are its fields — every hypothesis is about the class statement itself. -/
theorem direct_sub_accepts_base_accepts (O : Oracles) {w : World} (hr : Reachable O w) {src : ClassSrc}
    {cd bd : ClassDef} (h : defineClass O w src = .ok cd) (hfresh : w.find src.name = none)
    {b : String} (hb : b ∈ src.bases) (hbd : w.find b = some bd) (hstruct : bd ∈ structBases w src)
    (honly : ∀ b' ∈ src.bases, b' ≠ b → ∀ bd', w.find b' = some bd' → bd'.mro = [b'] ∧ bd'.own = [])
    (hnew : ∀ n ∈ Bridge.defOrder bd, n ∉ (ownMembers src.entries).map (·.1))
    (hign : cd.ignoreNone = true → bd.ignoreNone = true) (hA : bd.isAbstract = false)
    (ordC ordB : List String) (kw : List (String × PyVal)) {x : PyVal}
    (hx : instantiateOrd O cd ordC kw = .ok x) :
    ∃ y, instantiateOrd O bd ordB (restrictKw bd kw) = .ok y := by
  have hw := reachable_ok hr
  have hkB := classOk_keysNodup (hw b bd hbd)
  have hwfB := reachable_bridge_wf hr hbd
  have hsame : ∀ n ∈ Bridge.defOrder bd, lookup n cd.allFields = lookup n bd.allFields :=
    fun n hn => inherited_field_same hw h hfresh hb hbd honly (hnew n hn)
  rcases defineClass_ok h with ⟨_, rfl⟩
  refine ctor_accepts_restricted O (build_keysNodup w src) hkB hsame ?_ hwfB hign hA ordC ordB kw hx
  intro n hn
  apply (sub_required_superset h hstruct hn).2
  -- `n` is a declared field of the base, the same object in the subclass: not one of its Constants
  have hnd : n ∈ Bridge.defOrder bd := (Bridge.wf_iff.mp hwfB).1 n hn
  rcases (c14_mem_defOrder hkB n).mp hnd with ⟨d, dflt, hl⟩
  intro hmem
  rcases mem_keys_iff_lookup.mp hmem with ⟨v, hv⟩
  rw [build_constants, resolvedFields, c14_lookup_constantsOf (allFieldsOf_keysNodup w src),
    ← build_allFields, hsame n hnd, hl] at hv
  cases hv

/-! ### no class is ever a strict subclass of a strict subclass of FinalStructure / ImmutableStructure -/

def NoSealedAncestor (w : World) (c : ClassDef) : Prop :=
  ∀ a ∈ c.mro.tail, sealedCls w a = false

theorem sealedCls_add {w : World} {d ad : ClassDef} {a : String} (h : w.find a = some ad) :
    sealedCls (w.add d) a = sealedCls w a := by
  rw [sealedCls, sealedCls, h, find_add_of_some h]

/-- a successful class statement never has a sealed class behind it: `_check_for_final_violations` -/
theorem defined_no_sealed_ancestor {O : Oracles} {w : World} {src : ClassSrc} {cd : ClassDef}
    (h : defineClass O w src = .ok cd) : NoSealedAncestor w cd := by
  rcases defineClass_ok h with ⟨hc, rfl⟩
  have hf := runChecks_ok_iff.mp hc _ (mem_checks_final (O := O))
  exact fun a ha => by simpa using List.any_eq_false.mp (raiseIf_ok.mp hf) a ha

/-- C14 (sealed classes): extending a strict subclass of FinalStructure / ImmutableStructure — directly
    or through any chain of bases — is refused: the class statement raises. -/
theorem sealed_base_rejected (O : Oracles) {w : World} (src : ClassSrc) {b s : String}
    {bd : ClassDef} (hb : b ∈ src.bases) (hbd : w.find b = some bd) (hs : s ∈ bd.mro)
    (hsealed : sealedCls w s = true) :
    ∃ e, defineClass O w src = .error e := by
  exact sealed_in_tail_rejected O (fun h => (baseMro_sublist_mroTail h hb hbd).subset hs) hsealed

/-- C14 (sealed classes, every history): in every world reachable by class statements no class has
    a strict subclass of FinalStructure / ImmutableStructure among its proper ancestors — such a
    class is never extended, at any depth, through any mix of bases -/
theorem reachable_no_sealed_ancestor {O : Oracles} {w : World} (h : Reachable O w) :
    ∀ n c, w.find n = some c → NoSealedAncestor w c := by
  refine Reachable.all_classes (P := NoSealedAncestor) ?_ ?_ ?_ ?_ h
  · intro bc bn c hc a ha
    rcases mem_init_classes hc with ⟨_, _, rfl | rfl⟩
    · cases ha
    · rw [List.mem_singleton.mp ha]; rfl
  · intro w n a ha; cases ha
  · -- the proper ancestors of a new class all existed before, where the class statement checked them
    intro w src hr _ hck _ a ha
    rcases mroTail_closed (reachable_ok hr) (defFacts hck) a ha with ⟨ad, had, _⟩
    rw [sealedCls_add had]
    exact defined_no_sealed_ancestor (defineClass_of_checks hck) a ha
  · intro w c d hc hns a ha
    rcases hc.closed a (List.mem_of_mem_tail ha) with ⟨ad, had, _⟩
    rw [sealedCls_add had]
    exact hns a ha

/-! ### kernel-checked counterexamples (the known findings) and non-vacuity -/

def exO : Oracles := { reMatch := fun _ _ => true }
def W0 : World := initWorld true true

def plainSrc (name : String) (bases : List String) (entries : List (String × SrcEntry)) : ClassSrc :=
  { name, bases, entries }

def intF : SrcEntry := .field (.integer {}) none none

/-- finding `fault-accepted:default-violates:kw-falsy`: `a = String(default=0)` defines -/
theorem falsy_default_not_validated :
    (Fault.defaultKw "a" (.string none none none) (.lit (.int 0))).applies exO W0 (plainSrc "X" ["Structure"] []) = true
    ∧ isError (defineClass exO W0
        (inject (.defaultKw "a" (.string none none none) (.lit (.int 0))) (plainSrc "X" ["Structure"] []))) = false := by
  decide +kernel

/-- finding `fault-accepted:mutable-default:class-form-nonempty`: `a: Array = [1]` defines -/
theorem mutable_class_form_default_accepted :
    (Fault.mutableClassForm "a" (.seqAny .list {}) (.list [.int 1])).applies exO W0 (plainSrc "X" ["Structure"] []) = true
    ∧ isError (defineClass exO W0
        (inject (.mutableClassForm "a" (.seqAny .list {}) (.list [.int 1])) (plainSrc "X" ["Structure"] []))) = false := by
  decide +kernel

/-- fixed finding `fault-accepted:bare-type:pep604-union` (173578d): `x = int | str` is refused by
    the guard like `x = list[int]` -/
theorem fixed_pep604_union_refused :
    (Fault.bareType "x" .union).applies exO W0 (plainSrc "X" ["Structure"] []) = true
    ∧ isError (defineClass exO W0 (inject (.bareType "x" .union) (plainSrc "X" ["Structure"] []))) = true
    ∧ isError (defineClass exO W0 (inject (.bareType "x" .generic) (plainSrc "X" ["Structure"] []))) = true := by
  decide +kernel

theorem fault_rejected_statement_false : ¬ fault_rejected_statement := by
  intro h
  rcases h exO W0 (plainSrc "X" ["Structure"] []) _ falsy_default_not_validated.1 with ⟨e, he⟩
  have := falsy_default_not_validated.2
  rw [he] at this
  cases this

/-- fixed finding `abstract-instantiable:AbstractStructure` (df54aff): `AbstractStructure()`
    raises TypeError -/
theorem abstractStructure_itself_not_instantiable :
    isError (instantiate exO (World.builtin "AbstractStructure" ["Structure"] false) []) = true := by
  decide +kernel

def reqOf (w : World) (n : String) : List String :=
  match w.find n with
  | some c => c.required
  | none => []

/-- fixed finding `required-not-superset:constant`: a Constant of the base is in the base's
    `_required` (it has no `_default`) and — being still a Constant in the subclass — in the
    subclass's too, although no constructor signature carries it -/
def constWorld : World :=
  runSteps exO W0 [.define (plainSrc "B" ["Structure"] [("c", .obj (.const (.int 1))), ("a", intF)]),
                   .define (plainSrc "S" ["B"] [("b", intF)]),
                   .define (plainSrc "T" ["B"] [("c", .field (.integer {}) (some (.lit (.int 2))) none)])]

theorem fixed_constant_required_kept :
    (reqOf constWorld "B").contains "c" = true ∧ (reqOf constWorld "S").contains "c" = true
    ∧ (reqOf constWorld "S").contains "a" = true
    -- a subclass that REPLACES the Constant by a Field with a default is free to
    ∧ (reqOf constWorld "T").contains "c" = false := by
  decide +kernel

/-- fixed finding `required-not-superset:optional-in-earlier-base`: with two bases a later base
    that requires a parameter upgrades what an earlier base declares optional -/
def twoBaseWorld : World :=
  runSteps exO W0 [.define { plainSrc "A1" ["Structure"] [("a", intF)] with required := some [] },
                   .define (plainSrc "A2" ["Structure"] [("a", intF)]),
                   .define (plainSrc "S" ["A1", "A2"] [("b", intF)])]

theorem fixed_second_base_required_kept :
    (reqOf twoBaseWorld "A2").contains "a" = true ∧ (reqOf twoBaseWorld "S").contains "a" = true
    ∧ (reqOf twoBaseWorld "S").contains "b" = true := by
  decide +kernel

/-- non-vacuity: a diamond with a mixin defines, merges fields through the C3 MRO, keeps the
    required names of the bases, rejects an inconsistent MRO and a sealed base -/
def diamond : World :=
  runSteps exO W0 [
    .define (plainSrc "A" ["Structure"] [("a", intF)]),
    .mixin "Mx",
    .define (plainSrc "B" ["Mx", "A"] [("b", .field (.integer {}) (some (.lit (.int 3))) none)]),
    .define { plainSrc "C" ["A"] [("c", .field (.string none none none) none none)] with required := some [] },
    .define (plainSrc "D" ["B", "C"] [("d", intF)]),
    .define (plainSrc "Bad" ["A", "C"] []),
    .define (plainSrc "Imm" ["ImmutableStructure"] [("i", intF)]),
    .define (plainSrc "SubImm" ["Imm"] [])]

def mroOfCls (w : World) (n : String) : List String :=
  match w.find n with
  | some c => c.mro
  | none => []

def fieldsOfCls (w : World) (n : String) : List String :=
  match w.find n with
  | some c => c.fieldNames
  | none => []

theorem inheritance_example :
    mroOfCls diamond "D" = ["D", "B", "Mx", "C", "A", "Structure"]
    ∧ fieldsOfCls diamond "D" = ["a", "c", "b", "d"]
    ∧ reqOf diamond "D" = ["a", "d"]
    ∧ (diamond.find "Bad").isNone = true ∧ (diamond.find "Imm").isSome = true
    ∧ (diamond.find "SubImm").isNone = true := by
  decide +kernel

/-- non-vacuity for `@keys_of` with several enum classes: inherited fields count; a member that is
    not a field is refused whichever enum (first, middle, last) it belongs to -/
def keysWorld : World :=
  runSteps exO W0 [
    .define (plainSrc "A" ["Structure"] [("north", intF), ("south", intF)]),
    .define { plainSrc "Ok" ["A"] [("admin", intF), ("day", intF)] with
                keysOf := [["admin"], ["north", "south"], ["day"]] },
    .define { plainSrc "MissFirst" ["A"] [("admin", intF), ("day", intF)] with
                keysOf := [["admin", "driver"], ["north", "south"], ["day"]] },
    .define { plainSrc "MissMiddle" ["Structure"] [("admin", intF), ("north", intF), ("day", intF)] with
                keysOf := [["admin"], ["north", "south"], ["day"]] },
    .define { plainSrc "MissLast" ["A"] [("admin", intF)] with
                keysOf := [["admin"], ["north", "south"], ["day"]] }]

theorem keys_of_example :
    (keysWorld.find "Ok").isSome = true ∧ (keysWorld.find "MissFirst").isNone = true
    ∧ (keysWorld.find "MissMiddle").isNone = true ∧ (keysWorld.find "MissLast").isNone = true := by
  decide +kernel

/-! ### constructors through the bridge: non-vacuity and necessity of the exclusions -/

def minF : SrcEntry := .field (.integer { min := some (Q.ofInt 1) }) none none
def strDflt : SrcEntry := .field (.string none none none) (some (.lit (.str "x"))) none

def ctorWorld : World :=
  runSteps exO W0 [.define (plainSrc "B" ["Structure"] [("a", minF), ("s", strDflt)]),
                   .mixin "Mx",
                   .define (plainSrc "S" ["Mx", "B"] [("b", intF)]),
                   .define (plainSrc "T" ["S"] [("t", intF)])]

def clsOf (w : World) (n : String) : ClassDef := (w.find n).getD (mixinDef "?")

/-- non-vacuity of `sub_accepts_base_accepts`: a grandchild `T` (through a mixin and a middle
    class) inherits `B`'s fields unchanged; `T(a=3, b=2, t=1)` is accepted and so is `B(a=3)`, in both
    orders of `T`'s required parameters; `T(a=0, …)` is refused like `B(a=0)` -/
theorem ctor_example :
    inheritsUnchanged ctorWorld (clsOf ctorWorld "T") (clsOf ctorWorld "B") = true
    ∧ Bridge.wf (clsOf ctorWorld "B") = true
    ∧ (clsOf ctorWorld "T").sig.req = ["a", "b", "t"]
    ∧ isOkR (instantiateOrd exO (clsOf ctorWorld "T") ["t", "b", "a"] [("a", .int 3), ("b", .int 2), ("t", .int 1)]) = true
    ∧ (restrictKw (clsOf ctorWorld "B") [("a", PyVal.int 3), ("b", .int 2), ("t", .int 1)]).map (·.1) = ["a"]
    ∧ isOkR (instantiate exO (clsOf ctorWorld "B") [("a", .int 3)]) = true
    ∧ isOkR (instantiate exO (clsOf ctorWorld "T") [("a", .int 0), ("b", .int 2), ("t", .int 1)]) = false
    ∧ isOkR (instantiate exO (clsOf ctorWorld "B") [("a", .int 0)]) = false := by
  decide +kernel

/-- the `_ignore_none` exclusion is necessary: a subclass that switches it on accepts `a=None` for an
    optional inherited field, the base refuses it -/
def ignWorld : World :=
  runSteps exO W0 [.define { plainSrc "B" ["Structure"] [("a", intF)] with required := some [] },
                   .define { plainSrc "S" ["B"] [] with ignoreNone := some true }]

theorem ignore_none_exclusion_necessary :
    inheritsUnchanged ignWorld (clsOf ignWorld "S") (clsOf ignWorld "B") = true
    ∧ isOkR (instantiate exO (clsOf ignWorld "S") [("a", .none)]) = true
    ∧ isOkR (instantiate exO (clsOf ignWorld "B") (restrictKw (clsOf ignWorld "B") [("a", .none)])) = false := by
  decide +kernel

/-- fixed finding `required-not-superset:optional-in-earlier-base` at constructor level:
    `S(A1, A2)` refuses `b=1` alone like `A2` does; with `a` supplied both accept -/
theorem fixed_second_base_ctor :
    isOkR (instantiate exO (clsOf twoBaseWorld "S") [("b", .int 1)]) = false
    ∧ isOkR (instantiate exO (clsOf twoBaseWorld "S") [("a", .int 2), ("b", .int 1)]) = true
    ∧ isOkR (instantiate exO (clsOf twoBaseWorld "A2")
        (restrictKw (clsOf twoBaseWorld "A2") [("a", .int 2), ("b", .int 1)])) = true := by
  decide +kernel

def absWorld : World :=
  runSteps exO W0 [.define (plainSrc "Base" ["AbstractStructure"] [("i", intF)]),
                   .define (plainSrc "Concrete" ["Base"] [("a", intF)])]

theorem abstract_entries_example :
    (Entry.all.all fun e => isError (instantiateVia exO (clsOf absWorld "Base") ["i"] e [("i", .int 1)])) = true
    ∧ (Entry.all.all fun e => isError (instantiateVia exO (clsOf absWorld "AbstractStructure") [] e [])) = true
    ∧ (Entry.all.all fun e => isOkR (instantiateVia exO (clsOf absWorld "Concrete") ["i", "a"] e
          [("i", .int 1), ("a", .int 2)])) = true := by
  decide +kernel

end Typedpy.C14
