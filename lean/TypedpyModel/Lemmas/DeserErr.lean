/-
  C06: whatever the document, `deser` rejects only with TypeError, ValueError or their common subclass (`deser_err`,
  by induction over the declaration).  `ErrIn P r` (Lemmas/Basic.lean: every error of `r` lies in `P`) is closed under the
  combinators the readers are written with, so each shape function of Sem/Deser.lean gets one lemma that composes
  the facts about the readers of its parts.
-/
import TypedpyModel.Lemmas.Complete
import TypedpyModel.Lemmas.SerdeBasic
namespace Typedpy

theorem validate_err (O : Oracles) (f : FieldDecl) (v : PyVal) : ErrIn OkErr (validate O f v) :=
  (validate_spec O f v).errIn

theorem dSeq_err (mk : List PyVal → R PyVal) (g : List PyVal → R (List PyVal)) (v : PyVal)
    (hmk : ∀ ys, ErrIn OkErr (mk ys)) (hg : ∀ xs, ErrIn OkErr (g xs)) : ErrIn OkErr (dSeq mk g v) := by
  unfold dSeq
  cases docSeq v with
  | none => exact .error .valueErr
  | some xs => exact .bindE (hg xs) hmk

theorem mkSet_err (ys : List PyVal) : ErrIn OkErr (mkSet ys) := .ite (.error .typeErr) (.ok _)

theorem dEnumCls_err (O : Oracles) (cls : String) (names : List String) (v : PyVal) :
    ErrIn OkErr (dEnumCls cls names v) := by
  unfold dEnumCls
  split
  · exact .ite (.ok _) (.error .valueErr)
  · exact .dValidated (validate_err O (.enumCls cls names) _) _

theorem dMap_err (g : List (PyVal × PyVal) → R (List (PyVal × PyVal))) (v : PyVal)
    (hg : ∀ xs, ErrIn OkErr (g xs)) : ErrIn OkErr (dMap g v) := by
  unfold dMap
  split
  · exact .bindE (hg _) fun _ => .ite (.error .typeErr) (.ok _)
  · exact .error .typeErr

theorem vConstruct_err (c : ClassOpts) (names : List String) (kw : List (String × PyVal))
    (g : R (List (String × PyVal))) (hg : ErrIn OkErr g) : ErrIn OkErr (vConstruct c names kw g) :=
  .ite (.error .typeErr) (.bindE hg fun _ => .ok _)

theorem validateFields_err (O : Oracles) (c : ClassOpts) (defaults kw : List (String × PyVal)) :
    ∀ fields : List (String × FieldDecl), ErrIn OkErr (validateFields O c defaults kw fields)
  | [] => .ok _
  | (name, f) :: rest => by
    unfold validateFields
    split
    · exact validateFields_err O c defaults kw rest
    · exact .bindE (validate_err O f _) fun _ => .bindE (validateFields_err O c defaults kw rest) fun _ => .ok _

theorem dInline_err (v : PyVal) (drop : Bool) (k : List (String × PyVal) → R PyVal) :
    ErrIn OkErr (dInline v drop k) := by
  unfold dInline
  repeat' split
  all_goals first | exact .ok _ | exact .error .valueErr

theorem dClassRef_err (v : PyVal) (drop : Bool) (pre : List (String × PyVal) → R Unit)
    (k : List (String × PyVal) → R PyVal) (hp : ∀ kw, ErrIn OkErr (pre kw)) (hk : ∀ kw, ErrIn OkErr (k kw)) :
    ErrIn OkErr (dClassRef v drop pre k) := by
  unfold dClassRef
  split
  · exact .ok _
  · split
    · exact .ite (hk _) (.bindE (hp _) fun _ => .error .typeErr)
    · exact hk _
  · exact .error .typeErr

/-- a class read by reference (a nested class, or the top level of `deserialize`): the pre-pass over the fields,
    the fields again, then the constructor -/
theorem dClassRef_fields_err (O : Oracles) (opts : DeserOpts) (c : ClassOpts) (fields : List (String × FieldDecl))
    (defaults : List (String × PyVal)) (v : PyVal) (drop : Bool)
    (hdf : ∀ kw, ErrIn OkErr (deserFields O opts c kw fields false)) :
    ErrIn OkErr (dClassRef v drop (fun kw => bindE (deserFields O opts c kw fields false) fun _ => .ok ())
        (fun kw => bindE (bindE (deserFields O opts c kw fields false)
            (fun args => .ok (deserExtras opts c (fields.map (·.1)) kw ++ args))) fun args =>
          vConstruct c (fields.map (·.1)) args (validateFields O c defaults args fields))) :=
  dClassRef_err v drop _ _ (fun kw => .bindE (hdf kw) fun _ => .ok _) fun kw =>
    .bindE (.bindE (hdf kw) fun _ => .ok _) fun args =>
      vConstruct_err c _ args _ (validateFields_err O c defaults args fields)

theorem deserAny_err (O : Oracles) (opts : DeserOpts) : ∀ (fs : List FieldDecl) (v : PyVal),
    ErrIn OkErr (deserAny O opts fs v)
  | [], _ => .error .valueErr
  | f :: fs, v => by
    unfold deserAny
    split
    · exact .ok _
    · exact deserAny_err O opts fs v

theorem deserLast_err (O : Oracles) (opts : DeserOpts) :
    ∀ (fs : List FieldDecl) (v acc : PyVal) (k n : Nat), ErrIn OkErr (deserLast O opts fs v acc k n)
  | [], _, _, _, _ => .ite (.error .valueErr) (.ok _)
  | f :: fs, v, acc, k, n => by
    unfold deserLast
    split
    · exact deserLast_err O opts fs v _ k n
    · exact deserLast_err O opts fs v acc (k + 1) n

theorem deserAll_err (O : Oracles) (opts : DeserOpts) : ∀ (fs : List FieldDecl) (v acc : PyVal),
    ErrIn OkErr (deserAll O opts fs v acc)
  | [], _, _ => .ok _
  | f :: fs, v, _ => by
    unfold deserAll
    split
    · exact deserAll_err O opts fs v _
    · exact .error .valueErr

theorem deserNot_ok (O : Oracles) (opts : DeserOpts) : ∀ (fs : List FieldDecl) (v acc : PyVal) (e : ErrCls),
    deserNot O opts fs v acc ≠ .error e
  | [], v, acc, e => by simp [deserNot]
  | f :: fs, v, acc, e => by
    simp only [deserNot]
    split
    · exact deserNot_ok O opts fs v _ e
    · exact deserNot_ok O opts fs v acc e

theorem deserZip_err_of (O : Oracles) (opts : DeserOpts) : ∀ (fs : List FieldDecl),
    (∀ f ∈ fs, ∀ ign v, ErrIn OkErr (deser O opts ign f v)) → ∀ xs, ErrIn OkErr (deserZip O opts fs xs)
  | [], _, _ => .ok _
  | _ :: _, _, [] => .error .valueErr
  | f :: fs, ih, x :: xs => by
    unfold deserZip
    exact .bindE (ih f (List.mem_cons_self ..) false x) fun _ =>
      .bindE (deserZip_err_of O opts fs (fun g hg => ih g (List.mem_cons_of_mem _ hg)) xs) fun _ => .ok _

theorem deserFields_err_of (O : Oracles) (opts : DeserOpts) (c : ClassOpts) (doc : List (String × PyVal)) :
    ∀ (fields : List (String × FieldDecl)), (∀ nf ∈ fields, ∀ ign v, ErrIn OkErr (deser O opts ign nf.2 v)) →
      ∀ errs, ErrIn OkErr (deserFields O opts c doc fields errs)
  | [], _, _ => .ite (.error .both) (.ok _)
  | (name, f) :: rest, ih, errs => by
    have ihr := deserFields_err_of O opts c doc rest (fun nf hnf => ih nf (List.mem_cons_of_mem _ hnf)) errs
    unfold deserFields
    split
    · exact ihr
    · refine .ite ihr ?_
      split
      · exact .bindE ihr fun _ => .ok _
      · rename_i e he
        exact .error (ih (name, f) (List.mem_cons_self ..) c.ignoreNone _ e he)

theorem deser_err (O : Oracles) (opts : DeserOpts) (f : FieldDecl) : ∀ (ign : Bool) (v : PyVal),
    ErrIn OkErr (deser O opts ign f v) := by
  -- a scalar's pre-check is a field's own validator
  have scalar : ∀ (f' : FieldDecl) (ign : Bool) (v : PyVal),
      ErrIn OkErr (if (v.isNone && ign) = true then .ok v else dValidated (validate O f' v) v) :=
    fun f' _ v => .unless v (.dValidated (validate_err O f' v) v)
  have items : ∀ {g : FieldDecl}, (∀ ign v, ErrIn OkErr (deser O opts ign g v)) →
      ∀ xs, ErrIn OkErr (toValueErr (mapE (deser O opts false g) xs)) :=
    fun ih _ => .toValueErr (.mapE fun x _ => ih false x)
  have zipped : ∀ {fs : List FieldDecl}, (∀ g ∈ fs, ∀ ign v, ErrIn OkErr (deser O opts ign g v)) →
      ∀ xs, ErrIn OkErr (toValueErr (deserZip O opts fs xs)) :=
    fun ih xs => .toValueErr (deserZip_err_of O opts _ ih xs)
  induction f using FieldDecl.induction with
  | number o => intro ign v; rw [deser_number]; exact scalar (.number (noSign o)) ign v
  | integer o => intro ign v; rw [deser_integer]; exact scalar (.integer (noSign o)) ign v
  | float o => intro ign v; rw [deser_float]; exact scalar (.float (noSign o)) ign v
  | string lo hi pat => intro ign v; rw [deser_string]; exact scalar (.string lo hi pat) ign v
  | boolean => intro ign v; rw [deser_boolean]; exact scalar .boolean ign v
  | enumLit vals => intro ign v; rw [deser_enumLit]; exact scalar (.enumLit vals) ign v
  | enumCls cls names => intro ign v; rw [deser_enumCls]; exact .unless v (dEnumCls_err O cls names v)
  | seqAny k sz =>
    intro ign v; unfold deser
    exact .unless v (dSeq_err _ _ v (fun _ => .ok _) fun _ => .ok _)
  | seqOf k f sz ih =>
    intro ign v; rw [deser_seqOf]
    exact .unless v (dSeq_err _ _ v (fun _ => .ok _) (items ih))
  | seqPos k fs addl sz ih =>
    intro ign v; rw [deser_seqPos]
    exact .unless v (dSeq_err _ _ v (fun _ => .ok _) (zipped ih))
  | setAny imm sz =>
    intro ign v; unfold deser
    exact .unless v (dSeq_err _ _ v mkSet_err fun _ => .ok _)
  | setOf imm f sz ih =>
    intro ign v; rw [deser_setOf]
    exact .unless v (dSeq_err _ _ v mkSet_err (items ih))
  | tupleOf f uniq ih =>
    intro ign v; rw [deser_tupleOf]
    exact .unless v (dSeq_err _ _ v (fun _ => .ok _) (items ih))
  | tuplePos fs uniq ih =>
    intro ign v; rw [deser_tuplePos]
    exact .unless v (dSeq_err _ _ v (fun _ => .ok _) (zipped ih))
  | mapAny sz =>
    intro ign v; unfold deser
    exact .unless v (dMap_err _ v fun _ => .ok _)
  | mapOf kf vf sz ihk ihv =>
    intro ign v; rw [deser_mapOf]
    exact .unless v (dMap_err _ v fun _ =>
      .mapE fun kv _ => .bindE (ihv false kv.2) fun _ => .bindE (ihk false kv.1) fun _ => .ok _)
  | struct c fields defaults ih =>
    intro ign v; rw [deser_struct]
    refine .unless v (.ite (dInline_err v _ _) ?_)
    exact dClassRef_fields_err O opts c fields defaults v _ fun kw => deserFields_err_of O opts c kw fields ih false
  | anyOf fs _ => intro ign v; rw [deser_anyOf]; exact .unless v (deserAny_err O opts fs v)
  | oneOf fs _ => intro ign v; unfold deser; exact .unless v (deserLast_err O opts fs v v 0 fs.length)
  | allOf fs _ => intro ign v; unfold deser; exact .unless v (deserAll_err O opts fs v v)
  | notF fs _ => intro ign v; unfold deser; exact .unless v fun e h => absurd h (deserNot_ok O opts fs v v e)
  | noneF => intro ign v; rw [deser_noneF]; exact .unless v (.error .valueErr)
  | anything => intro ign v; exact .ok v

theorem deserZip_err (O : Oracles) (opts : DeserOpts) : ∀ (fs : List FieldDecl) (xs : List PyVal) (e : ErrCls),
    deserZip O opts fs xs = .error e → OkErr e :=
  fun fs => deserZip_err_of O opts fs fun f _ => deser_err O opts f

theorem deserFields_err (O : Oracles) (opts : DeserOpts) (c : ClassOpts) (doc : List (String × PyVal))
    (fields : List (String × FieldDecl)) (errs : Bool) : ErrIn OkErr (deserFields O opts c doc fields errs) :=
  deserFields_err_of O opts c doc fields (fun nf _ => deser_err O opts nf.2) errs

end Typedpy
