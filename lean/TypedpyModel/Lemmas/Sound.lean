/-
  Lemmas/Sound.lean — the documented normal form of an admitted input conforms to the declaration: `norm_conforms`,
  the fact behind C01, one mutual structural recursion with the statements for the list companions.  A collection case
  is one of `cSeq_of_aSeq`, `cSet_of_aSet`, `cTuple_of_aTuple`, `cMap_of_aMap` (each opens the `a…` decision with its
  `…_inv`), the struct case is `normKw_wellFormed`.
  Building a set or a dict from a list: `dedup` and `dictOfPairs` leave a list without `==`-repetitions as it is,
  produce such a list, and hence are idempotent.
-/
import TypedpyModel.Lemmas.Shapes
import TypedpyModel.Spec.WfDecl
namespace Typedpy
open PyVal (pyEq pyMem pyNodup)

theorem aString_inv {O : Oracles} {lo hi : Option Nat} {pat : Option String} {v : PyVal}
    (h : aString O lo hi pat v = true) :
    ∃ s, v = .str s ∧ geLen lo s.length = true ∧ leLen hi s.length = true ∧ patOk O pat s = true := by
  unfold aString at h
  split at h
  · simp only [Bool.and_eq_true_iff] at h
    exact ⟨_, rfl, h.1.1, h.1.2, h.2⟩
  · cases h

theorem aSeq_inv {k : SeqKind} {sz : SizeOpts} {pre a : List PyVal → Bool} {n : List PyVal → List PyVal}
    {v : PyVal} (h : aSeq k sz pre a n v = true) :
    ∃ xs, seqElems k v = some xs ∧ uniqOk sz.uniq xs = true ∧ sizeOk sz xs.length = true ∧ pre xs = true
      ∧ a xs = true ∧ uniqOk sz.uniq (n xs) = true := by
  unfold aSeq at h
  cases hs : seqElems k v with
  | none => simp only [hs, Bool.false_eq_true] at h
  | some xs =>
    simp only [hs, Bool.and_eq_true_iff] at h
    exact ⟨xs, rfl, h.1.1.1.1, h.1.1.1.2, h.1.1.2, h.1.2, h.2⟩

theorem nSeq_of_seqElems {k : SeqKind} {v : PyVal} {xs : List PyVal} (n : List PyVal → List PyVal)
    (h : seqElems k v = some xs) : nSeq k n v = mkSeq k (n xs) := by
  simp only [nSeq, h]

theorem aSet_inv {sz : SizeOpts} {a : List PyVal → Bool} {n : List PyVal → List PyVal} {v : PyVal}
    (h : aSet sz a n v = true) :
    ∃ fr xs, v = .set fr xs ∧ sizeOk sz xs.length = true ∧ a xs = true
      ∧ sizeOk sz (dedup (n xs)).length = true := by
  cases v with
  | set fr xs =>
    simp only [aSet, Bool.and_eq_true_iff] at h
    exact ⟨fr, xs, rfl, h.1.1, h.1.2, h.2⟩
  | _ => simp only [aSet, Bool.false_eq_true] at h

theorem aTuple_inv {uniq : Bool} {pre a : List PyVal → Bool} {n : List PyVal → List PyVal} {v : PyVal}
    (h : aTuple uniq pre a n v = true) :
    ∃ xs, v = .tuple xs ∧ uniqOk uniq xs = true ∧ pre xs = true ∧ a xs = true
      ∧ uniqOk uniq (n xs) = true := by
  cases v with
  | tuple xs =>
    simp only [aTuple, Bool.and_eq_true_iff] at h
    exact ⟨xs, rfl, h.1.1.1, h.1.1.2, h.1.2, h.2⟩
  | _ => simp only [aTuple, Bool.false_eq_true] at h

theorem aMap_inv {sz : SizeOpts} {a : List (PyVal × PyVal) → Bool}
    {n : List (PyVal × PyVal) → List (PyVal × PyVal)} {v : PyVal} (h : aMap sz a n v = true) :
    ∃ kvs, v = .dict kvs ∧ sizeOk sz kvs.length = true ∧ a kvs = true
      ∧ sizeOk sz (dictOfPairs (n kvs)).length = true := by
  cases v with
  | dict kvs =>
    simp only [aMap, Bool.and_eq_true_iff] at h
    exact ⟨kvs, rfl, h.1.1, h.1.2, h.2⟩
  | _ => simp only [aMap, Bool.false_eq_true] at h

theorem vSeq_eq_ok {k : SeqKind} {sz : SizeOpts} {pre : List PyVal → Bool}
    {g : List PyVal → R (List PyVal)} {v u : PyVal} (h : vSeq k sz pre g v = .ok u) :
    ∃ xs ys, seqElems k v = some xs ∧ g xs = .ok ys ∧ u = mkSeq k ys :=
  let ⟨xs, ys, hv, _, _, _, hg, _, hu⟩ := vSeq_eq_ok_iff.1 h
  ⟨xs, ys, seqElems_eq_some.2 hv, hg, hu⟩

theorem vSet_eq_ok {imm : Bool} {sz : SizeOpts} {g : List PyVal → R (List PyVal)} {v u : PyVal}
    (h : vSet imm sz g v = .ok u) :
    ∃ fr xs ys, v = .set fr xs ∧ g xs = .ok ys ∧ u = .set (fr || imm) (dedup ys) := by
  unfold vSet at h
  cases v <;> try cases h
  rename_i fr xs
  rcases bindE_eq_ok (ok_of_ite_error h) with ⟨ys, hg, h2⟩
  cases ok_of_ite_error h2
  exact ⟨fr, xs, ys, rfl, hg, rfl⟩

theorem cSeq_of_aSeq {k : SeqKind} {sz : SizeOpts} {pre a c : List PyVal → Bool}
    {n : List PyVal → List PyVal} {v : PyVal}
    (hpre : ∀ xs ys : List PyVal, xs.length = ys.length → pre xs = pre ys)
    (hlen : ∀ xs, a xs = true → (n xs).length = xs.length)
    (hc : ∀ xs, a xs = true → c (n xs) = true)
    (h : aSeq k sz pre a n v = true) : cSeq k sz pre c (nSeq k n v) = true := by
  obtain ⟨xs, hs, _, hsz, hp, ha, hu⟩ := aSeq_inv h
  simp only [nSeq_of_seqElems n hs, cSeq, seqElems_mkSeq, Bool.and_eq_true_iff]
  refine ⟨⟨⟨hu, ?_⟩, ?_⟩, hc xs ha⟩
  · rw [hlen xs ha]; exact hsz
  · rw [hpre (n xs) xs (hlen xs ha)]; exact hp

theorem c01_mem_dedup : ∀ (xs : List PyVal) (y : PyVal), y ∈ dedup xs → y ∈ xs
  | [], _, h => by simp [dedup] at h
  | x :: xs, y, h => by
    simp only [dedup, List.mem_cons, List.mem_filter] at h ⊢
    rcases h with h | h
    · exact Or.inl h
    · exact Or.inr (c01_mem_dedup xs y h.1)

theorem dedup_all (P : PyVal → Bool) (xs : List PyVal) (h : xs.all P = true) : (dedup xs).all P = true :=
  List.all_eq_true.2 fun y hy => List.all_eq_true.1 h y (c01_mem_dedup xs y hy)

theorem pyNodup_dedup : ∀ xs : List PyVal, pyNodup (dedup xs) = true
  | [] => rfl
  | x :: xs => (pyNodup_iff _).2 (List.pairwise_cons.2
      ⟨fun y hy => by simpa using (List.mem_filter.1 hy).2, ((pyNodup_iff _).1 (pyNodup_dedup xs)).filter _⟩)

theorem dedup_of_nodup : ∀ l : List PyVal, pyNodup l = true → dedup l = l
  | [], _ => rfl
  | x :: l, h => by
    obtain ⟨hx, hl⟩ := List.pairwise_cons.1 ((pyNodup_iff _).1 h)
    rw [dedup, dedup_of_nodup l ((pyNodup_iff _).2 hl), List.filter_eq_self.2 fun y hy => by rw [hx y hy]; rfl]

theorem dedup_idem (xs : List PyVal) : dedup (dedup xs) = dedup xs :=
  dedup_of_nodup _ (pyNodup_dedup xs)

theorem cSet_of_aSet {imm : Bool} {sz : SizeOpts} {a c : List PyVal → Bool}
    {n : List PyVal → List PyVal} {v : PyVal}
    (hc : ∀ xs, a xs = true → c (dedup (n xs)) = true)
    (h : aSet sz a n v = true) : cSet imm sz c (nSet imm n v) = true := by
  obtain ⟨fr, xs, rfl, _, ha, hsz⟩ := aSet_inv h
  simp only [nSet, cSet, Bool.and_eq_true_iff]
  refine ⟨⟨?_, hsz⟩, hc xs ha⟩
  cases imm <;> cases fr <;> rfl

theorem cTuple_of_aTuple {uniq : Bool} {pre a c : List PyVal → Bool}
    {n : List PyVal → List PyVal} {v : PyVal}
    (hpre : ∀ xs ys : List PyVal, xs.length = ys.length → pre xs = pre ys)
    (hlen : ∀ xs, a xs = true → (n xs).length = xs.length)
    (hc : ∀ xs, a xs = true → c (n xs) = true)
    (h : aTuple uniq pre a n v = true) : cTuple uniq pre c (nTuple n v) = true := by
  obtain ⟨xs, rfl, _, hp, ha, hu⟩ := aTuple_inv h
  simp only [nTuple, cTuple, Bool.and_eq_true_iff]
  refine ⟨⟨hu, ?_⟩, hc xs ha⟩
  rw [hpre (n xs) xs (hlen xs ha)]; exact hp

theorem c01_dictSet_forall (QK QV : PyVal → Prop) (k v : PyVal) (hk : QK k) (hv : QV v) :
    ∀ acc : List (PyVal × PyVal), (∀ e ∈ acc, QK e.1 ∧ QV e.2) → ∀ e ∈ dictSet k v acc, QK e.1 ∧ QV e.2
  | [], _, e, he => by cases List.mem_singleton.1 he; exact ⟨hk, hv⟩
  | (k0, v0) :: rest, h, e, he => by
    rw [dictSet] at he
    split at he <;> rcases List.mem_cons.1 he with rfl | he
    · exact ⟨(h _ List.mem_cons_self).1, hv⟩
    · exact h e (List.mem_cons_of_mem _ he)
    · exact h _ List.mem_cons_self
    · exact c01_dictSet_forall QK QV k v hk hv rest (fun e' he' => h e' (List.mem_cons_of_mem _ he')) e he

theorem dictOfPairs_induction {P : List (PyVal × PyVal) → Prop} (l : List (PyVal × PyVal)) (h0 : P [])
    (hs : ∀ kv ∈ l, ∀ acc, P acc → P (dictSet kv.1 kv.2 acc)) : P (dictOfPairs l) := by
  unfold dictOfPairs
  generalize ([] : List (PyVal × PyVal)) = acc at h0
  induction l generalizing acc with
  | nil => exact h0
  | cons kv l ih =>
    exact ih (fun e he => hs e (List.mem_cons_of_mem kv he)) _ (hs kv List.mem_cons_self acc h0)

theorem c01_dictOfPairs_forall (QK QV : PyVal → Prop) (l : List (PyVal × PyVal))
    (h : ∀ e ∈ l, QK e.1 ∧ QV e.2) : ∀ e ∈ dictOfPairs l, QK e.1 ∧ QV e.2 :=
  dictOfPairs_induction l (fun _ h => nomatch h) fun kv hkv acc =>
    c01_dictSet_forall QK QV kv.1 kv.2 (h kv hkv).1 (h kv hkv).2 acc

theorem dictOfPairs_all (P : PyVal × PyVal → Bool) (PK PV : PyVal → Bool)
    (hP : ∀ kv, P kv = (PK kv.1 && PV kv.2)) (kvs : List (PyVal × PyVal))
    (h : kvs.all P = true) : (dictOfPairs kvs).all P = true := by
  simp only [List.all_eq_true, hP, Bool.and_eq_true_iff] at h ⊢
  exact c01_dictOfPairs_forall (PK · = true) (PV · = true) kvs h

theorem dictSet_fresh (k v : PyVal) : ∀ acc : List (PyVal × PyVal),
    (∀ a ∈ acc, pyEq k a.1 = false) → dictSet k v acc = acc ++ [(k, v)]
  | [], _ => rfl
  | a :: rest, h => by
    simp only [dictSet, h a (by simp), Bool.false_eq_true, if_false, List.cons_append,
      dictSet_fresh k v rest (fun b hb => h b (by simp [hb]))]

theorem foldl_dictSet_fresh : ∀ (kvs acc : List (PyVal × PyVal)),
    kvs.Pairwise (fun a b => pyEq b.1 a.1 = false) → (∀ kv ∈ kvs, ∀ a ∈ acc, pyEq kv.1 a.1 = false) →
    kvs.foldl (fun a kv => dictSet kv.1 kv.2 a) acc = acc ++ kvs
  | [], acc, _, _ => by simp
  | kv :: rest, acc, hp, hf => by
    obtain ⟨h1, h2⟩ := List.pairwise_cons.mp hp
    rw [List.foldl_cons, dictSet_fresh kv.1 kv.2 acc (hf kv (by simp)),
      foldl_dictSet_fresh rest _ h2 (fun b hb a ha => by
        rcases List.mem_append.mp ha with ha | ha
        · exact hf b (by simp [hb]) a ha
        · rw [List.mem_singleton.mp ha]; exact h1 b hb)]
    simp

theorem dictOfPairs_fresh (kvs : List (PyVal × PyVal))
    (h : kvs.Pairwise (fun a b => pyEq b.1 a.1 = false)) : dictOfPairs kvs = kvs := by
  simpa [dictOfPairs] using foldl_dictSet_fresh kvs [] h (fun _ _ _ ha => by cases ha)

theorem dictSet_pairwise (k v : PyVal) : ∀ acc : List (PyVal × PyVal),
    acc.Pairwise (fun a b => pyEq b.1 a.1 = false) → (dictSet k v acc).Pairwise (fun a b => pyEq b.1 a.1 = false)
  | [], _ => List.pairwise_singleton _ _
  | (k0, v0) :: rest, h => by
    obtain ⟨h1, h2⟩ := List.pairwise_cons.mp h
    simp only [dictSet]
    split
    · exact List.pairwise_cons.mpr ⟨h1, h2⟩
    · rename_i hne
      -- the keys behind `k0` are those of `rest` and `k`, none of them `==` to `k0`
      exact List.pairwise_cons.mpr ⟨fun e' he' =>
        (c01_dictSet_forall (pyEq · k0 = false) (fun _ => True) k v (by simpa using hne) trivial rest
          (fun e he => ⟨h1 e he, trivial⟩) e' he').1, dictSet_pairwise k v rest h2⟩

theorem dictOfPairs_pairwise (l : List (PyVal × PyVal)) :
    (dictOfPairs l).Pairwise (fun a b => pyEq b.1 a.1 = false) :=
  dictOfPairs_induction l List.Pairwise.nil fun kv _ => dictSet_pairwise kv.1 kv.2

theorem dictOfPairs_idem (l : List (PyVal × PyVal)) : dictOfPairs (dictOfPairs l) = dictOfPairs l :=
  dictOfPairs_fresh _ (dictOfPairs_pairwise l)

theorem kwOfDict_pairs : ∀ (args : List (String × PyVal)),
    kwOfDict (args.map fun a => (PyVal.str a.1, a.2)) = some args
  | [] => rfl
  | (k, v) :: rest => by
    have := kwOfDict_pairs rest
    simp only [List.map_cons, kwOfDict, this, Option.map_some]

theorem cMap_of_aMap {sz : SizeOpts} {a c : List (PyVal × PyVal) → Bool}
    {n : List (PyVal × PyVal) → List (PyVal × PyVal)} {v : PyVal}
    (hc : ∀ kvs, a kvs = true → c (dictOfPairs (n kvs)) = true)
    (h : aMap sz a n v = true) : cMap sz c (nMap n v) = true := by
  obtain ⟨kvs, rfl, _, ha, hsz⟩ := aMap_inv h
  simp only [nMap, cMap, Bool.and_eq_true_iff]
  exact ⟨hsz, hc kvs ha⟩

theorem all_map_of_all {α} {P Q : α → Bool} {g : α → α} (h : ∀ x, P x = true → Q (g x) = true)
    (xs : List α) (hx : xs.all P = true) : (xs.map g).all Q = true := by
  rw [List.all_map]
  exact List.all_eq_true.2 fun x hm => h x (List.all_eq_true.1 hx x hm)

theorem lookup_extras_none (c : ClassOpts) (names : List String) (kw : List (String × PyVal))
    (k : String) (hk : names.contains k = true) : lookup k (extrasOf c names kw) = none := by
  refine lookup_none_of_not_mem fun hc => ?_
  obtain ⟨a, ha, rfl⟩ := List.mem_map.1 hc
  have := (List.mem_filter.1 ha).2
  rw [hk] at this
  cases this

/-- under the name's FIRST declaration: no assumption that names are declared once -/
theorem lookup_normFields' (O : Oracles) (c : ClassOpts) (defaults kw : List (String × PyVal)) (name : String) :
    ∀ fields : List (String × FieldDecl), lookup name (normFields O c defaults kw fields)
      = (lookup name fields).bind fun f => (argFor c defaults kw name).map (norm O f)
  | [] => rfl
  | (n0, f0) :: rest => by
    have ih := lookup_normFields' O c defaults kw name rest
    rw [normFields_cons, lookup_cons]
    by_cases hn : name = n0
    · subst hn
      rw [if_pos (beq_self_eq_true _)]
      cases ha : argFor c defaults kw name with
      | none => rw [ih, ha]; cases lookup name rest <;> rfl
      | some v => exact lookup_cons_self _ _ _
    · rw [if_neg (by simpa using hn)]
      cases argFor c defaults kw n0 with
      | none => exact ih
      | some v => rw [lookup_cons_ne hn]; exact ih

theorem normFields_names (O : Oracles) (c : ClassOpts) (defaults kw : List (String × PyVal))
    (fields : List (String × FieldDecl)) (k : String)
    (h : ((normFields O c defaults kw fields).map (·.1)).contains k = true) :
    (fields.map (·.1)).contains k = true := by
  rw [← lookup_isSome_map] at h ⊢
  rw [lookup_normFields'] at h
  cases hl : lookup k fields with
  | none => rw [hl] at h; cases h
  | some f => rfl

theorem argFor_required (c : ClassOpts) (defaults kw : List (String × PyVal)) (r : String)
    (v : PyVal) (hr : c.required.contains r = true) (hk : lookup r kw = some v) :
    argFor c defaults kw r = some v := by
  unfold argFor
  rw [hk]
  simp only [hr, Bool.not_true, Bool.and_false, Bool.false_eq_true, if_false]

theorem c01_argFor_mem {c : ClassOpts} {defaults kw : List (String × PyVal)} {name : String} {v : PyVal}
    (h : argFor c defaults kw name = some v) : (name, v) ∈ kw ∨ (name, v) ∈ defaults := by
  unfold argFor at h
  split at h
  · next hl =>
    split at h <;> cases h
    exact Or.inl (lookup_mem hl)
  · split at h
    · next hdl =>
      split at h <;> cases h
      exact Or.inr (lookup_mem hdl)
    · cases h

theorem admitsFields_mem (O : Oracles) (c : ClassOpts) (defaults kw : List (String × PyVal)) :
    ∀ fields, admitsFields O c defaults kw fields = true →
      ∀ name f v, (name, f) ∈ fields → argFor c defaults kw name = some v → admits O f v = true
  | [], _, _, _, _, hm, _ => nomatch hm
  | (n0, f0) :: rest, h, name, f, v, hm, ha => by
    rw [admitsFields_cons, Bool.and_eq_true_iff] at h
    rcases List.mem_cons.1 hm with heq | hm
    · cases heq; rw [ha] at h; exact h.1
    · exact admitsFields_mem O c defaults kw rest h.2 name f v hm ha

/-- `ih` is what `norm_conforms` has of the fields when it calls this in its struct case (`norm_conforms_fields`);
    afterwards it is `norm_conforms` itself (`construct_sound`, Props/C01.lean) -/
theorem normKw_wellFormed (O : Oracles) (c : ClassOpts) (fields : List (String × FieldDecl))
    (defaults kw : List (String × PyVal)) (hw : wfDecl (.struct c fields defaults) = true)
    (ha : admitsKw O (.struct c fields defaults) kw = true)
    (ih : ∀ nf ∈ fields, ∀ v, wfDecl nf.2 = true → admits O nf.2 v = true →
      conforms O nf.2 (norm O nf.2 v) = true) :
    wellFormed O (.struct c fields defaults) (normKw O (.struct c fields defaults) kw) = true := by
  obtain ⟨hw, hwf⟩ := Bool.and_eq_true_iff.1 hw
  obtain ⟨hnd, hreq⟩ := Bool.and_eq_true_iff.1 hw
  obtain ⟨ha, hadm⟩ := Bool.and_eq_true_iff.1 ha
  obtain ⟨hpresent, hdeclared⟩ := Bool.and_eq_true_iff.1 ha
  have hlook : ∀ name f, (name, f) ∈ fields →
      lookup name (extrasOf c (fields.map (·.1)) kw ++ normFields O c defaults kw fields)
        = (argFor c defaults kw name).map (norm O f) := by
    intro name f hm
    rw [lookup_append, lookup_extras_none c _ kw name (mem_names_of_mem name f fields hm),
      lookup_normFields', lookup_of_mem ((strNodup_iff _).1 hnd) hm]
    rfl
  simp only [wellFormed_struct, normKw, cInline, beq_self_eq_true, Bool.true_and, wfAttrs, Bool.and_eq_true_iff]
  refine ⟨⟨?_, ?_⟩, ?_⟩
  · -- required present: a required name is declared, its argument is there and is not dropped
    refine List.all_eq_true.2 fun r hr => ?_
    obtain ⟨⟨name, f⟩, hm, rfl⟩ := List.mem_map.1 (List.contains_iff_mem.1 (List.all_eq_true.1 hreq r hr))
    obtain ⟨v, hl⟩ := Option.isSome_iff_exists.1 (List.all_eq_true.1 hpresent name hr)
    rw [hlook name f hm, argFor_required c defaults kw name v (List.contains_iff_mem.2 hr) hl]
    rfl
  · refine (fieldsConform_iff O _ fields).2 fun name f hm v hv => ?_
    rw [hlook name f hm] at hv
    obtain ⟨w, hav, rfl⟩ := Option.map_eq_some_iff.1 hv
    exact ih (name, f) hm w ((wfFields_iff fields).1 hwf (name, f) hm)
      (admitsFields_mem O c defaults kw fields hadm name f w hm hav)
  · -- no undeclared attribute unless allowed: an extra is an argument, the rest is named by a declared field
    cases hadd : c.addl
    · rw [hadd, Bool.false_or] at hdeclared
      rw [Bool.false_or, List.all_append, Bool.and_eq_true_iff]
      exact ⟨List.all_eq_true.2 fun a ha => List.all_eq_true.1 hdeclared a (List.mem_filter.1 ha).1,
        List.all_eq_true.2 fun a ha => normFields_names O c defaults kw fields a.1
          (List.contains_iff_mem.2 (List.mem_map_of_mem ha))⟩
    · rfl

theorem normZip_length (O : Oracles) : ∀ (fs : List FieldDecl) (xs : List PyVal),
    (normZip O fs xs).length = xs.length
  | [], xs => by simp [normZip]
  | _ :: _, [] => by simp [normZip]
  | f :: fs, x :: xs => by simp [normZip, normZip_length O fs xs]

theorem cFloat_nFloat (o v) (h : aFloat o v = true) : cFloat o (nFloat v) = true := by
  unfold aFloat at h
  split at h
  · exact h
  · exact h
  · cases h

theorem cBoolean_nBoolean (v) (h : aBoolean v = true) : cBoolean (nBoolean v) = true := by
  unfold aBoolean at h
  split at h
  · rfl
  · next s =>
    simp only [nBoolean]
    cases h1 : s == "True" <;> cases h2 : s == "False" <;> first | rfl | (rw [h1, h2] at h; cases h)
  · cases h

theorem cEnumCls_nEnumCls (cls names v) (h : aEnumCls cls names v = true) :
    cEnumCls cls names (nEnumCls cls v) = true := by
  unfold aEnumCls at h
  split at h
  · simp only [nEnumCls, cEnumCls, h, beq_self_eq_true, Bool.and_self]
  · exact h
  · cases h

theorem cFloat_inv {o : NumOpts} {w : PyVal} (h : cFloat o w = true) : ∃ q, w = .float q ∧ numOk o q = true := by
  unfold cFloat at h
  split at h
  · exact ⟨_, rfl, h⟩
  · cases h

theorem cBoolean_inv {w : PyVal} (h : cBoolean w = true) : ∃ b, w = .bool b := by
  unfold cBoolean at h
  split at h
  · exact ⟨_, rfl⟩
  · cases h

theorem cEnumCls_inv {cls : String} {names : List String} {w : PyVal} (h : cEnumCls cls names w = true) :
    ∃ n, w = .enumv cls n ∧ names.contains n = true := by
  unfold cEnumCls at h
  split at h
  · rw [Bool.and_eq_true] at h
    exact ⟨_, by rw [eq_of_beq h.1], h.2⟩
  · cases h

theorem cInline_of_aInline (c : ClassOpts) (a k : List (String × PyVal) → Bool)
    (n : List (String × PyVal) → PyVal) (v : PyVal)
    (hk : ∀ kw, a kw = true → cInline c (n kw) k = true) (h : aInline v a = true) :
    cInline c (nInline v n) k = true := by
  unfold aInline at h
  unfold nInline
  cases v with
  | dict kvs =>
    cases hkw : kwOfDict kvs with
    | none => simp only [hkw, Bool.false_eq_true] at h
    | some kw => simp only [hkw] at h ⊢; exact hk kw h
  | inst _ attrs => exact hk attrs h
  | _ => simp only [Bool.false_eq_true] at h

mutual
theorem norm_conforms (O : Oracles) : ∀ (f : FieldDecl) (v : PyVal),
    wfDecl f = true → admits O f v = true → conforms O f (norm O f v) = true := by
  intro f
  cases f with
  | float o => exact fun v _ h => cFloat_nFloat o v h
  | boolean => exact fun v _ h => cBoolean_nBoolean v h
  | enumCls cls names => exact fun v _ h => cEnumCls_nEnumCls cls names v h
  | seqAny k sz =>
    exact fun v _ h => cSeq_of_aSeq (fun _ _ _ => rfl) (fun _ _ => rfl) (fun _ _ => rfl) h
  | seqOf k f sz =>
    exact fun v hw h => cSeq_of_aSeq (fun _ _ _ => rfl) (fun xs _ => List.length_map _)
      (all_map_of_all fun x => norm_conforms O f x hw) h
  | seqPos k fs addl sz =>
    exact fun v hw h => cSeq_of_aSeq (fun xs ys he => by simp only [he])
      (fun xs _ => normZip_length O fs xs) (normZip_conforms O fs · hw) h
  | setAny imm sz => exact fun v _ h => cSet_of_aSet (fun _ _ => rfl) h
  | setOf imm f sz =>
    exact fun v hw h => cSet_of_aSet
      (fun xs hx => dedup_all _ _ (all_map_of_all (fun x => norm_conforms O f x hw) xs hx)) h
  | tupleOf f uniq =>
    exact fun v hw h => cTuple_of_aTuple (fun _ _ _ => rfl) (fun xs _ => List.length_map _)
      (all_map_of_all fun x => norm_conforms O f x hw) h
  | tuplePos fs uniq =>
    exact fun v hw h => cTuple_of_aTuple (fun xs ys he => by simp only [he])
      (fun xs _ => normZip_length O fs xs) (normZip_conforms O fs · hw) h
  | mapAny sz => exact fun v _ h => cMap_of_aMap (fun _ _ => rfl) h
  | mapOf kf vf sz =>
    intro v hw h
    -- `wfDecl (.mapOf kf vf sz)` unfolds to the conjunction (`rw [wfDecl]` has Lean prove all its equations first)
    have hw := Bool.and_eq_true_iff.1 hw
    refine cMap_of_aMap (fun kvs hx => ?_) h
    refine dictOfPairs_all _ (conforms O kf) (conforms O vf) (fun _ => rfl) _ ?_
    refine all_map_of_all (P := fun kv => admits O kf kv.1 && admits O vf kv.2) (fun kv hkv => ?_) kvs hx
    rw [Bool.and_eq_true_iff] at hkv ⊢
    exact ⟨norm_conforms O kf kv.1 hw.1 hkv.1, norm_conforms O vf kv.2 hw.2 hkv.2⟩
  | struct c fields defaults =>
    intro v hw h
    rw [admits_struct] at h
    rw [norm_struct, conforms_struct]
    cases hin : c.inline
    · simp only [hin, Bool.false_eq_true, if_false] at h ⊢; exact h
    · simp only [hin, if_true] at h ⊢
      exact cInline_of_aInline c _ _ _ v
        (fun kw hk => normKw_wellFormed O c fields defaults kw hw hk (norm_conforms_fields O fields)) h
  | anyOf fs => exact fun v hw h => normAny_conforms O fs v hw h
  | anything => exact fun _ _ _ => rfl
  -- the remaining kinds store the value as it was given, and their `conforms` is their `admits` by definition
  | _ => exact fun v _ h => h
termination_by structural f => f

theorem norm_conforms_fields (O : Oracles) : ∀ (fields : List (String × FieldDecl)), ∀ nf ∈ fields, ∀ v,
    wfDecl nf.2 = true → admits O nf.2 v = true → conforms O nf.2 (norm O nf.2 v) = true
  | (_, f) :: rest, nf, hm =>
    (List.mem_cons.1 hm).elim (fun e => e ▸ norm_conforms O f) (norm_conforms_fields O rest nf)
termination_by structural fields => fields

theorem normZip_conforms (O : Oracles) : ∀ (fs : List FieldDecl) (xs : List PyVal),
    wfDecls fs = true → admitsZip O fs xs = true → conformsZip O fs (normZip O fs xs) = true
  | [], xs, _, _ => rfl
  | _ :: _, [], _, _ => rfl
  | f :: fs, x :: xs, hw, h => by
    have hw := Bool.and_eq_true_iff.1 hw
    rw [admitsZip_cons_cons, Bool.and_eq_true_iff] at h
    rw [normZip_cons_cons, conformsZip_cons_cons, Bool.and_eq_true_iff]
    exact ⟨norm_conforms O f x hw.1 h.1, normZip_conforms O fs xs hw.2 h.2⟩
termination_by structural fs => fs

theorem normAny_conforms (O : Oracles) : ∀ (fs : List FieldDecl) (v : PyVal),
    wfDecls fs = true → admitsAny O fs v = true → conformsAny O fs (normAny O fs v) = true
  | [], v, _, h => nomatch h
  | f :: fs, v, hw, h => by
    have hw := Bool.and_eq_true_iff.1 hw
    rw [normAny_cons, conformsAny_cons, Bool.or_eq_true]
    rw [admitsAny_cons] at h
    cases ha : admits O f v
    · rw [ha, Bool.false_or] at h
      exact Or.inr (normAny_conforms O fs v hw.2 h)
    · exact Or.inl (norm_conforms O f v hw.1 ha)
termination_by structural fs => fs
end

end Typedpy
