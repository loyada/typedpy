/-
  The printed form `str(x)` (`hashKey`).  `sorted(__dict__.items())` depends only on which entries there are, not on
  their insertion order (`sortKeys_ext`: a key-sorted list without repeated keys is determined by its members);
  values spelled alike (`sameSpell`: the same Python types and the same iteration orders at every position) print
  alike (`sameSpell_toStr`), hence so do instances with the same attributes spelled alike (`hashKey_of_sameSpell`).
-/
import TypedpyModel.Lemmas.EqLemmas
import TypedpyModel.Sem.EqHash
namespace Typedpy

theorem insertKey_perm (kv : String × String) (l : List (String × String)) :
    (insertKey kv l).Perm (kv :: l) := by
  induction l with
  | nil => exact List.Perm.refl _
  | cons h t ih =>
    unfold insertKey
    split
    · exact List.Perm.refl _
    · exact (ih.cons h).trans (List.Perm.swap kv h t)

theorem mem_insertKey (kv : String × String) (l : List (String × String)) (x : String × String) :
    x ∈ insertKey kv l ↔ x = kv ∨ x ∈ l :=
  (insertKey_perm kv l).mem_iff.trans List.mem_cons

theorem sortKeys_perm (l : List (String × String)) : (sortKeys l).Perm l := by
  induction l with
  | nil => exact List.Perm.refl _
  | cons h t ih => exact (insertKey_perm h (sortKeys t)).trans (ih.cons h)

def KeySorted (l : List (String × String)) : Prop := l.Pairwise (fun p q => p.1 ≤ q.1)

theorem insertKey_sorted (kv : String × String) (l : List (String × String)) (hs : KeySorted l) :
    KeySorted (insertKey kv l) := by
  induction l with
  | nil => exact List.pairwise_singleton _ kv
  | cons h t ih =>
    have ⟨hh, ht⟩ := List.pairwise_cons.1 hs
    unfold insertKey
    split
    next hle =>
      exact List.pairwise_cons.2
        ⟨List.forall_mem_cons.2 ⟨hle, fun x hx => String.le_trans hle (hh x hx)⟩, hs⟩
    next hnle =>
      have hle : h.1 ≤ kv.1 := (String.le_total kv.1 h.1).resolve_left hnle
      refine List.pairwise_cons.2 ⟨fun x hx => ?_, ih ht⟩
      rcases (mem_insertKey kv t x).1 hx with rfl | hx
      · exact hle
      · exact hh x hx

theorem sortKeys_sorted (l : List (String × String)) : KeySorted (sortKeys l) := by
  induction l with
  | nil => exact List.Pairwise.nil
  | cons h t ih => exact insertKey_sorted h _ ih

theorem nodup_of_keysDistinct (l : List (String × String)) (hd : keysDistinct (l.map (·.1)) = true) :
    l.Nodup :=
  (keys_pairwise_ne hd).imp (fun h he => h (congrArg _ he))

theorem sortKeys_strict (l : List (String × String)) (hd : keysDistinct (l.map (·.1)) = true) :
    (sortKeys l).Pairwise (fun p q => p.1 ≤ q.1 ∧ p.1 ≠ q.1) :=
  (sortKeys_sorted l).and ((keys_pairwise_ne hd).perm (sortKeys_perm l).symm Ne.symm)

/-- the printed form does not depend on the insertion order of `__dict__` -/
theorem sortKeys_ext (l1 l2 : List (String × String))
    (h1 : keysDistinct (l1.map (·.1)) = true) (h2 : keysDistinct (l2.map (·.1)) = true)
    (hm : ∀ p, p ∈ l1 ↔ p ∈ l2) : sortKeys l1 = sortKeys l2 := by
  have hperm : l1.Perm l2 :=
    (List.perm_ext_iff_of_nodup (nodup_of_keysDistinct l1 h1) (nodup_of_keysDistinct l2 h2)).2 hm
  exact List.Perm.eq_of_pairwise
    (fun p q _ _ hpq hqp => absurd (String.le_antisymm hpq.1 hqp.1) hpq.2)
    (sortKeys_strict l1 h1) (sortKeys_strict l2 h2)
    ((sortKeys_perm l1).trans (hperm.trans (sortKeys_perm l2).symm))

mutual
/-- the two values are spelled alike: same Python types at every position (no int-vs-float,
    bool-vs-int, set-vs-frozenset), sets and dicts in the same iteration order, nested instances
    with the same `__dict__` order; a Decimal is never "spelled alike" (its exponent, which `str`
    shows, is not part of the model) -/
def sameSpell : PyVal → PyVal → Bool
  | .none, w => match w with | .none => true | _ => false
  | .bool a, w => match w with | .bool b => a == b | _ => false
  | .int a, w => match w with | .int b => a == b | _ => false
  | .float a, w => match w with | .float b => Q.eq a b | _ => false
  | .dec _, _ => false
  | .str a, w => match w with | .str b => a == b | _ => false
  | .enumv c n, w => match w with | .enumv c' n' => c == c' && n == n' | _ => false
  | .opaque t, w => match w with | .opaque t' => t == t' | _ => false
  | .list a, w => match w with | .list b => sameSpellL a b | _ => false
  | .tuple a, w => match w with | .tuple b => sameSpellL a b | _ => false
  | .deque a, w => match w with | .deque b => sameSpellL a b | _ => false
  | .set f a, w => match w with | .set f' b => f == f' && sameSpellL a b | _ => false
  | .dict a, w => match w with | .dict b => sameSpellD a b | _ => false
  | .inst c a, w => match w with | .inst c' b => c == c' && sameSpellA a b | _ => false
termination_by structural x _ => x
def sameSpellL : List PyVal → List PyVal → Bool
  | [], w => w.isEmpty
  | x :: xs, w => match w with | y :: ys => sameSpell x y && sameSpellL xs ys | [] => false
termination_by structural x _ => x
def sameSpellD : List (PyVal × PyVal) → List (PyVal × PyVal) → Bool
  | [], w => w.isEmpty
  | (k, v) :: xs, w => match w with
    | kv :: ys => sameSpell k kv.1 && sameSpell v kv.2 && sameSpellD xs ys
    | [] => false
termination_by structural x _ => x
def sameSpellA : List (String × PyVal) → List (String × PyVal) → Bool
  | [], w => w.isEmpty
  | (k, v) :: xs, w => match w with
    | kv :: ys => k == kv.1 && sameSpell v kv.2 && sameSpellA xs ys
    | [] => false
termination_by structural x _ => x
end

/-- what is assumed of Python's `str()`: it is a function of the value — equal floats print alike,
    and objects of the same type with the same content in the same order print alike -/
structure RenderRespects (R : Render) : Prop where
  float : ∀ p q, Q.eq p q = true → R.float p = R.float q
  other : ∀ v w, sameSpell v w = true → R.other v = R.other w

/-- how `__str__` prints an attribute value at the top level of an instance -/
def renderTop (R : Render) (v : PyVal) : String :=
  match v with
  | .str s => "'" ++ s ++ "'"
  | w => toStr R w

theorem toStrAttrs_cons (R : Render) (k : String) (v : PyVal) (rest : List (String × PyVal)) :
    toStrAttrs R ((k, v) :: rest) = (k, renderTop R v) :: toStrAttrs R rest := by
  rw [toStrAttrs.eq_def]
  rfl

theorem toStrAttrs_eq_map (R : Render) (attrs : List (String × PyVal)) :
    toStrAttrs R attrs = attrs.map (fun kv => (kv.1, renderTop R kv.2)) := by
  induction attrs with
  | nil => rfl
  | cons kv rest ih => rw [List.map, ← ih, ← toStrAttrs_cons]

theorem sameSpell_atom {v w : PyVal} (ha : v.isAtom = true) (h : sameSpell v w = true) :
    w = v ∨ ∃ p q, v = .float p ∧ w = .float q ∧ Q.eq p q = true := by
  cases v with
  | none =>
    unfold sameSpell at h
    split at h
    · exact .inl rfl
    · cases h
  | bool a | int a | str a | «opaque» a =>
    unfold sameSpell at h
    split at h
    · exact .inl (eq_of_beq h ▸ rfl)
    · cases h
  | enumv c n =>
    unfold sameSpell at h
    split at h
    · simp only [Bool.and_eq_true, beq_iff_eq] at h
      exact .inl (h.1 ▸ h.2 ▸ rfl)
    · cases h
  | float p =>
    unfold sameSpell at h
    split at h
    · exact .inr ⟨p, _, rfl, rfl, h⟩
    · cases h
  | dec q => cases h
  | list | tuple | deque | set | dict | inst => cases ha

/-- `v` prints like every value spelled like it, both nested in a container and as the value of
    an attribute -/
def PrintsAlike (R : Render) (v : PyVal) : Prop :=
  ∀ w, sameSpell v w = true → toStr R v = toStr R w ∧ renderTop R v = renderTop R w

theorem toStrs_congr (R : Render) {a b : List PyVal} (ih : ∀ x ∈ a, PrintsAlike R x)
    (h : sameSpellL a b = true) : toStrs R a = toStrs R b := by
  induction a generalizing b with
  | nil => cases b with
    | nil => rfl
    | cons => cases h
  | cons x a iha => cases b with
    | nil => cases h
    | cons y b =>
      have h : (sameSpell x y && sameSpellL a b) = true := h
      rw [Bool.and_eq_true] at h
      rw [List.forall_mem_cons] at ih
      show toStr R x :: toStrs R a = toStr R y :: toStrs R b
      rw [(ih.1 y h.1).1, iha ih.2 h.2]

theorem toStrKvs_congr (R : Render) {a b : List (PyVal × PyVal)}
    (ih : ∀ p ∈ a, PrintsAlike R p.1 ∧ PrintsAlike R p.2) (h : sameSpellD a b = true) :
    toStrKvs R a = toStrKvs R b := by
  induction a generalizing b with
  | nil => cases b with
    | nil => rfl
    | cons => cases h
  | cons p a iha => cases b with
    | nil => cases h
    | cons q b =>
      have h : (sameSpell p.1 q.1 && sameSpell p.2 q.2 && sameSpellD a b) = true := h
      rw [Bool.and_eq_true, Bool.and_eq_true] at h
      rw [List.forall_mem_cons] at ih
      show (toStr R p.1 ++ " = " ++ toStr R p.2) :: toStrKvs R a
        = (toStr R q.1 ++ " = " ++ toStr R q.2) :: toStrKvs R b
      rw [(ih.1.1 q.1 h.1.1).1, (ih.1.2 q.2 h.1.2).1, iha ih.2 h.2]

theorem toStrAttrs_congr (R : Render) {a b : List (String × PyVal)}
    (ih : ∀ p ∈ a, PrintsAlike R p.2) (h : sameSpellA a b = true) :
    toStrAttrs R a = toStrAttrs R b := by
  induction a generalizing b with
  | nil => cases b with
    | nil => rfl
    | cons => cases h
  | cons p a iha => cases b with
    | nil => cases h
    | cons q b =>
      have h : (p.1 == q.1 && sameSpell p.2 q.2 && sameSpellA a b) = true := h
      rw [Bool.and_eq_true, Bool.and_eq_true, beq_iff_eq] at h
      rw [List.forall_mem_cons] at ih
      rw [toStrAttrs_cons, toStrAttrs_cons, h.1.1, (ih.1 q.2 h.1.2).2, iha ih.2 h.2]

/-- `renderTop` differs from `toStr` on a `str` only, so below the atoms one equation serves both -/
theorem sameSpell_prints (R : Render) (hR : RenderRespects R) (v : PyVal) : PrintsAlike R v := by
  induction v using PyVal.induct <;> intro w h
  case atom v ha =>
    rcases sameSpell_atom ha h with rfl | ⟨p, q, rfl, rfl, hq⟩
    · exact ⟨rfl, rfl⟩
    · exact ⟨hR.float p q hq, hR.float p q hq⟩
  all_goals
    unfold sameSpell at h
    split at h
    case h_2 => cases h
  -- `split` renames the goals: what is left are list, tuple, deque, set, dict, inst, in this order
  next a ih _ b => simp only [renderTop, toStr, toStrs_congr R ih h, and_self]
  next a ih _ b => simp only [renderTop, toStr, toStrs_congr R ih h, and_self]
  next a ih _ b => simp only [renderTop, toStr, hR.other (.deque a) (.deque b) h, and_self]
  next f a ih _ f' b =>
    cases eq_of_beq (Bool.and_eq_true_iff.1 h).1
    cases f with
    | false => simp only [renderTop, toStr, toStrs_congr R ih (Bool.and_eq_true_iff.1 h).2, and_self]
    | true => simp only [renderTop, toStr, hR.other (.set true a) (.set true b) h, and_self]
  next a ih _ b => simp only [renderTop, toStr, toStrKvs_congr R ih h, and_self]
  next c a ih _ c' b =>
    rw [Bool.and_eq_true, beq_iff_eq] at h
    simp only [renderTop, toStr, h.1, toStrAttrs_congr R ih h.2, and_self]

theorem sameSpell_toStr (R : Render) (hR : RenderRespects R) :
    ∀ v w : PyVal, sameSpell v w = true → toStr R v = toStr R w := by
  intro v w h
  exact (sameSpell_prints R hR v w h).1

/-- the decidable region on which `==` instances print alike: same class and
    `_none_fields`, the same attribute names, and each attribute spelled alike on both sides -/
def sameSpellI (a b : Inst) : Bool :=
  a.cls == b.cls && a.nones == b.nones
  && a.attrs.all (fun kv => b.attrs.any (fun kw => kv.1 == kw.1 && sameSpell kv.2 kw.2))
  && b.attrs.all (fun kw => a.attrs.any (fun kv => kv.1 == kw.1 && sameSpell kv.2 kw.2))

theorem hashKey_of_sameSpell (R : Render) (hR : RenderRespects R) (a b : Inst)
    (ha : keysDistinct (a.attrs.map (·.1)) = true) (hb : keysDistinct (b.attrs.map (·.1)) = true)
    (h : sameSpellI a b = true) : hashKey R a = hashKey R b := by
  simp only [sameSpellI, Bool.and_eq_true, beq_iff_eq, List.all_eq_true, List.any_eq_true] at h
  obtain ⟨⟨⟨hc, hn⟩, hab⟩, hba⟩ := h
  have keys : ∀ attrs : List (String × PyVal),
      (toStrAttrs R attrs).map (·.1) = attrs.map (·.1) := by
    intro attrs
    rw [toStrAttrs_eq_map, List.map_map]
    rfl
  have hs : sortKeys (toStrAttrs R a.attrs) = sortKeys (toStrAttrs R b.attrs) := by
    apply sortKeys_ext
    · rw [keys]; exact ha
    · rw [keys]; exact hb
    · intro p
      simp only [toStrAttrs_eq_map, List.mem_map]
      constructor
      · rintro ⟨kv, hkv, rfl⟩
        obtain ⟨kw, hkw, hk, hsp⟩ := hab kv hkv
        exact ⟨kw, hkw, by rw [← hk, (sameSpell_prints R hR _ _ hsp).2]⟩
      · rintro ⟨kw, hkw, rfl⟩
        obtain ⟨kv, hkv, hk, hsp⟩ := hba kw hkw
        exact ⟨kv, hkv, by rw [hk, (sameSpell_prints R hR _ _ hsp).2]⟩
  unfold hashKey instFrame
  rw [hs, hc, hn]

end Typedpy
