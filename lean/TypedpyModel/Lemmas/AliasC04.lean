/-
  Lemmas/AliasC04.lean — the invariant behind C04's accessor theorems:
  protected cells never change and the caller can get at a protected cell only if it is sealed.
  `c04_inv_change` says once what a change of heap and roots has to satisfy to keep it; an accessor read
  (`c04_inv_hand`, of what `handItems_hands` says is handed out) and a native write or allocation (the two `act`
  cases of `c04_inv_step`) are its instances.
-/
import TypedpyModel.Sem.AliasC04
import TypedpyModel.Lemmas.Alias
namespace Typedpy.AliasC04
open Typedpy.Alias

structure Inv (P : Nat → Prop) (S : Nat → Bool) (h0 h : Heap) (K : List Nat) : Prop where
  keep : ∀ a, P a → h.cells a = h0.cells a
  old : ∀ a, P a → a < h0.next
  le : h0.next ≤ h.next
  closed : ClosedBelow h.next h
  rootsLt : ∀ a, a ∈ K → a < h.next
  can : ∀ a, Can S h K a → ¬ P a ∨ S a = true

theorem c04_can_lt {S : Nat → Bool} {h : Heap} {K : List Nat} {n : Nat} (cb : ClosedBelow n h)
    (rl : ∀ a, a ∈ K → a < n) {a : Nat} (c : Can S h K a) : a < n := by
  induction c with
  | root hm => exact rl _ hm
  | step _ _ hk ih => exact cb _ ih _ hk

/-- Every event changes cells of `N` only (the cell the caller wrote, the cells allocated since): none of them is
    protected, each refers to `N` or to what the caller could get at already; and each root the caller has afterwards is
    sealed, in `N`, or something it could get at already.  One induction over `Can` for all events. -/
theorem c04_inv_change {P : Nat → Prop} {S : Nat → Bool} {h0 h h' : Heap} {K K' : List Nat} (N : Nat → Prop)
    [DecidablePred N] (i : Inv P S h0 h K) (le : h.next ≤ h'.next)
    (same : ∀ x, x < h.next → ¬ N x → h'.cells x = h.cells x)
    (new : ∀ x, x < h'.next → h.next ≤ x → N x)
    (hN : ∀ x, N x → ¬ P x ∧ x < h'.next ∧ ∀ k, k ∈ (h'.cells x).kids → N k ∨ Can S h K k)
    (hK : ∀ a, a ∈ K' → S a = true ∧ a < h'.next ∨ N a ∨ Can S h K a) : Inv P S h0 h' K' := by
  have canLt : ∀ {a}, Can S h K a → a < h.next := c04_can_lt i.closed i.rootsLt
  have lt : ∀ {a}, N a ∨ Can S h K a → a < h'.next :=
    fun w => w.elim (fun n => (hN _ n).2.1) fun c => Nat.lt_of_lt_of_le (canLt c) le
  exact
  { i with
    keep := fun x px => by
      rw [same x (Nat.lt_of_lt_of_le (i.old x px) i.le) fun n => (hN x n).1 px]; exact i.keep x px
    le := Nat.le_trans i.le le
    closed := fun x hx k hk => by
      by_cases n : N x
      · exact lt ((hN x n).2.2 k hk)
      · have hlt : x < h.next := Nat.lt_of_not_le fun hle => n (new x hx hle)
        rw [same x hlt n] at hk
        exact Nat.lt_of_lt_of_le (i.closed x hlt k hk) le
    rootsLt := fun a ha => (hK a ha).elim (·.2) lt
    can := fun a cn => by
      have : S a = true ∨ N a ∨ Can S h K a := by
        induction cn with
        | root hm => exact (hK _ hm).imp_left (·.1)
        | @step a' b' _ hsb hk ih =>
          refine Or.inr ?_
          rcases ih with hs | n | cb
          · rw [hs] at hsb; cases hsb
          · exact (hN b' n).2.2 a' hk
          · by_cases n : N b'
            · exact (hN b' n).2.2 a' hk
            · rw [same b' (canLt cb) n] at hk
              exact Or.inr (Can.step cb hsb hk)
      rcases this with hs | n | cb
      · exact Or.inr hs
      · exact Or.inl (hN a n).1
      · exact i.can a cb }

theorem c04_closed_grow {h h1 : Heap} (cl : ClosedBelow h.next h) (fr : Frame h h1)
    (nc : NewClosed h.next h1) : ClosedBelow h1.next h1 := fun a ha k hk => by
  by_cases hlt : a < h.next
  · exact Nat.lt_of_lt_of_le (closedBelow_frame cl fr a hlt k hk) fr.1
  · exact (nc a (Nat.le_of_not_lt hlt) ha k hk).2

theorem c04_newClosed_self (h : Heap) : NewClosed h.next h :=
  newClosed_init h

theorem c04_addrs_atom (v : Int) (r : List Item) : addrs (.atom v :: r) = addrs r := rfl
theorem c04_addrs_ref (c : Nat) (r : List Item) : addrs (.ref c :: r) = c :: addrs r := rfl

/-- an accessor has handed out `R`: the heap grew by a region closed under references, and what is handed out is sealed
    or in that region -/
theorem c04_inv_hand {P : Nat → Prop} {S : Nat → Bool} {h0 h h1 : Heap} {K R : List Nat} (i : Inv P S h0 h K)
    (fr : Frame h h1) (nc : NewClosed h.next h1)
    (hR : ∀ a, a ∈ R → S a = true ∧ a < h1.next ∨ h.next ≤ a ∧ a < h1.next) : Inv P S h0 h1 (R ++ K) :=
  c04_inv_change (fun a => h.next ≤ a ∧ a < h1.next) i fr.1 (fun x hx _ => fr.2 x hx) (fun _ hx hle => ⟨hle, hx⟩)
    (fun x r => ⟨fun px => Nat.lt_irrefl _ (Nat.lt_of_lt_of_le (Nat.lt_of_lt_of_le (i.old x px) i.le) r.1), r.2,
      fun k hk => Or.inl (nc x r.1 r.2 k hk)⟩)
    fun a ha => (List.mem_append.mp ha).elim (fun ha => (hR a ha).imp_right Or.inl) fun ha => Or.inr (Or.inr (Can.root ha))

/-- `_get_defensive_copy_if_needed` along the elements: a scalar or a sealed object as it is, anything else as a deep
    copy; `n0` is where the accessor started -/
theorem handItems_hands (S : Nat → Bool) (fuel : Nat) {n0 : Nat} :
    ∀ (items : List (String × Item)) (h : Heap), Reg n0 h → (∀ p, p ∈ items → ∀ c, p.2 = .ref c → c < n0) →
      Frame h (handItems S fuel h items).1 ∧ Reg n0 (handItems S fuel h items).1 ∧
        ∀ a, a ∈ addrs (handItems S fuel h items).2 →
          S a = true ∧ a < (handItems S fuel h items).1.next ∨ n0 ≤ a ∧ a < (handItems S fuel h items).1.next
  | [], h, rg, _ => ⟨Frame.rfl' h, rg, nofun⟩
  | (k, it) :: rest, h, rg, hlt => by
    have ih := fun h1 rg1 => handItems_hands S fuel rest h1 rg1 fun p hp => hlt p (List.mem_cons_of_mem _ hp)
    cases it with
    | atom v => exact ih h rg
    | ref c =>
      cases hs : S c
      · simp only [handItems, guardItem, hs, Bool.false_eq_true, if_false, copyOrRaise]
        have t := deepCopy_tr n0 fuel h (.ref c)
        rcases e : deepCopy fuel h (.ref c) with ⟨h1, _ | i'⟩ <;> rw [e] at t
        · exact ih h rg
        · have q := t.2 rg trivial i' rfl
          have ⟨fr, rg', hR⟩ := ih h1 q.1
          refine ⟨t.1.trans fr, rg', fun a ha => ?_⟩
          cases i' with
          | atom v => exact hR a ha
          | ref b =>
            cases ha with
            | head => exact Or.inr ⟨(q.2 a rfl).1, Nat.lt_of_lt_of_le (q.2 a rfl).2 fr.1⟩
            | tail _ ha => exact hR a ha
      · simp only [handItems, guardItem, hs, if_true]
        have ⟨fr, rg', hR⟩ := ih h rg
        refine ⟨fr, rg', fun a ha => ?_⟩
        cases ha with
        | head =>
          exact Or.inl ⟨hs, Nat.lt_of_lt_of_le (hlt (k, .ref c) (List.mem_cons_self ..) c rfl) (Nat.le_trans rg.1 fr.1)⟩
        | tail _ ha => exact hR a ha

theorem c04_inv_step {P : Nat → Prop} {S : Nat → Bool} {h0 h : Heap} {K : List Nat} (fuel : Nat)
    (i : Inv P S h0 h K) (e : Ev) (adm : AdmEv S h K e) (safe : readsSafe [e] = true) :
    Inv P S h0 (stepEv S fuel h K e).1 (stepEv S fuel h K e).2 := by
  cases e with
  | act x =>
    cases x with
    -- a write and an allocation alike put content the caller can get at into ONE unprotected cell: an unsealed cell
    -- it can get at, or the first free one
    | write a c =>
      show Inv P S h0 (h.write a c) K
      refine c04_inv_change (· = a) i (Nat.le_refl _) (fun _ _ ne => if_neg ne)
        (fun _ hx hle => absurd hx (Nat.not_lt.mpr hle)) (fun x e => ?_) fun r hr => Or.inr (Or.inr (Can.root hr))
      subst e
      exact ⟨fun px => (i.can x adm.1).elim (· px) fun hs => (by rw [adm.2.1] at hs; cases hs),
        c04_can_lt i.closed i.rootsLt adm.1, fun k hk => Or.inr (adm.2.2 k (by simpa [Heap.write] using hk))⟩
    | alloc c =>
      show Inv P S h0 (h.alloc c).1 (h.next :: K)
      refine c04_inv_change (· = h.next) i (Nat.le_succ _) (fun _ _ ne => if_neg ne)
        (fun _ hx hle => Nat.le_antisymm (Nat.le_of_lt_succ hx) hle) (fun x e => ?_)
        fun r hr => Or.inr ((List.mem_cons.mp hr).imp_right Can.root)
      subst e
      exact ⟨fun px => Nat.lt_irrefl _ (Nat.lt_of_lt_of_le (i.old _ px) i.le), Nat.lt_succ_self _,
        fun k hk => Or.inr (adm k (by simpa [Heap.alloc] using hk))⟩
  | read a m =>
    cases m with
    | raw => cases safe
    | noRef => simpa [stepEv, handOut, addrs] using i
    | raises => simpa [stepEv, handOut, addrs] using i
    | deepAll =>
      simp only [stepEv, handOut, copyOrRaise]
      rcases e : deepCopy fuel h (.ref a) with ⟨h1, _ | i'⟩
      · exact i
      · have iso := (deepCopy_tr h.next fuel h (.ref a)).isolated trivial e
        refine c04_inv_hand i iso.frame iso.closed fun b hb => ?_
        cases i' with
        | atom v => cases hb
        | ref c =>
          cases List.mem_singleton.mp hb
          exact Or.inr (iso.inside b rfl)
    | guardedCopy =>
      have ⟨fr, rg, hR⟩ := handItems_hands S fuel (h.cells a).items h ⟨Nat.le_refl _, newClosed_init h⟩
        fun p hp c e => i.closed a (c04_can_lt i.closed i.rootsLt adm) c (kids_of_mem hp e)
      exact c04_inv_hand i fr rg.2 hR

theorem c04_inv_run {P : Nat → Prop} {S : Nat → Bool} {h0 : Heap} (fuel : Nat) :
    ∀ (evs : List Ev) (h : Heap) (K : List Nat), Inv P S h0 h K → AdmEvs S fuel h K evs →
      readsSafe evs = true →
      Inv P S h0 (runEvs S fuel h K evs).1 (runEvs S fuel h K evs).2
  | [], h, K, i, _, _ => i
  | e :: rest, h, K, i, adm, safe => by
    have hs : readsSafe [e] = true ∧ readsSafe rest = true := by
      cases e <;> simpa [readsSafe] using safe
    exact c04_inv_run fuel rest _ _ (c04_inv_step fuel i e adm.1 hs.1) adm.2 hs.2

theorem c04_inv_reads {P : Nat → Prop} {S : Nat → Bool} {h0 : Heap} {K0 : List Nat} (fuel : Nat)
    (hold : ∀ a, P a → a < h0.next) (hcl : ClosedBelow h0.next h0) (hroots : ∀ a, a ∈ K0 → a < h0.next)
    (hinit : ∀ a, Can S h0 K0 a → ¬ P a ∨ S a = true)
    (evs : List Ev) (adm : AdmEvs S fuel h0 K0 evs) (safe : readsSafe evs = true) :
    Inv P S h0 (runEvs S fuel h0 K0 evs).1 (runEvs S fuel h0 K0 evs).2 :=
  c04_inv_run fuel evs h0 K0 ⟨fun _ _ => rfl, hold, Nat.le_refl _, hcl, hroots, hinit⟩ adm safe

theorem constructImm_isolated {fuel : Nat} {h h' : Heap} {args : List (String × Item)} {inst : Nat}
    (e : constructImm fuel h args = (h', some inst)) : Isolated h h' (.ref inst) := by
  have t := Tr.mapItems (P := fun _ _ => True) (fun _ _ _ _ t => t) (deepCopy_tr h.next fuel) args h
  unfold constructImm at e
  rcases e1 : mapItems (deepCopy fuel) h args with ⟨h1, _ | its⟩ <;> rw [e1] at t e
  · exact nomatch (Prod.mk.inj e).2
  · cases e
    exact (t.seq ((Tr.alloc "instance" its).mono fun _ p => p.2)).isolated (fun _ _ => trivial) rfl

end Typedpy.AliasC04
