/-
  C11: equality, hash, copy, deepcopy and pickle are mutually coherent.

  Model: Sem/EqHash.lean (`instEq` = `Structure.__eq__`, `hashKey` = `str(self)`, the string
  `__hash__` hashed before c4803f1; `copyI` / `deepcopyI` / `pickleI`; `stepI` / `runI` / `run2` = the C03 mutation
  machine on instances that know whether they are `_instantiated`).

  `==` is an equivalence on instances whose values satisfy the representation invariants `okVal`
  (Lemmas/EqLemmas.lean shows they are necessary).
  `a == b → hash(a) == hash(b)`: since c4803f1 `Structure.__hash__` hashes a canonical form of what
  `__eq__` compares (Sem/CanonHash.lean) and the implication holds in full (`eq_canon_hash`).  It was
  false of the `str(self)`-based hash: the kernel-checked counterexamples are statements about the
  printed form `str(x)` (`hashKey`), which still tells those spellings apart; `eq_hash_partial` says
  which instances print alike.
  Sharing (which objects a copy has in common with the original) is proved on the heap model
  Sem/AliasC11.lean.
-/
import TypedpyModel.Lemmas.HashLemmas
import TypedpyModel.Lemmas.CopyLemmas
import TypedpyModel.Lemmas.CanonHash
import TypedpyModel.Lemmas.AliasC11
import TypedpyModel.Generated.AliasingC11
import TypedpyModel.Generated.Wrappers
import TypedpyModel.Lemmas.EqLemmas
set_option linter.unusedVariables false
namespace Typedpy.C11

open PyVal (pyEq)

/-- **C11 (field-wise)**: `a == b` iff same class (and `_enable_undefined_value` setting), every name
    (field, extra attribute, or neither) reads back `==` on both, and the `_none_fields` agree -/
theorem instEq_fieldwise (d : EqCtx) (a b : Inst) :
    instEq d a b = true ↔ FieldwiseEq d a b := by
  unfold instEq FieldwiseEq
  simp only [Bool.and_eq_true, beq_iff_eq, List.all_eq_true, List.mem_append]
  constructor
  · rintro ⟨⟨⟨hc, hu⟩, hall⟩, hn⟩
    refine ⟨hc, hu, fun k => ?_, hn⟩
    cases ha : lookup k a.attrs with
    | some v => exact hall (k, v) (Or.inl (lookup_mem ha))
    | none =>
      cases hb : lookup k b.attrs with
      | some w => exact hall (k, w) (Or.inr (lookup_mem hb))
      | none => rw [getA_absent d a b k hu hn ha hb]; exact pyEq_refl _
  · rintro ⟨hc, hu, hall, hn⟩
    exact ⟨⟨⟨hc, hu⟩, fun kv _ => hall kv.1⟩, hn⟩

theorem instEq_refl (d : EqCtx) (a : Inst) : instEq d a a = true :=
  (instEq_fieldwise d a a).2 ⟨rfl, rfl, fun _ => pyEq_refl _, namesEq_refl _⟩

def okInst (d : EqCtx) (a : Inst) : Bool := okAttrs a.attrs && okAttrs d.defaults

theorem okVal_getA (d : EqCtx) (a : Inst) (k : String) (h : okInst d a = true) :
    okVal (getA d a k) = true := by
  simp only [okInst, Bool.and_eq_true, okAttrs_iff] at h
  exact getA_cases (okVal · = true) d a k h.1 h.2 rfl rfl

theorem instEq_symm (d : EqCtx) (a b : Inst) (ha : okInst d a = true) (hb : okInst d b = true) :
    instEq d a b = instEq d b a := by
  have key : ∀ a b : Inst, okInst d a = true → okInst d b = true → instEq d a b = true →
      instEq d b a = true := by
    intro a b ha hb h
    obtain ⟨hc, hu, hall, hn⟩ := (instEq_fieldwise d a b).1 h
    exact (instEq_fieldwise d b a).2 ⟨hc.symm, hu.symm,
      fun k => pyEq_symm _ (okVal_getA d a k ha) _ (okVal_getA d b k hb) (hall k),
      by rw [namesEq_symm]; exact hn⟩
  exact Bool.eq_iff_iff.2 ⟨key a b ha hb, key b a hb ha⟩

theorem instEq_trans (d : EqCtx) (a b c : Inst) (hb : okInst d b = true)
    (h1 : instEq d a b = true) (h2 : instEq d b c = true) : instEq d a c = true := by
  obtain ⟨hc1, hu1, hall1, hn1⟩ := (instEq_fieldwise d a b).1 h1
  obtain ⟨hc2, hu2, hall2, hn2⟩ := (instEq_fieldwise d b c).1 h2
  exact (instEq_fieldwise d a c).2 ⟨hc1.trans hc2, hu1.trans hu2,
    fun k => pyEq_trans _ _ _ (okVal_getA d b k hb) (hall1 k) (hall2 k),
    namesEq_trans _ _ _ hn1 hn2⟩

/-- the full-strength statement for the `str`-based hash (`hash(x) = hash(str(x))`, the code before c4803f1),
    for a rendering `R` of Python's `str()` -/
def eq_hash_statement (R : Render) : Prop :=
  ∀ (d : EqCtx) (a b : Inst), instEq d a b = true → hashKey R a = hashKey R b

/-- an example rendering: a float prints its exact ratio (injective, never an int literal) -/
def exR : Render :=
  { float := fun q => toString q.num ++ "/" ++ toString q.den, other := fun _ => "?",
    inlineCls := fun _ => false }

/-- former finding `eq-not-hash:int-vs-float`: `A(x=1) == A(x=1.0)`, which Python prints `x = 1` / `x = 1.0` -/
theorem eq_hash_counterexample_int_float :
    instEq {} { cls := "A", attrs := [("x", .int 1)] } { cls := "A", attrs := [("x", .float ⟨1, 1⟩)] } = true
    ∧ (hashKey exR { cls := "A", attrs := [("x", .int 1)] }
        == hashKey exR { cls := "A", attrs := [("x", .float ⟨1, 1⟩)] }) = false := by decide +kernel

/-- former finding `eq-not-hash:bool-vs-int`: `A(x=True) == A(x=1)` -/
theorem eq_hash_counterexample_bool_int :
    instEq {} { cls := "A", attrs := [("x", .bool true)] } { cls := "A", attrs := [("x", .int 1)] } = true
    ∧ (hashKey exR { cls := "A", attrs := [("x", .bool true)] }
        == hashKey exR { cls := "A", attrs := [("x", .int 1)] }) = false := by decide +kernel

/-- former finding `eq-not-hash:dict-order`: `A(m={'a': 1, 'b': 2}) == A(m={'b': 2, 'a': 1})` -/
theorem eq_hash_counterexample_dict_order :
    instEq {} { cls := "A", attrs := [("m", .dict [(.str "a", .int 1), (.str "b", .int 2)])] }
              { cls := "A", attrs := [("m", .dict [(.str "b", .int 2), (.str "a", .int 1)])] } = true
    ∧ (hashKey exR { cls := "A", attrs := [("m", .dict [(.str "a", .int 1), (.str "b", .int 2)])] }
        == hashKey exR { cls := "A", attrs := [("m", .dict [(.str "b", .int 2), (.str "a", .int 1)])] }) = false := by
  decide +kernel

/-- former finding `eq-not-hash:set-order`: `A(s={0, 8}) == A(s={8, 0})` (colliding elements iterate in
    insertion order) -/
theorem eq_hash_counterexample_set_order :
    instEq {} { cls := "A", attrs := [("s", .set false [.int 0, .int 8])] }
              { cls := "A", attrs := [("s", .set false [.int 8, .int 0])] } = true
    ∧ (hashKey exR { cls := "A", attrs := [("s", .set false [.int 0, .int 8])] }
        == hashKey exR { cls := "A", attrs := [("s", .set false [.int 8, .int 0])] }) = false := by decide +kernel

/-- former finding `eq-not-hash:none-vs-absent`: `A(x=1, extra=None) == A(x=1)` -/
theorem eq_hash_counterexample_none_absent :
    instEq {} { cls := "A", attrs := [("x", .int 1), ("extra", .none)] } { cls := "A", attrs := [("x", .int 1)] } = true
    ∧ (hashKey exR { cls := "A", attrs := [("x", .int 1), ("extra", .none)] }
        == hashKey exR { cls := "A", attrs := [("x", .int 1)] }) = false := by decide +kernel

/-- former finding `eq-not-hash:set-vs-frozenset`: `A(s=set()) == A(s=frozenset())`; Python prints a
    frozenset as `frozenset(…)`, typedpy prints a set as `{…}` -/
theorem eq_hash_counterexample_set_frozenset :
    instEq {} { cls := "A", attrs := [("s", .set false [])] } { cls := "A", attrs := [("s", .set true [])] } = true
    ∧ (hashKey { exR with other := fun _ => "frozenset()" } { cls := "A", attrs := [("s", .set false [])] }
        == hashKey { exR with other := fun _ => "frozenset()" } { cls := "A", attrs := [("s", .set true [])] }) = false := by
  decide +kernel

/-- the full statement fails for the example rendering: former findings `eq-not-hash:*`, fixed by c4803f1
    (`eq_canon_hash` is the statement about the repaired hash) -/
theorem eq_hash_statement_false : ¬ eq_hash_statement exR := fun h =>
  have c := eq_hash_counterexample_int_float
  Bool.false_ne_true (c.2.symm.trans (beq_iff_eq.2 (h _ _ _ c.1)))

theorem copy_eq (R : Render) (d : EqCtx) (x : Inst) :
    instEq d x (copyI x) = true ∧ instEq d (copyI x) x = true ∧ hashKey R (copyI x) = hashKey R x :=
  ⟨instEq_refl d x, instEq_refl d x, rfl⟩

theorem sideOf_cons_same {α} (s : Side) (x : α) (h : List (Side × α)) :
    sideOf s ((s, x) :: h) = x :: sideOf s h := by
  simp only [sideOf, List.filter, beq_self_eq_true, List.map]

theorem sideOf_cons_other {α} {s s' : Side} (x : α) (h : List (Side × α)) (hne : (s' == s) = false) :
    sideOf s ((s', x) :: h) = sideOf s h := by
  simp only [sideOf, List.filter, hne]

/-- **C11 (independent)**: in every interleaved history on a pair of instances each instance ends
    exactly where its own operations alone take it, with exactly the outcomes they alone produce:
    an operation on one instance is validated against and applied to that instance only.  (Value
    semantics, under which sharing is invisible: that a deep / unpickled copy shares no object with
    the original is `deepcopy_disjoint`, on the heap model.) -/
theorem run2_frame (bd dh : Bool) (tbl : List MethodRec) (O : Oracles) (c : ClassOpts) (fields : List (String × FieldDecl)) :
    ∀ (h : List (Side × Op)) (p : Inst × Inst),
      (run2 bd dh tbl O c fields p h).1 =
        ((runI bd dh tbl O c fields p.1 (sideOf .orig h)).1, (runI bd dh tbl O c fields p.2 (sideOf .copy h)).1)
      ∧ sideOf .orig (run2 bd dh tbl O c fields p h).2 = (runI bd dh tbl O c fields p.1 (sideOf .orig h)).2
      ∧ sideOf .copy (run2 bd dh tbl O c fields p h).2 = (runI bd dh tbl O c fields p.2 (sideOf .copy h)).2
  | [], p => ⟨rfl, rfl, rfl⟩
  | (.orig, op) :: rest, p => by
    obtain ⟨ih1, ih2, ih3⟩ := run2_frame bd dh tbl O c fields rest ((stepI bd dh tbl O c fields p.1 op).1, p.2)
    simp only [run2, runI, sideOf_cons_same, sideOf_cons_other _ _ (show (Side.orig == Side.copy) = false from rfl),
      ih1, ih2, ih3, and_self]
  | (.copy, op) :: rest, p => by
    obtain ⟨ih1, ih2, ih3⟩ := run2_frame bd dh tbl O c fields rest (p.1, (stepI bd dh tbl O c fields p.2 op).1)
    simp only [run2, runI, sideOf_cons_same, sideOf_cons_other _ _ (show (Side.copy == Side.orig) = false from rfl),
      ih1, ih2, ih3, and_self]

theorem sideOf_map_copy (ops : List Op) :
    sideOf .copy (ops.map (fun op => (Side.copy, op))) = ops ∧
    sideOf .orig (ops.map (fun op => (Side.copy, op))) = [] := by
  simp [sideOf, List.filter_map, Function.comp_def]

theorem run2_copy_only (bd dh : Bool) (tbl : List MethodRec) (O : Oracles) (c : ClassOpts)
    (fields : List (String × FieldDecl)) (x y : Inst) (ops : List Op) :
    let r := run2 bd dh tbl O c fields (x, y) (ops.map (fun op => (Side.copy, op)))
    r.1.1 = x
    ∧ r.1.2 = (runI bd dh tbl O c fields y ops).1
    ∧ sideOf .copy r.2 = (runI bd dh tbl O c fields y ops).2 := by
  obtain ⟨h1, _, h3⟩ := run2_frame bd dh tbl O c fields (ops.map (fun op => (Side.copy, op))) (x, y)
  rw [(sideOf_map_copy ops).1] at h1 h3
  rw [(sideOf_map_copy ops).2] at h1
  exact ⟨congrArg Prod.fst h1, congrArg Prod.snd h1, h3⟩

/-- **C11 (deepcopy independent)**: whatever history is applied to the copy, the original is
    unchanged, and the copy goes through exactly the states and outcomes of that history run on it
    alone -/
theorem deepcopy_independent (bd dh : Bool) (tbl : List MethodRec) (O : Oracles) (c : ClassOpts)
    (fields : List (String × FieldDecl)) (S : SetOrder) (x : Inst) (ops : List Op) :
    let r := run2 bd dh tbl O c fields (x, deepcopyI c S x) (ops.map (fun op => (Side.copy, op)))
    r.1.1 = x
    ∧ r.1.2 = (runI bd dh tbl O c fields (deepcopyI c S x) ops).1
    ∧ sideOf .copy r.2 = (runI bd dh tbl O c fields (deepcopyI c S x) ops).2 :=
  run2_copy_only bd dh tbl O c fields x (deepcopyI c S x) ops

theorem unpickled_frame (bd dh : Bool) (tbl : List MethodRec) (O : Oracles) (c : ClassOpts)
    (fields : List (String × FieldDecl)) (S : SetOrder) (x : Inst) (ops : List Op) :
    let r := run2 bd dh tbl O c fields (x, pickleI S x) (ops.map (fun op => (Side.copy, op)))
    r.1.1 = x
    ∧ r.1.2 = (runI bd dh tbl O c fields (pickleI S x) ops).1
    ∧ sideOf .copy r.2 = (runI bd dh tbl O c fields (pickleI S x) ops).2 :=
  run2_copy_only bd dh tbl O c fields x (pickleI S x) ops

/-- the pickle round trip of a constructed instance (`_instantiated`) whose
    rebuilt sets come out in the iteration order they had gives back the very same state: fields,
    additional properties, `_none_fields` and the bookkeeping entries (since 4ede29b, 7925862) -/
theorem pickle_state (S : SetOrder) (x : Inst) (hi : x.instantiated = true)
    (hfix : rebuildAttrs S x.attrs = x.attrs) : pickleI S x = x := by
  cases x with
  | mk cls attrs inst nones undef =>
    simp only at hi hfix
    simp only [pickleI, hfix, hi]

/-- **C11 (unpickled copy independent, behaves like a fresh equal instance)**: whatever history is
    applied to the unpickled copy, the original is unchanged, and the copy goes through exactly the
    states and outcomes that the same history produces on the instance it was pickled from —
    immutability and every validation included.  (`hfix`: the rebuilt sets iterate as before, e.g.
    `S = id`, see `rebuildAttrs_id`; for other orders `unpickled_frame` and `pickle_eq` apply.) -/
theorem unpickled_independent (bd dh : Bool) (tbl : List MethodRec) (O : Oracles) (c : ClassOpts)
    (fields : List (String × FieldDecl)) (S : SetOrder) (x : Inst) (ops : List Op)
    (hi : x.instantiated = true) (hfix : rebuildAttrs S x.attrs = x.attrs) :
    let r := run2 bd dh tbl O c fields (x, pickleI S x) (ops.map (fun op => (Side.copy, op)))
    r.1.1 = x
    ∧ r.1.2 = (runI bd dh tbl O c fields x ops).1
    ∧ sideOf .copy r.2 = (runI bd dh tbl O c fields x ops).2 := by
  have h := unpickled_frame bd dh tbl O c fields S x ops
  rw [pickle_state S x hi hfix] at h ⊢
  exact h

def exO : Oracles := { reMatch := fun _ _ => true }
def exImm : ClassOpts := { name := "I", required := ["x"], addl := false, immutable := true, accepts := ["I"] }
def exImmFields : List (String × FieldDecl) := [("x", .integer {})]
def exImmInst : Inst := { cls := "I", attrs := [("x", .int 1)] }

/-- an immutable instance stays immutable through a pickle round trip: assignment to the unpickled
    copy of an ImmutableStructure is refused and leaves it unchanged -/
theorem unpickled_immutable_protected (bd dh : Bool) (tbl : List MethodRec) (O : Oracles) (c : ClassOpts)
    (fields : List (String × FieldDecl)) (S : SetOrder) (x : Inst) (f : String) (v : PyVal)
    (hc : c.immutable = true) :
    stepI bd dh tbl O c fields (pickleI S x) (.setattr f v) = (pickleI S x, .err .valueErr) := by
  simp only [stepI, pickleI, hc, Bool.and_self, setattrStep, setattrUndef, if_true]
  split <;> rfl

/-- non-vacuity / former finding `unpickled:immutable-setattr-unprotected`: assignment is refused
    on the instance and on its unpickled copy alike, and the copy `==` the original -/
theorem unpickled_immutable_example :
    (stepI Generated.nestedBound Generated.delitemHook Generated.wrappers exO exImm exImmFields exImmInst (.setattr "x" (.int 2))).2 = .err .valueErr
    ∧ (stepI Generated.nestedBound Generated.delitemHook Generated.wrappers exO exImm exImmFields (pickleI id exImmInst) (.setattr "x" (.int 2))).2
        = .err .valueErr
    ∧ instEq {} exImmInst (pickleI id exImmInst) = true := by decide +kernel

/-- **C11 (eq ⇒ hash, partial)**: instances of one class that are `==` and spelled alike
    (`sameSpellI`: same Python number types, same Set / Map iteration orders, same attribute names,
    no Decimals) print alike — hence hashed alike under the `str`-based hash — whatever the
    insertion order of their `__dict__`s and for every rendering of floats / foreign objects that
    is a function of the value.
    (`sameSpellI` alone already forces the conclusion; `heq` records that the region lies inside
    the statement's domain.) -/
theorem eq_hash_partial (R : Render) (hR : RenderRespects R) (d : EqCtx) (a b : Inst)
    (ha : keysDistinct (a.attrs.map (·.1)) = true) (hb : keysDistinct (b.attrs.map (·.1)) = true)
    (heq : instEq d a b = true) (hs : sameSpellI a b = true) : hashKey R a = hashKey R b :=
  hashKey_of_sameSpell R hR a b ha hb hs

/-- non-vacuity: different `__dict__` order and different representations of one float are inside
    the region; the instances are `==` and print alike -/
theorem eq_hash_partial_example :
    sameSpellI { cls := "A", attrs := [("x", .float ⟨1, 2⟩), ("m", .dict [(.str "a", .list [.int 1, .bool true])])] }
               { cls := "A", attrs := [("m", .dict [(.str "a", .list [.int 1, .bool true])]), ("x", .float ⟨2, 4⟩)] } = true
    ∧ instEq {} { cls := "A", attrs := [("x", .float ⟨1, 2⟩), ("m", .dict [(.str "a", .list [.int 1, .bool true])])] }
               { cls := "A", attrs := [("m", .dict [(.str "a", .list [.int 1, .bool true])]), ("x", .float ⟨2, 4⟩)] } = true
    ∧ (hashKey { exR with float := fun _ => "0.5" }
          { cls := "A", attrs := [("x", .float ⟨1, 2⟩), ("m", .dict [(.str "a", .list [.int 1, .bool true])])] }
        == hashKey { exR with float := fun _ => "0.5" }
          { cls := "A", attrs := [("m", .dict [(.str "a", .list [.int 1, .bool true])]), ("x", .float ⟨2, 4⟩)] }) = true := by
  decide +kernel

theorem eq_hash_region_excludes_findings :
    sameSpellI { cls := "A", attrs := [("x", .int 1)] } { cls := "A", attrs := [("x", .float ⟨1, 1⟩)] } = false
    ∧ sameSpellI { cls := "A", attrs := [("x", .bool true)] } { cls := "A", attrs := [("x", .int 1)] } = false
    ∧ sameSpellI { cls := "A", attrs := [("s", .set false [.int 0, .int 8])] }
                 { cls := "A", attrs := [("s", .set false [.int 8, .int 0])] } = false
    ∧ sameSpellI { cls := "A", attrs := [("m", .dict [(.str "a", .int 1), (.str "b", .int 2)])] }
                 { cls := "A", attrs := [("m", .dict [(.str "b", .int 2), (.str "a", .int 1)])] } = false
    ∧ sameSpellI { cls := "A", attrs := [("x", .int 1), ("extra", .none)] } { cls := "A", attrs := [("x", .int 1)] } = false
    ∧ sameSpellI { cls := "A", attrs := [("s", .set false [])] } { cls := "A", attrs := [("s", .set true [])] } = false
    ∧ sameSpellI { cls := "A", attrs := [("x", .dec ⟨1, 1⟩)] } { cls := "A", attrs := [("x", .dec ⟨1, 1⟩)] } = false := by
  decide +kernel

/-- **C11 (pickle)**: the unpickled copy `==` the original — additional properties at every level
    and the explicitly-`None` field names (`_none_fields`, since 7925862) included — for every
    iteration order the rebuilt sets come out in; no hypothesis on the instance -/
theorem pickle_eq (S : SetOrder) (hS : MemPreserving S) (d : EqCtx) (x : Inst) :
    instEq d x (pickleI S x) = true := by
  refine (instEq_fieldwise d x _).2 ⟨rfl, rfl, fun k => ?_, namesEq_refl _⟩
  -- a name with an entry reads the rebuilt value; any other reads the same `undef`, `nones` and default
  simp only [getA, pickleI, rebuildAttrs_eq_map, lookup_map_val]
  cases lookup k x.attrs with
  | some v => exact pyEq_rebuildV S hS v
  | none => exact pyEq_refl _

/-- no `__dict__` entry that `__setattr__` would swallow on re-assignment: a `None` under a
    non-required name on a class that ignores `None` or has `_enable_undefined_value` (such an entry
    cannot be created through `__setattr__` in the first place) -/
def noDrop (c : ClassOpts) (x : Inst) : Bool :=
  x.attrs.all (fun kv => !(kv.2.isNone && (c.ignoreNone || x.undef) && !c.required.contains kv.1))

theorem deepcopyI_of_noDrop (S : SetOrder) (c : ClassOpts) (x : Inst)
    (hnd : noDrop c x = true ∨ c.immutable = true) :
    deepcopyI c S x = x
    ∨ deepcopyI c S x = { x with attrs := rebuildAttrs S x.attrs } := by
  unfold deepcopyI
  split
  · exact Or.inl rfl
  · next hi =>
    have hnd' := List.all_eq_true.1 (hnd.resolve_right hi)
    refine Or.inr ?_
    congr 1
    apply List.filter_eq_self.2
    intro q hq
    obtain ⟨p, hp, rfl⟩ := List.mem_map.1 (rebuildAttrs_eq_map S _ ▸ hq)
    simpa only [rebuildV_isNone] using hnd' p hp

/-- **C11 (deepcopy)**: `copy.deepcopy(x) == x` — `_none_fields` included — for every iteration
    order the rebuilt sets come out in -/
theorem deepcopy_eq (S : SetOrder) (hS : MemPreserving S) (c : ClassOpts) (d : EqCtx) (x : Inst)
    (hnd : noDrop c x = true ∨ c.immutable = true) : instEq d x (deepcopyI c S x) = true := by
  rcases deepcopyI_of_noDrop S c x hnd with h | h <;> rw [h]
  · exact instEq_refl d x
  · -- the unpickled copy but for `instantiated`, which `instEq` does not read
    exact pickle_eq S hS d x

/-- … and it prints like `x` when the rebuilt sets keep their iteration order (otherwise not:
    `deepcopy_hash_counterexample`; the canonical hash is the same for every order:
    `deepcopy_canon_hash`) -/
theorem deepcopy_hash_partial (R : Render) (c : ClassOpts) (x : Inst)
    (hnd : noDrop c x = true ∨ c.immutable = true) :
    deepcopyI c id x = x ∧ hashKey R (deepcopyI c id x) = hashKey R x := by
  have h : deepcopyI c id x = x := by
    rcases deepcopyI_of_noDrop id c x hnd with h | h
    · exact h
    · rw [h, rebuildAttrs_id]
  exact ⟨h, by rw [h]⟩

/-- former finding `deepcopy-hash-differs:set-order` / `pickle-hash-differs:set-order`: a rebuilt set may
    iterate in another order; the copy is `==` but prints differently -/
theorem deepcopy_hash_counterexample :
    instEq {} { cls := "A", attrs := [("s", .set false [.str "a", .int 3])] }
      (deepcopyI { name := "A", required := [] } List.reverse { cls := "A", attrs := [("s", .set false [.str "a", .int 3])] }) = true
    ∧ (hashKey exR { cls := "A", attrs := [("s", .set false [.str "a", .int 3])] }
        == hashKey exR (deepcopyI { name := "A", required := [] } List.reverse
            { cls := "A", attrs := [("s", .set false [.str "a", .int 3])] })) = false := by
  decide +kernel

/-- former finding `pickle-not-eq:extra-attrs`: additional properties (also inside a nested
    Structure, also `None`-valued ones) survive the round trip; the copy `==` the original and
    prints alike -/
theorem pickle_keeps_extras_example :
    instEq {} { cls := "A", attrs := [("x", .int 1), ("extra", .int 5), ("n", .inst "B" [("y", .none), ("e", .str "s")])] }
      (pickleI id { cls := "A", attrs := [("x", .int 1), ("extra", .int 5), ("n", .inst "B" [("y", .none), ("e", .str "s")])] }) = true
    ∧ (hashKey exR { cls := "A", attrs := [("x", .int 1), ("extra", .int 5), ("n", .inst "B" [("y", .none), ("e", .str "s")])] }
        == hashKey exR (pickleI id { cls := "A", attrs := [("x", .int 1), ("extra", .int 5), ("n", .inst "B" [("y", .none), ("e", .str "s")])] })) = true := by
  decide +kernel

/-- **C11 (pickle, with the order of the new `__dict__`)**: the unpickled copy, its `__dict__`
    re-ordered as `__getstate__` / `__setstate__` leave it, `==` the original -/
theorem pickle_ord_eq (fields : List String) (S : SetOrder) (hS : MemPreserving S) (d : EqCtx) (x : Inst) :
    instEq d x (pickleOrdI fields S x) = true := by
  obtain ⟨hc, hu, hall, hn⟩ := (instEq_fieldwise d x (pickleI S x)).1 (pickle_eq S hS d x)
  exact (instEq_fieldwise d x _).2 ⟨hc, hu, fun k => by rw [getA_pickleOrd]; exact hall k, hn⟩

theorem pickle_ord_example :
    (pickleOrdI ["a", "b", "c"] id { cls := "A", attrs := [("z", .int 9), ("c", .int 3), ("a", .int 1)] }).attrs
      = [("a", .int 1), ("c", .int 3), ("z", .int 9)] := by
  rfl

/-- … and prints like it when the rebuilt sets keep their iteration order (otherwise not:
    `pickle_hash_counterexample`, former finding `pickle-hash-differs:set-order`) -/
theorem pickle_hash_partial (R : Render) (x : Inst) :
    hashKey R (pickleI id x) = hashKey R x := by
  unfold pickleI hashKey
  simp only [rebuildAttrs_id]

/-- former finding `pickle-hash-differs:set-order`: `deepcopy_hash_counterexample` for pickle -/
theorem pickle_hash_counterexample :
    instEq {} { cls := "A", attrs := [("s", .set false [.str "a", .int 3])] }
      (pickleI List.reverse { cls := "A", attrs := [("s", .set false [.str "a", .int 3])] }) = true
    ∧ (hashKey exR { cls := "A", attrs := [("s", .set false [.str "a", .int 3])] }
        == hashKey exR (pickleI List.reverse { cls := "A", attrs := [("s", .set false [.str "a", .int 3])] })) = false := by
  decide +kernel

def exU : EqCtx := { fields := ["a", "b"] }
def exUC : ClassOpts := { name := "C", required := [], addl := false, accepts := ["C"] }
def exUFields : List (String × FieldDecl) := [("a", .integer {}), ("b", .integer {})]
/-- `C(a=1)`: `b` never set, reads `Undefined` -/
def exUnset : Inst := { cls := "C", attrs := [("a", .int 1)], undef := true }
/-- `C(a=1, b=None)`: `b` recorded in `_none_fields`, reads `None` -/
def exNone : Inst := { cls := "C", attrs := [("a", .int 1)], nones := ["b"], undef := true }

/-- the two are told apart by `==` in both directions (symmetry is `instEq_symm`, which covers
    `_none_fields`), by the values read back, and by the printed form; assigning `None` turns the
    first into the second -/
theorem undef_unset_vs_none_example :
    instEq exU exUnset exNone = false ∧ instEq exU exNone exUnset = false
    ∧ PyVal.pyEq (getA exU exUnset "b") undefinedV = true ∧ PyVal.pyEq (getA exU exNone "b") .none = true
    ∧ (hashKey exR exUnset == hashKey exR exNone) = false
    ∧ instEq exU (stepI Generated.nestedBound Generated.delitemHook Generated.wrappers exO exUC exUFields exUnset (.setattr "b" .none)).1 exNone = true
    ∧ instEq exU (stepI Generated.nestedBound Generated.delitemHook Generated.wrappers exO exUC exUFields exNone (.setattr "b" (.int 2))).1
        { cls := "C", attrs := [("a", .int 1), ("b", .int 2)], undef := true } = true := by
  decide +kernel

/-- on an `_enable_undefined_value` class `x.f = None` for a non-required field of a mutable instance
    (not an immutable field that is already set) is never stored: the name is recorded in
    `_none_fields` and whatever `__dict__` held for it is removed (since ed6dbae), so the field reads
    `None` afterwards -/
theorem setattr_none_recorded (bd dh : Bool) (tbl : List MethodRec) (O : Oracles) (c : ClassOpts)
    (fields : List (String × FieldDecl)) (x : Inst) (f : String) (fd : FieldDecl)
    (hu : x.undef = true) (hm : c.immutable = false) (hf : lookup f fields = some fd)
    (hr : c.required.contains f = false)
    (hi : c.immFields.contains f = false ∨ lookup f x.attrs = none) :
    stepI bd dh tbl O c fields x (.setattr f .none)
      = ({ x with nones := addName f x.nones, attrs := assocDel f x.attrs }, .ok) := by
  have hg : (c.immFields.contains f && (lookup f x.attrs).isSome) = false := by
    rcases hi with h | h
    · rw [h]; rfl
    · rw [h]; simp
  simp only [stepI, setattrUndef, hu, hm, hf, hr, hg, PyVal.isNone, if_true, Bool.false_and,
    Bool.false_eq_true, if_false, Option.isSome_some, Bool.not_true, Bool.not_false, Bool.and_self,
    Bool.true_and]

/-- … and on an immutable field that already holds a value it is refused and changes nothing
    (since f1caf24), like every other assignment to such a field -/
theorem setattr_none_immutable_field_refused (bd dh : Bool) (tbl : List MethodRec) (O : Oracles) (c : ClassOpts)
    (fields : List (String × FieldDecl)) (x : Inst) (f : String) (fd : FieldDecl) (w : PyVal)
    (hu : x.undef = true) (hf : lookup f fields = some fd)
    (hr : c.required.contains f = false) (hi : c.immFields.contains f = true)
    (hs : lookup f x.attrs = some w) :
    stepI bd dh tbl O c fields x (.setattr f .none) = (x, .err .valueErr) := by
  simp only [stepI, setattrUndef, hu, hf, hr, hi, hs, PyVal.isNone, if_true, Bool.false_and,
    Bool.false_eq_true, if_false, Option.isSome_some, Bool.not_true, Bool.not_false, Bool.and_self,
    Bool.true_and]
  split <;> rfl

/-- former finding `pickle-not-eq:none-fields-lost` (fixed by 7925862): the unpickled copy of
    `C(a=1, b=None)` keeps `b` in `_none_fields`: it `==` the original in both directions, is still
    `!=` `C(a=1)`, and prints alike; deepcopy and copy likewise -/
theorem pickle_keeps_nones_example :
    instEq exU exNone (pickleI id exNone) = true ∧ instEq exU (pickleI id exNone) exNone = true
    ∧ instEq exU (pickleI id exNone) exUnset = false
    ∧ (hashKey exR (pickleI id exNone) == hashKey exR exNone) = true
    ∧ instEq exU exNone (deepcopyI exUC id exNone) = true ∧ instEq exU exNone (copyI exNone) = true := by
  decide +kernel

/-- former finding `eq-vs-readback:none-recorded-over-stored-value` (fixed by ed6dbae):
    `x = C(a=1, b=5); x.b = None` records `b` in `_none_fields` *and* removes the 5 from `__dict__`:
    the result is `==` `C(a=1, b=None)`, reads `b` as `None`, and is told apart from `C(a=1, b=5)`
    by `==` and by the values read back alike -/
theorem none_replaces_value_example :
    (stepI Generated.nestedBound Generated.delitemHook Generated.wrappers exO exUC exUFields
        { cls := "C", attrs := [("a", .int 1), ("b", .int 5)], undef := true } (.setattr "b" .none)).1.nones = ["b"]
    ∧ instEq exU (stepI Generated.nestedBound Generated.delitemHook Generated.wrappers exO exUC exUFields
        { cls := "C", attrs := [("a", .int 1), ("b", .int 5)], undef := true } (.setattr "b" .none)).1 exNone = true
    ∧ PyVal.pyEq (getA exU (stepI Generated.nestedBound Generated.delitemHook Generated.wrappers exO exUC exUFields
        { cls := "C", attrs := [("a", .int 1), ("b", .int 5)], undef := true } (.setattr "b" .none)).1 "b") .none = true
    ∧ instEq exU (stepI Generated.nestedBound Generated.delitemHook Generated.wrappers exO exUC exUFields
        { cls := "C", attrs := [("a", .int 1), ("b", .int 5)], undef := true } (.setattr "b" .none)).1
        { cls := "C", attrs := [("a", .int 1), ("b", .int 5)], undef := true } = false := by
  decide +kernel

/-- former finding `eq-vs-readback:none-recorded-over-immutable-field` (fixed by f1caf24): on an
    *immutable field* that holds a value, `x.b = None` is refused with ValueError and the instance
    — `__dict__` and `_none_fields` — stays `==` what it was; on a not yet set immutable field the
    explicit `None` is recorded as on any other field -/
theorem none_over_immutable_field_example :
    (stepI Generated.nestedBound Generated.delitemHook Generated.wrappers exO { exUC with immFields := ["b"] } exUFields
        { cls := "C", attrs := [("a", .int 1), ("b", .int 5)], undef := true } (.setattr "b" .none)).2
        = .err .valueErr
    ∧ (stepI Generated.nestedBound Generated.delitemHook Generated.wrappers exO { exUC with immFields := ["b"] } exUFields
        { cls := "C", attrs := [("a", .int 1), ("b", .int 5)], undef := true } (.setattr "b" .none)).1.nones = []
    ∧ instEq exU (stepI Generated.nestedBound Generated.delitemHook Generated.wrappers exO { exUC with immFields := ["b"] } exUFields
        { cls := "C", attrs := [("a", .int 1), ("b", .int 5)], undef := true } (.setattr "b" .none)).1
        { cls := "C", attrs := [("a", .int 1), ("b", .int 5)], undef := true } = true
    ∧ instEq exU (stepI Generated.nestedBound Generated.delitemHook Generated.wrappers exO { exUC with immFields := ["b"] } exUFields exUnset
        (.setattr "b" .none)).1 exNone = true := by
  decide +kernel

def exD : EqCtx := { defaults := [("b", .int 0)], fields := ["a", "b"] }

/-- former findings `eq-not-hash:default-vs-absent@…`: a field with a default that is absent from
    `__dict__` (explicit `None` swallowed by the constructor of an `_ignore_none` class, or deleted
    later) reads its default, so the instance `==` one that holds the default — but `__str__`, and
    with it the `str`-based hash, sees `__dict__` only.  The pair is outside `sameSpellI` (different
    attribute names). -/
theorem eq_hash_counterexample_default_absent :
    instEq exD { cls := "C", attrs := [("a", .int 1)] } { cls := "C", attrs := [("a", .int 1), ("b", .int 0)] } = true
    ∧ instEq exD { cls := "C", attrs := [("a", .int 1), ("b", .int 0)] } { cls := "C", attrs := [("a", .int 1)] } = true
    ∧ (hashKey exR { cls := "C", attrs := [("a", .int 1)] }
        == hashKey exR { cls := "C", attrs := [("a", .int 1), ("b", .int 0)] }) = false
    ∧ sameSpellI { cls := "C", attrs := [("a", .int 1)] } { cls := "C", attrs := [("a", .int 1), ("b", .int 0)] } = false
    ∧ (stepI Generated.nestedBound Generated.delitemHook Generated.wrappers exO exUC exUFields { cls := "C", attrs := [("a", .int 1), ("b", .int 0)] }
        (.delitem "b")).1.attrs = [("a", .int 1)] := by
  refine ⟨by decide +kernel, by decide +kernel, by decide +kernel, by decide +kernel, by rfl⟩

/-- former finding `eq-vs-readback:explicit-none-reads-default` (fixed by 11aa0bc): on an
    `_enable_undefined_value` class a defaulted field recorded as explicitly `None` reads `None`,
    not the default: the instance is told apart from the one where the default was applied by `==`
    and by the values read back alike -/
theorem explicit_none_reads_none_example :
    instEq exD { cls := "C", attrs := [("a", .int 1)], nones := ["b"], undef := true }
               { cls := "C", attrs := [("a", .int 1), ("b", .int 0)], undef := true } = false
    ∧ PyVal.pyEq (getA exD { cls := "C", attrs := [("a", .int 1)], nones := ["b"], undef := true } "b") .none = true
    ∧ PyVal.pyEq (getA exD { cls := "C", attrs := [("a", .int 1)], nones := ["b"], undef := true } "b")
                 (getA exD { cls := "C", attrs := [("a", .int 1), ("b", .int 0)], undef := true } "b") = false := by
  decide +kernel

def eq_canon_hash_statement (H : HashO) : Prop :=
  ∀ (d : EqCtx) (a b : Inst), okInstS d a = true → okInstS d b = true →
    instEq d a b = true → canonHashI H d a = canonHashI H d b

/-- **C11 (eq ⇒ hash, FULL, for the repaired `__hash__`)**: instances that are `==` hash alike —
    whatever the Python types of their equal numbers (int / float / bool / Decimal, any exponent),
    the iteration orders of their sets and dicts, set versus frozenset, attributes holding `None`
    versus absent ones, defaulted fields absent from `__dict__`, the insertion order of `__dict__`
    — for every built-in `hash` that meets Python's contract (`HashO.Respects`).  No exclusion: the
    only hypotheses are the representation invariants of values read back from Python. -/
theorem eq_canon_hash (H : HashO) (hH : H.Respects) : eq_canon_hash_statement H := by
  intro d a b oka okb heq
  obtain ⟨hc, hu, hall, hn⟩ := (instEq_fieldwise d a b).1 heq
  have hfun : canonEntry H d a = canonEntry H d b := funext fun k => by
    rw [canonEntry, canonEntry, isNone_eq_of_pyEq (hall k),
      cHash_of_pyEq H hH _ (okValS_getA d a k oka) _ (okValS_getA d b k okb) (hall k)]
  unfold canonHashI
  rw [hc, hfun]
  congr 1
  · -- the two name lists differ only in names that read `None` on both sides: those give no entry
    apply hH.frozen_perm
    apply c11_filterMap_perm (nodup_dedupS _) (nodup_dedupS _)
    intro k hk
    exact ⟨fun _ => mem_instNames_of_canonEntry H d b k hk,
      fun _ => mem_instNames_of_canonEntry H d a k (hfun ▸ hk)⟩
  · apply hH.frozen_perm
    apply List.Perm.map
    simp only [okInstS, Bool.and_eq_true] at oka okb
    exact (List.perm_ext_iff_of_nodup ((keysDistinct_iff _).1 oka.2) ((keysDistinct_iff _).1 okb.2)).2
      (namesEq_iff.1 hn)

def exH : HashO :=
  { noneH := 1, num := fun _ => 0, str := fun s => s.length + 2, enumv := fun _ n => n.length + 3,
    foreign := fun t => t.length + 5, seq := fun l => l.foldl (fun acc x => 31 * acc + x) 7,
    pair := fun a b => 1000 * a + b, frozen := fun l => l.sum,
    inst := fun c a n => 1000000 * c + 1000 * a + n }

theorem exH_respects : exH.Respects :=
  ⟨fun _ _ _ _ _ => rfl, fun _ _ hp => hp.sum_nat⟩

/-- non-vacuity: every spelling that `str(x)` tells apart (the findings' counterexamples) hashes
    alike under the repaired hash, and instances that differ do not collide in the example -/
theorem eq_canon_hash_example :
    (canonHashI exH {} { cls := "A", attrs := [("x", .int 1)] } == canonHashI exH {} { cls := "A", attrs := [("x", .float ⟨1, 1⟩)] }) = true
    ∧ (canonHashI exH {} { cls := "A", attrs := [("x", .bool true)] } == canonHashI exH {} { cls := "A", attrs := [("x", .dec ⟨10, 10⟩)] }) = true
    ∧ (canonHashI exH {} { cls := "A", attrs := [("m", .dict [(.str "a", .int 1), (.str "b", .int 2)])] }
        == canonHashI exH {} { cls := "A", attrs := [("m", .dict [(.str "b", .int 2), (.str "a", .int 1)])] }) = true
    ∧ (canonHashI exH {} { cls := "A", attrs := [("s", .set false [.int 0, .int 8])] }
        == canonHashI exH {} { cls := "A", attrs := [("s", .set true [.int 8, .int 0])] }) = true
    ∧ (canonHashI exH {} { cls := "A", attrs := [("x", .int 1), ("extra", .none)] }
        == canonHashI exH {} { cls := "A", attrs := [("x", .int 1)] }) = true
    ∧ (canonHashI exH exD { cls := "C", attrs := [("a", .int 1)] }
        == canonHashI exH exD { cls := "C", attrs := [("b", .int 0), ("a", .int 1)] }) = true
    ∧ instEq exD { cls := "C", attrs := [("a", .int 1)] } { cls := "C", attrs := [("b", .int 0), ("a", .int 1)] } = true
    ∧ okInstS exD { cls := "C", attrs := [("b", .int 0), ("a", .int 1)] } = true
    ∧ (canonHashI exH {} { cls := "A", attrs := [("x", .str "a")] }
        == canonHashI exH {} { cls := "A", attrs := [("x", .str "ab")] }) = false := by
  decide +kernel

/-- **C11 (deepcopy / pickle keep the repaired hash, for EVERY iteration order of rebuilt sets)**:
    the findings `deepcopy-hash-differs:set-order` / `pickle-hash-differs:set-order` cannot occur with
    the canonical hash -/
theorem deepcopy_canon_hash (H : HashO) (hH : H.Respects) (S : SetOrder) (hS : MemPreserving S)
    (c : ClassOpts) (d : EqCtx) (x : Inst) (hnd : noDrop c x = true ∨ c.immutable = true)
    (okx : okInstS d x = true) (oky : okInstS d (deepcopyI c S x) = true) :
    canonHashI H d (deepcopyI c S x) = canonHashI H d x :=
  (eq_canon_hash H hH d x _ okx oky (deepcopy_eq S hS c d x hnd)).symm

theorem pickle_canon_hash (H : HashO) (hH : H.Respects) (S : SetOrder) (hS : MemPreserving S)
    (d : EqCtx) (x : Inst) (okx : okInstS d x = true) (oky : okInstS d (pickleI S x) = true) :
    canonHashI H d (pickleI S x) = canonHashI H d x :=
  (eq_canon_hash H hH d x _ okx oky (pickle_eq S hS d x)).symm

/-- the instances of `deepcopy_hash_counterexample` / `pickle_hash_counterexample`: the
    re-ordered set prints differently but hashes alike under the repaired hash -/
theorem deepcopy_canon_hash_example :
    (canonHashI exH {} { cls := "A", attrs := [("s", .set false [.str "a", .int 3])] }
      == canonHashI exH {} (deepcopyI { name := "A", required := [] } List.reverse
            { cls := "A", attrs := [("s", .set false [.str "a", .int 3])] })) = true
    ∧ (hashKey exR { cls := "A", attrs := [("s", .set false [.str "a", .int 3])] }
        == hashKey exR (pickleI List.reverse { cls := "A", attrs := [("s", .set false [.str "a", .int 3])] })) = false
    ∧ (canonHashI exH {} { cls := "A", attrs := [("s", .set false [.str "a", .int 3])] }
        == canonHashI exH {} (pickleI List.reverse { cls := "A", attrs := [("s", .set false [.str "a", .int 3])] })) = true :=
  ⟨by decide +kernel, pickle_hash_counterexample.2, by decide +kernel⟩

/-! ### sharing: `copy.copy`, `copy.deepcopy`, pickle on the heap model (Sem/AliasC11.lean)

  Identity is an address.  The walk `dcItem` is driven by the table regenerated from the code
  (`Generated.copyRows`); the theorems hold for EVERY table, under the decidable hypothesis that the
  strict walk succeeds (it fails exactly where an existing object would be handed on: an immutable
  structure returned as is, a wrapper left bound to an owner that is not being copied). -/

section Sharing
open Typedpy.Alias Typedpy.AliasC11

def heapRoots : Item → List Nat
  | .ref a => [a]
  | .atom _ => []

theorem heapRoots_of (y : Item) : RootsOf y (heapRoots y) := by
  cases y <;> simp [RootsOf, heapRoots]

/-- **C11 (deep / unpickled copy shares nothing)**: when the strict walk succeeds it is the real
    walk; it leaves every pre-existing cell alone; everything reachable from the copy was allocated
    by the walk, everything reachable from the original existed before: the two reachable cell sets
    are disjoint -/
theorem deepcopy_disjoint (T : CKind → KindRow) (fuel : Nat) (h : Heap) (x : Nat) (h' : Heap) (y : Item)
    (cb : ClosedBelow h.next h) (hx : x < h.next)
    (e : dcItem true T fuel false h (.ref x) = (h', some y)) :
    dcItem false T fuel false h (.ref x) = (h', some y)
    ∧ (∀ a, a < h.next → h'.cells a = h.cells a)
    ∧ (∀ b, Held h' (heapRoots y) b → h.next ≤ b ∧ b < h'.next)
    ∧ (∀ b, Reach h' x b → b < h.next) := by
  have iso := dcItem_isolated e
  exact ⟨dcItem_strict_agree T fuel false h (.ref x) h' y e, iso.frame.2, iso.held (heapRoots_of y),
    fun _ rb => reach_below (closedBelow_frame cb iso.frame) hx rb⟩

/-- … hence NO history of native mutations applied to the copy (any sequence of writes into objects
    reachable from it, and into objects created on the way) changes anything that existed before:
    every observation of the original, to any depth, is what it was -/
theorem deepcopy_heap_independent (T : CKind → KindRow) (fuel : Nat) (h : Heap) (x : Nat) (h' : Heap) (y : Item)
    (cb : ClosedBelow h.next h) (hx : x < h.next)
    (e : dcItem true T fuel false h (.ref x) = (h', some y))
    (acts : List Act) (adm : AdmissibleAll h' (heapRoots y) acts) (n : Nat) :
    (∀ a, a < h.next → (runScript h' (heapRoots y) acts).1.cells a = h.cells a)
    ∧ observeN n (runScript h' (heapRoots y) acts).1 (.ref x) = observeN n h (.ref x) := by
  have iso := dcItem_isolated e
  exact ⟨iso.old_cells (heapRoots_of y) acts adm,
    iso.old_observe (heapRoots_of y) acts adm cb _ (fun _ ea => Item.ref.inj ea ▸ ⟨Nat.zero_le _, hx⟩) n⟩

/-- … and NO history of native mutations applied to the original (or to anything else that
    existed before) changes any observation of the copy -/
theorem deepcopy_heap_independent_back (T : CKind → KindRow) (fuel : Nat) (h : Heap) (x : Nat) (h' : Heap) (y : Item)
    (cb : ClosedBelow h.next h) (hx : x < h.next)
    (e : dcItem true T fuel false h (.ref x) = (h', some y))
    (K : List Nat) (hK : ∀ r, r ∈ K → r < h.next)
    (acts : List Act) (adm : AdmissibleAll h' K acts) (n : Nat) :
    observeN n (runScript h' K acts).1 y = observeN n h' y :=
  (dcItem_isolated e).new_observe cb K hK acts adm n

/-- **C11 (shallow copy shares exactly the first level)**: `copy.copy` of a structure (a row with
    mode `shallow`) is a new cell with the very same items — same values, same references — and
    nothing that existed is touched -/
theorem copy_shares_first_level (T : CKind → KindRow) (h : Heap) (x : Nat)
    (hk : (kindOfTag (h.cells x).tag).isWrapper = false)
    (hm : (T (kindOfTag (h.cells x).tag)).mode = .shallow) :
    copyTop T h x = ((h.alloc (h.cells x)).1, some (.ref h.next))
    ∧ (h.alloc (h.cells x)).1.cells h.next = h.cells x
    ∧ ((h.alloc (h.cells x)).1.cells h.next).kids = (h.cells x).kids
    ∧ (∀ a, a < h.next → (h.alloc (h.cells x)).1.cells a = h.cells a) := by
  have hc : (h.alloc (h.cells x)).1.cells h.next = h.cells x := by simp [Heap.alloc]
  refine ⟨?_, hc, by rw [hc], (frame_alloc h _).2⟩
  simp only [copyTop, hk, Bool.false_eq_true, if_false, hm, allocLike, Heap.alloc]

/-- the rows of a wrapper that keep copies apart: the copy is a plain container, or is bound to the
    copied owner, and taking it does not touch the original owner -/
def wrapperRowSafe (r : CopyRow) : Bool :=
  !r.ownerMutated && (r.back == .detach || r.back == .memoOrDetach || r.back == .memoOrCopyOwner)

/-- the wrapper rows behind the former findings `wrapper-copy-*` (the table of 58bf716) -/
def unsafeWrapperRows : List CopyRow := [
  { op := .copy, kind := .listStruct, mode := .shallow, back := .owner, ownerMutated := true, astMode := "owner", agree := true },
  { op := .copy, kind := .dictStruct, mode := .shallow, back := .owner, ownerMutated := false, astMode := "owner", agree := true },
  { op := .deepcopy, kind := .listStruct, mode := .deep, back := .memoOrOwner, ownerMutated := false, astMode := "memoOrOwner", agree := true },
  { op := .deepcopy, kind := .dictStruct, mode := .deep, back := .memoOrOwner, ownerMutated := false, astMode := "memoOrOwner", agree := true },
  { op := .deepcopy, kind := .dequeStruct, mode := .deep, back := .memoOrOwner, ownerMutated := false, astMode := "memoOrOwner", agree := true }]

/-- the repaired rows (proposed_fixes/C11-wrapper-copies-detached.diff) -/
def repairedWrapperRows : List CopyRow := [
  { op := .copy, kind := .listStruct, mode := .shallow, back := .detach, ownerMutated := false, astMode := "detach", agree := true },
  { op := .copy, kind := .dictStruct, mode := .shallow, back := .detach, ownerMutated := false, astMode := "detach", agree := true },
  { op := .deepcopy, kind := .listStruct, mode := .deep, back := .memoOrDetach, ownerMutated := false, astMode := "memoOrDetach", agree := true },
  { op := .deepcopy, kind := .dictStruct, mode := .deep, back := .memoOrDetach, ownerMutated := false, astMode := "memoOrDetach", agree := true },
  { op := .deepcopy, kind := .dequeStruct, mode := .deep, back := .memoOrDetach, ownerMutated := false, astMode := "memoOrDetach", agree := true }]

/-- obligation re-checked against the regenerated table on every run: the source idioms agree with
    the identity probe; structures are copied the way the statement needs (deep copy and pickle
    rebuild a mutable structure, pickle rebuilds an immutable one too, deepcopy hands it back as it
    is or rebuilds it — never a half copy); every wrapper row is safe or one of the listed findings.
    (What `copy.copy` does is not constrained by the statement: `copy_shares_first_level` describes
    a `shallow` row, which is what today's table has.) -/
theorem copy_tables_ok :
    Generated.copyRows.all (fun r => r.agree) = true
    ∧ (projOf Generated.copyRows .deepcopy .structure).mode = .deep
    ∧ (projOf Generated.copyRows .deepcopy .immStructure).mode ≠ .shallow
    ∧ (projOf Generated.copyRows .pickle .structure).mode = .deep
    ∧ (projOf Generated.copyRows .pickle .immStructure).mode = .deep
    ∧ Generated.copyRows.all (fun r => !r.kind.isWrapper || wrapperRowSafe r || unsafeWrapperRows.contains r) = true := by
  decide +kernel

/-- former findings `wrapper-copy-*` (fixed by /repo 45dcf95): every wrapper row of today's table keeps
    copies apart — a copy of a field's collection taken on its own is a plain container, a wrapper
    copied with its owner is bound to the NEW owner, and taking a copy never touches the original
    owner.  (The rows of 58bf716 are `unsafeWrapperRows`: `wrapper_deepcopy_reaches_owner`,
    `wrapper_copy_mutates_owner` replay them on the model.) -/
theorem fixed_wrapper_rows_safe :
    Generated.copyRows.all (fun r => !r.kind.isWrapper || wrapperRowSafe r) = true := by
  decide +kernel

/-- `x = A(arr=[1, [..]], m={..}, n=B(arr=[..]))`: cell 0 = x, 1 = x.arr (bound to 0), 2 = an untyped
    list inside, 3 = x.m (bound to 0), 4 = the nested structure, 5 = its wrapper (bound to 4) -/
def exHeap : Heap := Heap.ofList [
  ⟨"Structure", [("arr", .ref 1), ("m", .ref 3), ("n", .ref 4), ("k", .atom 7)]⟩,
  ⟨"_ListStruct", [("0", .atom 1), ("1", .ref 2), ("_instance", .ref 0)]⟩,
  ⟨"list", [("0", .atom 5)]⟩,
  ⟨"_DictStruct", [("a", .atom 1), ("_instance", .ref 0)]⟩,
  ⟨"Structure", [("arr", .ref 5)]⟩,
  ⟨"_DequeStruct", [("0", .atom 9), ("_instance", .ref 4)]⟩]

/-- non-vacuity on today's table: the strict deep copy of `x` succeeds, allocates six new cells,
    shares no cell with `x` (to depth 6), leaves the six old cells as they were and reads back like
    `x`; the strict pickle round trip succeeds, shares no cell with `x` and leaves the old cells as
    they were; `copy.copy(x)` shares exactly the first-level values -/
theorem deepcopy_disjoint_example :
    (match copyOp Generated.copyRows .deepcopy true 8 exHeap 0 with
     | (h', some y) => h'.next == 12 && sameBelow 6 exHeap h'
         && (sharedPaths 6 h' (reachList 6 exHeap (.ref 0)) [] y).isEmpty
         && Tree.beq (observeN 6 h' y) (observeN 6 exHeap (.ref 0))
     | _ => false) = true
    ∧ (match copyOp Generated.copyRows .pickle true 8 exHeap 0 with
     | (h', some y) => sameBelow 6 exHeap h' && (sharedPaths 6 h' (reachList 6 exHeap (.ref 0)) [] y).isEmpty
     | _ => false) = true
    ∧ (match copyOp Generated.copyRows .copy false 8 exHeap 0 with
     | (h', some y) => sameBelow 6 exHeap h' && sharedPaths 1 h' (reachList 6 exHeap (.ref 0)) [] y == [["arr"], ["m"], ["n"]]
     | _ => false) = true := by
  decide +kernel

/-- former findings `wrapper-copy-bound-to-owner:deepcopy:*` (the rows of 58bf716): `copy.deepcopy(x.arr)`
    taken on its own is a new wrapper whose back-reference is the ORIGINAL owner — the copy reaches
    `x` (and through it everything `x` holds), so the strict walk fails; with the repaired rows the
    strict walk succeeds and the copy shares nothing -/
theorem wrapper_deepcopy_reaches_owner :
    (match copyOp unsafeWrapperRows .deepcopy false 8 exHeap 1 with
     | (h', some y) => sharedPaths 1 h' [0] [] y == [["_instance"]]
     | _ => false) = true
    ∧ (copyOp unsafeWrapperRows .deepcopy true 8 exHeap 1).2.isNone = true
    ∧ (match copyOp repairedWrapperRows .deepcopy true 8 exHeap 1 with
     | (h', some y) => (sharedPaths 6 h' (reachList 6 exHeap (.ref 0)) [] y).isEmpty && sameBelow 6 exHeap h'
     | _ => false) = true := by
  decide +kernel

/-- former finding `wrapper-copy-mutates-owner:copy:list`: `copy.copy(x.arr)` re-assigns `x.arr` (cell 0
    changes: it now holds a new wrapper with the items stored twice) and returns a wrapper bound to
    `x`; with the repaired rows nothing that existed changes and the copy is a plain list -/
theorem wrapper_copy_mutates_owner :
    (match copyOp unsafeWrapperRows .copy false 8 exHeap 1 with
     | (h', some y) => !sameBelow 6 exHeap h' && (h'.cells 0).items.contains ("arr", .ref 6)
         && (h'.cells 6).items.length == 5 && sharedPaths 1 h' [0] [] y == [["_instance"]]
     | _ => false) = true
    ∧ (match copyOp repairedWrapperRows .copy false 8 exHeap 1 with
     | (h', some y) => sameBelow 6 exHeap h' && (h'.cells 6).tag == "list" && (sharedPaths 1 h' [0] [] y).isEmpty
     | _ => false) = true := by
  decide +kernel

end Sharing

end Typedpy.C11
